import Inkayaku.Model.App
import Inkayaku.Props.C16Wf
import Inkayaku.Props.C16
import Inkayaku.Props.C07
import Inkayaku.Props.C15
/-!
# C16 end-to-end — the engine PROCESS (`Model/App.lean`)

"Every line the engine process writes in response to a command is a syntactically valid UCI engine-to-GUI message (only
the start-up banner is free text).  Within one search the reported depth, node count and time never decrease, […] and
the announced bestmove and ponder move are the first and second move of the last reported principal variation."

`Inkayaku.App.appRun lines cfg` is the stdout of the process for the stdin lines `lines` under the sequential schedule
(see the header of `Model/App.lean`): parser (`Uci.parseLine`, C15) → dispatcher (`Engine::accept`) → search thread
(`Search.setPosition`, `Search.goCmd`) → `EngineOut.toTx` → printer (`Console.render`).  The theorems below quantify over
**every** list of input lines (no hypothesis: garbage, unknown commands, unreadable FENs, illegal moves, `setoption`
included), every start state of the process, and every assignment of the run dependent numbers (`Cfg`: `hashfull`, `nps`,
the texts of the debug statistics — the only side condition, `CfgOk`, is that those `f64` texts contain no line break).
-/
namespace Inkayaku.C16App
open Inkayaku.App Inkayaku.Search Inkayaku.EngineOut
open Inkayaku.Uci (UciCommand UciMove parseLine)
open Inkayaku.Console (TxMsg render renderChars)
open Inkayaku.UciOut (accepts)
open Inkayaku.C16Wf (AuxOk RatesOk)

def CfgOk (cfg : Cfg) : Prop := ∀ o, RatesOk (cfg.rates o)

theorem cfgOk_default : CfgOk {} := fun _ =>
  (by decide : RatesOk ⟨"0".toList, "1".toList, "0".toList, "0".toList, "0".toList, "NaN".toList⟩)

/-- `CfgOk` holds when the texts are `Display` texts of `f64` values -/
theorem cfgOk_of_f64 (cfg : Cfg)
    (h : ∀ o, ∀ t ∈ [(cfg.rates o).tphitrate, (cfg.rates o).nrate, (cfg.rates o).qrate, (cfg.rates o).avgqdepth,
      (cfg.rates o).qstartedrate, (cfg.rates o).qtphitrate], t.all isF64Char = true) : CfgOk cfg := by
  intro o t ht c hc
  exact C16Wf.f64Char_noBreak (List.all_eq_true.mp (h o t ht) c hc)

theorem auxOk_auxOf {cfg : Cfg} (h : CfgOk cfg) (d : Bool) (o : Out) : AuxOk (auxOf cfg d o) := by
  intro r hr
  unfold auxOf at hr
  cases d with
  | false => cases hr
  | true =>
    have : cfg.rates o = r := by simpa using hr
    exact this ▸ h o

theorem appStep_dead (cfg : Cfg) {s : AppSt} (h : s.alive = false) (l : String) : appStep cfg s l = (s, []) := by
  unfold appStep; rw [h]; rfl

theorem app_dead_silent (cfg : Cfg) {s : AppSt} (h : s.alive = false) (ls : List String) :
    appSteps cfg s ls = (s, []) := by
  induction ls with
  | nil => rfl
  | cons l ls ih => simp only [appSteps, appStep_dead cfg h, ih, List.append_nil]

theorem appStep_ok (cfg : Cfg) {s : AppSt} (h : s.alive = true) {l : String} {c : UciCommand}
    (hp : parseLine l = .ok c) : appStep cfg s l = accept cfg s c := by
  unfold appStep; rw [h, hp]; rfl

/-- **`app_parse_error_silent`**: a line the parser rejects (empty, blank, unknown command, malformed parameters) is
reported on stderr only — no stdout line, state unchanged.  (For a dead process this holds for every line.) -/
theorem app_parse_error_silent (cfg : Cfg) (s : AppSt) {l : String} {e : Uci.ParserError}
    (hp : parseLine l = .error e) : appStep cfg s l = (s, []) := by
  unfold appStep; rw [hp]; split <;> rfl

example (cfg : Cfg) (s : AppSt) : appStep cfg s "" = (s, []) := app_parse_error_silent cfg s (e := .eoc) (by rfl)
example (cfg : Cfg) (s : AppSt) : appStep cfg s "  \n" = (s, []) := app_parse_error_silent cfg s (e := .eoc) (by rfl)

theorem app_isready (cfg : Cfg) {s : AppSt} (h : s.alive = true) {l : String} (hp : parseLine l = .ok .isReady) :
    appStep cfg s l = (s, ["readyok"]) := by
  rw [appStep_ok cfg h hp]; rfl

theorem app_uci (cfg : Cfg) {s : AppSt} (h : s.alive = true) {l : String} (hp : parseLine l = .ok .uci) :
    appStep cfg s l =
      (s, ["id name Inkayaku", "id author Marvin Kuhnke (see https://github.com/marvk/rust-chess)", "uciok"]) := by
  rw [appStep_ok cfg h hp]; rfl

theorem app_register (cfg : Cfg) {s : AppSt} (h : s.alive = true) {l : String} {n c : List Char}
    (hp : parseLine l = .ok (.register n c)) :
    appStep cfg s l = (s, ["registration checking", "registration ok"]) := by
  rw [appStep_ok cfg h hp]; rfl

/-- **`setoption` kills the process**: `todo!()` — nothing on stdout for this line, and nothing for any later line -/
theorem app_setoption_panics (cfg : Cfg) {s : AppSt} (h : s.alive = true) {l : String}
    (hp : (∃ n, parseLine l = .ok (.setOption n)) ∨ (∃ n v, parseLine l = .ok (.setOptionValue n v)))
    (post : List String) : appSteps cfg s (l :: post) = ({ s with panicked := true }, []) := by
  have h1 : appStep cfg s l = ({ s with panicked := true }, []) := by
    rcases hp with ⟨n, hp⟩ | ⟨n, v, hp⟩ <;> rw [appStep_ok cfg h hp] <;> rfl
  simp only [appSteps, h1]
  rw [app_dead_silent cfg (by simp [AppSt.alive])]
  rfl

theorem app_silent_commands (cfg : Cfg) (s : AppSt) {l : String} {c : UciCommand} (hp : parseLine l = .ok c)
    (hc : match c with
      | .setDebug _ | .uciNewGame | .positionFrom _ _ | .stop | .ponderHit | .quit | .registerLater
      | .setOption _ | .setOptionValue _ _ => True
      | _ => False) : (appStep cfg s l).2 = [] := by
  unfold appStep; split
  · rw [hp]; cases c <;> first | rfl | exact hc.elim
  · rfl

/-- `stop` and `ponderhit` reach the idle loop (sequential schedule) and are ignored -/
theorem app_stop_ponderhit_inert (cfg : Cfg) (s : AppSt) {l : String}
    (hp : parseLine l = .ok .stop ∨ parseLine l = .ok .ponderHit) : appStep cfg s l = (s, []) := by
  unfold appStep; split
  · rcases hp with hp | hp <;> rw [hp] <;> rfl
  · rfl

theorem app_debug (cfg : Cfg) {s : AppSt} (h : s.alive = true) {l : String} {d : Bool}
    (hp : parseLine l = .ok (.setDebug d)) : appStep cfg s l = ({ s with debug := d }, []) := by
  rw [appStep_ok cfg h hp]; rfl

theorem app_quit (cfg : Cfg) {s : AppSt} (h : s.alive = true) {l : String} (hp : parseLine l = .ok .quit) :
    (appStep cfg s l).2 = [] ∧ (appStep cfg s l).1.terminated = true ∧ (appStep cfg s l).1.alive = false := by
  rw [appStep_ok cfg h hp]; exact ⟨rfl, rfl, rfl⟩

theorem app_after_quit_silent (cfg : Cfg) {s : AppSt} (h : s.alive = true) {l : String} (hp : parseLine l = .ok .quit)
    (post : List String) : (appSteps cfg s (l :: post)).2 = [] := by
  simp only [appSteps]
  rw [app_dead_silent cfg (app_quit cfg h hp).2.2, (app_quit cfg h hp).1]; rfl

theorem replyLines_accepted (c : UciCommand) : ∀ line ∈ replyLines c, accepts line.toList = true := by
  intro line hl
  unfold replyLines at hl
  obtain ⟨m, hm, rfl⟩ := List.mem_map.mp hl
  apply C16Console.render_accepts
  cases c <;> simp only [engineReplies, List.mem_cons, List.not_mem_nil, or_false] at hm
  all_goals first
    | exact hm.elim
    | (rcases hm with rfl | rfl | rfl <;> decide)
    | (rcases hm with rfl | rfl <;> decide)
    | (subst hm; decide)

/-- the search state a `go` line starts from: the search thread's state with the (already printed) output dropped and
no message waiting -/
def goStart (s : AppSt) : Search.St := { s.search with out := [], pending := [] }

theorem goStart_out (s : AppSt) : (goStart s).out = [] := rfl

def goRun (cfg : Cfg) (s : AppSt) (g : Uci.Go) : Search.St :=
  goCmd (goStart s) (SessionOps.goParamsOf g) (maxIterOf cfg g)

theorem runGo_lines (cfg : Cfg) (s : AppSt) (g : Uci.Go) :
    (runGo cfg s g).2 = searchLines (auxOf cfg s.debug) (goRun cfg s g).out := rfl

theorem runGo_alive (cfg : Cfg) (s : AppSt) (g : Uci.Go) : (runGo cfg s g).1.alive = s.alive := rfl

theorem runGo_accepted {cfg : Cfg} (hcfg : CfgOk cfg) (s : AppSt) (g : Uci.Go) :
    ∀ line ∈ (runGo cfg s g).2, accepts line.toList = true := by
  obtain ⟨news, hn, -, hok⟩ := C16Wf.engine_searchLines_accepted (goStart s) (SessionOps.goParamsOf g) (maxIterOf cfg g)
    (auxOf cfg s.debug) (auxOk_auxOf hcfg s.debug)
  rw [goStart_out, List.append_nil] at hn
  rw [runGo_lines]
  unfold goRun
  rw [hn]
  exact hok

theorem accept_accepted {cfg : Cfg} (hcfg : CfgOk cfg) (s : AppSt) (c : UciCommand) :
    ∀ line ∈ (accept cfg s c).2, accepts line.toList = true := by
  cases c
  case go g => exact runGo_accepted hcfg s g
  case uci => exact replyLines_accepted .uci
  case isReady => exact replyLines_accepted .isReady
  case register n c => exact replyLines_accepted (.register n c)
  all_goals (intro line hl; cases hl)

theorem appStep_accepted {cfg : Cfg} (hcfg : CfgOk cfg) (s : AppSt) (l : String) :
    ∀ line ∈ (appStep cfg s l).2, accepts line.toList = true := by
  unfold appStep
  split
  · split
    · exact accept_accepted hcfg s _
    · intro line hl; cases hl
  · intro line hl; cases hl

theorem appSteps_accepted {cfg : Cfg} (hcfg : CfgOk cfg) (s : AppSt) (ls : List String) :
    ∀ line ∈ (appSteps cfg s ls).2, accepts line.toList = true := by
  induction ls generalizing s with
  | nil => intro line hl; cases hl
  | cons l ls ih =>
    intro line hl
    simp only [appSteps, List.mem_append] at hl
    rcases hl with hl | hl
    · exact appStep_accepted hcfg s l line hl
    · exact ih _ line hl

/-- **`app_lines_accepted`.**  For EVERY list of input lines — garbage, unknown commands, unreadable FENs, illegal moves,
`setoption` included — the first stdout line is the banner and every later line is accepted by the engine-to-GUI grammar
`UciOut.accepts`.  No "unless the process panicked" clause is needed: the panic of `setoption` (`todo!()`) writes to
stderr only and ends the output (`app_setoption_panics`, `app_panicked_iff`); what was written before it is well
formed. -/
theorem app_lines_accepted (lines : List String) (cfg : Cfg) (hcfg : CfgOk cfg) :
    ∃ out, appRun lines cfg = bannerLine :: out ∧ ∀ line ∈ out, accepts line.toList = true :=
  ⟨_, rfl, appSteps_accepted hcfg _ lines⟩

theorem app_lines_accepted_default (lines : List String) :
    ∀ line ∈ (appRun lines).tail, accepts line.toList = true :=
  appSteps_accepted cfgOk_default _ lines

theorem app_lines_accepted_from (cfg : Cfg) (hcfg : CfgOk cfg) (s : AppSt) (lines : List String) :
    ∀ line ∈ (appSteps cfg s lines).2, accepts line.toList = true :=
  appSteps_accepted hcfg s lines

/-- the banner is free text: it is the one line of stdout that is NOT a UCI message -/
theorem banner_rejected : accepts bannerLine.toList = false := by decide +kernel

/-- the line ends the process: it parses to `quit` (exit 0) or to `setoption` (panic) -/
def stops (l : String) : Bool :=
  match parseLine l with
  | .ok .quit | .ok (.setOption _) | .ok (.setOptionValue _ _) => true
  | _ => false

def isSetOptionLine (l : String) : Bool :=
  match parseLine l with
  | .ok (.setOption _) | .ok (.setOptionValue _ _) => true
  | _ => false

def isGoLine (l : String) : Bool :=
  match parseLine l with
  | .ok (.go _) => true
  | _ => false

def liveLines : List String → List String
  | [] => []
  | l :: ls => if stops l then [l] else l :: liveLines ls

def firstStop : List String → Option String
  | [] => none
  | l :: ls => if stops l then some l else firstStop ls

theorem runPosition_flags (s : AppSt) (fen : List Char) (ms : List UciMove) :
    (runPosition s fen ms).terminated = s.terminated ∧ (runPosition s fen ms).panicked = s.panicked := by
  unfold runPosition
  split <;> exact ⟨rfl, rfl⟩

theorem accept_terminated (cfg : Cfg) (s : AppSt) (c : UciCommand) :
    (accept cfg s c).1.terminated = match c with | .quit => true | _ => s.terminated := by
  cases c with
  | positionFrom fen ms => exact (runPosition_flags s fen ms).1
  | _ => rfl

theorem accept_panicked (cfg : Cfg) (s : AppSt) (c : UciCommand) :
    (accept cfg s c).1.panicked = match c with | .setOption _ | .setOptionValue _ _ => true | _ => s.panicked := by
  cases c with
  | positionFrom fen ms => exact (runPosition_flags s fen ms).2
  | _ => rfl

theorem flags_of_alive {s : AppSt} (h : s.alive = true) : s.terminated = false ∧ s.panicked = false := by
  simpa [AppSt.alive] using h

theorem appStep_alive (cfg : Cfg) {s : AppSt} (h : s.alive = true) (l : String) :
    (appStep cfg s l).1.alive = !stops l := by
  obtain ⟨ht, hp⟩ := flags_of_alive h
  unfold appStep stops
  rw [h, if_pos rfl]
  cases hc : parseLine l with
  | error e => exact h
  | ok c =>
    rw [AppSt.alive, accept_terminated, accept_panicked, ht, hp]
    cases c <;> rfl

theorem appStep_panicked (cfg : Cfg) {s : AppSt} (h : s.alive = true) (l : String) :
    (appStep cfg s l).1.panicked = isSetOptionLine l := by
  obtain ⟨-, hp⟩ := flags_of_alive h
  unfold appStep isSetOptionLine
  rw [h, if_pos rfl]
  cases hc : parseLine l with
  | error e => exact hp
  | ok c =>
    rw [accept_panicked, hp]
    cases c <;> rfl

theorem appStep_alive_of_not_stops (cfg : Cfg) {s : AppSt} (h : s.alive = true) {l : String} (hl : stops l = false) :
    (appStep cfg s l).1.alive = true := by
  rw [appStep_alive cfg h, hl]; rfl

theorem appStep_dead_of_stops (cfg : Cfg) {s : AppSt} (h : s.alive = true) {l : String} (hl : stops l = true) :
    (appStep cfg s l).1.alive = false := by
  rw [appStep_alive cfg h, hl]; rfl

/-- **input after the end is never read** -/
theorem app_run_live (cfg : Cfg) {s : AppSt} (h : s.alive = true) (ls : List String) :
    appSteps cfg s ls = appSteps cfg s (liveLines ls) := by
  induction ls generalizing s with
  | nil => rfl
  | cons l ls ih =>
    unfold liveLines
    cases hl : stops l with
    | true =>
      simp only [if_true, appSteps]
      rw [app_dead_silent cfg (appStep_dead_of_stops cfg h hl)]
    | false =>
      simp only [appSteps]
      rw [ih (appStep_alive_of_not_stops cfg h hl)]
      rfl

theorem appSteps_panicked (cfg : Cfg) {s : AppSt} (h : s.alive = true) (ls : List String) :
    (appSteps cfg s ls).1.panicked = (match firstStop ls with | some l => isSetOptionLine l | none => false) ∧
    (appSteps cfg s ls).1.alive = (firstStop ls).isNone := by
  induction ls generalizing s with
  | nil => exact ⟨(flags_of_alive h).2, h⟩
  | cons l ls ih =>
    unfold firstStop
    cases hl : stops l with
    | true =>
      have h1 := appStep_dead_of_stops cfg h hl
      simp only [appSteps, if_true]
      rw [app_dead_silent cfg h1]
      exact ⟨appStep_panicked cfg h l, h1⟩
    | false =>
      simp only [appSteps]
      exact ih (appStep_alive_of_not_stops cfg h hl)

/-- **when the process panics**: exactly when the first line that parses to `quit` or `setoption` is a `setoption`
line (with or without `value`).  Any number of unparsable lines, searches, … may precede it. -/
theorem app_panicked_iff (lines : List String) (cfg : Cfg) :
    (appFinal lines cfg).panicked = true ↔ ∃ l, firstStop lines = some l ∧ isSetOptionLine l = true := by
  have h0 : (appInit cfg).alive = true := rfl
  unfold appFinal
  rw [(appSteps_panicked cfg h0 lines).1]
  cases firstStop lines with
  | none => simp
  | some l => simp

/-- … and it is still reading (the real process: spinning on EOF) iff no line ended it -/
theorem app_alive_iff (lines : List String) (cfg : Cfg) :
    (appFinal lines cfg).alive = true ↔ firstStop lines = none := by
  have h0 : (appInit cfg).alive = true := rfl
  unfold appFinal
  rw [(appSteps_panicked cfg h0 lines).2]
  cases firstStop lines <;> simp

/-- at end of input a live process writes nothing and stays alive (it never terminates by itself) -/
theorem app_eof_spins (cfg : Cfg) (s : AppSt) : atEof cfg s = (s, []) :=
  app_parse_error_silent cfg s (e := .eoc) (by rfl)

def isBestmoveLine (line : String) : Bool := "bestmove ".toList.isPrefixOf line.toList

def countBestmoves (lines : List String) : Nat := (lines.filter isBestmoveLine).length

theorem countBestmoves_append (a b : List String) : countBestmoves (a ++ b) = countBestmoves a + countBestmoves b := by
  simp [countBestmoves, List.filter_append]

def isBestOut : Out → Bool
  | .bestMove _ _ => true
  | .info .. => false

theorem prefix_renderChars (aux : Aux) (o : Out) :
    "bestmove ".toList.isPrefixOf (renderChars (toTx aux o)) = isBestOut o := by
  cases o with
  | bestMove b p =>
    show "bestmove ".toList.isPrefixOf (Console.bestMoveText _ _) = true
    unfold Console.bestMoveText
    rw [List.isPrefixOf_iff_prefix]
    exact List.prefix_append _ _
  | info d t n sc pv =>
    show "bestmove ".toList.isPrefixOf (Console.infoText _) = false
    unfold Console.infoText
    have h1 : "bestmove ".toList = 'b' :: "estmove ".toList := by decide
    have h2 : "info".toList = 'i' :: "nfo".toList := by decide
    rw [h1, h2, List.cons_append, List.isPrefixOf]
    simp

theorem isBestmoveLine_render (aux : Aux) (o : Out) : isBestmoveLine (render (toTx aux o)) = isBestOut o := by
  have h : isBestmoveLine (render (toTx aux o)) = "bestmove ".toList.isPrefixOf (renderChars (toTx aux o)) := by
    unfold isBestmoveLine render
    rw [String.toList_ofList (l := renderChars (toTx aux o))]
  rw [h, prefix_renderChars]

theorem countBestmoves_searchLines (aux : Out → Aux) (out : List Out) :
    countBestmoves (searchLines aux out) = (bestMoves out).length := by
  have hf : (isBestmoveLine ∘ fun o => render (toTx (aux o) o)) = isBestOut := by
    funext o; exact isBestmoveLine_render _ o
  unfold countBestmoves searchLines bestMoves
  rw [List.filter_map, List.length_map, hf, List.filter_reverse, List.length_reverse]
  induction out with
  | nil => rfl
  | cons o rest ih =>
    cases o with
    | info d t n sc pv => simp [isBestOut, ih]
    | bestMove b p => simp [List.filter_cons, isBestOut, ih]

theorem runGo_one_bestmove (cfg : Cfg) (s : AppSt) (g : Uci.Go) : countBestmoves (runGo cfg s g).2 = 1 := by
  obtain ⟨best, ponder, infos, hout, hnil⟩ :=
    C07.go_exactly_one_bestmove (goStart s) (SessionOps.goParamsOf g) (maxIterOf cfg g) (goStart_out s)
  rw [runGo_lines, countBestmoves_searchLines, goRun, hout]
  show (_ :: bestMoves infos).length = 1
  rw [hnil]
  rfl

theorem replyLines_no_bestmove (c : UciCommand) : countBestmoves (replyLines c) = 0 := by
  cases c with
  | uci => decide
  | isReady => decide
  | register n c => exact (by decide : countBestmoves (replyLines (.register [] [])) = 0)
  | _ => rfl

theorem accept_bestmoves (cfg : Cfg) (s : AppSt) (c : UciCommand) :
    countBestmoves (accept cfg s c).2 = match c with | .go _ => 1 | _ => 0 := by
  cases c with
  | go g => exact runGo_one_bestmove cfg s g
  | uci => exact replyLines_no_bestmove .uci
  | isReady => exact replyLines_no_bestmove .isReady
  | register n c => exact replyLines_no_bestmove (.register n c)
  | _ => rfl

theorem appStep_bestmoves (cfg : Cfg) {s : AppSt} (h : s.alive = true) (l : String) :
    countBestmoves (appStep cfg s l).2 = if isGoLine l then 1 else 0 := by
  unfold appStep isGoLine
  rw [h, if_pos rfl]
  cases hc : parseLine l with
  | error e => rfl
  | ok c =>
    rw [accept_bestmoves]
    cases c <;> rfl

def goLines (lines : List String) : Nat := ((liveLines lines).filter isGoLine).length

theorem stops_not_go {l : String} (h : stops l = true) : isGoLine l = false := by
  unfold stops at h
  unfold isGoLine
  cases hc : parseLine l with
  | error e => rfl
  | ok c => rw [hc] at h; cases c <;> first | rfl | (simp at h; done)

theorem appSteps_bestmoves (cfg : Cfg) {s : AppSt} (h : s.alive = true) (ls : List String) :
    countBestmoves (appSteps cfg s ls).2 = goLines ls := by
  induction ls generalizing s with
  | nil => rfl
  | cons l ls ih =>
    simp only [appSteps, countBestmoves_append, appStep_bestmoves cfg h]
    unfold goLines liveLines
    cases hl : stops l with
    | true =>
      rw [app_dead_silent cfg (appStep_dead_of_stops cfg h hl)]
      simp [stops_not_go hl, countBestmoves]
    | false =>
      rw [ih (appStep_alive_of_not_stops cfg h hl)]
      simp only [Bool.false_eq_true, if_false, List.filter_cons]
      unfold goLines
      cases isGoLine l <;> simp <;> omega

/-- **`app_one_bestmove_per_go`.**  For every list of input lines: the number of `bestmove` lines on stdout equals the
number of input lines that parse to a `go` command before the process ends (= before the first line that parses to
`quit` or `setoption`; all lines if there is none).  The banner and the main-thread answers are no `bestmove` lines, every
`go` — whatever its parameters, whatever position is held, legal moves or not — is answered by exactly one. -/
theorem app_one_bestmove_per_go (lines : List String) (cfg : Cfg) :
    countBestmoves (appRun lines cfg) = goLines lines := by
  unfold appRun
  have hb : countBestmoves [bannerLine] = 0 := by decide +kernel
  have := countBestmoves_append [bannerLine] (appSteps cfg (appInit cfg) lines).2
  rw [List.singleton_append] at this
  rw [this, hb, Nat.zero_add]
  exact appSteps_bestmoves cfg rfl lines

section Position
open Inkayaku.Uci

theorem parse_startpos_ok : ∃ f, FenSyntax.parse FenSyntax.startposString = .ok f := by
  have : (match FenSyntax.parse FenSyntax.startposString with | .ok _ => true | .error _ => false) = true := by decide
  cases h : FenSyntax.parse FenSyntax.startposString with
  | ok f => exact ⟨f, rfl⟩
  | error e => rw [h] at this; cases this

theorem fenOfText_readable {text f : List Char} (h : fenOfText text = .ok f) :
    ∃ x, FenSyntax.parse (String.ofList f) = .ok x := by
  unfold fenOfText at h
  split at h
  · cases h
  · rename_i x hx
    injection h with h
    subst h
    split
    · rw [String.ofList_toList]; exact parse_startpos_ok
    · exact ⟨x, hx⟩

theorem parsePosition_readable {q : List Tok} {fen : List Char} {ms : List UciMove}
    (h : parsePosition q = .ok (.positionFrom fen ms)) : ∃ x, FenSyntax.parse (String.ofList fen) = .ok x := by
  cases q with
  | nil => simp [parsePosition] at h
  | cons t q =>
    simp only [parsePosition] at h
    split at h
    · cases h
    · rename_i fen' q1 hfen
      have hfen_eq : fen' = fen := by
        split at h
        · split at h
          · cases h
          · injection h with h; injection h with h1 h2
        · injection h with h; injection h with h1 h2
        · cases h
      subst hfen_eq
      split at hfen
      · split at hfen
        · cases hfen
        · split at hfen
          · cases hfen
          · rename_i text q' hu f hf
            injection hfen with hfen; injection hfen with h1 h2
            subst h1
            exact fenOfText_readable hf
      · split at hfen
        · injection hfen with hfen; injection hfen with h1 h2
          subst h1
          rw [String.ofList_toList]; exact parse_startpos_ok
        · cases hfen

end Position

/-- **a FEN the parser accepted is always readable**: the `.error` branch of `App.runPosition` (where the Rust would
have to `panic!`) is unreachable -/
theorem position_fen_readable {l : String} {fen : List Char} {ms : List UciMove}
    (h : parseLine l = .ok (.positionFrom fen ms)) : ∃ b, FenBoard.fromFenString (String.ofList fen) = .ok b := by
  obtain ⟨q, -, hq⟩ := C15.parseTokens_root h
  obtain ⟨x, hx⟩ := parsePosition_readable hq
  exact ⟨FenBoard.boardOfFields x, by unfold FenBoard.fromFenString; rw [hx]⟩

/-- what a `position` line does: the search thread runs `set_position_from` on the board of the FEN; nothing is
printed -/
theorem app_position (cfg : Cfg) {s : AppSt} (h : s.alive = true) {l : String} {fen : List Char} {ms : List UciMove}
    (hp : parseLine l = .ok (.positionFrom fen ms)) :
    ∃ b, FenBoard.fromFenString (String.ofList fen) = .ok b ∧
      appStep cfg s l =
        ({ s with search := setPosition s.search b (ms.map fun m => String.ofList m.render) }, []) := by
  obtain ⟨b, hb⟩ := position_fen_readable hp
  refine ⟨b, hb, ?_⟩
  rw [appStep_ok cfg h hp]
  show (runPosition s fen ms, []) = _
  unfold runPosition; rw [hb]

/-- some move of the list is rejected by `find_uci` (does not exist / leaves the own king in check) on the board reached
by the moves before it -/
inductive Rejected : Board.Board → List String → Prop
  | here {b : Board.Board} {u : String} {rest : List String} {e : San.UciErr} {b' : Board.Board} :
      San.findUci b u = (.error e, b') → Rejected b (u :: rest)
  | later {b : Board.Board} {u : String} {rest : List String} {m : Board.Move} {b' : Board.Board} :
      San.findUci b u = (.ok m, b') → Rejected (Board.make b' m) rest → Rejected b (u :: rest)

theorem setPosition_go_rejected {b : Board.Board} {ucis : List String} (h : Rejected b ucis) :
    ∀ (hist : Array Nat) (made : List Board.Move), setPosition.go b hist made ucis = none := by
  induction h with
  | here hf => intro hist made; unfold setPosition.go; rw [hf]
  | later hf _ ih => intro hist made; unfold setPosition.go; rw [hf]; exact ih _ _

/-- `set_position_from` returns before assigning when a move is rejected: the search thread keeps everything -/
theorem setPosition_rejected (s : Search.St) {b : Board.Board} {ucis : List String} (h : Rejected b ucis) :
    setPosition s b ucis = s := by
  unfold setPosition
  simp only [setPosition_go_rejected h]

/-- **`position` with an illegal move keeps the old position** (and prints nothing on stdout): the state of the process
is exactly what it was -/
theorem app_position_illegal_keeps (cfg : Cfg) {s : AppSt} (h : s.alive = true) {l : String} {fen : List Char}
    {ms : List UciMove} (hp : parseLine l = .ok (.positionFrom fen ms)) {b : Board.Board}
    (hb : FenBoard.fromFenString (String.ofList fen) = .ok b)
    (hrej : Rejected b (ms.map fun m => String.ofList m.render)) : appStep cfg s l = (s, []) := by
  obtain ⟨b', hb', hs⟩ := app_position cfg h hp
  rw [hb] at hb'
  injection hb' with hb'
  subst hb'
  rw [hs, setPosition_rejected _ hrej]

/-- **`app_go_stream`.**  A `go` line makes a live process print exactly the lines of the output `outs` (newest first) of
one `Search.goCmd` run that started with empty output, and for that output: the reported depths, node counts and times
never decrease; it ends with exactly one `bestmove`, all other messages are infos; an announced move is the first move
of the principal variation of the info printed immediately before `bestmove`, and the ponder move is its second move
(none if the PV has length 1); without a best move there is no ponder move. -/
theorem app_go_stream (cfg : Cfg) {s : AppSt} (h : s.alive = true) {l : String} {g : Uci.Go}
    (hp : parseLine l = .ok (.go g)) :
    ∃ outs : List Out,
      (appStep cfg s l).2 = searchLines (auxOf cfg s.debug) outs ∧
      outs = (goRun cfg s g).out ∧
      (infoDepths outs.reverse).Pairwise (· ≤ ·) ∧
      (infoNodes outs.reverse).Pairwise (· ≤ ·) ∧
      (infoTimes outs.reverse).Pairwise (· ≤ ·) ∧
      ∃ best ponder infos, outs = .bestMove best ponder :: infos ∧ bestMoves infos = [] ∧
        (∀ m, best = some m → ∃ d t n sc pvl rest, infos = .info d t n sc (some pvl) :: rest ∧
          pvl[0]? = some m ∧ pvl[1]? = ponder) ∧
        (best = none → ponder = none) := by
  refine ⟨(goRun cfg s g).out, ?_, rfl, ?_, ?_, ?_, ?_⟩
  · rw [appStep_ok cfg h hp]; rfl
  · exact C16.info_depth_mono _ _ _ (goStart_out s)
  · exact C16.info_nodes_mono _ _ _ (goStart_out s)
  · exact C16.info_time_mono _ _ _ (goStart_out s)
  · obtain ⟨best, ponder, infos, hout, hnil⟩ :=
      C07.go_exactly_one_bestmove (goStart s) (SessionOps.goParamsOf g) (maxIterOf cfg g) (goStart_out s)
    refine ⟨best, ponder, infos, hout, hnil, ?_, ?_⟩
    · intro m hm
      subst hm
      exact C16.bestmove_is_pv0_ponder_is_pv1 _ _ _ m ponder infos hout
    · intro hb
      subst hb
      exact C16.null_bestmove_no_ponder _ _ _ ponder infos hout

theorem app_go_state (cfg : Cfg) {s : AppSt} (h : s.alive = true) {l : String} {g : Uci.Go}
    (hp : parseLine l = .ok (.go g)) :
    (appStep cfg s l).1.alive = true ∧ (appStep cfg s l).1.debug = s.debug ∧ (appStep cfg s l).1.search.out = [] := by
  rw [appStep_ok cfg h hp]; exact ⟨h, rfl, rfl⟩

#print axioms app_lines_accepted
#print axioms app_lines_accepted_default
#print axioms app_lines_accepted_from
#print axioms banner_rejected
#print axioms app_one_bestmove_per_go
#print axioms app_parse_error_silent
#print axioms app_isready
#print axioms app_uci
#print axioms app_register
#print axioms app_setoption_panics
#print axioms app_panicked_iff
#print axioms app_alive_iff
#print axioms app_eof_spins
#print axioms app_dead_silent
#print axioms app_run_live
#print axioms app_after_quit_silent
#print axioms app_silent_commands
#print axioms app_stop_ponderhit_inert
#print axioms app_debug
#print axioms position_fen_readable
#print axioms app_position
#print axioms app_position_illegal_keeps
#print axioms app_go_stream
#print axioms app_go_state

namespace Example

def script : List String := ["uci", "isready", "position startpos moves e2e4", "go depth 2", "quit"]

#guard appRun script ==
  ["Inkayaku by Marvin Kuhnke (see https://github.com/marvk/rust-chess)",
   "id name Inkayaku", "id author Marvin Kuhnke (see https://github.com/marvk/rust-chess)", "uciok",
   "readyok",
   "info depth 1 time 0 nodes 23 pv b8c6 score cp 10 hashfull 0 nps 0",
   "info depth 2 time 0 nodes 181 pv b8c6 b1c3 score cp -40 hashfull 0 nps 0",
   "bestmove b8c6 ponder b1c3"]
-- the conclusions of the theorems, evaluated
#guard ((appRun script).tail).all fun l => accepts l.toList
#guard !accepts (appRun script).head!.toList
#guard countBestmoves (appRun script) == 1 && goLines script == 1
#guard (appFinal script).terminated && !(appFinal script).panicked
#guard liveLines (script ++ ["isready", "go depth 1"]) == script
#guard appRun (script ++ ["isready", "go depth 1"]) == appRun script

/-- the hypotheses of the step theorems are satisfiable: the lines of the script parse to the commands named -/
example : parseLine "isready" = .ok .isReady := by rfl
example : parseLine " uci \n" = .ok .uci := by rfl
example : (appInit).alive = true := rfl
example : appStep {} appInit "isready" = (appInit, ["readyok"]) := app_isready {} rfl (by rfl)
#guard (match parseLine "go depth x" with | .error .int => true | _ => false)
example : ∃ e, parseLine "position fen 8/8 w" = .error e := ⟨.fen, by rfl⟩
example : CfgOk {} := cfgOk_default

-- garbage, unknown commands, unreadable FEN, illegal move, duplicated parameters, stop/ponderhit while idle, debug:
-- only well-formed lines come out, one bestmove per go, the illegal `position` keeps the position after e2e4
def messy : List String :=
  ["", "   ", "foo", "go depth x", "position fen 8/8 w", "isready\n", "register later", "register name a code b",
   "position startpos moves e2e4", "position startpos moves e2e5", "position startpos moves e2e4 e7e5 e1e3",
   "debug on", "go depth 1", "stop", "ponderhit", "go depth 1 depth 2", "debug off", "go depth 1 wtime 5 wtime 6",
   "go depth 2", "ucinewgame", "go depth 1 searchmoves a7a6", "quit", "isready", "go depth 1"]

#guard (appRun messy).tail ==
  ["readyok", "registration checking", "registration ok",
   "info depth 1 time 0 nodes 23 pv b8c6 score cp 10 hashfull 0 nps 0 string tphitrate 0 nrate 1 qrate 0 avgqdepth 0 qstartedrate 0 qtphitrate NaN",
   "bestmove b8c6",
   "info depth 1 time 0 nodes 21 pv b8c6 score cp 10 hashfull 0 nps 0",
   "info depth 2 time 0 nodes 179 pv b8c6 b1c3 score cp -40 hashfull 0 nps 0",
   "bestmove b8c6 ponder b1c3",
   "info depth 1 time 0 nodes 4 pv a7a6 score cp -40 hashfull 0 nps 0",
   "bestmove a7a6"]
#guard ((appRun messy).tail).all fun l => accepts l.toList
#guard countBestmoves (appRun messy) == 3 && goLines messy == 3
#guard firstStop messy == some "quit" && (appFinal messy).terminated && !(appFinal messy).panicked

-- `setoption` panics: the stream is cut, what was printed is well formed, the bestmove count still matches
def withSetoption : List String :=
  ["isready", "go depth 1", "setoption name Hash value 16", "isready", "go depth 1", "quit"]
#guard appRun withSetoption ==
  [bannerLine, "readyok", "info depth 1 time 0 nodes 21 pv b1c3 score cp 50 hashfull 0 nps 0", "bestmove b1c3"]
#guard (appFinal withSetoption).panicked && !(appFinal withSetoption).terminated
#guard firstStop withSetoption == some "setoption name Hash value 16" && isSetOptionLine "setoption name Hash value 16"
#guard isSetOptionLine "setoption name Clear Hash" && !isSetOptionLine "setoption" && !isSetOptionLine "setoption value 3"
#guard countBestmoves (appRun withSetoption) == 1 && goLines withSetoption == 1
example : (∃ n, parseLine "setoption name Clear Hash" = .ok (.setOption n)) := ⟨_, by rfl⟩
example : (∃ n v, parseLine "setoption name Hash value 16" = .ok (.setOptionValue n v)) := ⟨_, _, by rfl⟩

-- no line ends the process: it is still reading (spinning on EOF in reality)
#guard (appFinal ["isready", "go depth 1"]).alive && firstStop ["isready", "go depth 1"] == none
-- run dependent numbers and debug texts are arbitrary
def cfg2 : Cfg :=
  { hashfull := fun _ => 7, nps := fun _ => 123456,
    rates := fun _ => ⟨"0.5".toList, "NaN".toList, "inf".toList, "1".toList, "0".toList, "-0".toList⟩ }
example : CfgOk cfg2 := cfgOk_of_f64 cfg2 fun _ =>
  (by decide : ∀ t ∈ ["0.5".toList, "NaN".toList, "inf".toList, "1".toList, "0".toList, "-0".toList],
    t.all isF64Char = true)
#guard (appRun ["debug on", "go depth 1"] cfg2).tail ==
  ["info depth 1 time 0 nodes 21 pv b1c3 score cp 50 hashfull 7 nps 123456 string tphitrate 0.5 nrate NaN qrate inf avgqdepth 1 qstartedrate 0 qtphitrate -0",
   "bestmove b1c3"]
-- mate / stalemate on the board: `bestmove 0000`, still one bestmove line
#guard (appRun ["position startpos moves f2f3 e7e5 g2g4 d8h4", "go depth 3"]).tail ==
  ["info depth 0 time 0 nodes 1 hashfull 0 nps 0", "bestmove 0000"]
-- `go` without depth: cut after `fuel` iterations (model parameter, see `Model/App.lean`)
#guard countBestmoves (appRun ["go", "go infinite", "go movetime 5"] { fuel := 2 }) == 3

/-- `Rejected` is satisfiable: `e2e5` does not exist in the start position -/
example : Rejected FenBoard.startBoard ["e2e5"] := by
  have h : (match (San.findUci FenBoard.startBoard "e2e5").1 with | .error _ => true | .ok _ => false) = true := by
    decide +kernel
  generalize hr : San.findUci FenBoard.startBoard "e2e5" = r at h
  obtain ⟨x, b'⟩ := r
  cases x with
  | error e => exact .here hr
  | ok m => simp at h

end Example

end Inkayaku.C16App
