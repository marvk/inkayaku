import Inkayaku.Proofs.SearchSimCheck
import Inkayaku.Proofs.SearchSimFuel
import Inkayaku.Proofs.SearchSimHash
import Inkayaku.Props.C08
/-!
# C08 (simulation) – the faithful model of the engine's search computes the specification value for d ≤ 3

`Props/C08.lean` proves on the abstract game that alpha-beta + transposition table + any move order = minimax.  This file
relates the executable model `Model/Search.lean` (`negamax`, `quiescence`, `deepen`, `goCmd`: one board with `make`/`unmake`,
hash-keyed table, repetition history, fuel, flag polls, killers, PV and TT move ordering) to it
(helper proofs: `Proofs/SearchSim{Q,Rep,Inv,Loop,Node,Gen,Root,Fuel,Check,Hash}.lean`; `SearchSimGen` holds the simulation for any exact
specification of the nodes, of which this file uses the instance `SearchSim.plain`).

* `quiescence_sim`     – `Search.quiescence` = the abstract fail-hard `Minimax.q` on `SpecSearch.chess`, board restored,
                         nothing but scratch words and the quiescence counter touched.
* `repetition_inert`   – within three plies of a root below which the history is fresh, `count_repetitions ≥ 3` is never
                         true (counting fact for ANY contents of the cells at and above the root index), and
                         `repetition_return_not_taken` for the search state.
* `fuel_adequate`      – capture sequences are bounded by the material (`material b ≤ 46` in a game), so
                         `quiescenceFuel = 64` and the engine's `fuelFor d = d + 200` are both enough.
* `negamax_node_sim`   – every node of an iteration of depth `D ≤ 3`: fail-soft contract w.r.t. `mm game (D − ply)`, board
                         restored, table invariant kept (`TTOK`: entries are keyed by the hash of a position of the
                         search, have at most the remaining draft of that position and tell the truth about `mm`).
* `negamax_eq_spec`    – the root call of iteration `d` returns `specValue d b` and a move of `specBestMoves d b`;
  `go_eq_spec`         – `go depth d` after `position <b>` reports `specValue d b` in its last info line and announces
                         such a move.
* `HashInj` splits into the genuine hash hypothesis `NoCollision` (equal hash ⇒ equal `C06.HashKey` = everything the hash
  reads) and the chess facts `SameDraft`.  Two pieces of the latter are stated here (`root_not_after_two_plies`,
  `root_moves_distinct_clock`); `Props/C08Transp.lean` proves the rest and with it `go_eq_spec_le2`, `go_eq_spec_le3`, which
  assume no chess fact.

Explicit hypotheses of the node and root statements (none is an axiom; all are decidable and evaluated below on sample positions):
* `HashInj b d`     – a position at a ply `< d` and a position at a ply `≤ d` of the search tree with the same Zobrist hash
                      are the same position at the same ply (= `NoCollision` + the chess facts `SameDraft`);
* `HashNonzero b d` – no position below the root hashes to 0 (the content of the never written history cells);
* `material b ≤ 64`, the clock budget `Inv (fuelFor d) b` (well-formed, `halfmove + d + 200 ≤ 4095`), no 16-bit wrap of the
  ply clock, a legal move exists, fresh history below the root, and no interruption (`NoIntr`): the node counter stays below
  the poll period (the left disjunct of `NoIntr`), OR no message is waiting and no move time is set (`Calm`: a flag poll then only emits its
  periodic info line).  `go depth d` right after `position` is calm, so `go_eq_spec` needs neither.
-/
namespace Inkayaku.C08Sim
open Inkayaku.Board Inkayaku.Eval Inkayaku.WF Inkayaku.Minimax Inkayaku.SpecSearch Inkayaku.Search Inkayaku.SearchSim

/-- **`search_quiescence` is the abstract fail-hard quiescence.**  `Inv fuel` = well-formed with clock budget `fuel`;
`QDepth k` = capture sequences are at most `k` long (`fuel_adequate`: `k = material`); `qorder` = the engine's capture order
(the legal ones among `sortMoves (genNonQuiescent b) none none none`), an `IsOrder` of the abstract game. -/
theorem quiescence_sim (fuel k n : Nat) (s : St) (α β : Int) (hinv : Inv fuel s.board) (hq : QDepth k s.board)
    (hk : k < fuel) (hn : k ≤ n) :
    (quiescence fuel s α β).1.value = q chess.qgame qorder n (s.board, []) α β ∧
    vis (quiescence fuel s α β).2.board = vis s.board ∧
    ∃ b' qn, (quiescence fuel s α β).2 = { s with board := b', quiescenceNodes := qn } :=
  SearchSim.quiescence_sim fuel k n s α β hinv hq hk hn

theorem qorder_is_order : IsOrder qorder := isOrder_qorder

/-- hence (by `C08.quiescence_clamp`) the value is the exhaustive capture resolution clamped to the window -/
theorem quiescence_sim_clamp (fuel k n : Nat) (s : St) (α β : Int) (hinv : Inv fuel s.board) (hq : QDepth k s.board)
    (hk : k < fuel) (hn : k ≤ n) (hαβ : α < β) :
    (quiescence fuel s α β).1.value = clamp (Qexact chess.qgame n (s.board, [])) α β := by
  rw [quiescence_value fuel k n s α β hinv hq hk hn]
  exact Minimax.quiescence_clamp chess.qgame qorder isOrder_qorder n _ α β hαβ

#print axioms quiescence_sim
#print axioms quiescence_sim_clamp

/-- **the counting fact**: for a node at most three plies above the root index `r`, fewer than three repetitions are counted
unless a cell BELOW `r` inside the half-move window holds the node's hash – whatever the cells `r … start` (current line,
stale entries of earlier branches and iterations) and the cells above `start` hold -/
theorem repetition_inert (h : Nat → Nat) (start hm r : Nat) (hr : start ≤ r + 3)
    (hfresh : ∀ j, j < r → start - hm ≤ j → h j ≠ h start) : ¬ History.countRepetitions h start hm ≥ 3 :=
  countRepetitions_inert h start hm r hr hfresh

/-- a position cannot occur three times within four plies -/
theorem repetition_inert_window (h : Nat → Nat) (start hm r : Nat) (hr : start ≤ r + 3) (hw : r ≤ start - hm) :
    ¬ History.countRepetitions h start hm ≥ 3 :=
  countRepetitions_inert h start hm r hr (fun j hj hj' => by omega)

/-- the repetition return of `search_negamax` is not taken: cells below the root are zero, the hash is not, the node is at
most three plies below the root, no flag poll -/
theorem repetition_return_not_taken {r : Nat} {s : St} (hz : HistZero r s) (hnf : pollFlag s = false) (hash : UInt64)
    (ply : Nat) (hlo : r ≤ plyClock s.board) (hhi : plyClock s.board ≤ r + 3) (hne : hash.toNat ≠ 0) :
    isRep (enter s hash) ply = false :=
  -- `enter` records the hash whatever the flag poll does (`enter_history`): `hnf` is not needed
  have _ := hnf
  isRep_enter_false hz hash ply hlo hhi hne

/-- `position <fen>` without moves leaves such a history -/
theorem fresh_after_position (s : St) (b : Board) : HistZero (plyClock b) (setPosition s b []) :=
  setPosition_histZero s b

#print axioms repetition_inert
#print axioms repetition_return_not_taken
#print axioms fresh_after_position

example : ¬ History.countRepetitions (fun i => [0, 0, 0, 0, 7, 9, 7, 9].getD i 0) 7 50 ≥ 3 :=
  repetition_inert _ 7 50 4 (by decide) (by decide)

/-- **fuel adequacy**: a capture or promotion strictly decreases the material, no move increases it, so capture sequences
from a well-formed board are at most `material b` long … -/
theorem fuel_adequate (k : Nat) (b : Board) (hinv : Inv k b) (hmat : material b ≤ k) : QDepth k b :=
  qdepth_of_material k b hinv hmat

theorem capture_decreases_material {b : Board} (hwf : wf b = true) {m : Move} (hm : m ∈ genNonQuiescent b) :
    material (make b m) < material b :=
  material_capture_lt hwf hm

/-- … and the hypothesis `QBound` of the simulation follows from `material b ≤ 64` at the root -/
theorem qbound_of_material {b : Board} {D : Nat} (hinv : Inv (D + quiescenceFuel) b) (hmat : material b ≤ quiescenceFuel) :
    QBound b D :=
  SearchSim.qbound_of_material hinv hmat

#print axioms fuel_adequate
#print axioms capture_decreases_material
#print axioms qbound_of_material

/-- **a node of `search_negamax` in an iteration of depth `D ≤ 3`**: fail-soft contract w.r.t. `mm game (D − k)`, board
restored, `SOK` kept (`Hyp b0 D` bundles `HashInj`, `HashNonzero`, `QBound`, `D ≤ 3`, the clock guards; `SOK` = table
invariant `TTOK`, fresh history below the root, not stopped, no `searchmoves`) -/
theorem negamax_node_sim {b0 : Board} {D : Nat} (H : Hyp b0 D) (fuel : Nat) (s : St) (k : Nat) (α β : Int) (isPv : Bool)
    (hash ph : UInt64) (hk : k ≤ D) (hreach : Reach b0 k s.board) (hinv : Inv fuel s.board) (hfuel : 66 + (D - k) ≤ fuel)
    (hsok : SOK b0 D s) (hhash : hash = Zobrist.hash s.board) (hroot : k = 0 → genLegal s.board ≠ [])
    (hL : lossScore ≤ α) (hαβ : α < β) (hU : β ≤ -lossScore)
    (hN : NoIntr s (negamax fuel s k D α β isPv hash ph).2.negamaxNodes) :
    Ok (mm game (D - k) (s.board, [])) (negamax fuel s k D α β isPv hash ph).1.value α β ∧
    vis (negamax fuel s k D α β isPv hash ph).2.board = vis s.board ∧
    SOK b0 D (negamax fuel s k D α β isPv hash ph).2 :=
  let h := Sim.negamax_sim (plain_laws H) (Nat.le_refl _) fuel s k () s.board α β isPv hash ph hk hreach rfl hinv hfuel
    (sok_iff.mp hsok) hhash hroot hL hαβ hU hN
  ⟨h.1, h.2.1, sok_iff.mpr h.2.2.1⟩

#print axioms negamax_node_sim

theorem hyp_intro {b : Board} {d : Nat} (hd3 : d ≤ 3) (hinv : Inv (fuelFor d) b) (hnowrap : ply2 b + d < 65536)
    (hinj : HashInj b d) (hnz : HashNonzero b d) (hmat : material b ≤ 64) : Hyp b d :=
  ⟨hinj, hnz, SearchSim.qbound_of_material (Inv_mono (by unfold fuelFor quiescenceFuel; omega) hinv) hmat, hd3, hnowrap,
    Inv_mono (by unfold fuelFor; omega) hinv⟩

/-- **`negamax_eq_spec`**: iteration `d` (`1 ≤ d ≤ 3`) of a go.  `s` is any state whose board is `b` up to the scratch words,
whose table satisfies the invariant of the earlier iterations (`SOK b (d − 1) s`; the empty table of `go` for `d = 1`), with
a fresh repetition history.  The value returned by `negamax (fuelFor d) s 0 d lossScore winScore isPv hash pawnHash` is
`specValue d b` and the move returned is one of `specBestMoves d b`. -/
theorem negamax_eq_spec (b : Board) (d : Nat) (s : St) (hd1 : 1 ≤ d) (hd3 : d ≤ 3) (hb : vis s.board = vis b)
    (hinv : Inv (fuelFor d) b) (hlegal : genLegal b ≠ []) (hnowrap : ply2 b + d < 65536)
    (hinj : HashInj b d) (hnz : HashNonzero b d) (hmat : material b ≤ 64) (hsok : SOK b (d - 1) s)
    (hN : NoIntr s (negamax (fuelFor d) s 0 d lossScore Gen.winScore s.pv.isSome (Zobrist.hash s.board)
      (Zobrist.pawnHash s.board)).2.negamaxNodes) :
    let r := negamax (fuelFor d) s 0 d lossScore Gen.winScore s.pv.isSome (Zobrist.hash s.board) (Zobrist.pawnHash s.board)
    r.1.value = specValue d b ∧ (∃ m, r.1.mv = some m ∧ m.uci ∈ specBestMoves d b) ∧
    vis r.2.board = vis b ∧ SOK b d r.2 := by
  obtain ⟨h1, ⟨m, h2, h3, h4⟩, h5, h6⟩ := Sim.rootSearch_sim (plain_laws (hyp_intro hd3 hinv hnowrap hinj hnz hmat)) hd1
    (Nat.le_refl _) (n := ()) (Reach.root b) s hb hinv (sok_iff.mp hsok) hlegal hN
  obtain ⟨i, rfl⟩ : ∃ i, d = i + 1 := ⟨d - 1, by omega⟩
  exact ⟨by rw [C08.specValue_eq_mm]; exact h1, ⟨m, h2, mem_specBestMoves h3 h4⟩, h5, sok_iff.mpr h6⟩

/-- `go_eq_spec` below for any starting state and iteration bound, with the shape of the output: the two newest lines are the
`bestmove` and the info of depth `d` -/
theorem go_eq_spec_general (s₀ : St) (d maxIter : Nat) (hd1 : 1 ≤ d) (hd3 : d ≤ 3) (hmi : d ≤ maxIter)
    (hinv : Inv (fuelFor d) s₀.board) (hlegal : genLegal s₀.board ≠ []) (hnowrap : ply2 s₀.board + d < 65536)
    (hinj : HashInj s₀.board d) (hnz : HashNonzero s₀.board d) (hmat : material s₀.board ≤ 64)
    (hz : HistZero (plyClock s₀.board) s₀) (hns : s₀.nsPerNode = none)
    (hN : (goCmd s₀ { depth := some d } maxIter).negamaxNodes < s₀.pollPeriod ∨ s₀.pending = []) :
    ∃ (pv : List Move) (nodes : Nat) (t : Option Nat) (m : Move) (older : List Out),
      (goCmd s₀ { depth := some d } maxIter).out =
        .bestMove (some m) (pv[1]?) ::
        .info (some d) t nodes (some (scoreFromValue (specValue d s₀.board) s₀.board)) (some pv) :: older ∧
      m.uci ∈ specBestMoves d s₀.board ∧ vis (goCmd s₀ { depth := some d } maxIter).board = vis s₀.board := by
  obtain ⟨pv, nodes, t, m, older, h1, h2, h3, _, h5⟩ := Sim.goCmd_sim (plain_laws (hyp_intro hd3 hinv hnowrap hinj hnz hmat))
    (n0 := ()) (Reach.root s₀.board) s₀ rfl maxIter hd1 hmi hinv hlegal hz hns hN
  obtain ⟨i, rfl⟩ : ∃ i, d = i + 1 := ⟨d - 1, by omega⟩
  exact ⟨pv, nodes, t, m, older, by rw [C08.specValue_eq_mm]; exact h1, mem_specBestMoves h2 h3, h5⟩

/-- **`go_eq_spec`**: after `position <b>` (no moves, so no repetition history),
`go depth d` with `1 ≤ d ≤ 3` reports the exact minimax value `specValue d b` in the info line of depth `d` and announces a
move of `specBestMoves d b`, the ponder move being the second move of the reported PV. -/
theorem go_eq_spec (b : Board) (d : Nat) (hd1 : 1 ≤ d) (hd3 : d ≤ 3)
    (hinv : Inv (fuelFor d) b) (hlegal : genLegal b ≠ []) (hnowrap : ply2 b + d < 65536)
    (hinj : HashInj b d) (hnz : HashNonzero b d) (hmat : material b ≤ 64) :
    let s := goCmd (setPosition initial b []) { depth := some d }
    ∃ pv nodes t, Out.info (some d) t nodes (some (scoreFromValue (specValue d b) b)) (some pv) ∈ s.out ∧
      ∃ m, Out.bestMove (some m) (pv[1]?) ∈ s.out ∧ m.uci ∈ specBestMoves d b := by
  have hs0 : (setPosition initial b []).board = b := by rw [setPosition_nil]
  have hpd : (setPosition initial b []).pending = [] := by rw [setPosition_nil]; rfl
  have hns : (setPosition initial b []).nsPerNode = none := by rw [setPosition_nil]; rfl
  obtain ⟨pv, nodes, t, m, older, h1, h2, _⟩ := go_eq_spec_general (setPosition initial b []) d 64 hd1 hd3 (by omega)
    (by rw [hs0]; exact hinv) (by rw [hs0]; exact hlegal) (by rw [hs0]; exact hnowrap) (by rw [hs0]; exact hinj)
    (by rw [hs0]; exact hnz) (by rw [hs0]; exact hmat) (by rw [hs0]; exact setPosition_histZero initial b) hns (Or.inr hpd)
  rw [hs0] at h1 h2
  refine ⟨pv, nodes, t, ?_, m, ?_, h2⟩
  · show _ ∈ (goCmd (setPosition initial b []) { depth := some d } 64).out
    rw [h1]; exact List.mem_cons_of_mem _ List.mem_cons_self
  · show _ ∈ (goCmd (setPosition initial b []) { depth := some d } 64).out
    rw [h1]; exact List.mem_cons_self

#print axioms negamax_eq_spec
#print axioms go_eq_spec
#print axioms go_eq_spec_general

/-- a piece of `SameDraft`: the root does not recur after two plies -/
theorem root_not_after_two_plies {b : Board} (hinv : Inv 1 b) {m1 m2 : Move} (h1 : m1 ∈ genLegal b)
    (h2 : m2 ∈ genLegal (make b m1)) : C06.HashKey (make (make b m1) m2) ≠ C06.HashKey b :=
  key_cross02 hinv h1 h2

/-- a piece of `SameDraft`: two root moves to the same key reach the same half-move clock -/
theorem root_moves_distinct_clock {b : Board} (hwf : wf b = true) {m m' : Move} (h : m ∈ genLegal b) (h' : m' ∈ genLegal b)
    (hkey : C06.HashKey (make b m) = C06.HashKey (make b m')) : (make b m).halfmove = (make b m').halfmove :=
  key_same1 hwf h h' hkey

#print axioms root_not_after_two_plies
#print axioms root_moves_distinct_clock

/-! ## non-vacuity

`kr` = `k7/8/1K6/8/8/8/8/7R w - - 0 1` (`C08.Example.kr`).  The hash hypotheses and the clock guards are evaluated IN THE KERNEL
for depth 1 (`hypB` is the executable conjunction, `hyp_of_check` its soundness); the search itself (`Std.HashMap`, strings)
is evaluated by the compiler (`#guard`), for depths 1, 2, 3 and several positions: all hypotheses hold and `goCmd` reports
`specScore` and a move of `specBestMoves`. -/

namespace Example
open Inkayaku.C08.Example

theorem kr_hyp1 : Hyp kr 1 := hyp_of_check (by decide +kernel)

example : HashInj kr 1 ∧ HashNonzero kr 1 ∧ QBound kr 1 := ⟨kr_hyp1.inj, kr_hyp1.nz, kr_hyp1.qb⟩

example : NoCollision kr 1 := noCollision_of_hashInj kr_hyp1.inj

example : material kr = 1 := by decide +kernel

example : Inv (fuelFor 1) kr := ⟨by decide +kernel, by decide, by decide⟩

example : genLegal kr ≠ [] := by decide +kernel

/-- the preconditions of `negamax_eq_spec` on the state `go` prepares for iteration 1 -/
example : SOK kr (1 - 1) (goPrep (setPosition initial kr []) { depth := some 1 }) := by
  obtain ⟨f1, f2, f3, _, _⟩ := goPrep_fields (setPosition initial kr []) { depth := some 1 }
  refine ⟨by rw [f1]; exact ttok_iff.mpr (Sim.ttok_empty _), ?_, f3, Search.goPrep_searchMoves _ _⟩
  intro j hj
  rw [f2]
  exact setPosition_histZero initial kr j hj

def boardOf (fen : String) : Board :=
  match FenBoard.fromFenString fen with
  | .ok b => b
  | .error _ => FenBoard.startBoard

def lastInfo (outs : List Out) : Option (Nat × Score) :=
  outs.findSome? fun | .info (some d) _ _ (some sc) _ => some (d, sc) | _ => none

def announced (outs : List Out) : Option Move :=
  outs.findSome? fun | .bestMove b _ => b | _ => none

/-- all decidable hypotheses of `go_eq_spec` -/
def hypotheses (b : Board) (d : Nat) : Bool :=
  hypB b d && decide (b.halfmove + fuelFor d ≤ 4095) && !(genLegal b).isEmpty && decide (material b ≤ 64)

/-- the conclusion of `go_eq_spec` -/
def conclusion (b : Board) (d : Nat) : Bool :=
  let s := goCmd (setPosition initial b []) { depth := some d }
  lastInfo s.out == some (d, scoreFromValue (specValue d b) b) &&
    (match announced s.out with | some m => (specBestMoves d b).contains m.uci | none => false)

#guard hypotheses kr 1 && conclusion kr 1
#guard hypotheses kr 2 && conclusion kr 2
#guard hypotheses kr 3 && conclusion kr 3
#guard specScore 3 (boardOf "k7/8/2K5/8/8/8/8/7R w - - 0 1") == "mate2"
#guard hypotheses (boardOf "k7/8/2K5/8/8/8/8/7R w - - 0 1") 2 && conclusion (boardOf "k7/8/2K5/8/8/8/8/7R w - - 0 1") 2
#guard conclusion (boardOf "k7/8/2K5/8/8/8/8/7R w - - 0 1") 3
-- captures, promotion, en passant, castling rights in the tree
#guard hypotheses (boardOf "r3k3/1P6/8/3pP3/8/8/8/4K2R w Kq d6 0 2") 2 && conclusion (boardOf "r3k3/1P6/8/3pP3/8/8/8/4K2R w Kq d6 0 2") 2
#guard hypotheses (boardOf "4k3/8/8/8/8/8/4P3/4K3 w - - 0 1") 3 && conclusion (boardOf "4k3/8/8/8/8/8/4P3/4K3 w - - 0 1") 3
-- black to move, a large half-move clock (the window of the repetition test reaches far below the root)
#guard hypotheses (boardOf "7K/8/5k2/8/8/8/8/r7 b - - 60 40") 2 && conclusion (boardOf "7K/8/5k2/8/8/8/8/r7 b - - 60 40") 2
#guard conclusion (boardOf "7K/8/5k2/8/8/8/8/r7 b - - 60 40") 3
-- flag polls in the middle of the search (poll period 7) that find an empty channel do not change the result
#guard (let s := goCmd { setPosition initial kr [] with pollPeriod := 7 } { depth := some 3 }
        lastInfo s.out == some (3, scoreFromValue (specValue 3 kr) kr) && s.out.length > 10)
-- the conclusion alone on full boards (`hashInjB` is quadratic in the number of positions)
#guard conclusion FenBoard.startBoard 1 && conclusion FenBoard.startBoard 2

end Example

end Inkayaku.C08Sim
