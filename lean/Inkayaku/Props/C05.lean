import Inkayaku.Proofs.Check
import Inkayaku.Model.FenBoard
/-!
# C05 — check detection, position validity, checkmate versus stalemate

Property text: *For every legal position and either colour, the board reports that colour as in check exactly when
its king is attacked by an enemy piece under the rules of chess, and reports a position as valid exactly when the
side that just moved did not leave its own king attacked.  Consequently a position has no legal moves exactly when
it is checkmate (in check) or stalemate (not in check), and the two are never confused.*

Objects: `Board.squareInCheck` = `_is_square_in_check`, `Board.inCheck` = `_is_in_check_by_bits`, `Board.isValid`,
`Board.isCurrentInCheck`, `Board.occupancyInCheck` (model of board/src/board.rs), `Spec.attacked` / `Spec.inCheck` /
`Spec.isCheckmate` / `Spec.isStalemate` (the rules, `Spec/Chess.lean`), `Abs.abs` (bitboard ↦ mailbox position),
`WF.wf` ("legal position").  Proofs: `Proofs/Bits`, `Proofs/RayWalk`, `Proofs/Geometry`, `Proofs/Attack`,
`Proofs/Check`; they rest on C04 for all five lookups (magic lookups = ray walks, for all 2^64 occupancies; leaper tables =
step sets) and on the arithmetic of `Proofs/Geometry` (ray walks and step sets = the Spec's file/rank arithmetic).

Scope notes:
* `no_moves_iff` is relative to `hlegal` (the model's legal move list is empty iff the Spec's is): relating
  `genLegal` to `Spec.legalMoves` is property C01, not C05.
* `valid` / `move_legal` assume the structural part of well-formedness (`Check.Struct`: disjoint words, one king per
  side) of the position being tested; that `make` preserves it is part of C01/C02.
-/
namespace Inkayaku.C05
open Inkayaku.Board

/-- `_is_square_in_check(c, enemy side of c, s, all pieces)` = "square `s` is attacked by a piece of the colour
opposite to `c` under the rules" – all piece kinds, all directions, any number of attackers.
`c` is the colour of the would-be king (0 = white; the code treats every other value as black);
`Attack.sideOf b (c != 0)` is the enemy side (`b.black` for `c = 0`, else `b.white`);
`Spec.attacked p byWhite s` has `byWhite = (c != 0)`, i.e. the attackers are black for `c = 0`. -/
theorem square_attacked (b : Board) (hd : Attack.Disjoint b) (c s : Nat) (hs : s < 64) :
    squareInCheck c (Attack.sideOf b (c != 0)) s (b.white.full ||| b.black.full) =
      Spec.attacked (Abs.abs b) (c != 0) s :=
  Attack.squareInCheck_iff b hd c s hs

/-- `Attack.Disjoint` is the first conjunct of `WF.wf` -/
theorem disjoint_of_wf (b : Board) (h : WF.wf b = true) : Attack.Disjoint b := (Check.struct_of_wf h).1.disjoint

/-- for every legal position and either colour: reported in check ⇔ the king is attacked by an enemy piece -/
theorem in_check (b : Board) (h : WF.wf b = true) (c : Nat) (hc : c ≤ 1) :
    inCheck b c = Spec.inCheck (Abs.abs b) (c == 0) :=
  Check.inCheck_iff' b (Check.struct_of_wf h).1 c

theorem current_in_check (b : Board) (h : WF.wf b = true) :
    isCurrentInCheck b = Spec.inCheck (Abs.abs b) (Abs.abs b).whiteToMove :=
  Check.isCurrentInCheck_iff b (Check.struct_of_wf h).1

/-- reported valid ⇔ the side that just moved (the side NOT to move) did not leave its own king attacked.
The hypothesis is the structural part of `WF.wf` only (it must not contain `isValid b` itself). -/
theorem valid (b : Board) (hs : Check.Struct b) (ht : b.turn ≤ 1) :
    isValid b = !Spec.inCheck (Abs.abs b) (!(Abs.abs b).whiteToMove) :=
  Check.isValid_iff b hs

/-- `is_move_legal` = make; is_valid: the move did not leave the mover's king attacked in the resulting position -/
theorem move_legal (b : Board) (m : Move) (hs : Check.Struct (make b m)) (ht : (make b m).turn ≤ 1) :
    isMoveLegal b m = !Spec.inCheck (Abs.abs (make b m)) (!(Abs.abs (make b m)).whiteToMove) :=
  Check.isValid_iff (make b m) hs

/-- in a legal position the side that just moved is not in check under the rules -/
theorem wf_not_in_check (b : Board) (h : WF.wf b = true) :
    Spec.inCheck (Abs.abs b) (!(Abs.abs b).whiteToMove) = false := by
  have hv : isValid b = true := (WF.parts_of_wf h).valid
  have := valid b (Check.struct_of_wf h).1 (Check.struct_of_wf h).2
  rw [hv] at this
  cases hh : Spec.inCheck (Abs.abs b) (!(Abs.abs b).whiteToMove)
  · rfl
  · rw [hh] at this; cases this

/-- castling path test `_is_occupancy_in_check` = some square of the set is attacked by the enemy of `c` -/
theorem occupancy_in_check (b : Board) (hd : Attack.Disjoint b) (c : Nat) (squares : UInt64) :
    occupancyInCheck c (Attack.sideOf b (c != 0)) (b.white.full ||| b.black.full) squares =
      (bitsAsc squares).any fun s => Spec.attacked (Abs.abs b) (c != 0) s := by
  unfold occupancyInCheck
  apply Check.any_congr'
  intro s hs
  exact Attack.squareInCheck_iff b hd c s (Bits.testU_lt ((Bits.mem_bitsAsc _ _).mp hs))

/-- **no legal moves ⇔ checkmate or stalemate, never confused.**
`(genLegal b).isEmpty && isCurrentInCheck b` is the classification used by the evaluator and the SAN suffix.
RELATIVE to `hlegal` (that the model's legal-move list is empty iff the Spec's is — property C01). -/
theorem no_moves_iff (b : Board) (h : WF.wf b = true)
    (hlegal : (genLegal b).isEmpty = (Spec.legalMoves (Abs.abs b)).isEmpty) :
    ((genLegal b).isEmpty && isCurrentInCheck b) = Spec.isCheckmate (Abs.abs b) ∧
    ((genLegal b).isEmpty && !isCurrentInCheck b) = Spec.isStalemate (Abs.abs b) ∧
    (genLegal b = [] ↔ (Spec.isCheckmate (Abs.abs b) = true ∨ Spec.isStalemate (Abs.abs b) = true)) ∧
    ¬ (Spec.isCheckmate (Abs.abs b) = true ∧ Spec.isStalemate (Abs.abs b) = true) := by
  have hc := current_in_check b h
  unfold Spec.isCheckmate Spec.isStalemate
  rw [← hlegal, ← hc]
  refine ⟨rfl, rfl, ?_, ?_⟩
  · rw [← List.isEmpty_iff]
    cases (genLegal b).isEmpty <;> cases isCurrentInCheck b <;> simp
  · cases (genLegal b).isEmpty <;> cases isCurrentInCheck b <;> simp

#print axioms square_attacked
#print axioms in_check
#print axioms current_in_check
#print axioms valid
#print axioms move_legal
#print axioms wf_not_in_check
#print axioms occupancy_in_check
#print axioms no_moves_iff

/-! ## Non-vacuity and sanity: concrete positions, both sides evaluated independently by the kernel -/

def bd (s : String) : Board :=
  match FenBoard.fromFenString s with
  | .ok b => b
  | .error _ => default

/-- legal position, the model says `chk` for the side to move, so does the Spec -/
def agree (fen : String) (chk : Bool) : Bool :=
  WF.wf (bd fen) && (isCurrentInCheck (bd fen) == chk)
    && (Spec.inCheck (Abs.abs (bd fen)) (Abs.abs (bd fen)).whiteToMove == chk)

-- double check on the white king (rook e8 and knight d3)
example : agree "4r2k/8/8/8/8/3n4/8/4K3 w - - 0 1" true = true := by decide +kernel
-- double check on the black king (bishop b5 and queen e2)
example : agree "4k3/8/8/1B6/8/8/4Q3/4K3 b - - 0 1" true = true := by decide +kernel
-- pawn check on the white king (black pawn d2) and on the black king (white pawn d7)
example : agree "7k/8/8/8/8/8/3p4/4K3 w - - 0 1" true = true := by decide +kernel
example : agree "4k3/3P4/8/8/8/8/8/4K3 b - - 0 1" true = true := by decide +kernel
-- a pawn straight ahead, a pawn attacking away from the king, or pawns beside the king give no check
example : agree "4k3/4P3/8/8/8/8/8/4K3 b - - 0 1" false = true := by decide +kernel
example : agree "8/3k4/4p3/8/8/8/8/4K3 b - - 0 1" false = true := by decide +kernel
example : agree "7k/8/8/8/8/8/3pKp2/8 w - - 0 1" false = true := by decide +kernel
-- a blocked slider gives no check, the unblocked one does
example : agree "4r2k/8/8/8/4N3/8/8/4K3 w - - 0 1" false = true := by decide +kernel
example : agree "4r2k/8/8/8/3N4/8/8/4K3 w - - 0 1" true = true := by decide +kernel
-- start position
example : agree "rnbqkbnr/pppppppp/8/8/8/8/PPPPPPPP/RNBQKBNR w KQkq - 0 1" false = true := by decide +kernel

-- hypotheses of `square_attacked` / `in_check` hold for a non-trivial board, and both colours are exercised
example : Attack.Disjoint (bd "r3k2r/pp1n1ppp/2p1pn2/q2p1b2/1b1P1B2/2N1PN2/PPPQBPPP/R3K2R w KQkq - 0 1") := by
  decide +kernel
example : let b := bd "4r2k/8/8/8/8/3n4/8/4K3 w - - 0 1"
    WF.wf b = true ∧ inCheck b 0 = true ∧ inCheck b 1 = false ∧
      Spec.inCheck (Abs.abs b) true = true ∧ Spec.inCheck (Abs.abs b) false = false := by decide +kernel

-- `valid`: a structurally sound position in which the side that just moved (white) is still in check: not valid
example : let b := bd "4r2k/8/8/8/8/8/8/4K3 b - - 0 1"
    Attack.Disjoint b ∧ WF.popcount b.white.kings = 1 ∧ WF.popcount b.black.kings = 1 ∧ b.turn ≤ 1 ∧
      isValid b = false ∧ Spec.inCheck (Abs.abs b) (!(Abs.abs b).whiteToMove) = true := by decide +kernel

-- `no_moves_iff`: `hlegal` and `wf` hold in a checkmate (fool's mate), a stalemate, and the start position
example : let b := bd "rnb1kbnr/pppp1ppp/8/4p3/6Pq/5P2/PPPPP2P/RNBQKBNR w KQkq - 1 3"
    WF.wf b = true ∧ (genLegal b).isEmpty = (Spec.legalMoves (Abs.abs b)).isEmpty ∧
      genLegal b = [] ∧ isCurrentInCheck b = true ∧ Spec.isCheckmate (Abs.abs b) = true ∧
      Spec.isStalemate (Abs.abs b) = false := by decide +kernel
example : let b := bd "7k/5Q2/6K1/8/8/8/8/8 b - - 0 1"
    WF.wf b = true ∧ (genLegal b).isEmpty = (Spec.legalMoves (Abs.abs b)).isEmpty ∧
      genLegal b = [] ∧ isCurrentInCheck b = false ∧ Spec.isStalemate (Abs.abs b) = true ∧
      Spec.isCheckmate (Abs.abs b) = false := by decide +kernel
example : let b := bd "rnbqkbnr/pppppppp/8/8/8/8/PPPPPPPP/RNBQKBNR w KQkq - 0 1"
    WF.wf b = true ∧ (genLegal b).isEmpty = (Spec.legalMoves (Abs.abs b)).isEmpty ∧
      (genLegal b).length = 20 ∧ Spec.isCheckmate (Abs.abs b) = false ∧ Spec.isStalemate (Abs.abs b) = false := by
  decide +kernel

end Inkayaku.C05
