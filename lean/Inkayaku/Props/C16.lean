import Inkayaku.Proofs.SearchRoot
import Inkayaku.Proofs.WfStepProof
import Inkayaku.Model.FenBoard
/-!
# C16 (search part) — the info stream of one search is monotone and consistent with the answer

"Within one search the reported depth, node count and time never decrease, every reported principal variation is a
legal line from the searched position, and the announced bestmove and ponder move are the first and second move of
the last reported principal variation."

Model: `Inkayaku.Search`; `St.out` is the list of emitted messages, newest first, so `out.reverse` is the emission
order.  `infoDepths`, `infoNodes`, `infoTimes` project the reported depths (periodic infos report none), node counts
and times out of a piece of output.  All statements hold for every state (poll period, pending messages, clock, flags,
table) and all `go` parameters, i.e. for completed and for interrupted searches.

Proved here: depth / nodes / time monotone, time = virtual clock of the node count, best move and ponder move are the
first and second move of the PV of the info emitted last.
The legality of the reported PV lines is `C16Pv.pv_legal_line` / `C16Pv.pv_legal_line_rules` (`Props/C16Pv.lean`),
relative to a no-collision hypothesis on the Zobrist keys (see the note after the theorems).
-/
namespace Inkayaku.C16
open Inkayaku.Search Inkayaku.Board

/-- the reported depths never decrease -/
theorem info_depth_mono (s : St) (g : GoParams) (maxIter : Nat) (h0 : s.out = []) :
    (infoDepths (goCmd s g maxIter).out.reverse).Pairwise (· ≤ ·) := by
  obtain ⟨news, h, -, hd⟩ := goCmd_out s g maxIter
  rw [h, h0, List.append_nil]
  unfold infoDepths
  rw [List.filterMap_reverse, List.pairwise_reverse]
  exact hd.1

/-- the reported node counts never decrease -/
theorem info_nodes_mono (s : St) (g : GoParams) (maxIter : Nat) (h0 : s.out = []) :
    (infoNodes (goCmd s g maxIter).out.reverse).Pairwise (· ≤ ·) := by
  obtain ⟨news, h, hc, -⟩ := goCmd_out s g maxIter
  rw [h, h0, List.append_nil]
  unfold infoNodes
  rw [List.filterMap_reverse, List.pairwise_reverse]
  exact hc.nodes_sorted

/-- the reported times never decrease -/
theorem info_time_mono (s : St) (g : GoParams) (maxIter : Nat) (h0 : s.out = []) :
    (infoTimes (goCmd s g maxIter).out.reverse).Pairwise (· ≤ ·) := by
  obtain ⟨news, h, hc, -⟩ := goCmd_out s g maxIter
  rw [h, h0, List.append_nil]
  unfold infoTimes
  rw [List.filterMap_reverse, List.pairwise_reverse]
  exact hc.times_sorted

/-- every info of a `go` reports a time (in ms) that is the virtual clock value of its node count, and its node count
is at most the final node count -/
theorem info_time_is_clock (s : St) (g : GoParams) (maxIter : Nat) (h0 : s.out = []) (d : Option Nat) (t : Option Nat)
    (n : Nat) (sc : Option Eval.Score) (pv : Option (List Move)) (ho : Out.info d t n sc pv ∈ (goCmd s g maxIter).out) :
    t = some (elapsedOf s.nsPerNode n / 1000000) ∧ n ≤ (goCmd s g maxIter).totalNodes := by
  obtain ⟨news, h, hc, -⟩ := goCmd_out s g maxIter
  rw [h, h0, List.append_nil, List.mem_cons] at ho
  rcases ho with ho | ho
  · cases ho
  · have := hc.1 _ ho
    exact ⟨this.1, this.2.2⟩

/-- **bestmove and ponder are the first and second move of the last reported PV**: when a move is announced, the
message emitted immediately before it is an info carrying a PV `pvl` with `pvl[0] = best` and `pvl[1]? = ponder` -/
theorem bestmove_is_pv0_ponder_is_pv1 (s : St) (g : GoParams) (maxIter : Nat) (m : Move) (ponder : Option Move)
    (rest : List Out) (h : (goCmd s g maxIter).out = .bestMove (some m) ponder :: rest) :
    ∃ d t n sc pvl rest', rest = .info d t n sc (some pvl) :: rest' ∧ pvl[0]? = some m ∧ pvl[1]? = ponder := by
  obtain ⟨hb, rfl, rfl⟩ := goCmd_head h
  have hinv : BestInv (goDeepen s g maxIter).1 ((goDeepen s g maxIter).1.map VM.pv) (goDeepen s g maxIter).2 :=
    deepen_head _ _ 1 _ none none none (fun c hc => nomatch hc)
  cases hc : (goDeepen s g maxIter).1 with
  | none => rw [hc] at hb; cases hb
  | some c =>
    rw [hc] at hb hinv
    obtain ⟨-, hspv, -, d, t, n, sc, rest', hout⟩ := hinv c rfl
    obtain ⟨tl, htl⟩ := VM.pv_of_mv (show c.mv = some m from hb)
    refine ⟨d, t, n, sc, c.pv, rest', hout, by rw [htl]; rfl, ?_⟩
    unfold ponderOf
    rw [hb, hspv]

/-- no ponder move without a best move -/
theorem null_bestmove_no_ponder (s : St) (g : GoParams) (maxIter : Nat) (ponder : Option Move) (rest : List Out)
    (h : (goCmd s g maxIter).out = .bestMove none ponder :: rest) : ponder = none := by
  obtain ⟨hb, hp, -⟩ := goCmd_head h
  exact hp ▸ ponderOf_none hb

#print axioms info_depth_mono
#print axioms info_nodes_mono
#print axioms info_time_mono
#print axioms info_time_is_clock
#print axioms bestmove_is_pv0_ponder_is_pv1
#print axioms null_bestmove_no_ponder

/- The clause "every reported principal variation is a legal line from the searched position" is
   `C16Pv.pv_legal_line` (literally generated moves) and `C16Pv.pv_legal_line_rules` (legal by the rules of chess).
   The FIRST move of every reported PV is legal without further hypothesis (`C07.every_iteration_legal` via
   `Search.iters_legal`: the root result of every iteration is a legal root move).  The tail of the PV is assembled from
   child results that may come from the transposition table (`probe` returns the stored `ValuedMove` of whatever position
   has the same 64-bit hash, unverified) and from the quiescence search; its legality rests on (i) the invariant "every
   stored entry's PV is a legal line of the position it was stored for" (`Search.TTLegal`) and (ii) the absence of hash
   collisions between different positions within one search — (ii) is not a property of the code, so the two theorems
   carry a no-collision hypothesis (`Search.HashInjVis`, `Search.HashInjCore`). -/

/-! ## non-vacuity -/

def demo : St := goCmd { Search.initial with pollPeriod := 50, nsPerNode := some 1000 } { depth := some 3 } 8

#guard demo.out.length > 4
#guard infoDepths demo.out.reverse == [1, 2, 3]
#guard (infoNodes demo.out.reverse).length > 3
#guard match demo.out with
  | .bestMove (some m) p :: .info _ _ _ _ (some pvl) :: _ => pvl[0]? == some m && pvl[1]? == p && p.isSome
  | _ => false

/-- an interrupted search reports the depth of the last completed iteration again -/
def demoStop : St := goCmd { Search.initial with pollPeriod := 40, pending := [.stop] } { depth := some 4 } 8
#guard infoDepths demoStop.out.reverse == [1, 1]

example : (Search.initial).out = [] := rfl

end Inkayaku.C16
