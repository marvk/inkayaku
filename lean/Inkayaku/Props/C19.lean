import Inkayaku.Props.C19Names
import Inkayaku.Props.C19Decode
import Inkayaku.Props.C19Json
/-!
# C19 -- Lichess payload decoding

Model: `Inkayaku.Model.Json` (JSON reader / printer of serde_json), `Inkayaku.Model.Lichess` (schema-directed decoder
with serde's semantics), schema: `Inkayaku.Gen.LichessSchema` (generated from the Rust source by
`/verif/tools/serde_schema.py`), specification: `Inkayaku.Spec.LichessDoc` (documented names, hand written).

Props/C19Names: the wire names of the generated schema are the documented ones (`schema_names_documented`).
Props/C19Split: the space separated move string decodes to the move list, in order (`moves_split`).  Props/C19Decode:
for every well-formed schema and every well-typed value, decoding the wire document gives the value back, every subset
of optional fields absent or `null` (`decode_encode`; `wf_generated`: the generated schema is well-formed).
Props/C19Json: the JSON reader inverts the JSON printer (`parse_render_json`).  Here the last two are composed: the
printed text of the wire document decodes to the value (`decode_text_roundtrip`), with instances on the generated schema.
-/
namespace Inkayaku.Props.C19
open Inkayaku.Json Inkayaku.Lichess
open Inkayaku.Gen.Lichess (TypeDef TyRef Field Variant Prim Custom schema csvRuleTable)

theorem f64_big : 2 ^ 64 < f64Overflow := by decide +kernel

theorem goodMembers_append (a b : List (List Char × JVal)) : goodMembers (a ++ b) = (goodMembers a && goodMembers b) := by
  induction a with
  | nil => simp [goodMembers]
  | cons p a ih => obtain ⟨k, v⟩ := p; simp [goodMembers, ih, Bool.and_assoc]

theorem good_jstr (s : List Char) : good (jstr s) = true := by simp [jstr, good]

mutual
def tyDepth : Ty → Nat
  | .opt t => tyDepth t
  | .struct fs => 1 + fieldsDepth fs
  | .tagged _ vs => 1 + variantsDepth vs
  | _ => 0
def fieldsDepth : List (FieldInfo × Ty) → Nat
  | [] => 0
  | (_, t) :: rest => max (tyDepth t) (fieldsDepth rest)
def variantsDepth : List (VariantInfo × List (FieldInfo × Ty)) → Nat
  | [] => 0
  | (_, fs) :: rest => max (fieldsDepth fs) (variantsDepth rest)
end

theorem depthMembers_append (a b : List (List Char × JVal)) :
    depthMembers (a ++ b) = max (depthMembers a) (depthMembers b) := by
  induction a with
  | nil => simp [depthMembers]
  | cons p a ih => obtain ⟨k, v⟩ := p; simp [depthMembers, ih, Nat.max_assoc]

theorem fieldsDepth_le_variantsDepth {vi : VariantInfo} {fs : List (FieldInfo × Ty)} :
    ∀ {vs : List (VariantInfo × List (FieldInfo × Ty))}, (vi, fs) ∈ vs → fieldsDepth fs ≤ variantsDepth vs
  | [], h => by cases h
  | (_, _) :: _, h => by
    simp only [variantsDepth]
    cases h with
    | head => exact Nat.le_max_left _ _
    | tail _ h => exact Nat.le_trans (fieldsDepth_le_variantsDepth h) (Nat.le_max_right _ _)

/-- the JSON theorem applies to `j`, and `j` nests no deeper than the type -/
def Fits (t : Ty) (_ : DVal) (j : JVal) : Prop := good j = true ∧ depth j ≤ tyDepth t

theorem fits_fields {fs : List (FieldInfo × Ty)} {vals : List DVal} {E : List (Key × JVal)} {S : List (Key × DVal)}
    {O : List (Key × JVal)} {os : List (Option DVal)} (h : Presents Fits fs vals E S O os) :
    goodMembers E = true ∧ depthMembers E ≤ fieldsDepth fs := by
  induction h with
  | nil => simp [goodMembers, depthMembers]
  | flat _ hP _ _ ih =>
    simp only [Fits, good, depth] at hP
    simp only [goodMembers_append, depthMembers_append, fieldsDepth, hP.1, ih.1, Bool.and_self, true_and]
    omega
  | missing _ _ _ ih =>
    simp only [fieldsDepth]
    exact ⟨ih.1, by omega⟩
  | member _ hP _ ih =>
    simp only [goodMembers, depthMembers, fieldsDepth, hP.1, ih.1, Bool.and_self, true_and]
    have := hP.2
    omega

theorem fits_wireEncode : ∀ (t : Ty), Holds Fits t := by
  have hbig := f64_big
  apply Holds.induct
  case none => exact fun _ => ⟨rfl, Nat.zero_le _⟩
  case some => exact fun _ _ _ h _ => h
  case struct =>
    intro fs vals E S O os _ h
    have := fits_fields h
    simp only [Fits, good, depth, tyDepth, this.1, true_and]
    omega
  case tagged =>
    intro tag vs vi fs vals E S O os _ hmem _ _ _ h
    have h1 := fits_fields h
    have h2 := fieldsDepth_le_variantsDepth hmem
    have h3 : depth (jstr vi.wire) = 0 := rfl
    simp only [Fits, good, goodMembers, good_jstr, depth, depthMembers, tyDepth, h1.1, h3, Bool.true_and, true_and]
    omega
  all_goals
    intros
    intro v _ _ _ hv
    cases v <;> simp only [wt, Bool.false_eq_true, decide_eq_true_eq] at hv <;>
      simp only [wireEncode, Fits, good, depth, tyDepth, jstr, encodeI32, decide_eq_true_eq, beq_self_eq_true, Nat.le_refl,
        and_true]
    all_goals omega

/-- **C19 (end to end, type trees).**  The printed text of a document of the documented shape decodes to the value:
`serde_json::from_str` (text → `Content` → typed value → `Deserializer::end`) on `to_string` of the wire document. -/
theorem decodeText_render_wireEncode (t : Ty) (hwf : wfTy t = true) (hd : tyDepth t < 128) (v : DVal)
    (hv : wt t v = true) (absent : List String → Bool) :
    decodeText t (render (wireEncode absent [] t v)) = .ok v := by
  have hfit := fits_wireEncode t v absent [] hwf hv
  have hp := parsePrefix_render (wireEncode absent [] t v) hfit.1 (Nat.lt_of_le_of_lt hfit.2 hd) [] (Or.inl rfl)
  simp only [List.append_nil] at hp
  have hdec := decodeTy_wireEncode t v absent [] hwf hv
  simp [decodeText, hp, decodeRoot, numericTag_wireEncode absent [] t v hwf hv, hdec, onlyWs, skipWs]

#print axioms decodeText_render_wireEncode

/-- **C19 (end to end).**  For every well-formed schema, every named type of it, every well-typed value and every
choice of absent optional fields, `serde_json::from_str` of the printed wire document yields the value. -/
theorem decode_text_roundtrip (σ : List TypeDef) (rules : List (String × String)) (hσ : WFSchema σ rules)
    (name : String) (hname : name ∈ σ.map (·.name)) (t : Ty) (ht : resolve σ rules name = some t) (hd : tyDepth t < 128)
    (v : DVal) (hv : wt t v = true) (absent : List String → Bool) :
    decodeText t (render (wireEncode absent [] t v)) = .ok v :=
  decodeText_render_wireEncode t (wfTy_of_wfSchema hσ hname ht) hd v hv absent

#print axioms decode_text_roundtrip

theorem stateRoot_mem : "BotGameState" ∈ schema.map (·.name) := by decide +kernel
theorem eventRoot_mem : "BotEvent" ∈ schema.map (·.name) := by decide +kernel

/-- only the depth of a root is evaluated; that it is well-formed is part of `wf_generated` -/
theorem root_wf_of_depth {name : String} (hname : name ∈ schema.map (·.name))
    (hd : (genResolve name).any (fun t => decide (tyDepth t < 128)) = true) :
    (genResolve name).any (fun t => wfTy t && decide (tyDepth t < 128)) = true := by
  cases h : genResolve name with
  | none => rw [h] at hd; cases hd
  | some t =>
    rw [h] at hd
    simp only [Option.any_some] at hd ⊢
    rw [wfTy_of_wfSchema wf_generated hname h, hd]
    rfl

/-- both message types unfold, are well-formed and nest less deep than serde_json's recursion limit -/
theorem generated_roots :
    (genResolve "BotGameState").any (fun t => wfTy t && decide (tyDepth t < 128)) = true ∧
    (genResolve "BotEvent").any (fun t => wfTy t && decide (tyDepth t < 128)) = true :=
  ⟨root_wf_of_depth stateRoot_mem (by decide +kernel), root_wf_of_depth eventRoot_mem (by decide +kernel)⟩

/-- a `gameState` message: castling, a promotion, some optional fields present and some not -/
def exGameState : DVal :=
  .variant "GameState" [.struct [.strs ["e2e4".toList, "e7e5".toList, "e1g1".toList, "a7a8q".toList], .nat 7598040,
    .nat 8395220, .nat 10000, .nat 10000, .enumv "Started", .none, .some (.bool false), .none, .none,
    .some (.enumv "White"), .none]]

/-- a `challenge` message: nested objects, a string with escapes, a nested internally tagged enum, rules -/
def exChallenge : DVal :=
  .variant "Challenge" [
    .struct [.str "7pGLxJ4F".toList, .str "https://lichess.org/7pGLxJ4F".toList, .enumv "Created",
      .some (.struct [.str "lovlas".toList, .str "Lov \"las\"\n".toList, .some (.str "IM".toList), .nat 2506, .none,
        .some (.bool true), .none, .some (.nat 24)]),
      .none, .struct [.enumv "Standard", .str "Standard".toList, .str "Std".toList], .bool true, .enumv "Rapid",
      .variant "Clock" [.nat 300, .nat 25, .str "5+25".toList], .enumv "Random", .enumv "White",
      .struct [.str "#".toList, .str "Rapid".toList], .none, .some (.enumv "In"), .none, .none,
      .rules ["NoAbort", "NoClaimWin"]],
    .some (.struct [.bool true, .bool false])]

/-- the hypotheses of `decode_encode` / `decode_text_roundtrip` hold for these values -/
theorem examples_wellTyped :
    (genResolve "BotGameState").any (fun t => wt t exGameState) = true ∧
    (genResolve "BotEvent").any (fun t => wt t exChallenge) = true := by
  decide +kernel

/-- what the documents look like (all `None` fields left out / all written as `null`) -/
example : (genResolve "BotGameState").map (fun t => String.ofList (render (wireEncode (fun _ => true) [] t exGameState)))
    = some "{\"type\":\"gameState\",\"moves\":\"e2e4 e7e5 e1g1 a7a8q\",\"wtime\":7598040,\"btime\":8395220,\"winc\":10000,\"binc\":10000,\"status\":\"started\",\"bdraw\":false,\"winner\":\"white\"}" := by
  decide +kernel

/- The `challenge` document with every `None` written as `null`; the example below compares only its length (comparing a
   string literal of 630 characters is slow in the kernel):
   {"type":"challenge","challenge":{"id":"7pGLxJ4F","url":"https://lichess.org/7pGLxJ4F","status":"created",
    "challenger":{"id":"lovlas","name":"Lov \"las\"\n","title":"IM","rating":2506,"provisional":null,"patron":true,
    "online":null,"lag":24},"destUser":null,"variant":{"key":"standard","name":"Standard","short":"Std"},"rated":true,
    "speed":"rapid","timeControl":{"type":"clock","limit":300,"increment":25,"show":"5+25"},"color":"random",
    "finalColor":"white","perf":{"icon":"#","name":"Rapid"},"rematchOf":null,"direction":"in","initialFen":null,
    "declineReason":null,"rules":"noAbort,noClaimWin"},"compat":{"bot":true,"board":false}} -/
example : (genResolve "BotEvent").map (fun t => (render (wireEncode (fun _ => false) [] t exChallenge)).length) = some 630 := by
  decide +kernel

/-- `decode_encode` and `decode_text_roundtrip` applied: whatever subset of the `None` fields is left out, the text of
the `gameState` document decodes to the value, moves in order -/
example (absent : List String → Bool) (t : Ty) (ht : genResolve "BotGameState" = some t) :
    decode schema csvRuleTable "BotGameState" (wireEncode absent [] t exGameState) = .ok exGameState ∧
    decodeText t (render (wireEncode absent [] t exGameState)) = .ok exGameState := by
  have hw := examples_wellTyped.1
  have hr := generated_roots.1
  rw [ht] at hw hr
  simp only [Option.any_some, Bool.and_eq_true, decide_eq_true_eq] at hw hr
  exact ⟨decode_encode _ _ wf_generated _ stateRoot_mem t ht _ hw absent,
    decode_text_roundtrip _ _ wf_generated _ stateRoot_mem t ht hr.2 _ hw absent⟩

example (absent : List String → Bool) (t : Ty) (ht : genResolve "BotEvent" = some t) :
    decode schema csvRuleTable "BotEvent" (wireEncode absent [] t exChallenge) = .ok exChallenge ∧
    decodeText t (render (wireEncode absent [] t exChallenge)) = .ok exChallenge := by
  have hw := examples_wellTyped.2
  have hr := generated_roots.2
  rw [ht] at hw hr
  simp only [Option.any_some, Bool.and_eq_true, decide_eq_true_eq] at hw hr
  exact ⟨decode_encode _ _ wf_generated _ eventRoot_mem t ht _ hw absent,
    decode_text_roundtrip _ _ wf_generated _ eventRoot_mem t ht hr.2 _ hw absent⟩

/-- ... and the quirks stay visible: an escape inside the move string is an error, an unknown rule is a panic,
a panic wins over trailing garbage -/
example : (rootTy "state").map (fun t => match decodeText t "{\"type\":\"gameState\",\"moves\":\"e2e4\\u0020e7e5\",\"wtime\":1,\"btime\":1,\"winc\":0,\"binc\":0,\"status\":\"started\"}".toList with
    | .err => 1 | .panic => 2 | .ok _ => 0) = some 1 := by decide +kernel
example : (rootTy "event").map (fun t => match decodeText t "{\"type\":\"challenge\",\"challenge\":{\"rules\":\"noAbort,bogus\"}} trailing".toList with
    | .err => 1 | .panic => 2 | .ok _ => 0) = some 2 := by decide +kernel

end Inkayaku.Props.C19
