import Inkayaku.Props.C04.Rook0
import Inkayaku.Props.C04.Rook1
import Inkayaku.Props.C04.Rook2
import Inkayaku.Props.C04.Rook3
import Inkayaku.Props.C04.Bishop
import Inkayaku.Gen.Leapers
/-!
# C04 — precomputed attack tables equal ray/step attacks for every square and occupancy

`Gen.*` is regenerated from the current /repo build on every run, so these theorems are re-checked against the
tables, magics, masks, shifts and hash masks the code has.

* `rook_correct`, `bishop_correct`: for every square `< 64` and EVERY natural number `occ` (hence all 2^64 occupancies)
  the raw table index is inside the table (the Rust indexes with `get_unchecked`) and the entry found is the set of
  squares reached by sliding along the rays up to and including the first blocker (`Rays.slide`).
  Proof: per square, a kernel computation (`MagicLift.tableOk`, run by `decide +kernel` in `Props/C04/*`) over all
  sub-occupancies of the relevant mask (102 400 rook + 5 248 bishop configurations) lifted to all occupancies by
  `MagicLift.magic_lift`.
* `leapers_correct`, `leapers_length`: the king, knight and pawn tables equal the step patterns clipped at the board edge and have
  exactly 64 entries (the lookups index them unchecked with a square `< 64`).
-/
namespace Inkayaku.C04
open Inkayaku.Rays Inkayaku.Magic Inkayaku.Gen

theorem all_range' {p : Nat → Bool} {a n : Nat} (h : (List.range' a n).all p = true) {sq : Nat}
    (h₁ : a ≤ sq) (h₂ : sq < a + n) : p sq = true :=
  List.all_eq_true.mp h sq (List.mem_range'_1.mpr ⟨h₁, h₂⟩)

theorem rook_ok (sq : Nat) (h : sq < 64) : MagicLift.tableOk (rookCfg sq) sq rookDirs = true := by
  by_cases h16 : sq < 16
  · exact all_range' rook_ok_0 (by omega) (by omega)
  by_cases h32 : sq < 32
  · exact all_range' rook_ok_16 (by omega) (by omega)
  by_cases h48 : sq < 48
  · exact all_range' rook_ok_32 (by omega) (by omega)
  exact all_range' rook_ok_48 (by omega) (by omega)

theorem bishop_ok (sq : Nat) (h : sq < 64) : MagicLift.tableOk (bishopCfg sq) sq bishopDirs = true :=
  all_range' bishop_ok_0 (by omega) (by omega)

theorem rook_correct (sq : Nat) (h : sq < 64) (occ : Nat) :
    magicIndex (rookCfg sq) occ < (rookCfg sq).len ∧ lookup (rookCfg sq) occ = slide rookDirs sq occ :=
  MagicLift.magic_lift (rook_ok sq h) occ

theorem bishop_correct (sq : Nat) (h : sq < 64) (occ : Nat) :
    magicIndex (bishopCfg sq) occ < (bishopCfg sq).len ∧ lookup (bishopCfg sq) occ = slide bishopDirs sq occ :=
  MagicLift.magic_lift (bishop_ok sq h) occ

theorem rook_correct_u64 (sq : Nat) (h : sq < 64) (occ : UInt64) :
    magicIndex (rookCfg sq) occ.toNat < (rookCfg sq).len ∧
      lookup (rookCfg sq) occ.toNat = slide rookDirs sq occ.toNat := rook_correct sq h occ.toNat

theorem bishop_correct_u64 (sq : Nat) (h : sq < 64) (occ : UInt64) :
    magicIndex (bishopCfg sq) occ.toNat < (bishopCfg sq).len ∧
      lookup (bishopCfg sq) occ.toNat = slide bishopDirs sq occ.toNat := bishop_correct sq h occ.toNat

theorem leapers_correct :
    kingTable = (List.range 64).map (stepAttacks kingSteps) ∧
    knightTable = (List.range 64).map (stepAttacks knightSteps) ∧
    whitePawnTable = (List.range 64).map (stepAttacks whitePawnSteps) ∧
    blackPawnTable = (List.range 64).map (stepAttacks blackPawnSteps) := by
  refine ⟨?_, ?_, ?_, ?_⟩ <;> decide +kernel

theorem leapers_length :
    kingTable.length = 64 ∧ knightTable.length = 64 ∧ whitePawnTable.length = 64 ∧ blackPawnTable.length = 64 := by
  decide

theorem slide_lt (dirs : List Dir) (sq occ : Nat) (c : MagicCfg) (h : lookup c occ = slide dirs sq occ) :
    slide dirs sq occ < 2 ^ 64 := by
  rw [← h]
  unfold lookup entry M64
  exact Nat.lt_of_le_of_lt Nat.and_le_right (by decide)

-- non-vacuity: a concrete blocked position (rook d4 = 35 with blockers on d6 = 19 and f4 = 37)
example : lookup (rookCfg 35) ((1 <<< 19) ||| (1 <<< 37) ||| (1 <<< 63)) =
    (1 <<< 27) ||| (1 <<< 19) ||| (1 <<< 36) ||| (1 <<< 37) ||| (1 <<< 43) ||| (1 <<< 51) ||| (1 <<< 59)
      ||| (1 <<< 34) ||| (1 <<< 33) ||| (1 <<< 32) := by decide +kernel

#print axioms rook_correct
#print axioms bishop_correct
#print axioms rook_correct_u64
#print axioms bishop_correct_u64
#print axioms leapers_correct
#print axioms leapers_length

end Inkayaku.C04
