import Inkayaku.Model.Json
import Inkayaku.Proofs.CharRange
/-!
# C19, `parse_render_json`: the JSON reader inverts the JSON printer
-/
namespace Inkayaku.Props.C19
open Inkayaku.Json

theorem natDigits_eq (n : Nat) : natDigits n = Nat.toDigits 10 n :=
  CharRange.eq_toDigits _ (fun n => by rw [natDigits]; rfl) n

theorem natDigits_all_digit (n : Nat) : ∀ c ∈ natDigits n, isDigit c = true := by
  intro c hc
  rw [natDigits_eq] at hc
  simpa [isDigit] using (CharRange.toDigits_props n).2.1 c hc

theorem natDigits_ne_nil (n : Nat) : natDigits n ≠ [] := by
  rw [natDigits_eq]; exact (CharRange.toDigits_props n).1

theorem digitsVal_natDigits (n : Nat) : digitsVal (natDigits n) = n := by
  rw [natDigits_eq]; exact (CharRange.toDigits_props n).2.2

theorem natDigits_head_zero (n : Nat) : (natDigits n).head? = some '0' → n = 0 := by
  rw [natDigits_eq]; exact CharRange.toDigits_head_zero n

theorem spanDigits_append (rest : List Char) (hr : ∀ c r, rest = c :: r → isDigit c = false) :
    ∀ (ds : List Char), (∀ c ∈ ds, isDigit c = true) → spanDigits (ds ++ rest) = (ds, rest)
  | [], _ => by
    cases rest with
    | nil => rfl
    | cons c r => simp [spanDigits, hr c r rfl]
  | d :: ds, h => by
    have ih := spanDigits_append rest hr ds (fun c hc => h c (List.mem_cons_of_mem _ hc))
    simp [spanDigits, h d (by simp), ih]

/-- what may follow a value in printed JSON -/
def Delim (rest : List Char) : Prop := rest = [] ∨ ∃ r, rest = ',' :: r ∨ rest = ']' :: r ∨ rest = '}' :: r

theorem parseNumber_natDigits (neg : Bool) (n : Nat) (rest : List Char) (hn : n < f64Overflow) (hd : Delim rest) :
    parseNumber neg (natDigits n ++ rest) = some (.num neg n, rest) := by
  have hspan : spanDigits (natDigits n ++ rest) = (natDigits n, rest) := by
    apply spanDigits_append _ _ _ (natDigits_all_digit n)
    intro c r e
    rcases hd with hd | ⟨r', hd | hd | hd⟩ <;> rw [hd] at e <;> cases e <;> decide
  have hlead : ¬ ((natDigits n).head? = some '0' ∧ (natDigits n).length > 1) := by
    intro ⟨h1, h2⟩
    have := natDigits_head_zero n h1
    subst this
    rw [natDigits_eq] at h2
    exact absurd h2 (by decide)
  have hov : ¬ f64Overflow ≤ digitsVal (natDigits n) := by rw [digitsVal_natDigits]; omega
  unfold parseNumber
  simp only [hspan, natDigits_ne_nil n, if_false, hlead]
  rcases hd with hd | ⟨r', hd | hd | hd⟩ <;> subst hd <;>
    simp [digitsVal_natDigits, hn]

theorem hex4_control : ∀ n, n < 32 → hex4 '0' '0' (hexDigit (n / 16)) (hexDigit (n % 16)) = some n := by decide

theorem ite_length_pos {p : Prop} [Decidable p] {a b : List Char} (ha : 1 ≤ a.length) (hb : 1 ≤ b.length) :
    1 ≤ (if p then a else b).length := by
  split
  · exact ha
  · exact hb

theorem escapeChar_length_pos (c : Char) : 1 ≤ (escapeChar c).length :=
  ite_length_pos (by decide) <| ite_length_pos (by decide) <| ite_length_pos (by decide) <|
  ite_length_pos (by decide) <| ite_length_pos (by decide) <| ite_length_pos (by decide) <|
  ite_length_pos (by decide) <| ite_length_pos (Nat.le_add_left 1 5) (Nat.le_refl 1)

theorem escapeChars_length (s : List Char) : s.length ≤ (escapeChars s).length := by
  induction s with
  | nil => exact Nat.le_refl 0
  | cons c s ih =>
    have := escapeChar_length_pos c
    simp only [escapeChars, List.length_append, List.length_cons]
    omega

/-- what the reader makes of a two-character escape standing for `x` (`simple x` inside `parseStrBody`) -/
def esc1 (fuel : Nat) (x : Char) (r : List Char) : Option (List Char × Bool × List Char) :=
  match parseStrBody fuel r with
  | some (s, _, rest) => some (x :: s, true, rest)
  | none => none

theorem parseStrBody_quote (fuel r) : parseStrBody (fuel + 1) ('\\' :: '"' :: r) = esc1 fuel '"' r := rfl
theorem parseStrBody_backslash (fuel r) : parseStrBody (fuel + 1) ('\\' :: '\\' :: r) = esc1 fuel '\\' r := rfl
theorem parseStrBody_b (fuel r) : parseStrBody (fuel + 1) ('\\' :: 'b' :: r) = esc1 fuel (Char.ofNat 8) r := rfl
theorem parseStrBody_f (fuel r) : parseStrBody (fuel + 1) ('\\' :: 'f' :: r) = esc1 fuel (Char.ofNat 12) r := rfl
theorem parseStrBody_n (fuel r) : parseStrBody (fuel + 1) ('\\' :: 'n' :: r) = esc1 fuel (Char.ofNat 10) r := rfl
theorem parseStrBody_r (fuel r) : parseStrBody (fuel + 1) ('\\' :: 'r' :: r) = esc1 fuel (Char.ofNat 13) r := rfl
theorem parseStrBody_t (fuel r) : parseStrBody (fuel + 1) ('\\' :: 't' :: r) = esc1 fuel (Char.ofNat 9) r := rfl

theorem esc1_needsEscape (fuel : Nat) (x : Char) (rest : List Char) (hx : needsEscape x = true) :
    esc1 fuel x rest =
      match parseStrBody fuel rest with
      | some (s, e, r) => some (x :: s, e || needsEscape x, r)
      | none => none := by
  unfold esc1
  cases parseStrBody fuel rest <;> simp [hx]

/-- One case per line of `escapeChar`; the reader is unfolded only for `\u00xx` and for a plain character. -/
theorem parseStrBody_step (c : Char) (fuel : Nat) (rest : List Char) :
    parseStrBody (fuel + 1) (escapeChar c ++ rest) =
      match parseStrBody fuel rest with
      | some (s, e, r) => some (c :: s, e || needsEscape c, r)
      | none => none := by
  by_cases h1 : c = '"'
  · subst h1
    exact (parseStrBody_quote fuel rest).trans (esc1_needsEscape _ _ _ (by decide))
  by_cases h2 : c = '\\'
  · subst h2
    exact (parseStrBody_backslash fuel rest).trans (esc1_needsEscape _ _ _ (by decide))
  by_cases h3 : c.toNat = 8
  · cases CharRange.char_of_toNat h3
    exact (parseStrBody_b fuel rest).trans (esc1_needsEscape _ _ _ (by decide))
  by_cases h4 : c.toNat = 12
  · cases CharRange.char_of_toNat h4
    exact (parseStrBody_f fuel rest).trans (esc1_needsEscape _ _ _ (by decide))
  by_cases h5 : c.toNat = 10
  · cases CharRange.char_of_toNat h5
    exact (parseStrBody_n fuel rest).trans (esc1_needsEscape _ _ _ (by decide))
  by_cases h6 : c.toNat = 13
  · cases CharRange.char_of_toNat h6
    exact (parseStrBody_r fuel rest).trans (esc1_needsEscape _ _ _ (by decide))
  by_cases h7 : c.toNat = 9
  · cases CharRange.char_of_toNat h7
    exact (parseStrBody_t fuel rest).trans (esc1_needsEscape _ _ _ (by decide))
  by_cases h8 : c.toNat < 32
  · have e : escapeChar c = ['\\', 'u', '0', '0', hexDigit (c.toNat / 16), hexDigit (c.toNat % 16)] := by
      simp only [escapeChar, h1, h2, h3, h4, h5, h6, h7, h8, if_false, if_true]
    have hhex := hex4_control c.toNat h8
    have hne : needsEscape c = true := by simp [needsEscape, h8]
    have hs1 : ¬ (0xDC00 ≤ c.toNat ∧ c.toNat ≤ 0xDFFF) := by omega
    have hs2 : ¬ (0xD800 ≤ c.toNat ∧ c.toNat ≤ 0xDBFF) := by omega
    rw [e]
    simp only [List.cons_append, List.nil_append, parseStrBody, hhex, hs1, hs2, Char.ofNat_toNat, hne]
    cases parseStrBody fuel rest <;> simp
  · have e : escapeChar c = [c] := by
      simp only [escapeChar, h1, h2, h3, h4, h5, h6, h7, h8, if_false]
    have hne : needsEscape c = false := by simp [needsEscape, h1, h2, h8]
    rw [e]
    simp only [List.cons_append, List.nil_append, parseStrBody, h1, h2, h8, hne]
    cases parseStrBody fuel rest <;> simp

theorem parseStrBody_escapeChars (rest : List Char) :
    ∀ (s : List Char) (fuel : Nat), s.length + 1 ≤ fuel →
      parseStrBody fuel (escapeChars s ++ '"' :: rest) = some (s, s.any needsEscape, rest)
  | [], fuel, h => by
    obtain ⟨f, rfl⟩ : ∃ f, fuel = f + 1 := ⟨fuel - 1, by omega⟩
    simp [escapeChars, parseStrBody]
  | c :: s, fuel, h => by
    obtain ⟨f, rfl⟩ : ∃ f, fuel = f + 1 := ⟨fuel - 1, by omega⟩
    have ih := parseStrBody_escapeChars rest s f (by simp at h; omega)
    simp only [escapeChars, List.append_assoc]
    rw [parseStrBody_step, ih]
    simp [Bool.or_comm]

theorem parse_renderStr (s rest : List Char) :
    parseStrBody ((escapeChars s ++ '"' :: rest).length + 1) (escapeChars s ++ '"' :: rest)
      = some (s, s.any needsEscape, rest) := by
  apply parseStrBody_escapeChars
  have := escapeChars_length s
  simp only [List.length_append, List.length_cons]
  omega

theorem JVal.induct' {P : JVal → Prop} (null : P .null) (bool : ∀ b, P (.bool b)) (num : ∀ s n, P (.num s n))
    (float : P .float) (str : ∀ e s, P (.str e s))
    (arr : ∀ xs, (∀ x ∈ xs, P x) → P (.arr xs))
    (obj : ∀ kvs, (∀ p ∈ kvs, P p.2) → P (.obj kvs)) : ∀ v, P v := by
  intro v
  refine JVal.rec (motive_1 := P) (motive_2 := fun xs => ∀ x ∈ xs, P x) (motive_3 := fun kvs => ∀ p ∈ kvs, P p.2)
    (motive_4 := fun p => P p.2) null bool num float str arr obj ?_ ?_ ?_ ?_ ?_ v
  · intro x hx; cases hx
  · intro head tail h1 h2 x hx
    cases hx with
    | head => exact h1
    | tail _ h => exact h2 x h
  · intro p hp; cases hp
  · intro head tail h1 h2 p hp
    cases hp with
    | head => exact h1
    | tail _ h => exact h2 p h
  · intro fst snd h; exact h

mutual
/-- values the theorem speaks about: no floats, integers below the `f64` overflow threshold (larger literals are
"number out of range" for serde_json), string flags as the reader computes them -/
def good : JVal → Bool
  | .null => true
  | .bool _ => true
  | .num _ n => decide (n < f64Overflow)
  | .float => false
  | .str e s => e == s.any needsEscape
  | .arr xs => goodList xs
  | .obj kvs => goodMembers kvs
def goodList : List JVal → Bool
  | [] => true
  | x :: xs => good x && goodList xs
def goodMembers : List (List Char × JVal) → Bool
  | [] => true
  | (_, v) :: kvs => good v && goodMembers kvs
end

mutual
def depth : JVal → Nat
  | .arr xs => 1 + depthList xs
  | .obj kvs => 1 + depthMembers kvs
  | _ => 0
def depthList : List JVal → Nat
  | [] => 0
  | x :: xs => max (depth x) (depthList xs)
def depthMembers : List (List Char × JVal) → Nat
  | [] => 0
  | (_, v) :: kvs => max (depth v) (depthMembers kvs)
end

theorem digit_facts {c : Char} (h : isDigit c = true) :
    isWs c = false ∧ ¬ c = '"' ∧ ¬ c = '[' ∧ ¬ c = '{' ∧ ¬ c = '-' := by
  refine ⟨?_, ?_, ?_, ?_, ?_⟩
  · simp only [isDigit, Bool.and_eq_true, decide_eq_true_eq] at h
    simp only [isWs, Bool.or_eq_false_iff, beq_eq_false_iff_ne, ne_eq]
    refine ⟨⟨⟨?_, ?_⟩, ?_⟩, ?_⟩ <;> (intro e; subst e; simp at h)
  all_goals (intro e; subst e; simp [isDigit] at h)

theorem render_head (v : JVal) (hg : good v = true) :
    ∃ c r, render v = c :: r ∧ isWs c = false ∧ ¬ c = ']' ∧ ¬ c = '}' := by
  cases v with
  | null => exact ⟨'n', _, rfl, by decide, by decide, by decide⟩
  | bool b => cases b <;> exact ⟨_, _, rfl, by decide, by decide, by decide⟩
  | num neg n =>
    cases neg with
    | true => exact ⟨'-', natDigits n, by simp [render], by decide, by decide, by decide⟩
    | false =>
      cases hd : natDigits n with
      | nil => exact absurd hd (natDigits_ne_nil n)
      | cons c r =>
        have hdig := natDigits_all_digit n c (by simp [hd])
        refine ⟨c, r, by simp [render, hd], (digit_facts hdig).1, ?_, ?_⟩ <;>
          (intro e; subst e; simp [isDigit] at hdig)
  | float => simp [good] at hg
  | str e s => exact ⟨'"', _, rfl, by decide, by decide, by decide⟩
  | arr xs => cases xs <;> exact ⟨'[', _, rfl, by decide, by decide, by decide⟩
  | obj kvs =>
    cases kvs with
    | nil => exact ⟨'{', _, rfl, by decide, by decide, by decide⟩
    | cons p kvs => obtain ⟨k, v⟩ := p; exact ⟨'{', _, rfl, by decide, by decide, by decide⟩

theorem skipWs_of_not_ws {c : Char} {cs : List Char} (h : isWs c = false) : skipWs (c :: cs) = c :: cs := by
  simp [skipWs, h]

theorem delim_renderTail (xs : List JVal) (rest : List Char) : Delim (renderTail xs ++ rest) := by
  cases xs with
  | nil => exact Or.inr ⟨rest, Or.inr (Or.inl rfl)⟩
  | cons x xs => exact Or.inr ⟨_, Or.inl (by simp [renderTail]; rfl)⟩

theorem delim_renderMembersTail (kvs : List (List Char × JVal)) (rest : List Char) :
    Delim (renderMembersTail kvs ++ rest) := by
  cases kvs with
  | nil => exact Or.inr ⟨rest, Or.inr (Or.inr rfl)⟩
  | cons p kvs => obtain ⟨k, v⟩ := p; exact Or.inr ⟨_, Or.inl (by simp [renderMembersTail]; rfl)⟩

theorem renderStr_length (s : List Char) : 2 ≤ (renderStr s).length := by
  simp [renderStr]

/-- reading back one printed value.  The fuel is measured against the printed text, as `parsePrefix` gives it: each
printed character pays for at most one call of `parseValue` and one of `parseElems` / `parseMembers`, hence the
factor 2 (the element and member lemmas below keep one unit in hand: `≤ fuel + 1`). -/
def PR (v : JVal) : Prop :=
  ∀ (fuel d : Nat) (rest : List Char), good v = true → 2 * (render v).length ≤ fuel → depth v < d → Delim rest →
    parseValue fuel d (render v ++ rest) = some (v, rest)

theorem render_pos (v : JVal) (hg : good v = true) : 1 ≤ (render v).length := by
  obtain ⟨c, r, hr, -⟩ := render_head v hg
  simp [hr]

theorem pr_leaf {v : JVal} (h : ∀ (f d : Nat) (rest : List Char), good v = true → Delim rest →
    parseValue (f + 1) d (render v ++ rest) = some (v, rest)) : PR v := by
  intro fuel d rest hg hc _ hd
  have := render_pos v hg
  obtain ⟨f, rfl⟩ : ∃ f, fuel = f + 1 := ⟨fuel - 1, by omega⟩
  exact h f d rest hg hd

theorem pr_null : PR .null := pr_leaf fun f d rest _ _ => by simp [render, parseValue, skipWs, isWs, isDigit]

theorem pr_bool (b : Bool) : PR (.bool b) := pr_leaf fun f d rest _ _ => by
  cases b <;> simp [render, parseValue, skipWs, isWs, isDigit]

theorem pr_num (neg : Bool) (n : Nat) : PR (.num neg n) := pr_leaf fun f d rest hg hd => by
  simp only [good, decide_eq_true_eq] at hg
  cases neg with
  | true =>
    simp only [render, if_true, List.cons_append, parseValue]
    rw [skipWs_of_not_ws (by decide)]
    simp [parseNumber_natDigits true n rest hg hd]
  | false =>
    have hnum := parseNumber_natDigits false n rest hg hd
    cases hnd : natDigits n with
    | nil => exact absurd hnd (natDigits_ne_nil n)
    | cons c r =>
      have hdig := natDigits_all_digit n c (by simp [hnd])
      obtain ⟨h1, h2, h3, h4, h5⟩ := digit_facts hdig
      rw [hnd] at hnum
      simp only [render, Bool.false_eq_true, if_false, hnd, List.cons_append, parseValue]
      rw [skipWs_of_not_ws h1]
      simp only [h2, h3, h4, h5, if_false, hdig, if_true]
      exact hnum

theorem pr_str (e : Bool) (s : List Char) : PR (.str e s) := pr_leaf fun f d rest hg _ => by
  simp only [good, beq_iff_eq] at hg
  subst hg
  have := parse_renderStr s rest
  have e : render (.str (s.any needsEscape) s) ++ rest = '"' :: (escapeChars s ++ '"' :: rest) := by
    simp [render, renderStr]
  rw [e]
  simp only [parseValue]
  rw [skipWs_of_not_ws (by decide)]
  simp only [if_true]
  rw [this]

theorem pr_elems (d : Nat) (rest : List Char) :
    ∀ (xs : List JVal) (x : JVal), PR x → (∀ y ∈ xs, PR y) → ∀ (fuel : Nat), good x = true → goodList xs = true →
      2 * (render x ++ renderTail xs).length ≤ fuel + 1 → depth x < d → depthList xs < d →
      parseElems fuel d (render x ++ (renderTail xs ++ rest)) = some (x :: xs, rest)
  | [], x, hx, _, fuel, hgx, _, hc, hdx, _ => by
    have := render_pos x hgx
    simp only [renderTail, List.length_append, List.length_cons, List.length_nil] at hc
    obtain ⟨f, rfl⟩ : ∃ f, fuel = f + 1 := ⟨fuel - 1, by omega⟩
    have := hx f d (renderTail [] ++ rest) hgx (by omega) hdx (delim_renderTail [] rest)
    simp only [renderTail, List.cons_append, List.nil_append] at this ⊢
    simp only [parseElems, this]
    rw [skipWs_of_not_ws (by decide)]
    simp
  | y :: ys, x, hx, hys, fuel, hgx, hgl, hc, hdx, hdl => by
    simp only [renderTail, List.length_append, List.length_cons] at hc
    obtain ⟨f, rfl⟩ : ∃ f, fuel = f + 1 := ⟨fuel - 1, by omega⟩
    simp only [goodList, Bool.and_eq_true] at hgl
    simp only [depthList] at hdl
    have h1 := hx f d (renderTail (y :: ys) ++ rest) hgx (by omega) hdx (delim_renderTail (y :: ys) rest)
    have h2 := pr_elems d rest ys y (hys y List.mem_cons_self) (fun z hz => hys z (List.mem_cons_of_mem _ hz)) f
      hgl.1 hgl.2 (by simp only [List.length_append]; omega) (by omega) (by omega)
    simp only [renderTail, List.cons_append, List.append_assoc] at h1 ⊢
    simp only [parseElems, h1]
    rw [skipWs_of_not_ws (by decide)]
    simp only [h2]

theorem pr_arr (xs : List JVal) (ih : ∀ x ∈ xs, PR x) : PR (.arr xs) := by
  intro fuel d rest hg hc hd _
  have hd1 : ¬ d ≤ 1 := by simp only [depth] at hd; omega
  cases xs with
  | nil =>
    obtain ⟨f, rfl⟩ : ∃ f, fuel = f + 1 := ⟨fuel - 1, by simp [render] at hc; omega⟩
    simp only [render, List.cons_append, List.nil_append, parseValue]
    rw [skipWs_of_not_ws (by decide)]
    simp only [show ¬ '[' = '"' by decide, if_false, if_true, hd1]
    rw [skipWs_of_not_ws (by decide)]
    simp
  | cons x xs =>
    simp only [good, goodList, Bool.and_eq_true] at hg
    simp only [render, List.length_cons] at hc
    simp only [depth, depthList] at hd
    obtain ⟨f, rfl⟩ : ∃ f, fuel = f + 1 := ⟨fuel - 1, by omega⟩
    obtain ⟨c, r, hr, hws, hnb, _⟩ := render_head x hg.1
    have h := pr_elems (d - 1) rest xs x (ih x List.mem_cons_self) (fun z hz => ih z (List.mem_cons_of_mem _ hz)) f
      hg.1 hg.2 (by omega) (by omega) (by omega)
    simp only [render, List.cons_append, List.append_assoc, parseValue]
    rw [skipWs_of_not_ws (by decide)]
    simp only [show ¬ '[' = '"' by decide, if_false, if_true, hd1]
    rw [h]
    rw [hr, List.cons_append, skipWs_of_not_ws hws]
    split
    · rename_i heq
      simp only [List.cons.injEq] at heq
      exact absurd heq.1 hnb
    · rfl

theorem pr_members (d : Nat) (rest : List Char) :
    ∀ (kvs : List (List Char × JVal)) (k : List Char) (v : JVal), PR v → (∀ p ∈ kvs, PR p.2) → ∀ (fuel : Nat),
      good v = true → goodMembers kvs = true → 2 * (render v ++ renderMembersTail kvs).length ≤ fuel + 1 → depth v < d →
      depthMembers kvs < d →
      parseMembers fuel d (renderStr k ++ ':' :: (render v ++ (renderMembersTail kvs ++ rest))) = some ((k, v) :: kvs, rest)
  | [], k, v, hv, _, fuel, hgv, _, hc, hdv, _ => by
    have := render_pos v hgv
    simp only [renderMembersTail, List.length_append, List.length_cons, List.length_nil] at hc
    obtain ⟨f, rfl⟩ : ∃ f, fuel = f + 1 := ⟨fuel - 1, by omega⟩
    have h1 := hv f d (renderMembersTail [] ++ rest) hgv (by omega) hdv (delim_renderMembersTail [] rest)
    have hs := parse_renderStr k (':' :: (render v ++ (renderMembersTail [] ++ rest)))
    simp only [renderMembersTail, List.cons_append, List.nil_append] at h1 hs ⊢
    simp only [parseMembers, renderStr, List.cons_append, List.append_assoc, List.nil_append]
    rw [skipWs_of_not_ws (by decide)]
    simp only [hs]
    rw [skipWs_of_not_ws (by decide)]
    simp only [h1]
    rw [skipWs_of_not_ws (by decide)]
    simp
  | (k', v') :: kvs, k, v, hv, hkvs, fuel, hgv, hgl, hc, hdv, hdl => by
    have := renderStr_length k'
    simp only [renderMembersTail, List.length_append, List.length_cons] at hc
    obtain ⟨f, rfl⟩ : ∃ f, fuel = f + 1 := ⟨fuel - 1, by omega⟩
    simp only [goodMembers, Bool.and_eq_true] at hgl
    simp only [depthMembers] at hdl
    have h1 := hv f d (renderMembersTail ((k', v') :: kvs) ++ rest) hgv (by omega) hdv
      (delim_renderMembersTail ((k', v') :: kvs) rest)
    have h2 := pr_members d rest kvs k' v' (hkvs (k', v') List.mem_cons_self)
      (fun z hz => hkvs z (List.mem_cons_of_mem _ hz)) f hgl.1 hgl.2 (by simp only [List.length_append]; omega)
      (by omega) (by omega)
    have hs := parse_renderStr k (':' :: (render v ++ (renderMembersTail ((k', v') :: kvs) ++ rest)))
    simp only [renderMembersTail, renderStr, List.cons_append, List.append_assoc, List.nil_append] at h1 hs ⊢
    simp only [parseMembers]
    rw [skipWs_of_not_ws (by decide)]
    simp only [hs]
    rw [skipWs_of_not_ws (by decide)]
    simp only [h1]
    rw [skipWs_of_not_ws (by decide)]
    simp only [renderStr, List.cons_append, List.append_assoc, List.nil_append] at h2
    simp only [h2]

theorem pr_obj (kvs : List (List Char × JVal)) (ih : ∀ p ∈ kvs, PR p.2) : PR (.obj kvs) := by
  intro fuel d rest hg hc hd _
  have hd1 : ¬ d ≤ 1 := by simp only [depth] at hd; omega
  cases kvs with
  | nil =>
    obtain ⟨f, rfl⟩ : ∃ f, fuel = f + 1 := ⟨fuel - 1, by simp [render] at hc; omega⟩
    simp only [render, List.cons_append, List.nil_append, parseValue]
    rw [skipWs_of_not_ws (by decide)]
    simp only [show ¬ '{' = '"' by decide, show ¬ '{' = '[' by decide, if_false, if_true, hd1]
    rw [skipWs_of_not_ws (by decide)]
    simp
  | cons p kvs =>
    obtain ⟨k, v⟩ := p
    simp only [good, goodMembers, Bool.and_eq_true] at hg
    simp only [render, List.length_cons, List.length_append] at hc
    simp only [depth, depthMembers] at hd
    obtain ⟨f, rfl⟩ : ∃ f, fuel = f + 1 := ⟨fuel - 1, by omega⟩
    have h := pr_members (d - 1) rest kvs k v (ih (k, v) List.mem_cons_self)
      (fun z hz => ih z (List.mem_cons_of_mem _ hz)) f hg.1 hg.2 (by simp only [List.length_append]; omega)
      (by omega) (by omega)
    simp only [render, List.cons_append, List.append_assoc, parseValue]
    rw [skipWs_of_not_ws (by decide)]
    simp only [show ¬ '{' = '"' by decide, show ¬ '{' = '[' by decide, if_false, if_true, hd1]
    rw [h]
    simp only [renderStr, List.cons_append]
    rw [skipWs_of_not_ws (by decide)]
    simp

theorem pr_float : PR .float := fun _ _ _ hg => by simp [good] at hg

theorem parseValue_render : ∀ v, PR v :=
  JVal.induct' pr_null pr_bool pr_num pr_float pr_str pr_arr pr_obj

theorem parsePrefix_render (v : JVal) (hg : good v = true) (hd : depth v < maxDepth) (rest : List Char)
    (hr : Delim rest) : parsePrefix (render v ++ rest) = some (v, rest) :=
  parseValue_render v _ _ _ hg (by simp only [List.length_append]; omega) hd hr

/-- **C19 (JSON).**  Reading back what `serde_json::to_string` prints gives the same value tree: all escapes
(`\"`, `\\`, `\b \f \n \r \t`, `\u00xx`) round-trip, every other character -- DEL and all of Unicode included -- is
verbatim, integers of any size below the `f64` overflow threshold, arrays and objects nested less than 128 deep
(serde_json's recursion limit), duplicate keys kept in order.  `good` excludes float literals (their value is not
modelled) and asks that a string node carries the escape flag the reader would compute. -/
theorem parse_render_json (v : JVal) (hg : good v = true) (hd : depth v < 128) : parseJson (render v) = some v := by
  have := parsePrefix_render v hg hd [] (Or.inl rfl)
  simp only [List.append_nil] at this
  simp [parseJson, this, onlyWs, skipWs]

#print axioms parse_render_json

/-- the hypotheses are satisfiable by a value with every kind of node and every kind of escape -/
example :
    let v : JVal := .obj [("a\"b".toList, .arr [.num true 0, .num false 18446744073709551616, .null, .bool true, .arr [], .obj []]),
      ("a\"b".toList, .str true ("q\"b\\s/\n\t" ++ String.singleton (Char.ofNat 1) ++ String.singleton (Char.ofNat 127) ++ "é😀").toList),
      ([], .str false "plain".toList)]
    good v = true ∧ depth v < 128 ∧ parseJson (render v) = some v := by
  refine ⟨by decide +kernel, by decide +kernel, parse_render_json _ (by decide +kernel) (by decide +kernel)⟩

end Inkayaku.Props.C19
