import Inkayaku.Proofs.FenRoundtrip
/-!
# C12 — reading and writing FEN are mutually inverse; malformed text is rejected; nothing panics

Models: `FenSyntax.parse` (core/src/fen.rs `Fen::from_str`), `FenBoard.fromFenString` (`Bitboard::from_fen_string`),
`FenBoard.printFen` (`Fen::from(&Bitboard)`; `none` = the Rust panics).
Spec:   `FenText.printA` (Spec/FenText.lean): the canonical FEN text of an abstract position `APos`
        (a function from the 64 squares to an optional (colour, kind), side, four rights, e.p. square, two clocks).
Helper definitions used in the statements (in Proofs/FenRoundtrip.lean unless said otherwise):

* `Repr b`      the twelve piece words pairwise disjoint (`WF.disjointAll`), `turn ≤ 1`, `ep < 64`, clocks `< 2^32`;
                `wf_repr` (below) shows every legal position (`WF.wf`) is representable;
* `absOf b`     the abstract position of a bitboard; `Holds b p`: bit `sq` of the word (colour, kind) is set iff
                `p` has that piece on `sq`; `Decodes b p` = `Holds` + scratch words 0 + side, rights, e.p., clocks;
* `epCode`      e.p. square → stored code (`none ↦ 0`, `some sq ↦ sq`).  QUIRK of the Rust: code 0 is both "none" and
                a8, so an `a8` e.p. field is read as "no e.p. square" and written back as `-`
                (`canonEp`; a8 is never a legal e.p. square, ranks 3 and 6 only);
* `canonText f` the fields of an accepted text re-joined, with `canonEp` and the clocks in `Nat.toDigits 10`
                (`canonText_eq`: the text's own fields, each made canonical by `canonFields`);
* `WF.vis b`    (Model/WF.lean) the board without the two scratch occupancy words.

The literal `"startpos"` is an alias the parser accepts although it is not FEN; the rejection theorems therefore
carry `s ≠ "startpos"`.  Fields are the pieces of `splitOnChar ' '` (split at every single space, like the anchored
regex with space-free character classes does).
-/
namespace Inkayaku.C12
open Inkayaku Inkayaku.Board Inkayaku.FenBoard Inkayaku.FenSyntax Inkayaku.FenText Inkayaku.FenRoundtrip

/-- the text is refused with an error (never a panic: `fromFenString` has no `none`/panic result) -/
def Rejected (s : String) : Prop := ∃ e, FenSyntax.parse s = .error e ∧ fromFenString s = .error e

/-- what the grammar check guarantees, field by field, with the fields addressed as the `reject_*` theorems address
them: by their place among the pieces of `splitOnChar ' '` -/
structure FieldsOk (fs : List (List Char)) : Prop where
  count : fs.length = 4 ∨ fs.length = 6
  placement : ∀ pl, fs[0]? = some pl → (splitOnChar '/' pl).length = 8 ∧ ∀ r ∈ splitOnChar '/' pl,
    r.all isPlacementChar = true ∧ rankCount r = 8 ∧ hasAdjacentDigits r = false
  side : fs[1]? = some ['b'] ∨ fs[1]? = some ['w']
  castling : ∀ k, fs[2]? = some k → castlingShapeOk k = true
  ep : ∀ e, fs[3]? = some e → epShapeOk e = true
  clock : ∀ i c, i = 4 ∨ i = 5 → fs[i]? = some c → clockOk c = true

theorem fieldsOk_of_ok {l : List Char} {f : FenFields} (h : parseChars l = .ok f) : FieldsOk (splitOnChar ' ' l) := by
  obtain ⟨h1, h2, h3, h4, h5, h6⟩ := parseChars_ok h
  have hside := h3.imp (congrArg fun c => some [c]) (congrArg fun c => some [c])
  rcases h6 with ⟨-, -, -, hl⟩ | ⟨hs, fs, -, hl, c1, c2, -⟩
  · rw [hl]
    exact {
      count := .inl rfl
      placement := fun _ e => Option.some.inj e ▸ placement_ok h1 h2
      side := hside
      castling := fun _ e => Option.some.inj e ▸ h4
      ep := fun _ e => Option.some.inj e ▸ h5
      clock := fun i c hi e => by rcases hi with rfl | rfl <;> cases e }
  · rw [hl]
    exact {
      count := .inr rfl
      placement := fun _ e => Option.some.inj e ▸ placement_ok h1 h2
      side := hside
      castling := fun _ e => Option.some.inj e ▸ h4
      ep := fun _ e => Option.some.inj e ▸ h5
      clock := fun i c hi e => by
        rcases hi with rfl | rfl
        · exact Option.some.inj e ▸ c1
        · exact Option.some.inj e ▸ c2 }

theorem rejected_of {s : String} (hs : s ≠ "startpos") (h : ¬ FieldsOk (splitOnChar ' ' s.toList)) : Rejected s := by
  unfold Rejected fromFenString FenSyntax.parse
  rw [if_neg hs]
  cases hp : parseChars s.toList with
  | error e => exact ⟨e, rfl, rfl⟩
  | ok f => exact (h (fieldsOk_of_ok hp)).elim

/-- for the examples: is the text accepted -/
def accepted (s : String) : Bool := match fromFenString s with | .ok _ => true | .error _ => false

/-- for the examples: castling rights `Kq` only, an e.p. square, clocks at the top of the 32-bit range -/
def exBoard : Board :=
  match fromFenString "r3k2r/8/8/3pP3/8/8/8/R3K2R w Kq d6 4000000000 4294967295" with
  | .ok b => b
  | .error _ => default

/-- for the examples: all five fields in one evaluation, so that the board is computed once -/
instance (b : Board) : Decidable (Repr b) :=
  decidable_of_iff' (_ ∧ _ ∧ _ ∧ _ ∧ _)
    ⟨fun h => ⟨h.disjoint, h.turn, h.ep, h.half, h.full⟩, fun ⟨h1, h2, h3, h4, h5⟩ => ⟨h1, h2, h3, h4, h5⟩⟩

theorem startA_valid : startA.Valid := by
  refine ⟨?_, by decide, by decide⟩
  have h : ∀ sq : Fin 64, (match startA.pieces sq with
      | none => true
      | some (_, k) => decide (1 ≤ k ∧ k ≤ 6)) = true := by decide
  intro sq w k hc
  have := h sq
  rw [hc] at this
  simpa using this

/-- an accepted text was accepted by the grammar check, on its own characters unless it is the alias -/
theorem fromFen_ok {s : String} {b : Board} (h : fromFenString s = .ok b) :
    ∃ l f, parseChars l = .ok f ∧ FenSyntax.parse s = .ok f ∧ b = boardOfFields f
      ∧ (s ≠ "startpos" → l = s.toList) := by
  unfold fromFenString at h
  cases hp : FenSyntax.parse s with
  | error e => rw [hp] at h; cases h
  | ok f =>
    rw [hp] at h
    refine ⟨if s = "startpos" then startposString.toList else s.toList, f, ?_, rfl, (Except.ok.inj h).symm,
      fun hs => if_neg hs⟩
    rw [← hp, FenSyntax.parse]
    split <;> rfl

theorem wf_repr {b : Board} (h : WF.wf b = true) : Repr b := by
  simp only [WF.wf, Bool.and_eq_true, decide_eq_true_eq, and_assoc] at h
  obtain ⟨h1, _, _, _, h5, _, _, _, _, _, h11, _, h13, h14⟩ := h
  refine ⟨h1, h5, ?_, by omega, by omega⟩
  simp only [Bool.or_eq_true, beq_iff_eq] at h11
  rcases h11 with h11 | h11
  · omega
  · split at h11 <;> simp at h11 <;> omega

/-- `wf` of the start position, by evaluation; the other modules refer to this theorem (`Proofs/StartBoard.lean`) -/
theorem startBoard_wf : WF.wf startBoard = true := by decide +kernel

example : WF.wf startBoard = true := startBoard_wf

/-- Writing a representable board never panics, the text is the canonical FEN of the position the board stands for,
and reading it back gives the same position (all sixteen castling-right sets, every e.p. square, clocks of any
size below 2^32). -/
theorem print_parse_board {b : Board} (h : Repr b) :
    ∃ s b', printFen b = some s ∧ s = String.ofList (printA (absOf b))
      ∧ fromFenString s = .ok b' ∧ WF.vis b' = WF.vis b :=
  ⟨_, _, printFen_absOf h, rfl, fromFen_printA h, rfl⟩

theorem startBoard_repr : Repr startBoard := wf_repr startBoard_wf

theorem exBoard_repr : Repr exBoard := by decide +kernel

example : Repr startBoard := startBoard_repr
example : Repr exBoard := exBoard_repr
example : exBoard.ep = 19 ∧ exBoard.white.ks = true ∧ exBoard.white.qs = false ∧ exBoard.black.qs = true
    ∧ exBoard.halfmove = 4000000000 ∧ exBoard.fullmove = 4294967295 := by decide +kernel
example : printFen exBoard = some "r3k2r/8/8/3pP3/8/8/8/R3K2R w Kq d6 4000000000 4294967295" := by decide +kernel

theorem print_parse_legal {b : Board} (h : WF.wf b = true) :
    ∃ s b', printFen b = some s ∧ fromFenString s = .ok b' ∧ WF.vis b' = WF.vis b :=
  print_parse_board' (wf_repr h)

/-- `Decodes b p` spelled out: each piece on its square and nowhere else, side, each right, e.p. square, clocks -/
theorem decodes_iff (b : Board) (p : APos) : Decodes b p ↔
    ((∀ (white : Bool) (kind sq : Nat), 1 ≤ kind ∧ kind ≤ 6 → sq < 64 →
        (testU ((if white then b.white else b.black).get kind) sq = true ↔ p.at sq = some (white, kind)))
      ∧ b.white.o0 = 0 ∧ b.black.o0 = 0
      ∧ b.turn = (if p.whiteToMove then 0 else 1)
      ∧ b.white.ks = p.wK ∧ b.white.qs = p.wQ ∧ b.black.ks = p.bK ∧ b.black.qs = p.bQ
      ∧ b.ep = epCode p.ep ∧ b.halfmove = p.half ∧ b.fullmove = p.full) :=
  ⟨fun ⟨a1, a2, a3, a4, a5, a6, a7, a8, a9, a10, a11⟩ => ⟨a1, a2, a3, a4, a5, a6, a7, a8, a9, a10, a11⟩,
   fun ⟨a1, a2, a3, a4, a5, a6, a7, a8, a9, a10, a11⟩ => ⟨a1, a2, a3, a4, a5, a6, a7, a8, a9, a10, a11⟩⟩

/-- The canonical six-field text of a valid abstract position is accepted and decoded to exactly that position. -/
theorem decode_correct {p : APos} (hv : p.Valid) :
    ∃ b, fromFenString (String.ofList (printA p)) = .ok b ∧ Decodes b p :=
  decode_printA hv

example : startA.Valid := startA_valid
example : (match fromFenString (String.ofList (printA startA)) with
    | .ok b => decide (b = startBoard)
    | .error _ => false) = true := by decide +kernel

/-- The four-field text is accepted and decoded to the same position with the clocks defaulted to 0 and 1. -/
theorem decode_correct_four {p : APos} (hv : p.Valid) :
    ∃ b, fromFenString (String.ofList (printA4 p)) = .ok b ∧ Decodes b { p with half := 0, full := 1 } :=
  ⟨boardOfFields { fieldsOf p with hasClocks := false, half := 0, full := 1 },
    by rw [fromFenString_ofList (space_mem_printA4 p), parseChars_printA4 hv],
    decodes_boardOfFields hv rfl rfl rfl (ep_props p).2.1⟩

example : ({ startA with whiteToMove := false, wQ := false, ep := some 20 } : APos).Valid :=
  ⟨startA_valid.kinds, by decide, by decide⟩

/-- … and writing the decoded position gives the canonical text again (reading and writing are mutually inverse on
canonical texts).  `p.ep ≠ some 0`: a8 cannot be stored as e.p. square (see the header). -/
theorem decode_then_print {p : APos} (hv : p.Valid) (hep : p.ep ≠ some 0) :
    ∃ b, fromFenString (String.ofList (printA p)) = .ok b ∧ printFen b = some (String.ofList (printA p)) := by
  obtain ⟨b, h1, h2⟩ := decode_printA hv
  exact ⟨b, h1, printFen_eq h2.holds hv (h2.sameMeta hep)⟩

example : ({ startA with ep := some 20 } : APos).Valid ∧ ({ startA with ep := some 20 } : APos).ep ≠ some 0 :=
  ⟨⟨startA_valid.kinds, by decide, by decide⟩, by decide⟩

/-- A four-field FEN decodes with halfmove clock 0 and fullmove number 1. -/
theorem four_field_defaults {s : String} {b : Board} (h : fromFenString s = .ok b)
    (h4 : (splitOnChar ' ' s.toList).length = 4) : b.halfmove = 0 ∧ b.fullmove = 1 := by
  obtain ⟨_, f, hp, -, rfl, hl⟩ := fromFen_ok h
  have hs : s ≠ "startpos" := by
    rintro rfl
    revert h4
    decide
  rw [hl hs] at hp
  rcases (parseChars_ok hp).2.2.2.2.2 with h6 | ⟨hs', fs, h6⟩
  · exact ⟨h6.2.1, h6.2.2.1⟩
  · rw [h6.2.1] at h4; simp at h4

example : accepted "4k3/8/8/8/8/8/8/4K3 b - -" = true
    ∧ (splitOnChar ' ' "4k3/8/8/8/8/8/8/4K3 b - -".toList).length = 4 := by decide +kernel

/-- the canonical form, field by field: `a8` as e.p. field becomes `-`, clocks lose their leading zeros, clocks left out
are written as `0` and `1` -/
def canonFields : List (List Char) → List (List Char)
  | [pl, sd, k, e] => [pl, sd, k, canonEp e, ['0'], ['1']]
  | [pl, sd, k, e, hc, fc] => [pl, sd, k, canonEp e, decimal (decimalValue hc), decimal (decimalValue fc)]
  | fs => fs

theorem canonText_eq {l : List Char} {f : FenFields} (h : parseChars l = .ok f) :
    canonText f = joinWith ' ' (canonFields (splitOnChar ' ' l)) := by
  rcases (parseChars_ok h).2.2.2.2.2 with ⟨-, h1, h2, hl⟩ | ⟨hs, fs, -, hl, -, -, h1, h2⟩
  · rw [hl, canonText, h1, h2]
    rfl
  · rw [hl, canonText, h1, h2]
    rfl

/-- Whatever text is accepted, writing the decoded board never panics and yields the canonical form of the text. -/
theorem parse_print_canonical {s : String} {b : Board} (h : fromFenString s = .ok b) :
    ∃ f, FenSyntax.parse s = .ok f ∧ b = boardOfFields f ∧ printFen b = some (String.ofList (canonText f)) := by
  obtain ⟨_, f, hp, hf, rfl, -⟩ := fromFen_ok h
  exact ⟨f, hf, rfl, printFen_boardOfFields hp⟩

example : accepted "4k3/8/8/8/8/8/8/4K3 w - a8 007 010" = true := by decide +kernel
-- the canonical form of that text (a8 → `-`, leading zeros dropped)
example : (match fromFenString "4k3/8/8/8/8/8/8/4K3 w - a8 007 010" with
    | .ok b => printFen b
    | .error _ => none) = some "4k3/8/8/8/8/8/8/4K3 w - - 7 10" := by decide +kernel

/-- Six fields, clocks without leading zeros, e.p. field not `a8`, not the alias: writing back yields the same text. -/
theorem parse_print_same {s : String} {b : Board} (h : fromFenString s = .ok b) (hs : s ≠ "startpos")
    {pl sd k e hc fc : List Char} (h6 : splitOnChar ' ' s.toList = [pl, sd, k, e, hc, fc])
    (he : e ≠ ['a', '8']) (hz1 : NoLeadingZero hc) (hz2 : NoLeadingZero fc) :
    printFen b = some s := by
  obtain ⟨f, hp, -, hpr⟩ := parse_print_canonical h
  rw [FenSyntax.parse, if_neg hs] at hp
  have hok := fieldsOk_of_ok hp
  have c1 := clockOk_lt (hok.clock 4 hc (.inl rfl) (by rw [h6]; rfl))
  have c2 := clockOk_lt (hok.clock 5 fc (.inr rfl) (by rw [h6]; rfl))
  rw [hpr, canonText_eq hp, h6, canonFields, canonEp, if_neg he,
    decimal_decimalValue c1.1 c1.2.1 hz1, decimal_decimalValue c2.1 c2.2.1 hz2, ← h6, joinWith_splitOnChar,
    String.ofList_toList]

example : ∃ b, fromFenString "rnbqkbnr/pppp1ppp/8/4p3/4P3/8/PPPP1PPP/RNBQKBNR w KQkq e6 0 2" = .ok b
    ∧ printFen b = some "rnbqkbnr/pppp1ppp/8/4p3/4P3/8/PPPP1PPP/RNBQKBNR w KQkq e6 0 2" := by
  cases h : fromFenString "rnbqkbnr/pppp1ppp/8/4p3/4P3/8/PPPP1PPP/RNBQKBNR w KQkq e6 0 2" with
  | error e =>
    have : accepted "rnbqkbnr/pppp1ppp/8/4p3/4P3/8/PPPP1PPP/RNBQKBNR w KQkq e6 0 2" = true := by decide +kernel
    simp [accepted, h] at this
  | ok b =>
    exact ⟨b, rfl, parse_print_same h (by decide +kernel)
      (pl := "rnbqkbnr/pppp1ppp/8/4p3/4P3/8/PPPP1PPP/RNBQKBNR".toList) (sd := ['w']) (k := "KQkq".toList)
      (e := "e6".toList) (hc := ['0']) (fc := ['2']) (by decide +kernel) (by decide +kernel) (.inl rfl)
      (.inr (by decide +kernel))⟩

/-- Four fields (e.p. field not `a8`): writing back yields the text followed by the default clocks. -/
theorem parse_print_four {s : String} {b : Board} (h : fromFenString s = .ok b)
    {pl sd k e : List Char} (h4 : splitOnChar ' ' s.toList = [pl, sd, k, e]) (he : e ≠ ['a', '8']) :
    printFen b = some (s ++ " 0 1") := by
  obtain ⟨f, hp, -, hpr⟩ := parse_print_canonical h
  have hs : s ≠ "startpos" := by
    rintro rfl
    exact absurd (congrArg List.length h4) (show (_ : Nat) ≠ 4 by decide)
  rw [FenSyntax.parse, if_neg hs] at hp
  have e1 : joinWith ' ' [pl, sd, k, e, ['0'], ['1']] = s.toList ++ " 0 1".toList := by
    rw [← joinWith_splitOnChar ' ' s.toList, h4]
    simp [joinWith]
  rw [hpr, canonText_eq hp, h4, canonFields, canonEp, if_neg he, e1, String.ofList_append, String.ofList_toList]
  rfl

example : accepted "4k3/8/8/8/8/8/8/4K3 b - -" = true
    ∧ splitOnChar ' ' "4k3/8/8/8/8/8/8/4K3 b - -".toList = ["4k3/8/8/8/8/8/8/4K3".toList, ['b'], ['-'], ['-']] := by
  decide +kernel

/-- wrong number of space-separated fields -/
theorem reject_field_count {s : String} (hs : s ≠ "startpos")
    (h4 : (splitOnChar ' ' s.toList).length ≠ 4) (h6 : (splitOnChar ' ' s.toList).length ≠ 6) : Rejected s :=
  rejected_of hs fun h => h.count.elim h4 h6

example : Rejected "8/8/8/8/8/8/8/8 w - - 0" := reject_field_count (by decide +kernel) (by decide +kernel) (by decide +kernel)
example : Rejected "" := reject_field_count (by decide +kernel) (by decide +kernel) (by decide +kernel)

/-- a character in the placement field outside `PNBRQKpnbrqk1-8/` -/
theorem reject_illegal_char {s : String} (hs : s ≠ "startpos") {pl : List Char}
    (h0 : (splitOnChar ' ' s.toList)[0]? = some pl) {c : Char} (hc : c ∈ pl)
    (hbad : c ∉ "PNBRQKpnbrqk12345678/".toList) : Rejected s := by
  refine rejected_of hs fun h => hbad ?_
  rw [← joinWith_splitOnChar '/' pl] at hc
  rcases mem_joinWith hc with rfl | ⟨r, hr, hcr⟩
  · decide
  · have := List.all_eq_true.mp (((h.placement pl h0).2 r hr).1) c hcr
    have hsub : ∀ x ∈ "PNBRQKpnbrqk12345678".toList, x ∈ "PNBRQKpnbrqk12345678/".toList := by decide +kernel
    exact hsub c (by simpa [isPlacementChar] using this)

example : Rejected "8/8/8/8/8/8/8/7x w - - 0 1" :=
  reject_illegal_char (by decide +kernel) (pl := "8/8/8/8/8/8/8/7x".toList) (by decide +kernel) (c := 'x') (by decide +kernel) (by decide +kernel)

/-- not exactly eight ranks, or a rank whose squares do not sum to eight -/
theorem reject_rank_sum {s : String} (hs : s ≠ "startpos") {pl : List Char}
    (h0 : (splitOnChar ' ' s.toList)[0]? = some pl)
    (hbad : (splitOnChar '/' pl).length ≠ 8 ∨ ∃ r ∈ splitOnChar '/' pl, rankCount r ≠ 8) : Rejected s :=
  rejected_of hs fun h => hbad.elim (fun hb => hb (h.placement pl h0).1)
    fun ⟨r, hr, hb⟩ => hb ((h.placement pl h0).2 r hr).2.1

example : Rejected "8/8/8/8/8/8/8/7 w - - 0 1" :=
  reject_rank_sum (by decide +kernel) (pl := "8/8/8/8/8/8/8/7".toList) (by decide +kernel) (.inr ⟨['7'], by decide, by decide +kernel⟩)
example : Rejected "8/8/8/8/8/8/8 w - - 0 1" :=
  reject_rank_sum (by decide +kernel) (pl := "8/8/8/8/8/8/8".toList) (by decide +kernel) (.inl (by decide +kernel))

/-- two digits next to each other inside a rank -/
theorem reject_adjacent_digits {s : String} (hs : s ≠ "startpos") {pl : List Char}
    (h0 : (splitOnChar ' ' s.toList)[0]? = some pl) {r : List Char} (hr : r ∈ splitOnChar '/' pl)
    (hbad : hasAdjacentDigits r = true) : Rejected s :=
  rejected_of hs fun h => Bool.noConfusion (hbad.symm.trans ((h.placement pl h0).2 r hr).2.2)

example : Rejected "8/8/8/8/8/8/8/44 w - - 0 1" :=
  reject_adjacent_digits (by decide +kernel) (pl := "8/8/8/8/8/8/8/44".toList) (by decide +kernel) (r := "44".toList) (by decide +kernel)
    (by decide +kernel)

/-- side field other than `w` or `b` -/
theorem reject_bad_side {s : String} (hs : s ≠ "startpos")
    (hw : (splitOnChar ' ' s.toList)[1]? ≠ some ['w']) (hb : (splitOnChar ' ' s.toList)[1]? ≠ some ['b']) :
    Rejected s :=
  rejected_of hs fun h => h.side.elim hb hw

example : Rejected "8/8/8/8/8/8/8/8 x - - 0 1" := reject_bad_side (by decide +kernel) (by decide +kernel) (by decide +kernel)

/-- castling field that is neither `-` nor a non-empty subsequence of `KQkq` in that order -/
theorem reject_bad_castling {s : String} (hs : s ≠ "startpos") {k : List Char}
    (h2 : (splitOnChar ' ' s.toList)[2]? = some k)
    (hbad : ¬ (k = ['-'] ∨ (k ≠ [] ∧ k.Sublist ['K', 'Q', 'k', 'q']))) : Rejected s := by
  refine rejected_of hs fun h => hbad ?_
  have : ∀ k ∈ castlingFields, k = ['-'] ∨ (k ≠ [] ∧ k.Sublist ['K', 'Q', 'k', 'q']) := by decide
  exact this k (castling_enum (h.castling k h2))

example : Rejected "8/8/8/8/8/8/8/8 w qK - 0 1" :=
  reject_bad_castling (by decide +kernel) (k := "qK".toList) (by decide +kernel) (by decide +kernel)

/-- e.p. field that is neither `-` nor a file letter `a`–`h` followed by a rank digit `1`–`8` -/
theorem reject_bad_ep {s : String} (hs : s ≠ "startpos") {e : List Char}
    (h3 : (splitOnChar ' ' s.toList)[3]? = some e)
    (hbad : ¬ (e = ['-'] ∨ ∃ fl rk, e = [fl, rk] ∧ 'a' ≤ fl ∧ fl ≤ 'h' ∧ '1' ≤ rk ∧ rk ≤ '8')) : Rejected s :=
  rejected_of hs fun h => hbad (epShapeOk_iff.mp (h.ep e h3))

example : Rejected "8/8/8/8/8/8/8/8 w - e9 0 1" :=
  reject_bad_ep (by decide +kernel) (e := "e9".toList) (by decide +kernel) (by
    rintro (h | ⟨fl, rk, h, -, -, -, h8⟩)
    · exact absurd h (by decide +kernel)
    · have h' : ['e', '9'] = [fl, rk] := h
      injection h' with _ h2
      injection h2 with h3 _
      subst h3
      exact absurd h8 (by decide +kernel))

/-- a clock field (fifth or sixth field) that is empty, contains a non-digit, or is not below 2^32 -/
theorem reject_bad_clock {s : String} (hs : s ≠ "startpos") {i : Nat} (hi : i = 4 ∨ i = 5) {c : List Char}
    (hf : (splitOnChar ' ' s.toList)[i]? = some c)
    (hbad : c = [] ∨ (∃ x ∈ c, isAsciiDigit x = false) ∨ 4294967296 ≤ decimalValue c) : Rejected s := by
  refine rejected_of hs fun h => ?_
  have := clockOk_lt (h.clock i c hi hf)
  rcases hbad with hb | ⟨x, hx, hb⟩ | hb
  · exact this.1 hb
  · exact Bool.noConfusion (hb.symm.trans (List.all_eq_true.mp this.2.1 x hx))
  · omega

example : Rejected "8/8/8/8/8/8/8/8 w - - 0 4294967296" :=
  reject_bad_clock (by decide +kernel) (i := 5) (.inr rfl) (c := "4294967296".toList) (by decide +kernel) (.inr (.inr (by decide +kernel)))
example : Rejected "8/8/8/8/8/8/8/8 w - - x 1" :=
  reject_bad_clock (by decide +kernel) (i := 4) (.inl rfl) (c := ['x']) (by decide +kernel) (.inr (.inl ⟨'x', by decide, by decide +kernel⟩))

/-- mirrors the control flow of `placeRank` (= the loop body of `parse_player_states`): `false` as soon as the
`panic!()` arm would be taken or a square outside the board would be addressed (`1 << shift`, shift ≥ 64) -/
def rankSafe (rankIdx : Nat) : List Char → Nat → Bool
  | [], _ => true
  | c :: cs, file =>
    if isAsciiDigit c then rankSafe rankIdx cs (file + digitVal c)
    else match pieceOfChar c with
      | none => false
      | some _ => file + 8 * rankIdx < 64 && rankSafe rankIdx cs (file + 1)

def ranksSafe : List (List Char) → Nat → Bool
  | [], _ => true
  | r :: rs, idx => rankSafe idx r 0 && ranksSafe rs (idx + 1)

theorem rankSafe_of (idx : Nat) (hidx : idx < 8) : ∀ (r : List Char) (file : Nat),
    r.all isPlacementChar = true → file + rankCount r ≤ 8 → rankSafe idx r file = true
  | [], _, _, _ => rfl
  | c :: r, file, hall, hc => by
    simp only [List.all_cons, Bool.and_eq_true] at hall
    rw [rankCount_cons] at hc
    rcases placement_char_cases hall.1 with h | h
    · rw [rankSafe, if_pos h.1]
      rw [if_pos h.1] at hc
      exact rankSafe_of idx hidx r _ hall.2 (by omega)
    · rw [rankSafe, if_neg (by simp [h.1]), h.2.1]
      rw [if_neg (by simp [h.1])] at hc
      simp only [Bool.and_eq_true, decide_eq_true_eq]
      exact ⟨by omega, rankSafe_of idx hidx r _ hall.2 (by omega)⟩

theorem ranksSafe_of : ∀ (rs : List (List Char)) (idx : Nat), idx + rs.length ≤ 8 →
    (∀ r ∈ rs, r.all isPlacementChar = true ∧ rankCount r = 8) → ranksSafe rs idx = true
  | [], _, _, _ => rfl
  | r :: rs, idx, hl, h => by
    simp only [List.length_cons] at hl
    have hr := h r (by simp)
    rw [ranksSafe, rankSafe_of idx (by omega) r 0 hr.1 (by omega),
      ranksSafe_of rs (idx + 1) (by omega) (fun x hx => h x (List.mem_cons_of_mem _ hx))]
    rfl

theorem no_panic_of_ok {l : List Char} {f : FenFields} (hp : parseChars l = .ok f) :
    ranksSafe (splitOnChar '/' f.placement) 0 = true
    ∧ (f.side = 'b' ∨ f.side = 'w')
    ∧ (f.ep = ['-'] ∨ ∃ fl rk, f.ep = [fl, rk] ∧ 'a' ≤ fl ∧ fl ≤ 'h' ∧ isAsciiDigit rk = true ∧ 1 ≤ digitVal rk
        ∧ digitVal rk ≤ 8)
    ∧ f.half < 4294967296 ∧ f.full < 4294967296 := by
  obtain ⟨h1, h2, h3, _, h5, _⟩ := parseChars_ok hp
  have hr := placement_ok h1 h2
  refine ⟨?_, h3, ?_, clocks_lt hp⟩
  · exact ranksSafe_of _ 0 (by omega) (fun r hr' => ⟨(hr.2 r hr').1, (hr.2 r hr').2.1⟩)
  · rcases epShapeOk_iff.mp h5 with he | ⟨fl, rk, he, hf1, hf2, hr1, hr2⟩
    · exact .inl he
    · have h1 : 49 ≤ rk.toNat := (CharRange.char_le_iff '1' rk).mp hr1
      have h8 : rk.toNat ≤ 56 := (CharRange.char_le_iff rk '8').mp hr2
      refine .inr ⟨fl, rk, he, hf1, hf2, (CharRange.isAsciiDigit_iff rk).mpr ⟨by omega, by omega⟩, ?_⟩
      unfold digitVal; omega

/-- After the grammar check none of the panicking operations of the board-level decoding can be reached:
the `panic!()` arm of the piece match and an out-of-board square (`ranksSafe`), the `panic!()` arm of `parse_turn`,
the length assertion and the digit `unwrap` of `square_shift_from_fen_unchecked`, the `parse::<u32>().unwrap()`
of both clocks.  (The parser itself only returns `Ok`/`Err`; `fromFenString` is a total function.) -/
theorem parse_no_panic_branch {s : String} {f : FenFields} (h : FenSyntax.parse s = .ok f) :
    ranksSafe (splitOnChar '/' f.placement) 0 = true
    ∧ (f.side = 'b' ∨ f.side = 'w')
    ∧ (f.ep = ['-'] ∨ ∃ fl rk, f.ep = [fl, rk] ∧ 'a' ≤ fl ∧ fl ≤ 'h' ∧ isAsciiDigit rk = true ∧ 1 ≤ digitVal rk
        ∧ digitVal rk ≤ 8)
    ∧ f.half < 4294967296 ∧ f.full < 4294967296 := by
  unfold FenSyntax.parse at h
  split at h <;> exact no_panic_of_ok h

example : (match FenSyntax.parse "r3k2r/8/8/3pP3/8/8/8/R3K2R w Kq d6 4000000000 4294967295" with
    | .ok _ => true
    | .error _ => false) = true := by decide +kernel

#print axioms wf_repr
#print axioms print_parse_board
#print axioms print_parse_legal
#print axioms decode_correct
#print axioms decode_correct_four
#print axioms decode_then_print
#print axioms four_field_defaults
#print axioms parse_print_canonical
#print axioms parse_print_same
#print axioms parse_print_four
#print axioms reject_field_count
#print axioms reject_illegal_char
#print axioms reject_rank_sum
#print axioms reject_adjacent_digits
#print axioms reject_bad_side
#print axioms reject_bad_castling
#print axioms reject_bad_ep
#print axioms reject_bad_clock
#print axioms parse_no_panic_branch

end Inkayaku.C12
