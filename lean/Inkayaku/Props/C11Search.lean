import Inkayaku.Proofs.SearchFlipValue
import Inkayaku.Props.C08
import Inkayaku.Props.C08Sim
import Inkayaku.Model.FenBoard
/-!
# C11 (search half) – fixed-depth search scores and mate distances are unchanged by the colour flip

Property text (second half): *"Mirroring a position vertically while swapping the colours of all pieces, the side to move and
the castling rights … leaves every fixed-depth (d ≤ 3) search score and mate distance unchanged from the mover's point of
view."*  The static half is `Props/C11.lean`.

Objects: `Generate.flipBoard` (the flip; clocks kept), `SpecSearch.specValue d b` (the verified alpha-beta of the specification
game = plain minimax with capture resolution at the horizon, `C08.specValue_eq_mm`), `Eval.scoreFromValue` (`score_from_value`:
centipawns or mate distance), `Search.goCmd` (the faithful model of the search thread), `WF.wf` / `Search.Inv k` (`Proofs/WfStep.lean`: "legal position"
with room for `k` more plies in the 12-bit half-move field and the `u32` full-move counter).

Route (helper proofs: `Proofs/SearchFlip{Spec,Rules,Abs,Wf,Moves,Value}.lean`): the flip of a legal position is legal; its legal
moves are the mirrored ones and the successors are flips of each other up to the full-move number (which `make` advances after
Black's move only); hence, at EVERY depth, the minimax values have the same normal form (`SearchFlip.nv`) and the reported score
is the same; `search_flip` carries this to the engine model through `C08Sim.go_eq_spec` (`1 ≤ d ≤ 3`; the hash hypotheses
`HashInj` / `HashNonzero` are needed for both positions, the Zobrist keys are not flip-symmetric).

Side conditions (each a real limit of the engine, stated explicitly).  For `specScore_flip`: the clock budget `Inv (d + 64) b`
(12-bit undo field of the half-move clock, 64 = `quiescenceFuel`) and `fullmove + d < 2^23`.  `search_flip` takes those of
`C08Sim.go_eq_spec` instead, which imply them: `Inv (fuelFor d) b` (`fuelFor d = d + 200`), `2 * fullmove + d < 65536` (the 16-bit
ply clock does not wrap), `material b ≤ 64`, a legal move, and the hash hypotheses.  Why `2^23`: above that the mate values `2^24 − fullmove` leave the
range `score_from_value` reads as mate and the statement is FALSE (a mate in one at full move `2^23` is reported as centipawns
for White and as a different number of centipawns for the flipped position).
-/
namespace Inkayaku.C11Search
open Inkayaku.Board Inkayaku.Eval Inkayaku.WF Inkayaku.Abs Inkayaku.Generate Inkayaku.SpecSearch Inkayaku.Search
  Inkayaku.SearchFlip Inkayaku.SearchSim

theorem wf_flipBoard {b : Board} (h : wf b = true) : wf (flipBoard b) = true := SearchFlip.wf_flipBoard h

/-- the abstraction (mailbox position of the rules) of the flipped board is the flip of the abstraction: square `s` ↦
`mir s` with the colour swapped, side to move and castling rights swapped, e.p. square mirrored -/
theorem abs_flipBoard {b : Board} (h : wf b = true) : SFlip (abs b) (abs (flipBoard b)) := SearchFlip.abs_flipBoard h

/-- **equivariance of the legal move set and of the successor.**  For every legal move `m` of `b` the mirrored move
(`flipSM`: both squares mirrored, same promotion piece) is a legal move `m'` of `flipBoard b`, and the position after `m'` is
the flip of the position after `m` – up to the scratch words and the full-move number; and conversely. -/
theorem legal_moves_flip {b : Board} (hinv : Inv 1 b) :
    (∀ m ∈ genLegal b, ∃ m' ∈ genLegal (flipBoard b), absMove m'.f = flipSM (absMove m.f) ∧
        vis (make (flipBoard b) m') = vis { flipBoard (make b m) with fullmove := (make (flipBoard b) m').fullmove }) ∧
    (∀ m' ∈ genLegal (flipBoard b), ∃ m ∈ genLegal b, absMove m'.f = flipSM (absMove m.f) ∧
        vis (make (flipBoard b) m') = vis { flipBoard (make b m) with fullmove := (make (flipBoard b) m').fullmove }) := by
  have h : FlipRel (0 + 1) b (flipBoard b) := flipRel_root hinv
  constructor
  · intro m hm
    obtain ⟨m', hm', hr, -, he⟩ := legal_step h hm
    exact ⟨m', hm', he, flipRel_vis hr⟩
  · intro m' hm'
    obtain ⟨m, hm, hr, -, he⟩ := legal_step h.symm hm'
    refine ⟨m, hm, ?_, flipRel_vis hr.symm⟩
    obtain ⟨hs, ht, -⟩ := GenSpec.gen_bounds h.2.1.1 (List.mem_filter.mp hm').1
    have : flipSM (absMove m.f) = flipSM (flipSM (absMove m'.f)) := by rw [he]
    rw [this]
    have hs' : (absMove m'.f).src < 64 := hs
    have ht' : (absMove m'.f).tgt < 64 := ht
    show absMove m'.f = ⟨mir (mir (absMove m'.f).src), mir (mir (absMove m'.f).tgt), (absMove m'.f).promo⟩
    rw [mir_mir hs', mir_mir ht']

/-- the same for the capture/promotion moves the quiescence search plays -/
theorem captures_flip {b : Board} (hinv : Inv 1 b) :
    (∀ m ∈ legalCaptures b, ∃ m' ∈ legalCaptures (flipBoard b),
        vis (make (flipBoard b) m') = vis { flipBoard (make b m) with fullmove := (make (flipBoard b) m').fullmove }) ∧
    (∀ m' ∈ legalCaptures (flipBoard b), ∃ m ∈ legalCaptures b,
        vis (make (flipBoard b) m') = vis { flipBoard (make b m) with fullmove := (make (flipBoard b) m').fullmove }) := by
  have h : FlipRel (0 + 1) b (flipBoard b) := flipRel_root hinv
  constructor
  · intro m hm
    obtain ⟨m', hm', hr⟩ := capture_step h hm
    exact ⟨m', hm', flipRel_vis hr⟩
  · intro m' hm'
    obtain ⟨m, hm, hr⟩ := capture_step h.symm hm'
    exact ⟨m, hm, flipRel_vis hr.symm⟩

/-- the horizon test of `search_negamax`, the static value from the mover's point of view, check -/
theorem horizon_flip {b : Board} (h : wf b = true) :
    SpecSearch.noisy (flipBoard b) = SpecSearch.noisy b ∧
    evalFor (flipBoard b) (flipBoard b).turn true = evalFor b b.turn true ∧
    isCurrentInCheck (flipBoard b) = isCurrentInCheck b := by
  have hr : FlipRel 0 b (flipBoard b) := flipRel_root ((Inv_zero b).mpr h)
  exact ⟨noisy_flip hr, evalFor_flip_static hr, isCurrentInCheck_flipRel hr⟩

theorem terminal_flip {b : Board} (hinv : Inv 1 b) : genLegal (flipBoard b) = [] ↔ genLegal b = [] :=
  genLegal_nil_flip (k := 0) (flipRel_root hinv)

/-- **every depth**: the minimax values of a position and of its flip have the same normal form (`SearchFlip.nv`:
`v + fullmove + turn` above `2^23`, `v − fullmove` below `−2^23`, `v` in between) -/
theorem specValue_flip_nv (b : Board) (d : Nat) (hinv : Inv (d + quiescenceFuel) b) (hfm : b.fullmove + d < 8388608) :
    nv (flipBoard b) (specValue d (flipBoard b)) = nv b (specValue d b) := by
  rw [C08.specValue_eq_mm, C08.specValue_eq_mm]
  exact (V_flip d b (flipBoard b) (flipRel_root hinv) hfm hfm).symm

/-- the raw values: equal unless the mover mates, then they differ by exactly one (the flipped root has the other colour and
`make` advances the full-move number after Black's move only) -/
theorem specValue_flip_raw (b : Board) (d : Nat) (hinv : Inv (d + quiescenceFuel) b) (hfm : b.fullmove + d < 8388608) :
    (specValue d b ≤ 8388608 → specValue d (flipBoard b) = specValue d b) ∧
    (8388608 < specValue d b → specValue d (flipBoard b) = specValue d b + 2 * (b.turn : Int) - 1) := by
  have h := specValue_flip_nv b d hinv hfm
  have ht := (Check.struct_of_wf hinv.1).2
  unfold nv nvf at h
  have e1 : ((flipBoard b).turn : Int) = 1 - (b.turn : Int) := by
    show ((1 - b.turn : Nat) : Int) = _
    omega
  have e2 : ((flipBoard b).fullmove : Int) = (b.fullmove : Int) := rfl
  rw [e1, e2] at h
  constructor <;> intro hv <;> omega

/-- **C11, search half, specification level.**  The score the search reports – centipawns, or the mate distance – is the same
for a position and for its colour flip, at EVERY depth (the property asks for `d ≤ 3`; the specification search has no
transposition table, so nothing restricts the depth). -/
theorem specScore_flip (b : Board) (d : Nat) (hinv : Inv (d + quiescenceFuel) b) (hfm : b.fullmove + d < 8388608) :
    scoreFromValue (specValue d (flipBoard b)) (flipBoard b) = scoreFromValue (specValue d b) b := by
  have ht := (Check.struct_of_wf hinv.1).2
  exact scoreFromValue_of_nv ht (by show 1 - b.turn ≤ 1; omega) (specValue_flip_nv b d hinv hfm).symm

/-- the printed form (`cp<n>` / `mate<n>`) used by the line protocol -/
theorem specScore_flip_text (b : Board) (d : Nat) (hinv : Inv (d + quiescenceFuel) b) (hfm : b.fullmove + d < 8388608) :
    specScore d (flipBoard b) = specScore d b := by
  unfold specScore renderValue
  rw [specScore_flip b d hinv hfm]

theorem material_flip (b : Board) : material (flipBoard b) = material b := by
  unfold material materialS
  simp only [flipBoard, flipSide, wfpop_flipU]
  omega

/-- **C11, search half (`search_flip`).**  After `position <b>` and after `position <flipBoard b>`, `go depth d` with
`1 ≤ d ≤ 3` reports the same score in its info line of depth `d`, namely `scoreFromValue (specValue d b) b`.
Hypotheses = those of `C08Sim.go_eq_spec` for both positions; the ones that transfer along the flip (clock budget, a legal move
exists, material) are derived, the hash hypotheses are needed for each position separately. -/
theorem search_flip (b : Board) (d : Nat) (hd1 : 1 ≤ d) (hd3 : d ≤ 3)
    (hinv : Inv (fuelFor d) b) (hlegal : genLegal b ≠ []) (hnowrap : 2 * b.fullmove + d < 65536) (hmat : material b ≤ 64)
    (hinj : HashInj b d) (hnz : HashNonzero b d) (hinj' : HashInj (flipBoard b) d) (hnz' : HashNonzero (flipBoard b) d) :
    let s := goCmd (setPosition initial b []) { depth := some d }
    let s' := goCmd (setPosition initial (flipBoard b) []) { depth := some d }
    ∃ sc, sc = scoreFromValue (specValue d b) b ∧
      (∃ pv nodes t, Out.info (some d) t nodes (some sc) (some pv) ∈ s.out) ∧
      (∃ pv nodes t, Out.info (some d) t nodes (some sc) (some pv) ∈ s'.out) := by
  have ht := (Check.struct_of_wf hinv.1).2
  have hfm1 := ((WF.wf_iff b).mp hinv.1).fm1
  have hq : Inv (d + quiescenceFuel) b := Inv_mono (by unfold fuelFor quiescenceFuel; omega) hinv
  have hlegal' : genLegal (flipBoard b) ≠ [] := fun e =>
    hlegal ((terminal_flip (Inv_mono (by unfold fuelFor; omega) hinv)).mp e)
  have hp : ply2 b + d < 65536 := by unfold ply2; omega
  have hp' : ply2 (flipBoard b) + d < 65536 := by
    unfold ply2
    show 2 * (b.fullmove - 1) + (1 - b.turn) + d < 65536
    omega
  obtain ⟨pv, nodes, t, h1, -⟩ := C08Sim.go_eq_spec b d hd1 hd3 hinv hlegal hp hinj hnz hmat
  obtain ⟨pv', nodes', t', h1', -⟩ := C08Sim.go_eq_spec (flipBoard b) d hd1 hd3 (inv_flipBoard hinv) hlegal' hp' hinj' hnz'
    (by rw [material_flip]; exact hmat)
  rw [specScore_flip b d hq (by omega)] at h1'
  exact ⟨_, rfl, ⟨pv, nodes, t, h1⟩, ⟨pv', nodes', t', h1'⟩⟩

#print axioms wf_flipBoard
#print axioms abs_flipBoard
#print axioms legal_moves_flip
#print axioms captures_flip
#print axioms horizon_flip
#print axioms terminal_flip
#print axioms specValue_flip_nv
#print axioms specValue_flip_raw
#print axioms specScore_flip
#print axioms specScore_flip_text
#print axioms search_flip

/-! ## non-vacuity

`kr` = `k7/8/1K6/8/8/8/8/7R w - - 0 1` (`C08.Example.kr`, mate in one by `h1h8`); its flip is
`7r/8/8/8/8/1k6/8/K7 b - - 0 1`.  Hypotheses are evaluated in the kernel; the searches themselves (strings, `Std.HashMap`) by the
compiler (`#guard`). -/

namespace Example
open Inkayaku.C08.Example Inkayaku.C08Sim.Example

theorem kr_inv : Inv (fuelFor 3) kr := ⟨by decide +kernel, by decide, by decide⟩

example : wf kr = true ∧ wf (flipBoard kr) = true := ⟨kr_inv.1, wf_flipBoard kr_inv.1⟩
example : FenBoard.printFen (flipBoard kr) = some "7r/8/8/8/8/1k6/8/K7 b - - 0 1" := by decide +kernel

/-- the hypotheses of `specScore_flip` hold for `kr` at depths 1, 2, 3 … -/
example : ∀ d, d ≤ 3 → Inv (d + quiescenceFuel) kr ∧ kr.fullmove + d < 8388608 :=
  fun d hd => ⟨Inv_mono (by unfold fuelFor quiescenceFuel; omega) kr_inv, by show 1 + d < 8388608; omega⟩

/-- … and the theorem at work: the flipped position (Black to move, mates in one) has the RAW value `2^24 − 2`, one less
than `kr`'s `2^24 − 1` (`C08.Example.kr_value`), and the same reported score `mate 1` -/
example : specValue 1 (flipBoard kr) = 16777214 ∧ scoreFromValue (specValue 1 (flipBoard kr)) (flipBoard kr) = Score.mate 1 := by
  have hi : Inv (1 + quiescenceFuel) kr := Inv_mono (by unfold fuelFor quiescenceFuel; omega) kr_inv
  have hraw := (specValue_flip_raw kr 1 hi (by decide)).2
  have hsc := specScore_flip kr 1 hi (by decide)
  rw [kr_value] at hraw hsc
  refine ⟨by rw [hraw (by decide)]; decide, ?_⟩
  rw [hsc]; decide +kernel

/-- `legal_moves_flip` applies; `kr` has 20 legal moves and so has its flip -/
example : (genLegal kr).length = 20 ∧ (genLegal (flipBoard kr)).length = 20 := by decide +kernel
example := legal_moves_flip (b := kr) (Inv_mono (by unfold fuelFor; omega) kr_inv)

/-- the hash hypotheses of `search_flip` on `flipBoard kr`, depth 1 (those on `kr`: `kr_hyp1`), checked in the kernel (`hypB` = the
executable conjunction of `HashInj`, `HashNonzero`, `QBound` and the clock guards, `hyp_of_check` its soundness) -/
theorem krf_hyp1 : Hyp (flipBoard kr) 1 := hyp_of_check (by decide +kernel)

example :
    let s := goCmd (setPosition initial kr []) { depth := some 1 }
    let s' := goCmd (setPosition initial (flipBoard kr) []) { depth := some 1 }
    ∃ sc, sc = scoreFromValue (specValue 1 kr) kr ∧
      (∃ pv nodes t, Out.info (some 1) t nodes (some sc) (some pv) ∈ s.out) ∧
      (∃ pv nodes t, Out.info (some 1) t nodes (some sc) (some pv) ∈ s'.out) :=
  search_flip kr 1 (by decide) (by decide) (Inv_mono (by unfold fuelFor; omega) kr_inv) (by decide +kernel) (by decide)
    (by decide +kernel) kr_hyp1.inj kr_hyp1.nz krf_hyp1.inj krf_hyp1.nz

/-- both sessions report the same score, and all decidable hypotheses of `search_flip` hold -/
def twin (b : Board) (d : Nat) : Bool :=
  hypotheses b d && hypotheses (flipBoard b) d &&
    (lastInfo (goCmd (setPosition initial b []) { depth := some d }).out ==
      some (d, scoreFromValue (specValue d b) b)) &&
    (lastInfo (goCmd (setPosition initial (flipBoard b) []) { depth := some d }).out ==
      some (d, scoreFromValue (specValue d b) b))

#guard twin kr 1 && twin kr 2 && twin kr 3
-- mate in two (raw values 2^24 − 2 and 2^24 − 3), both reported as `mate 2`
#guard specScore 3 (boardOf "k7/8/2K5/8/8/8/8/7R w - - 0 1") == "mate2" &&
  specScore 3 (flipBoard (boardOf "k7/8/2K5/8/8/8/8/7R w - - 0 1")) == "mate2" &&
  specValue 3 (boardOf "k7/8/2K5/8/8/8/8/7R w - - 0 1") == 16777214 &&
  specValue 3 (flipBoard (boardOf "k7/8/2K5/8/8/8/8/7R w - - 0 1")) == 16777213
#guard twin (boardOf "k7/8/2K5/8/8/8/8/7R w - - 0 1") 2
-- captures, promotion, en passant, castling rights in the tree; Black to move with a large half-move clock; a middlegame
#guard twin (boardOf "r3k3/1P6/8/3pP3/8/8/8/4K2R w Kq d6 0 2") 2
#guard specScore 3 (flipBoard (boardOf "7K/8/5k2/8/8/8/8/r7 b - - 60 40")) == specScore 3 (boardOf "7K/8/5k2/8/8/8/8/r7 b - - 60 40")
#guard specScore 2 (flipBoard (boardOf "r3k2r/p1ppqpb1/bn2pnp1/3PN3/1p2P3/2N2Q1p/PPPBBPPP/R3K2R w KQkq - 0 1")) ==
  specScore 2 (boardOf "r3k2r/p1ppqpb1/bn2pnp1/3PN3/1p2P3/2N2Q1p/PPPBBPPP/R3K2R w KQkq - 0 1")
-- the bound `fullmove + d < 2^23` is sharp: at full move 2^23 the mate in one of `kr` is printed as centipawns, and as a
-- different number for the flipped position (the theorem's conclusion fails, only its clock hypothesis is violated)
#guard wf { kr with fullmove := 8388608 } &&
  specScore 1 { kr with fullmove := 8388608 } == "cp8388608" &&
  specScore 1 (flipBoard { kr with fullmove := 8388608 }) == "cp8388607" &&
  specScore 1 { kr with fullmove := 8388606 } == "mate1" && specScore 1 (flipBoard { kr with fullmove := 8388606 }) == "mate1"

end Example

end Inkayaku.C11Search
