import Inkayaku.Proofs.SearchSimLines
import Inkayaku.Props.C08Sim
/-!
# C08 – the two chess facts behind `HashInj b 3`: `transp13`, `transp22`; `go depth d` for `d ≤ 3` from `NoCollision` alone

`HashInj b 3` (a stored and a probed position with the same Zobrist hash are the same position at the same ply) is the hash
hypothesis `NoCollision b 3` plus facts of chess (`SameDraft`).  The two that speak of three plies are proved here for every
well-formed root with clock budget (`Inv 3 b`), whatever the position (castling, en passant, promotion included):

* `transp13` – a position one ply below the root never has the `HashKey` (twelve piece words, side, rights, e.p. file) of a
  position three plies below it;
* `transp22` – two positions two plies below the root with the same `HashKey` have the same half-move clock.

Hence `sameDraft_le3`, `hashInj_of_noCollision_le3` and `go_eq_spec_le3`: `go depth d` (`1 ≤ d ≤ 3`) after `position <b>`
reports the exact minimax value and a best move, assuming only the absence of hash collisions (`NoCollision`), `HashNonzero`
and the guards on the position — no chess fact and no property of the run.  For `d ≥ 4` the analogue of `transp13` between
plies 2 and 4 is false – a transposition of moves reaches the same position two plies later – and the engine's probe
`stored ≥ remaining` then uses a deeper-draft entry; that is why C08 stops at depth 3.
The file ends, in `namespace Inkayaku.C08Sim`, with the corollaries for depth ≤ 2: `hashInj_of_noCollision_le2`, `go_eq_spec_le2`.

Proof (helper files `Proofs/SearchSimTransp{Codes,13,22}.lean`): a side at a square is one piece code; a generated move of a
well-formed board is a pointwise update of the two code functions (`Transp.Mv`, from `Successor.codes` and `GenFacts`);
equal keys give equal code functions; the number of pieces of a side tells which moves capture; the rest is a comparison of the
few squares the moves touch (`Transp.no13`, `Transp.same22`).  `SearchSim.lines_le3` (`Proofs/SearchSimLines.lean`) puts the cases
together: two lines of at most three moves to one key have the same length and the same half-move clock; `transp13`, `transp22`
and `sameDraft_le3` are read off it.
-/
namespace Inkayaku.C08Transp
open Inkayaku.Board Inkayaku.Eval Inkayaku.WF Inkayaku.BoardCongr Inkayaku.Minimax Inkayaku.SpecSearch Inkayaku.Search Inkayaku.SearchSim
open Inkayaku.SearchSim.Transp
open Inkayaku.C06 (HashKey)

/-- **a position at ply 1 does not recur at ply 3** -/
theorem transp13 (b : Board) (hinv : Inv 3 b) : Transp13 b := by
  intro p' p hr' hr hkey
  obtain ⟨l', hk', hl', hv'⟩ := hr'.line
  obtain ⟨l, hk, hl, hv⟩ := hr.line
  have := (lines_le3 hinv (Nat.le_refl 3) hl' hl (by omega) (by omega)
    (by rw [← hashKey_vis hv', ← hashKey_vis hv]; exact hkey)).1
  omega

/-- **two positions at ply 2 with the same key have the same half-move clock** -/
theorem transp22 (b : Board) (hinv : Inv 3 b) : Transp22 b := by
  intro p' p hr' hr hkey
  obtain ⟨l', hk', hl', hv'⟩ := hr'.line
  obtain ⟨l, hk, hl, hv⟩ := hr.line
  rw [halfmove_congr hv', halfmove_congr hv]
  exact (lines_le3 hinv (Nat.le_refl 3) hl' hl (by omega) (by omega)
    (by rw [← hashKey_vis hv', ← hashKey_vis hv]; exact hkey)).2

/-- **the chess part of `HashInj` for depth ≤ 3**: `lines_le3` for the lines that reach the two positions; same ply, key and
half-move clock give the same visible position (`key_vis`) -/
theorem sameDraft_le3 {b : Board} {D : Nat} (hinv : Inv D b) (hD : D ≤ 3) : SameDraft b D := by
  intro k' k p' p hk' hk hr' hr hkey
  obtain ⟨l', rfl, hl', hv'⟩ := hr'.line
  obtain ⟨l, rfl, hl, hv⟩ := hr.line
  obtain ⟨e, hh⟩ := lines_le3 hinv hD hl' hl hk' hk (by rw [← hashKey_vis hv', ← hashKey_vis hv]; exact hkey)
  rw [e] at hr'
  exact ⟨e, key_vis hinv hk hr' hr hkey (by rw [halfmove_congr hv', halfmove_congr hv]; exact hh)⟩

/-- for depth ≤ 3 `HashInj` is exactly the absence of hash collisions -/
theorem hashInj_of_noCollision_le3 {b : Board} {D : Nat} (hinv : Inv D b) (hD : D ≤ 3) (h : NoCollision b D) : HashInj b D :=
  hashInj_of h (sameDraft_le3 hinv hD)

theorem hashInj_of_noCollision_3 {b : Board} (hinv : Inv 3 b) (h : NoCollision b 3) : HashInj b 3 :=
  hashInj_of_noCollision_le3 hinv (Nat.le_refl 3) h

/-- **`go depth d` for `d ≤ 3`**: no chess fact and no property of the run is assumed – only the absence of hash collisions
(`NoCollision`), `HashNonzero`, and the guards on the position -/
theorem go_eq_spec_le3 (b : Board) (d : Nat) (hd1 : 1 ≤ d) (hd3 : d ≤ 3)
    (hinv : Inv (fuelFor d) b) (hlegal : genLegal b ≠ []) (hnowrap : ply2 b + d < 65536)
    (hnc : NoCollision b d) (hnz : HashNonzero b d) (hmat : material b ≤ 64) :
    let s := goCmd (setPosition initial b []) { depth := some d }
    ∃ pv nodes t, Out.info (some d) t nodes (some (scoreFromValue (specValue d b) b)) (some pv) ∈ s.out ∧
      ∃ m, Out.bestMove (some m) (pv[1]?) ∈ s.out ∧ m.uci ∈ specBestMoves d b :=
  C08Sim.go_eq_spec b d hd1 hd3 hinv hlegal hnowrap
    (hashInj_of_noCollision_le3 (Inv_mono (by unfold fuelFor; omega) hinv) hd3 hnc) hnz hmat

#print axioms transp13
#print axioms transp22
#print axioms sameDraft_le3
#print axioms hashInj_of_noCollision_le3
#print axioms hashInj_of_noCollision_3
#print axioms go_eq_spec_le3

/-! ## non-vacuity

`kr` = `k7/8/1K6/8/8/8/8/7R w - - 0 1`; `mix` has castling rights, an e.p. square and a pawn about to promote.  The hypothesis
`Inv 3` is checked in the kernel; that positions exist at plies 1, 2, 3 and that the conclusions hold on them is evaluated
(`#guard`), as are all hypotheses of `go_eq_spec_le3` at depth 3 (`C08Sim.Example.hypotheses` contains `hashInjB`, which implies
`NoCollision`) together with its conclusion. -/
namespace Example
open Inkayaku.C08.Example Inkayaku.C08Sim.Example

theorem kr_inv3 : Inv 3 kr := ⟨by decide +kernel, by decide, by decide⟩

example : Transp13 kr := transp13 kr kr_inv3
example : Transp22 kr := transp22 kr kr_inv3
example : SameDraft kr 3 := sameDraft_le3 kr_inv3 (Nat.le_refl _)

def mix : Board := boardOf "r3k3/1P6/8/3pP3/8/8/8/4K2R w Kq d6 0 2"

def transp13B (b : Board) : Bool :=
  (reachList b 1).all fun p' => (reachList b 3).all fun p => decide (HashKey p' ≠ HashKey p)

def transp22B (b : Board) : Bool :=
  (reachList b 2).all fun p' => (reachList b 2).all fun p => decide (HashKey p' = HashKey p → p'.halfmove = p.halfmove)

#guard (reachList kr 1).length > 10 && (reachList kr 3).length > 100
#guard transp13B kr && transp22B kr
#guard wf mix && (reachList mix 1).length > 10 && (reachList mix 3).length > 1000
#guard transp13B mix && transp22B mix
#guard hypotheses kr 3 && conclusion kr 3

end Example

end Inkayaku.C08Transp

namespace Inkayaku.C08Sim
open Inkayaku.Board Inkayaku.Eval Inkayaku.WF Inkayaku.Minimax Inkayaku.SpecSearch Inkayaku.Search Inkayaku.SearchSim

/-- for depth ≤ 2 `HashInj` follows from the absence of hash collisions alone
(`NoCollision`: equal hashes in the neighbourhood ⇒ equal `C06.HashKey`, i.e. equal placement, side to move, rights, e.p. file) -/
theorem hashInj_of_noCollision_le2 {b : Board} {d : Nat} (hinv : Inv d b) (hd : d ≤ 2) (h : NoCollision b d) : HashInj b d :=
  C08Transp.hashInj_of_noCollision_le3 hinv (Nat.le_succ_of_le hd) h

/-- **`go depth d` for `d ≤ 2`**: no chess fact and no property of the run is assumed – only the absence of hash collisions
(`NoCollision`), `HashNonzero`, and the guards on the position -/
theorem go_eq_spec_le2 (b : Board) (d : Nat) (hd1 : 1 ≤ d) (hd2 : d ≤ 2)
    (hinv : Inv (fuelFor d) b) (hlegal : genLegal b ≠ []) (hnowrap : ply2 b + d < 65536)
    (hnc : NoCollision b d) (hnz : HashNonzero b d) (hmat : material b ≤ 64) :
    let s := goCmd (setPosition initial b []) { depth := some d }
    ∃ pv nodes t, Out.info (some d) t nodes (some (scoreFromValue (specValue d b) b)) (some pv) ∈ s.out ∧
      ∃ m, Out.bestMove (some m) (pv[1]?) ∈ s.out ∧ m.uci ∈ specBestMoves d b :=
  C08Transp.go_eq_spec_le3 b d hd1 (Nat.le_succ_of_le hd2) hinv hlegal hnowrap hnc hnz hmat

#print axioms hashInj_of_noCollision_le2
#print axioms go_eq_spec_le2

end Inkayaku.C08Sim
