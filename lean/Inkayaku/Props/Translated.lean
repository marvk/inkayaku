import Inkayaku.Props.Translated.Basic
import Inkayaku.Props.Translated.TestAttr
import Inkayaku.Props.Translated.TestForm
import Inkayaku.Props.Translated.Text
import Inkayaku.Props.Translated.PlayerState
import Inkayaku.Props.Translated.History
import Inkayaku.Props.Translated.PlyClock
import Inkayaku.Props.Translated.Heuristic
import Inkayaku.Props.Translated.Square
import Inkayaku.Props.Translated.Ordering
import Inkayaku.Props.Translated.Fen
import Inkayaku.Props.Translated.Time
import Inkayaku.Props.Translated.Table
import Inkayaku.Props.Translated.Magic
import Inkayaku.Props.Translated.MoveBits
import Inkayaku.Props.Translated.Check
import Inkayaku.Props.Translated.ZobristXor
import Inkayaku.Props.Translated.Demo
import Inkayaku.Props.Translated.MakeUnmakeCommon
import Inkayaku.Props.Translated.Make
import Inkayaku.Props.Translated.Unmake
import Inkayaku.Props.Translated.GenCommon
import Inkayaku.Props.Translated.GenMake
import Inkayaku.Props.Translated.GenUnmake
import Inkayaku.Props.Translated.GenXor
import Inkayaku.Props.Translated.GenerateCtor
import Inkayaku.Props.Translated.GenerateScan
import Inkayaku.Props.Translated.GenerateAttacks
import Inkayaku.Props.Translated.GeneratePawns
import Inkayaku.Props.Translated.GenerateCastle
import Inkayaku.Props.Translated.GenerateTop
import Inkayaku.Props.Translated.GenerateLegal
import Inkayaku.Props.Translated.GenerateRules
import Inkayaku.Props.Translated.FenDecode
import Inkayaku.Props.Translated.FenFromStr
import Inkayaku.Props.Translated.FenRoundtrip
import Inkayaku.Props.Translated.FenWrite
import Inkayaku.Props.Translated.PgnBuffer
import Inkayaku.Props.Translated.PgnBytes
import Inkayaku.Props.Translated.PgnLoops
import Inkayaku.Props.Translated.PgnTags
import Inkayaku.Props.Translated.PgnMoves
import Inkayaku.Props.Translated.PgnIter
import Inkayaku.Props.Translated.PgnTotal
import Inkayaku.Props.Translated.UciText
import Inkayaku.Props.Translated.FindUci
import Inkayaku.Props.Translated.MakeAllUci
import Inkayaku.Props.Translated.Simple
/-! The equivalence theorems between the Rust functions translated on every run (`Gen/Rs/*.lean`) and the hand-written model:
see `Props/Translated/Basic.lean`.  The check of a property builds only the theorem modules it lists, and a module that fails to
build fails all its theorems; hence one theorem file per Rust function (group), importing only what that function calls. -/
