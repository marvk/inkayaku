import Inkayaku.Model.History
/-!
Property C10, the repetition counter `ZobristHistory::count_repetitions`.  (The counter inside the search: `Props/C10Search.lean`;
the fifty-move rule of the evaluator: `Props/C10Fifty.lean`.)

"A line is valued as a draw by repetition exactly when the position it reaches has then occurred at least three times —
counting the game history supplied with the position command and the line itself, with no capture or pawn move in
between ..."

The search asks `count_repetitions(ply_clock, halfmove_clock) >= 3` right after storing the current hash at index
`ply_clock`; index = ply number.  Model: `Inkayaku.History.countRepetitions h start hm`, `h : Nat → Nat` the stored
hashes.  `repIndices`, `repCount`, `occIndices`, `occCount` are the `List.filter` specifications defined in the model
file (membership characterised by `mem_repIndices` / `mem_occIndices`).
-/
namespace Inkayaku.C10
open Inkayaku.History

theorem countRepetitions_value (h : Nat → Nat) (start hm : Nat) :
    countRepetitions h start hm =
      if start < 4 then 0
      else min 3 (1 + ((List.range (start - 3)).filter
        (fun j => decide (start - hm ≤ j) && decide ((start - j) % 2 = 0) && decide (h j = h start))).length) :=
  countRepetitions_eq h start hm
#print axioms countRepetitions_value

theorem repIndices_mem (h : Nat → Nat) (start hm j : Nat) :
    j ∈ (List.range (start - 3)).filter
        (fun j => decide (start - hm ≤ j) && decide ((start - j) % 2 = 0) && decide (h j = h start))
      ↔ j + 4 ≤ start ∧ start - hm ≤ j ∧ (start - j) % 2 = 0 ∧ h j = h start :=
  mem_repIndices h start hm j
#print axioms repIndices_mem

theorem repIndices_nodup (h : Nat → Nat) (start hm : Nat) : (repIndices h start hm).Nodup :=
  List.Nodup.sublist List.filter_sublist List.nodup_range
#print axioms repIndices_nodup

/-- `count_repetitions(start, hm) >= 3` iff at least two earlier plies `j ≤ start − 4`, inside the window, at even
distance from `start`, carry the hash stored at `start`.  Holds for all `start` (for `start < 4` both sides are false). -/
theorem countRepetitions_spec (h : Nat → Nat) (start hm : Nat) :
    countRepetitions h start hm ≥ 3 ↔
      2 ≤ ((List.range (start - 3)).filter
        (fun j => decide (start - hm ≤ j) && decide ((start - j) % 2 = 0) && decide (h j = h start))).length := by
  rw [countRepetitions_eq]
  show _ ↔ 2 ≤ repCount h start hm
  by_cases h4 : start < 4
  · have e : start - 3 = 0 := by omega
    have : repCount h start hm = 0 := by simp [repCount, repIndices, e]
    simp [h4, this]
  · simp only [h4, if_false]; omega
#print axioms countRepetitions_spec

/-- hypotheses satisfiable, both directions non-trivial -/
example : countRepetitions (fun i => [7, 0, 7, 0, 7, 0, 7, 0, 7].getD i 0) 8 8 ≥ 3 ∧
    ¬ countRepetitions (fun i => [7, 0, 7, 0, 7, 0, 7, 0, 7].getD i 0) 8 5 ≥ 3 := by decide

theorem countP_range_of_le (p : Nat → Bool) {m n : Nat} (hmn : m ≤ n) (h : ∀ j, m ≤ j → j < n → p j = false) :
    (List.range n).countP p = (List.range m).countP p := by
  obtain ⟨k, rfl⟩ := Nat.exists_eq_add_of_le hmn
  rw [List.range_add, List.countP_append, List.countP_map, Nat.add_eq_left, List.countP_eq_zero]
  intro i hi
  have := h (m + i) (by omega) (by have := List.mem_range.mp hi; omega)
  simp [this]

theorem countP_range_shift (p : Nat → Bool) (r n : Nat) (h : ∀ j, j < r → p j = false) :
    (List.range n).countP p = (List.range (n - r)).countP fun i => p (r + i) := by
  by_cases hn : n ≤ r
  · rw [countP_range_of_le p (Nat.zero_le n) fun j _ hj => h j (by omega), show n - r = 0 from by omega]
    rfl
  · obtain ⟨k, rfl⟩ := Nat.exists_eq_add_of_le (Nat.le_of_not_le hn)
    rw [List.range_add, List.countP_append, List.countP_map, Nat.add_sub_cancel_left,
      (countP_range_of_le p (Nat.zero_le r) fun j _ hj => h j hj : (List.range r).countP p = _)]
    exact Nat.zero_add _

theorem countP_range_reflect (p : Nat → Bool) (n : Nat) :
    (List.range n).countP p = (List.range n).countP fun i => p (n - 1 - i) := by
  induction n generalizing p with
  | zero => rfl
  | succ n ih =>
    conv => lhs; rw [List.range_succ, List.countP_append, ih]
    conv => rhs; rw [List.range_succ_eq_map, List.countP_cons, List.countP_map]
    simp only [List.countP_cons, List.countP_nil, Nat.add_sub_cancel, Nat.sub_zero, Nat.zero_add]
    congr 1
    apply List.countP_congr
    intro i _
    show p (n - 1 - i) = true ↔ p (n - (i + 1)) = true
    rw [show n - (i + 1) = n - 1 - i from by omega]

theorem one_le_filter_range (p : Nat → Bool) (n : Nat) :
    1 ≤ ((List.range n).filter p).length ↔ ∃ j, j < n ∧ p j = true := by
  rw [← List.countP_eq_length_filter, Nat.succ_le_iff, List.countP_pos_iff]
  simp [List.mem_range]

theorem two_le_filter_range (p : Nat → Bool) (n : Nat) :
    2 ≤ ((List.range n).filter p).length ↔ ∃ j1 j2, j1 < j2 ∧ j2 < n ∧ p j1 = true ∧ p j2 = true := by
  induction n with
  | zero => simp
  | succ n ih =>
    rw [List.range_succ, List.filter_append, List.length_append]
    by_cases hp : p n = true
    · have e : (List.filter p [n]).length = 1 := by simp [hp]
      rw [e]
      constructor
      · intro hl
        have : 1 ≤ ((List.range n).filter p).length := by omega
        obtain ⟨j, hj, hpj⟩ := (one_le_filter_range p n).mp this
        exact ⟨j, n, hj, Nat.lt_succ_self n, hpj, hp⟩
      · rintro ⟨j1, j2, h12, h2, hp1, _⟩
        have : 1 ≤ ((List.range n).filter p).length :=
          (one_le_filter_range p n).mpr ⟨j1, by omega, hp1⟩
        omega
    · have e : (List.filter p [n]).length = 0 := by simp [hp]
      rw [e, Nat.add_zero, ih]
      constructor
      · rintro ⟨j1, j2, h12, h2, hp1, hp2⟩
        exact ⟨j1, j2, h12, by omega, hp1, hp2⟩
      · rintro ⟨j1, j2, h12, h2, hp1, hp2⟩
        have : j2 ≠ n := fun e => hp (e ▸ hp2)
        exact ⟨j1, j2, h12, by omega, hp1, hp2⟩

theorem countRepetitions_spec_exists (h : Nat → Nat) (start hm : Nat) :
    countRepetitions h start hm ≥ 3 ↔
      ∃ j1 j2, j1 < j2 ∧ j2 + 4 ≤ start ∧ start - hm ≤ j1 ∧
        (start - j1) % 2 = 0 ∧ (start - j2) % 2 = 0 ∧ h j1 = h start ∧ h j2 = h start := by
  rw [countRepetitions_spec, two_le_filter_range]
  simp only [Bool.and_eq_true, decide_eq_true_eq]
  constructor
  · rintro ⟨j1, j2, h12, h2, ⟨⟨w1, p1⟩, e1⟩, ⟨⟨_, p2⟩, e2⟩⟩
    exact ⟨j1, j2, h12, by omega, w1, p1, p2, e1, e2⟩
  · rintro ⟨j1, j2, h12, h2, w1, p1, p2, e1, e2⟩
    exact ⟨j1, j2, h12, by omega, ⟨⟨w1, p1⟩, e1⟩, ⟨⟨by omega, p2⟩, e2⟩⟩
#print axioms countRepetitions_spec_exists

theorem repCount_congr {h h' : Nat → Nat} {start : Nat} (hm : Nat) (hagree : ∀ i, i ≤ start → h i = h' i) :
    repCount h start hm = repCount h' start hm := by
  unfold repCount repIndices
  rw [← List.countP_eq_length_filter, ← List.countP_eq_length_filter]
  apply List.countP_congr
  intro j hj
  have hj' : j < start - 3 := List.mem_range.mp hj
  rw [hagree j (by omega), hagree start (Nat.le_refl _)]

/-- Stale entries above the current ply (left over from deeper, already abandoned search lines) are harmless. -/
theorem never_reads_above_start (h h' : Nat → Nat) (start hm : Nat)
    (hagree : ∀ i, i ≤ start → h i = h' i) :
    countRepetitions h start hm = countRepetitions h' start hm := by
  rw [countRepetitions_eq, countRepetitions_eq, repCount_congr hm hagree]
#print axioms never_reads_above_start

/-- hypothesis satisfiable with histories that really differ above `start` -/
example : (∀ i, i ≤ 4 → (fun i => [5, 0, 5, 0, 5, 9].getD i 0) i = (fun i => [5, 0, 5, 0, 5, 5].getD i 0) i) ∧
    (fun i => [5, 0, 5, 0, 5, 9].getD i 0) 5 ≠ (fun i => [5, 0, 5, 0, 5, 5].getD i 0) 5 := by decide

/-- On the real vector: with `start < len` the Rust code reads only in-range cells (never panics) and computes the
model value. -/
theorem reads_in_range (a : Array Nat) (start hm : Nat) (hs : start < a.size) :
    countRepetitionsChecked a start hm = some (countRepetitions (fun i => a.getD i 0) start hm) :=
  countRepetitionsChecked_eq a start hm hs
#print axioms reads_in_range

example : countRepetitionsChecked #[1, 0, 1, 0, 1] 4 4 = some 2 ∧ countRepetitionsChecked #[1, 0, 1, 0] 4 4 = none := by
  decide

theorem repCount_mono (h : Nat → Nat) (start : Nat) {hm hm' : Nat} (hle : hm ≤ hm') :
    repCount h start hm ≤ repCount h start hm' := by
  unfold repCount repIndices
  rw [← List.countP_eq_length_filter, ← List.countP_eq_length_filter]
  apply List.countP_mono_left
  intro j _
  simp only [Bool.and_eq_true, decide_eq_true_eq]
  rintro ⟨⟨w, p⟩, e⟩
  exact ⟨⟨by omega, p⟩, e⟩

theorem window_monotone (h : Nat → Nat) (start hm hm' : Nat) (hle : hm ≤ hm') :
    countRepetitions h start hm ≤ countRepetitions h start hm' := by
  have := repCount_mono h start hle
  rw [countRepetitions_eq, countRepetitions_eq]
  split <;> omega
#print axioms window_monotone

example : countRepetitions (fun i => [7, 0, 7, 0, 7, 0, 7, 0, 7].getD i 0) 8 5 <
    countRepetitions (fun i => [7, 0, 7, 0, 7, 0, 7, 0, 7].getD i 0) 8 8 := by decide

theorem countRepetitions_le_one_of_empty (h : Nat → Nat) (start hm : Nat) (hw : ∀ j, j + 4 ≤ start → ¬ start - hm ≤ j) :
    countRepetitions h start hm ≤ 1 := by
  have : repCount h start hm = 0 :=
    List.length_eq_zero_iff.mpr (List.eq_nil_iff_forall_not_mem.mpr fun j hj =>
      have hj' := (mem_repIndices h start hm j).mp hj
      hw j hj'.1 hj'.2.1)
  rw [countRepetitions_eq]
  split <;> omega

theorem window_lt_four (h : Nat → Nat) (start hm : Nat) (hhm : hm < 4) : countRepetitions h start hm ≤ 1 :=
  countRepetitions_le_one_of_empty h start hm fun j hj => by omega
#print axioms window_lt_four

/-- Right after a capture or pawn move (`hm = 0`) only the position itself is counted. -/
theorem window_zero (h : Nat → Nat) (start : Nat) : countRepetitions h start 0 ≤ 1 :=
  window_lt_four h start 0 (by decide)
#print axioms window_zero

/-! ### Connection to positions: threefold repetition

`same j` says that ply `j` holds the position of ply `start`.  What the counter needs of it, inside the window only: an earlier
ply with the position is at even distance at least four (`hfar`: the side to move alternates, no position recurs after two plies),
and at such a distance equal hashes mean the position (`hhash`: the history holds the hashes, no collision).  Then the plies the
loop counts are the earlier plies of the window with the position. -/

def sameCount (same : Nat → Bool) (start hm : Nat) : Nat :=
  ((List.range start).filter fun j => decide (start - hm ≤ j) && same j).length

theorem repCount_eq_sameCount (h : Nat → Nat) (start hm : Nat) (same : Nat → Bool)
    (hfar : ∀ j, start - hm ≤ j → j < start → same j = true → (start - j) % 2 = 0 ∧ j + 4 ≤ start)
    (hhash : ∀ j, start - hm ≤ j → j + 4 ≤ start → (start - j) % 2 = 0 → (h j = h start ↔ same j = true)) :
    repCount h start hm = sameCount same start hm := by
  unfold repCount repIndices sameCount
  -- the three plies next to `start` are never counted on the right
  rw [← List.countP_eq_length_filter, ← List.countP_eq_length_filter,
    countP_range_of_le (fun j => decide (start - hm ≤ j) && same j) (Nat.sub_le start 3) fun j hj hlt =>
      Bool.eq_false_iff.mpr fun hc => by
        simp only [Bool.and_eq_true, decide_eq_true_eq] at hc
        have := hfar j hc.1 hlt hc.2
        omega]
  apply List.countP_congr
  intro j hj
  have hj' : j < start - 3 := List.mem_range.mp hj
  simp only [Bool.and_eq_true, decide_eq_true_eq]
  constructor
  · rintro ⟨⟨w, p⟩, eh⟩
    exact ⟨w, (hhash j w (by omega) p).mp eh⟩
  · rintro ⟨w, s⟩
    have hp := (hfar j w (by omega) s).1
    exact ⟨⟨w, hp⟩, (hhash j w (by omega) hp).mpr s⟩

/-- The counter does not see where a line starts: if no cell below `r` inside the window holds the hash stored at `r + n` (zeros
below the root index, a non-zero hash), it counts as on the history read from `r` on. -/
theorem repCount_shift (h : Nat → Nat) (r n hm : Nat) (hlow : ∀ j, j < r → r + n - hm ≤ j → h j ≠ h (r + n)) :
    repCount h (r + n) hm = repCount (fun i => h (r + i)) n hm := by
  unfold repCount repIndices
  rw [← List.countP_eq_length_filter, ← List.countP_eq_length_filter,
    countP_range_shift _ r _ fun j hj => Bool.eq_false_iff.mpr fun hc => by
      simp only [Bool.and_eq_true, decide_eq_true_eq] at hc
      exact hlow j hj hc.1.1 hc.2,
    show r + n - 3 - r = n - 3 from by omega]
  apply List.countP_congr
  intro i _
  simp only [Bool.and_eq_true, decide_eq_true_eq]
  omega

section Threefold
variable {P : Type} [DecidableEq P]

theorem occCount_eq_sameCount (pos : Nat → P) (start hm : Nat) :
    occCount pos start hm = sameCount (fun j => decide (pos j = pos start)) start hm + 1 := by
  unfold occCount occIndices sameCount
  rw [List.range_succ, List.filter_append, List.length_append]
  congr 1
  simp

theorem occCount_eq (pos : Nat → P) (hash : P → Nat) (h : Nat → Nat) (start hm : Nat)
    (hh : ∀ i, i ≤ start → h i = hash (pos i))
    (HashInj : ∀ i, i ≤ start → start - hm ≤ i → hash (pos i) = hash (pos start) → pos i = pos start)
    (NoTwoPlyRepeat : ∀ i, start - hm ≤ i → i + 2 ≤ start → pos (i + 2) ≠ pos i)
    (Alternates : ∀ i j, i ≤ start → j ≤ start → (i + j) % 2 = 1 → pos i ≠ pos j) :
    occCount pos start hm = repCount h start hm + 1 := by
  rw [occCount_eq_sameCount, repCount_eq_sameCount h start hm (fun j => decide (pos j = pos start))]
  · intro j w hj s
    have s' : pos j = pos start := by simpa using s
    have hp : (start - j) % 2 = 0 := by
      false_or_by_contra
      exact Alternates j start (by omega) (Nat.le_refl _) (by omega) s'
    refine ⟨hp, ?_⟩
    false_or_by_contra
    have ej : j + 2 = start := by omega
    have := NoTwoPlyRepeat j w (by omega)
    rw [ej] at this
    exact this s'.symm
  · intro j w hj _
    rw [hh j (by omega), hh start (Nat.le_refl _), decide_eq_true_eq]
    exact ⟨HashInj j (by omega) w, fun e => by rw [e]⟩

/-- **Threefold repetition.**  `pos i` is the position after ply `i`, the stored hash is `hash (pos i)`.
Hypotheses (all restricted to what is used, none is an axiom):
* `HashInj` : inside the window no other position has the hash of `pos start` (no Zobrist collision);
* `NoTwoPlyRepeat` : inside the window a position never recurs after exactly two plies;
* `Alternates` : positions at plies of different parity differ (side to move is part of the position).
Then `count_repetitions(start, hm) >= 3` holds exactly when `pos start` occurs at least three times among the plies
`max(0, start − hm), …, start` (`start − hm` is truncated subtraction, so `hm > start` means "from ply 0"). -/
theorem threefold_iff (pos : Nat → P) (hash : P → Nat) (h : Nat → Nat) (start hm : Nat)
    (hh : ∀ i, i ≤ start → h i = hash (pos i))
    (HashInj : ∀ i, i ≤ start → start - hm ≤ i → hash (pos i) = hash (pos start) → pos i = pos start)
    (NoTwoPlyRepeat : ∀ i, start - hm ≤ i → i + 2 ≤ start → pos (i + 2) ≠ pos i)
    (Alternates : ∀ i j, i ≤ start → j ≤ start → (i + j) % 2 = 1 → pos i ≠ pos j) :
    countRepetitions h start hm ≥ 3 ↔
      3 ≤ ((List.range (start + 1)).filter
        (fun j => decide (start - hm ≤ j) && decide (pos j = pos start))).length := by
  have hocc := occCount_eq pos hash h start hm hh HashInj NoTwoPlyRepeat Alternates
  rw [countRepetitions_spec]
  show 2 ≤ repCount h start hm ↔ 3 ≤ occCount pos start hm
  omega
#print axioms threefold_iff

theorem countRepetitions_eq_min_occ (pos : Nat → P) (hash : P → Nat) (h : Nat → Nat) (start hm : Nat)
    (h4 : 4 ≤ start)
    (hh : ∀ i, i ≤ start → h i = hash (pos i))
    (HashInj : ∀ i, i ≤ start → start - hm ≤ i → hash (pos i) = hash (pos start) → pos i = pos start)
    (NoTwoPlyRepeat : ∀ i, start - hm ≤ i → i + 2 ≤ start → pos (i + 2) ≠ pos i)
    (Alternates : ∀ i j, i ≤ start → j ≤ start → (i + j) % 2 = 1 → pos i ≠ pos j) :
    countRepetitions h start hm = min 3 (occCount pos start hm) := by
  rw [occCount_eq pos hash h start hm hh HashInj NoTwoPlyRepeat Alternates, countRepetitions_eq]
  have : ¬ start < 4 := by omega
  simp only [this, if_false]; omega
#print axioms countRepetitions_eq_min_occ

end Threefold

/-- the positions of the Rust unit test (hash = identity) -/
def testPos (i : Nat) : Nat := [123, 4312, 1, 2, 3, 4, 1, 2, 3, 4, 1].getD i 0

/-- The hypotheses of `threefold_iff` are satisfiable by a non-trivial sequence (three occurrences at plies 2, 6, 10),
and both sides are then true. -/
example : countRepetitions testPos 10 8 ≥ 3 ∧
    3 ≤ ((List.range (10 + 1)).filter (fun j => decide (10 - 8 ≤ j) && decide (testPos j = testPos 10))).length := by
  have hAlt : ∀ i, i ≤ 10 → ∀ j, j ≤ 10 → (i + j) % 2 = 1 → testPos i ≠ testPos j := by decide
  have hNo : ∀ i, i ≤ 10 → 10 - 8 ≤ i → i + 2 ≤ 10 → testPos (i + 2) ≠ testPos i := by decide
  have key := threefold_iff (P := Nat) testPos id testPos 10 8
    (fun _ _ => rfl) (fun _ _ _ e => e)
    (fun i w b => hNo i (by omega) w b)
    (fun i j hi hj => hAlt i hi j hj)
  exact ⟨by decide, key.mp (by decide)⟩

/-- the Rust unit test `zobrist_history::test::test` -/
def testHist (i : Nat) : Nat := [123, 4312, 1, 2, 3, 4, 1, 2, 3, 4, 1].getD i 0

example : countRepetitions testHist 10 8 = 3 := by decide
example : countRepetitions testHist 10 7 ≠ 3 := by decide
example : countRepetitions testHist 10 6 ≠ 3 := by decide
example : countRepetitions testHist 10 7 = 2 ∧ countRepetitions testHist 10 6 = 2 := by decide

/-- same through the `Vec` model built with `set` on the 5000-zero default -/
example :
    let z := [123, 4312, 1, 2, 3, 4, 1, 2, 3, 4, 1].zipIdx.foldl (fun z (x, i) => z.set i x) ZobristHistory.default
    countRepetitions z.get 10 8 = 3 ∧ countRepetitions z.get 10 7 = 2 := by decide +kernel

/-- `start − 2` is skipped: a hash equal at `start − 2` (and only there) is not counted ... -/
example : countRepetitions (fun i => [0, 0, 0, 0, 9, 0, 9].getD i 0) 6 6 = 1 := by decide
/-- ... so `9 _ 9 _ 9` with the first at `start − 4` gives 2, -/
example : countRepetitions (fun i => [0, 0, 9, 0, 9, 0, 9].getD i 0) 6 6 = 2 := by decide
/-- ... and three stored equal hashes at `start − 2, start − 4`, `start` do not reach 3 while `start−4, start−8` do. -/
example : countRepetitions (fun i => [0, 0, 0, 0, 9, 0, 9, 0, 9].getD i 0) 8 8 = 2 := by decide
example : countRepetitions (fun i => [9, 0, 0, 0, 9, 0, 0, 0, 9].getD i 0) 8 8 = 3 := by decide
/-- below ply 4 the answer is 0 whatever the history -/
example : countRepetitions (fun _ => 9) 3 3 = 0 := by decide
/-- the same through `handleReps`, the model driver's handler -/
example : handleReps ["10", "8", "123", "4312", "1", "2", "3", "4", "1", "2", "3", "4", "1"] = "3" := by decide +kernel
example : handleReps ["10", "7", "123", "4312", "1", "2", "3", "4", "1", "2", "3", "4", "1"] = "2" := by decide +kernel
example : handleReps ["10", "8", "1", "2"] = "bad-request" := by decide +kernel
example : handleReps ["10", "x", "1", "2"] = "bad-request" := by decide +kernel

end Inkayaku.C10
