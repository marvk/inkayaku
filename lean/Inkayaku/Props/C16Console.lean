import Inkayaku.Model.Console
import Inkayaku.Spec.UciOut
import Inkayaku.Proofs.TextLemmas
/-!
# C16 (output syntax) — every line the engine writes in response to a command is a valid UCI engine-to-GUI message

"Every line the engine process writes in response to a command is a syntactically valid UCI engine-to-GUI message
(only the start-up banner is free text)."

Model of the printer: `Inkayaku.Console` (`ConsoleUciTx`, all `UciTx` methods that write to stdout), grammar:
`Inkayaku.UciOut.accepts` (hand written from the protocol text, independent of the printer).

* `render_accepts : WFMsg m → accepts (render m).toList = true` for **every** message value: all 2^17 subsets of the
  optional `info` fields, all integers, all move lists, all free texts — under the side conditions `WFMsg`:
  squares are squares (`< 64`, guaranteed by the Rust type `Square`), free text has no line break, the texts of `id`
  are not empty (the Rust `assert!`s that), **the move lists of `pv`, `refutation`, `currline` are not empty**, and for
  `option` lines the name does not start with a space and a string/combo default is non-empty and does not end in a
  character that `trim` removes.
* `render_single_line`: no U+000A in the output when the free-text fields contain none (no other side condition but
  valid squares) — one `tx` call is one line of stdout.
* `empty_pv_rejected`: the side condition about the empty `pv` is necessary — the printer turns
  `principal_variation: Some(vec![])` into `… pv  …` / a trailing space, which is not a UCI line, whatever the other
  fields are.  For `refutation` and `currline` the same is only evaluated on one value each (`#guard`s at the end).

For `info` the proof has two halves that meet at the list of fields: what the fields of the printed line are is known for every
`Info` value (`split_infoText`); the side conditions say what the value fields look like and that the item recogniser of
the grammar reads past them (`Eaten`).

FINDING.  `ConsoleUciTx::info` can print an ill-formed line: `append_maybe(.., "pv", Some(""))` for an empty move list
(same for `refutation`, `currline`).  The engine never passes such a value: in `Search::best_move`
(`engine_core/src/engine/search.rs`) `uci_pv` is `None` until an iteration completes with `!aborted`, where
`aborted = stop || current_best_move.mv.is_none()`, so `calculate_principal_variation()` starts with that `mv` and the
list is non-empty; `refutation` and `current_line` are never set (`generate_info` uses `..Info::EMPTY`), and no
`option_*` method is ever called by the engine.  On the model of the search this is `C16Wf.engine_out_wf`
(`Props/C16Wf.lean`): every message of every `go` satisfies `WFMsg`.
-/
namespace Inkayaku.C16Console
open Inkayaku.Console Inkayaku.UciOut
open Inkayaku.Uci (UciMove Piece squareFen)
open Inkayaku.FenSyntax (splitOnChar)
open Inkayaku.C15 (tailText)
open Inkayaku.Text (Hi)

theorem isText_split {s : List Char} (h : s ≠ []) : isText (splitOnChar ' ' s) = true := by
  cases s with
  | nil => exact absurd rfl h
  | cons c cs =>
    by_cases hc : c = ' '
    · subst hc
      cases hs : splitOnChar ' ' cs with
      | nil => exact absurd hs (Text.split_ne_nil ' ' cs)
      | cons p ps => simp [splitOnChar, hs, isText]
    · rw [Text.split_cons_ne hc]; simp [isText]

theorem hi_of_digits {t : List Char} (h : t.all isDigit = true) : Hi t := by
  intro c hc
  have := List.all_eq_true.mp h c hc
  simp only [isDigit, Bool.and_eq_true, decide_eq_true_eq] at this
  omega

theorem hi_of_isNat {t : Tok} (h : isNat t = true) : Hi t := by
  simp only [isNat, Bool.and_eq_true] at h
  exact hi_of_digits h.2

theorem hi_of_isInt {t : Tok} (h : isInt t = true) : Hi t := by
  cases t with
  | nil => intro c hc; simp at hc
  | cons c cs =>
    by_cases hc : c = '-'
    · subst hc
      simp only [isInt] at h
      intro x hx
      rcases List.mem_cons.mp hx with rfl | hx
      · decide
      · exact hi_of_isNat h x hx
    · have : isInt (c :: cs) = isNat (c :: cs) := by simp [isInt, hc]
      rw [this] at h
      exact hi_of_isNat h

theorem isInt_of_isNat {t : Tok} (h : isNat t = true) : isInt t = true := by
  cases t with
  | nil => simp [isNat] at h
  | cons c cs =>
    by_cases hc : c = '-'
    · subst hc; simp [isNat, isDigit] at h
    · simp [isInt, hc, h]

theorem natText_digits (n : Nat) : natText n ≠ [] ∧ (natText n).all isDigit = true := by
  rw [Text.natText_eq_decimal, Text.decimal_eq]
  refine ⟨(CharRange.toDigits_props n).1, List.all_eq_true.mpr fun c hc => ?_⟩
  simpa only [isDigit, Bool.and_eq_true, decide_eq_true_eq] using (CharRange.toDigits_props n).2.1 c hc

theorem isNat_natText (n : Nat) : isNat (natText n) = true := by
  have := natText_digits n
  cases h : natText n with
  | nil => exact absurd h this.1
  | cons c cs => rw [h] at this; simpa [isNat] using this.2

theorem isInt_intText (v : Int) : isInt (intText v) = true := by
  unfold intText
  split
  · simpa [isInt] using isNat_natText _
  · exact isInt_of_isNat (isNat_natText _)

def MoveOk (m : UciMove) : Prop := m.source < 64 ∧ m.target < 64

instance (m : UciMove) : Decidable (MoveOk m) := by unfold MoveOk; infer_instance

theorem sq_ok {i : Nat} (h : i < 64) :
    isFile (Char.ofNat (97 + i % 8)) = true ∧ isRank (Char.ofNat (56 - i / 8)) = true := by
  simpa only [isFile, isRank, Bool.and_eq_true, decide_eq_true_eq] using Text.squareFen_range h

theorem promo_ok (p : Piece) : isPromo p.fen = true := by cases p <;> decide

theorem isMove_render {m : UciMove} (h : MoveOk m) : isMove m.render = true := by
  obtain ⟨s, t, p⟩ := m
  obtain ⟨hs, ht⟩ := h
  simp only at hs ht
  have h1 := sq_ok hs
  have h2 := sq_ok ht
  cases p with
  | none => simp [UciMove.render, squareFen, isMove, h1, h2]
  | some pc => simp [UciMove.render, squareFen, isMove, h1, h2, promo_ok pc]

/-! ## the fields of a printed `info` line, for every `Info` value

`ConsoleUciTx::info` is 17 calls `append_maybe(key, value)`; cut at the spaces, its line is `info` followed, for each value
that is present, by the key and the fields of the value text.  No side condition is needed for that. -/

/-- key and value text of the 17 `append_maybe` calls of `ConsoleUciTx::info` -/
def infoSegs (i : Info) : List (Tok × Option (List Char)) :=
  [ ("depth".toList, i.depth.map natText), ("seldepth".toList, i.seldepth.map natText),
    ("time".toList, i.time.map natText), ("nodes".toList, i.nodes.map natText),
    ("pv".toList, i.pv.map movesText), ("multipv".toList, i.multipv.map natText),
    ("score".toList, i.score.map scoreText), ("currmove".toList, i.currmove.map UciMove.render),
    ("currmovenumber".toList, i.currmovenumber.map natText), ("hashfull".toList, i.hashfull.map natText),
    ("nps".toList, i.nps.map natText), ("tbhits".toList, i.tbhits.map natText),
    ("sbhits".toList, i.sbhits.map natText), ("cpuload".toList, i.cpuload.map natText),
    ("refutation".toList, i.refutation.map movesText), ("currline".toList, i.currline.map currentLineText),
    ("string".toList, i.string) ]

/-- the fields one `append_maybe` call contributes: nothing, or the key and the fields of the value text -/
def segFields : Tok × Option (List Char) → List Tok
  | (_, none) => []
  | (k, some v) => k :: splitOnChar ' ' v

/-- text followed by `append_maybe` segments: cutting at the spaces distributes (`Text.split_append`), and a key is one field -/
theorem split_segs (t : List Char) : ∀ (segs : List (Tok × Option (List Char))), (∀ k ∈ segs.map Prod.fst, ' ' ∉ k) →
    splitOnChar ' ' (t ++ (segs.map fun p => appendMaybe p.1 p.2).flatten) = splitOnChar ' ' t ++ segs.flatMap segFields
  | [], _ => by simp
  | (k, none) :: segs, hk => by
    simpa [appendMaybe, segFields] using split_segs t segs fun k' h => hk k' (List.mem_cons_of_mem _ h)
  | (k, some v) :: segs, hk => by
    show splitOnChar ' ' (t ++ ((' ' :: (k ++ ' ' :: v)) ++ (segs.map fun p => appendMaybe p.1 p.2).flatten)) =
      splitOnChar ' ' t ++ (k :: splitOnChar ' ' v ++ segs.flatMap segFields)
    rw [List.cons_append, List.append_assoc, List.cons_append, Text.split_append, Text.split_append,
      Text.split_nosep (hk k (by simp)), split_segs v segs fun k' h => hk k' (List.mem_cons_of_mem _ h)]
    rfl

theorem split_infoText (i : Info) :
    splitOnChar ' ' (infoText i) = "info".toList :: (infoSegs i).flatMap segFields :=
  (split_segs _ (infoSegs i) (by
    show ∀ k ∈ ["depth", "seldepth", "time", "nodes", "pv", "multipv", "score", "currmove", "currmovenumber", "hashfull",
      "nps", "tbhits", "sbhits", "cpuload", "refutation", "currline", "string"].map String.toList, ' ' ∉ k
    decide)).trans (by rw [Text.split_nosep (by decide)]; rfl)

def scoreToks : Score → List Tok
  | .cp v => ["cp".toList, intText v]
  | .cpBounded v b => ["cp".toList, intText v, b.text]
  | .mate v => ["mate".toList, intText v]

theorem scoreToks_hi (s : Score) : ∀ t ∈ scoreToks s, Hi t := by
  intro t ht
  cases s with
  | cp v =>
    simp only [scoreToks, List.mem_cons, List.not_mem_nil, or_false] at ht
    rcases ht with rfl | rfl
    · decide
    · exact hi_of_isInt (isInt_intText v)
  | cpBounded v b =>
    simp only [scoreToks, List.mem_cons, List.not_mem_nil, or_false] at ht
    rcases ht with rfl | rfl | rfl
    · decide
    · exact hi_of_isInt (isInt_intText v)
    · cases b <;> decide
  | mate v =>
    simp only [scoreToks, List.mem_cons, List.not_mem_nil, or_false] at ht
    rcases ht with rfl | rfl
    · decide
    · exact hi_of_isInt (isInt_intText v)

theorem scoreText_eq (s : Score) : scoreText s = joinSp (scoreToks s) := by
  -- by unfolding, not `simp [scoreText]`/`rw [scoreText]`: Lean evaluates the string literals in the result of a printer
  -- function to state its equation lemmas, which takes seconds (`scoreText`, `varsText`) or runs out of heartbeats (`renderChars`)
  cases s <;> rfl

theorem split_joinSp {ts : List Tok} (hne : ts ≠ []) (h : ∀ t ∈ ts, ' ' ∉ t) :
    splitOnChar ' ' (Console.joinSp ts) = ts := by
  rw [Text.console_joinSp, Text.joinSp_eq]; exact Text.splitOnChar_joinWith hne h

theorem split_natText (n : Nat) : splitOnChar ' ' (natText n) = [natText n] :=
  Text.split_nosep (hi_of_isNat (isNat_natText n)).nosp

theorem split_render {m : UciMove} (h : MoveOk m) : splitOnChar ' ' m.render = [m.render] :=
  Text.split_nosep (Text.hi_render h).nosp

theorem split_movesText {ms : List UciMove} (hne : ms ≠ []) (h : ∀ m ∈ ms, MoveOk m) :
    splitOnChar ' ' (movesText ms) = ms.map UciMove.render :=
  split_joinSp (by simpa using hne) (by
    intro t ht
    obtain ⟨m, hm, rfl⟩ := List.mem_map.mp ht
    exact (Text.hi_render (h m hm)).nosp)

theorem split_scoreText (s : Score) : splitOnChar ' ' (scoreText s) = scoreToks s := by
  rw [scoreText_eq]
  exact split_joinSp (by cases s <;> simp [scoreToks]) (fun t ht => (scoreToks_hi s t ht).nosp)

theorem split_currentLineText (c : CurrentLine) :
    splitOnChar ' ' (currentLineText c) = natText c.cpu :: splitOnChar ' ' (movesText c.line) := by
  rw [currentLineText, Text.split_append, split_natText]; rfl

/-! ## the item recogniser reads past the fields of a well-formed segment

`items_value` says it once, for a keyword followed by value fields of its kind (`valueOk`) and for either verdict of the
recogniser on what follows: `acceptsFields_info` below uses it with `true`, `empty_pv_rejected` with `false`.  What is left
per kind of segment (`eaten_*`) is that the printed value, cut at its spaces, is such a list of fields. -/

theorem natKeys_kind : ∀ k ∈ natKeys, itemOf k = some .nat ∧ isMove k = false := by decide

/-- `items` answers `v` on the remaining fields whether or not a move list may continue, and they do not start with a
bound keyword (which a preceding `score cp` would take for its own) -/
def Val (v : Bool) (rest : List Tok) : Prop :=
  (∀ more, items more rest = v) ∧ ∀ b r, rest = b :: r → isBound b = false

theorem val_nil : Val true [] := ⟨fun more => by rw [items.eq_def], fun _ _ h => nomatch h⟩

theorem noBound_of_item {t : Tok} {k : Item} (h : itemOf t = some k) : isBound t = false := by
  cases hb : isBound t with
  | false => rfl
  | true =>
    simp only [isBound, Bool.or_eq_true, decide_eq_true_eq] at hb
    have : itemOf t = none := by rcases hb with rfl | rfl <;> decide
    rw [this] at h; cases h

theorem Val.cons {v : Bool} {t : Tok} {k : Item} (hk : itemOf t = some k) {rest : List Tok}
    (h : ∀ more, items more (t :: rest) = v) : Val v (t :: rest) :=
  ⟨h, fun b r e => by injection e with e1 _; subst e1; exact noBound_of_item hk⟩

theorem val_string (rest : List Tok) : Val true ("string".toList :: rest) :=
  have hk : itemOf "string".toList = some .string := by decide
  have hm : isMove "string".toList = false := by decide
  Val.cons hk fun more => by rw [items.eq_def]; simp only [hk, hm, Bool.and_false, Bool.false_eq_true, if_false]

/-- the item recogniser reads past these fields: its verdict on `F ++ rest` is its verdict on `rest` -/
def Eaten (F : List Tok) : Prop := ∀ {v rest}, Val v rest → Val v (F ++ rest)

def MovesOk : Option (List UciMove) → Prop
  | none => True
  | some ms => ms ≠ [] ∧ ∀ m ∈ ms, MoveOk m

instance (o : Option (List UciMove)) : Decidable (MovesOk o) := by
  cases o <;> unfold MovesOk <;> infer_instance

def MoveOptOk : Option UciMove → Prop
  | none => True
  | some m => MoveOk m

instance (o : Option UciMove) : Decidable (MoveOptOk o) := by
  cases o <;> unfold MoveOptOk <;> infer_instance

def CurrlineOk : Option CurrentLine → Prop
  | none => True
  | some c => c.line ≠ [] ∧ ∀ m ∈ c.line, MoveOk m

instance (o : Option CurrentLine) : Decidable (CurrlineOk o) := by
  cases o <;> unfold CurrlineOk <;> infer_instance

/-- the value fields of an item, by kind: the `item` production of the grammar in `Spec/UciOut.lean` (a bound keyword
counts as part of a `score cp` value; `string` takes the rest of the line and is not a case of this) -/
def valueOk : Item → List Tok → Bool
  | .nat, [v] => isNat v
  | .moves, m :: ms => isMove m && ms.all isMove
  | .score, [k, v] => (k = "cp".toList || k = "mate".toList) && isInt v
  | .score, [k, v, b] => k = "cp".toList && isInt v && isBound b
  | .currmove, [m] => isMove m
  | .currline, n :: m :: ms => isNat n && isMove m && ms.all isMove
  | _, _ => false

theorem items_moves_all {ms : List Tok} (h : ms.all isMove = true) (rest : List Tok) :
    items true (ms ++ rest) = items true rest := by
  induction ms with
  | nil => rfl
  | cons m ms ih =>
    simp only [List.all_cons, Bool.and_eq_true] at h
    rw [List.cons_append, items.eq_def]; simp [h.1, ih h.2]

theorem items_value {t : Tok} {k : Item} (hk : itemOf t = some k) (hm : isMove t = false) {F : List Tok}
    (hF : valueOk k F = true) {v : Bool} {rest : List Tok} (h : Val v rest) : Val v (t :: (F ++ rest)) := by
  refine Val.cons hk fun more => ?_
  rw [items.eq_def]
  simp only [hk, hm, Bool.and_false, Bool.false_eq_true, if_false]
  cases k with
  | nat =>
    match F, hF with
    | [x], hF => simp [show isNat x = true from hF, h.1]
  | moves =>
    match F, hF with
    | m :: ms, hF =>
      simp only [valueOk, Bool.and_eq_true] at hF
      simp [hF.1, items_moves_all hF.2, h.1]
  | score =>
    match F, hF with
    | [c, x], hF =>
      simp only [valueOk, Bool.and_eq_true, Bool.or_eq_true, decide_eq_true_eq] at hF
      rcases hF.1 with rfl | rfl
      · cases rest with
        | nil => simp [hF.2, ← h.1 false, items]
        | cons b r => simp [hF.2, h.2 b r rfl, h.1]
      · simp [hF.2, h.1]
    | [c, x, b], hF =>
      simp only [valueOk, Bool.and_eq_true, decide_eq_true_eq] at hF
      simp [hF.1.1, hF.1.2, hF.2, h.1]
  | currmove =>
    match F, hF with
    | [m], hF => simp [show isMove m = true from hF, h.1]
  | currline =>
    match F, hF with
    | n :: m :: ms, hF =>
      simp only [valueOk, Bool.and_eq_true] at hF
      simp [hF.1.1, hF.1.2, items_moves_all hF.2, h.1]
  | string => cases F <;> cases hF

theorem all_isMove_render {ms : List UciMove} (h : ∀ m ∈ ms, MoveOk m) : (ms.map UciMove.render).all isMove = true := by
  rw [List.all_map]; exact List.all_eq_true.mpr fun m hm => isMove_render (h m hm)

theorem eaten_seg {key : Tok} {k : Item} (hk : itemOf key = some k ∧ isMove key = false) {α : Type} (f : α → List Char)
    (o : Option α) (h : ∀ x, o = some x → valueOk k (splitOnChar ' ' (f x)) = true) :
    Eaten (segFields (key, o.map f)) := by
  cases o with
  | none => exact fun hv => hv
  | some x => exact fun hv => items_value hk.1 hk.2 (h x rfl) hv

theorem eaten_nat {key : Tok} (hk : key ∈ natKeys) (o : Option Nat) : Eaten (segFields (key, o.map natText)) :=
  eaten_seg (natKeys_kind key hk) natText o fun n _ => by rw [split_natText]; exact isNat_natText n

theorem eaten_moves {key : Tok} (hk : key = "pv".toList ∨ key = "refutation".toList) (o : Option (List UciMove))
    (ho : MovesOk o) : Eaten (segFields (key, o.map movesText)) :=
  eaten_seg (k := .moves) (by rcases hk with rfl | rfl <;> decide) movesText o fun ms e => by
    subst e
    rw [split_movesText ho.1 ho.2]
    cases ms with
    | nil => exact absurd rfl ho.1
    | cons m ms => exact all_isMove_render ho.2

theorem eaten_score (o : Option Score) : Eaten (segFields ("score".toList, o.map scoreText)) :=
  eaten_seg (k := .score) (by decide) scoreText o fun s _ => by
    rw [split_scoreText]
    cases s with
    | cpBounded x b => simpa [scoreToks, valueOk, isInt_intText] using by cases b <;> decide
    | _ => simp [scoreToks, valueOk, isInt_intText]

theorem eaten_currmove (o : Option UciMove) (ho : MoveOptOk o) :
    Eaten (segFields ("currmove".toList, o.map UciMove.render)) :=
  eaten_seg (k := .currmove) (by decide) UciMove.render o fun m e => by
    subst e; rw [split_render ho]; exact isMove_render ho

theorem eaten_currline (o : Option CurrentLine) (ho : CurrlineOk o) :
    Eaten (segFields ("currline".toList, o.map currentLineText)) :=
  eaten_seg (k := .currline) (by decide) currentLineText o fun c e => by
    subst e
    rw [split_currentLineText, split_movesText ho.1 ho.2]
    cases hl : c.line with
    | nil => exact absurd hl ho.1
    | cons m ms => simpa [valueOk, isNat_natText, hl] using all_isMove_render ho.2

/-- side conditions on an `Info`: squares are squares, the move lists that are present are not empty, the free text
has no line break -/
structure WFInfo (i : Info) : Prop where
  pv : MovesOk i.pv
  currmove : MoveOptOk i.currmove
  refutation : MovesOk i.refutation
  currline : CurrlineOk i.currline
  string : ∀ s, i.string = some s → ∀ c ∈ s, isLineBreak c = false

theorem acceptsFields_info_cons (rest : List Tok) : acceptsFields ("info".toList :: rest) = items false rest := by
  simp [acceptsFields]

theorem acceptsFields_info (i : Info) (h : WFInfo i) : acceptsFields (splitOnChar ' ' (infoText i)) = true := by
  have hstr : Val true (segFields ("string".toList, i.string)) := by
    cases i.string with
    | none => exact val_nil
    | some s => exact val_string _
  rw [split_infoText, acceptsFields_info_cons]
  simp only [infoSegs, List.flatMap_cons, List.flatMap_nil, List.append_nil]
  exact (eaten_nat (by decide) _ <| eaten_nat (by decide) _ <| eaten_nat (by decide) _ <| eaten_nat (by decide) _ <|
    eaten_moves (.inl rfl) _ h.pv <| eaten_nat (by decide) _ <| eaten_score _ <| eaten_currmove _ h.currmove <|
    eaten_nat (by decide) _ <| eaten_nat (by decide) _ <| eaten_nat (by decide) _ <| eaten_nat (by decide) _ <|
    eaten_nat (by decide) _ <| eaten_nat (by decide) _ <| eaten_moves (.inr rfl) _ h.refutation <|
    eaten_currline _ h.currline hstr).1 false

/-- a set of characters that contains the space and everything from `-` upwards (digits, letters) -/
structure Tame (P : Char → Prop) : Prop where
  space : P ' '
  hi : ∀ c, 45 ≤ c.toNat → P c

def All (P : Char → Prop) (l : List Char) : Prop := ∀ c ∈ l, P c

theorem All.nil {P : Char → Prop} : All P [] := by intro c hc; simp at hc
theorem All.cons {P : Char → Prop} {c : Char} {l : List Char} (hc : P c) (hl : All P l) : All P (c :: l) := by
  intro x hx; rcases List.mem_cons.mp hx with rfl | hx
  · exact hc
  · exact hl x hx
theorem All.append {P : Char → Prop} {a b : List Char} (ha : All P a) (hb : All P b) : All P (a ++ b) :=
  fun x hx => (List.mem_append.mp hx).elim (ha x) (hb x)

def Plain (l : List Char) : Prop := ∀ c ∈ l, c = ' ' ∨ 45 ≤ c.toNat

instance (l : List Char) : Decidable (Plain l) := by unfold Plain; infer_instance

theorem Plain.all {P : Char → Prop} (hP : Tame P) {l : List Char} (h : Plain l) : All P l := by
  intro c hc
  rcases h c hc with rfl | h
  · exact hP.space
  · exact hP.hi c h

theorem all_of_hi {P : Char → Prop} (hP : Tame P) {l : List Char} (h : Hi l) : All P l :=
  fun c hc => hP.hi c (h c hc).1

theorem all_natText {P : Char → Prop} (hP : Tame P) (n : Nat) : All P (natText n) :=
  all_of_hi hP (hi_of_isNat (isNat_natText n))

theorem all_intText {P : Char → Prop} (hP : Tame P) (v : Int) : All P (intText v) :=
  all_of_hi hP (hi_of_isInt (isInt_intText v))

theorem all_render {P : Char → Prop} (hP : Tame P) {m : UciMove} (h : MoveOk m) : All P m.render :=
  all_of_hi hP (Text.hi_render h)

theorem all_joinSp {P : Char → Prop} (hP : Tame P) : ∀ (ts : List Tok), (∀ t ∈ ts, All P t) → All P (joinSp ts)
  | [], _ => All.nil
  | [t], h => h t (by simp)
  | t :: t' :: ts, h => by
    rw [joinSp]
    exact (h t (by simp)).append (All.cons hP.space (all_joinSp hP (t' :: ts) (fun x hx => h x (by simp [hx]))))

theorem all_movesText {P : Char → Prop} (hP : Tame P) (ms : List UciMove) (h : ∀ m ∈ ms, MoveOk m) :
    All P (movesText ms) := by
  apply all_joinSp hP
  intro t ht
  obtain ⟨m, hm, rfl⟩ := List.mem_map.mp ht
  exact all_render hP (h m hm)

theorem all_scoreText {P : Char → Prop} (hP : Tame P) (s : Score) : All P (scoreText s) := by
  rw [scoreText_eq]
  exact all_joinSp hP _ (fun t ht => all_of_hi hP (scoreToks_hi s t ht))

theorem all_seg {P : Char → Prop} (hP : Tame P) {key : List Char} (hk : Plain key) {α : Type} (f : α → List Char)
    (o : Option α) (h : ∀ x, o = some x → All P (f x)) : All P (appendMaybe key (o.map f)) := by
  cases o with
  | none => exact All.nil
  | some x => exact All.cons hP.space ((hk.all hP).append (All.cons hP.space (h x rfl)))

def optMoves : Option (List UciMove) → List UciMove
  | none => []
  | some ms => ms

def movesOf : TxMsg → List UciMove
  | .bestMove b p => b.toList ++ p.toList
  | .info i => optMoves i.pv ++ (i.currmove.toList ++ (optMoves i.refutation ++ optMoves (i.currline.map (·.line))))
  | _ => []

def textsOf : TxMsg → List (List Char)
  | .idName n => [n]
  | .idAuthor a => [a]
  | .info i => i.string.toList
  | .optionCheck n _ => [n]
  | .optionSpin n _ _ _ => [n]
  | .optionCombo n d vars => n :: d :: vars
  | .optionButton n => [n]
  | .optionString n d => [n, d]
  | _ => []

theorem all_flatten {P : Char → Prop} : ∀ {segs : List (List Char)}, (∀ s ∈ segs, All P s) → All P segs.flatten
  | [], _ => All.nil
  | s :: segs, h => by
    rw [List.flatten_cons]
    exact (h s (by simp)).append (all_flatten (fun x hx => h x (by simp [hx])))

theorem all_seg_nat {P : Char → Prop} (hP : Tame P) {key : List Char} (hk : Plain key) (o : Option Nat) :
    All P (appendMaybe key (o.map natText)) := all_seg hP hk natText o (fun x _ => all_natText hP x)

theorem all_infoText {P : Char → Prop} (hP : Tame P) (i : Info) (hm : ∀ m ∈ movesOf (.info i), MoveOk m)
    (ht : ∀ t ∈ textsOf (.info i), All P t) : All P (infoText i) := by
  have hmv : ∀ (o : Option (List UciMove)), (∀ ms, o = some ms → ∀ m ∈ ms, m ∈ movesOf (.info i)) →
      ∀ {key}, Plain key → All P (appendMaybe key (o.map movesText)) :=
    fun o ho _ hk => all_seg hP hk movesText o (fun x e => all_movesText hP x (fun m hmm => hm m (ho x e m hmm)))
  refine (Plain.all hP (by decide)).append (all_flatten ?_)
  -- the 17 segments of `infoSegments`, in their order
  simp only [infoSegments, List.forall_mem_cons]
  refine ⟨all_seg_nat hP (by decide) _, all_seg_nat hP (by decide) _, all_seg_nat hP (by decide) _,
    all_seg_nat hP (by decide) _,
    hmv i.pv (fun ms e m hmm => by simp [movesOf, e, optMoves, hmm]) (by decide),
    all_seg_nat hP (by decide) _,
    all_seg hP (by decide) scoreText _ (fun x _ => all_scoreText hP x),
    all_seg hP (by decide) UciMove.render _ (fun x e => all_render hP (hm x (by simp [movesOf, e]))),
    all_seg_nat hP (by decide) _, all_seg_nat hP (by decide) _, all_seg_nat hP (by decide) _,
    all_seg_nat hP (by decide) _, all_seg_nat hP (by decide) _, all_seg_nat hP (by decide) _,
    hmv i.refutation (fun ms e m hmm => by simp [movesOf, e, optMoves, hmm]) (by decide),
    all_seg hP (by decide) currentLineText _ (fun x e =>
      (all_natText hP x.cpu).append (All.cons hP.space (all_movesText hP x.line
        (fun m hmm => hm m (by simp [movesOf, e, optMoves, hmm]))))),
    ?_, fun _ h => nomatch h⟩
  have := all_seg hP (key := "string".toList) (by decide) id i.string (fun x e => ht x (by simp [textsOf, e]))
  simpa using this

theorem acceptsFields_id {w : Tok} (hw : w = "name".toList ∨ w = "author".toList) {text : List Char}
    (h : text ≠ []) : acceptsFields (splitOnChar ' ' ("id".toList ++ ' ' :: (w ++ ' ' :: text))) = true := by
  have hw' : ' ' ∉ w := by rcases hw with rfl | rfl <;> decide
  rw [Text.split_append, Text.split_append, Text.split_nosep (by decide), Text.split_nosep hw']
  have := isText_split h
  rcases hw with rfl | rfl <;> simp [acceptsFields, this]

/-- `ponder_string` of `best_move` -/
def ponderText : Option UciMove → List Char
  | none => []
  | some p => " ponder ".toList ++ p.render

theorem acceptsFields_best {M : Tok} (hM : isMove M = true ∨ M = "0000".toList) (hM' : ' ' ∉ M)
    (ponder : Option UciMove) (hp : ∀ p, ponder = some p → MoveOk p) :
    acceptsFields (splitOnChar ' ' ("bestmove".toList ++ ' ' :: (M ++ ponderText ponder))) = true := by
  cases ponder with
  | none =>
    show acceptsFields (splitOnChar ' ' ("bestmove".toList ++ ' ' :: (M ++ []))) = true
    rw [List.append_nil, Text.split_append, Text.split_nosep (by decide), Text.split_nosep hM']
    rcases hM with h | rfl
    · simp [acceptsFields, h]
    · decide
  | some p =>
    have hpm := isMove_render (hp p rfl)
    show acceptsFields (splitOnChar ' ' ("bestmove".toList ++ ' ' :: (M ++ ' ' :: ("ponder".toList ++ ' ' :: p.render)))) = true
    rw [Text.split_append, Text.split_append, Text.split_append, Text.split_nosep (by decide), Text.split_nosep hM',
      Text.split_nosep (by decide), split_render (hp p rfl)]
    rcases hM with h | rfl
    · simp [acceptsFields, h, hpm]
    · simp [acceptsFields, hpm]

def NameOk (n : List Char) : Prop := n ≠ [] ∧ n.head? ≠ some ' '

instance (n : List Char) : Decidable (NameOk n) := by unfold NameOk; infer_instance

/-- the text at the end of the line is not empty and `trim` does not shorten it -/
def EndOk (s : List Char) : Prop := s ≠ [] ∧ ∀ c, s.getLast? = some c → Uci.isWhiteSpace c = false

instance (s : List Char) : Decidable (EndOk s) := by
  unfold EndOk
  cases h : s.getLast? with
  | none => exact decidable_of_iff (s ≠ []) (by simp)
  | some c => exact decidable_of_iff (s ≠ [] ∧ Uci.isWhiteSpace c = false) (by simp)

theorem optScan_append (pre r : List Tok) (h : optType r = true) : optScan (pre ++ "type".toList :: r) = true := by
  induction pre with
  | nil => rw [List.nil_append, optScan, h]; rfl
  | cons t ts ih => rw [List.cons_append, optScan, ih, Bool.or_true]

/-- the untrimmed option line -/
def optionLine (name type remainder : List Char) : List Char :=
  "option name ".toList ++ (name ++ (" type ".toList ++ (type ++ ' ' :: remainder)))

theorem split5 {a b c d : Tok} (ha : ' ' ∉ a) (hb : ' ' ∉ b) (hc : ' ' ∉ c) (hd : ' ' ∉ d) (n r : List Char) :
    splitOnChar ' ' (a ++ ' ' :: (b ++ ' ' :: (n ++ ' ' :: (c ++ ' ' :: (d ++ ' ' :: r)))))
      = a :: b :: (splitOnChar ' ' n ++ c :: d :: splitOnChar ' ' r) := by
  rw [Text.split_append, Text.split_append, Text.split_append, Text.split_append, Text.split_append,
    Text.split_nosep ha, Text.split_nosep hb, Text.split_nosep hc, Text.split_nosep hd]
  rfl

theorem split4 {a b c d : Tok} (ha : ' ' ∉ a) (hb : ' ' ∉ b) (hc : ' ' ∉ c) (hd : ' ' ∉ d) (n : List Char) :
    splitOnChar ' ' (a ++ ' ' :: (b ++ ' ' :: (n ++ ' ' :: (c ++ ' ' :: d))))
      = a :: b :: (splitOnChar ' ' n ++ [c, d]) := by
  rw [Text.split_append, Text.split_append, Text.split_append, Text.split_append, Text.split_nosep ha,
    Text.split_nosep hb, Text.split_nosep hc, Text.split_nosep hd]
  rfl

theorem acceptsFields_option {n0 : Tok} (h0 : n0 ≠ []) (pre r : List Tok) (h : optType r = true) :
    acceptsFields ("option".toList :: "name".toList :: n0 :: (pre ++ "type".toList :: r)) = true := by
  have := optScan_append pre r h
  simpa [acceptsFields, h0] using this

theorem name_fields {name : List Char} (hn : NameOk name) :
    ∃ n0 pre, n0 ≠ [] ∧ splitOnChar ' ' name = n0 :: pre := by
  obtain ⟨hne, hhd⟩ := hn
  cases name with
  | nil => exact absurd rfl hne
  | cons c cs =>
    have hc : c ≠ ' ' := by simpa using hhd
    exact ⟨_, _, by simp, Text.split_cons_ne hc cs⟩

theorem optionLine_fields {name type rem : List Char} (hn : NameOk name) (hty : ' ' ∉ type)
    (h : optType (type :: splitOnChar ' ' rem) = true) :
    acceptsFields (splitOnChar ' ' (optionLine name type rem)) = true := by
  have e : optionLine name type rem = "option".toList ++ ' ' :: ("name".toList ++ ' ' :: (name ++ ' ' ::
      ("type".toList ++ ' ' :: (type ++ ' ' :: rem)))) := by
    unfold optionLine
    simp only [String.reduceToList, List.cons_append, List.nil_append]
  obtain ⟨n0, pre, h0, hs⟩ := name_fields hn
  rw [e, split5 (by decide) (by decide) (by decide) hty, hs]
  exact acceptsFields_option h0 pre _ h

/-- `button`: after `trim` the line ends in `type button` -/
theorem optionButton_fields {name : List Char} (hn : NameOk name) :
    acceptsFields (splitOnChar ' ' ("option name ".toList ++ (name ++ " type button".toList))) = true := by
  have e : "option name ".toList ++ (name ++ " type button".toList) = "option".toList ++ ' ' ::
      ("name".toList ++ ' ' :: (name ++ ' ' :: ("type".toList ++ ' ' :: "button".toList))) := by
    simp only [String.reduceToList, List.cons_append, List.nil_append]
  obtain ⟨n0, pre, h0, hs⟩ := name_fields hn
  rw [e, split4 (by decide) (by decide) (by decide) (by decide), hs]
  exact acceptsFields_option h0 pre _ (by decide)

theorem optionLine_trim {name type rem : List Char} (hr : EndOk rem) :
    Uci.trim (optionLine name type rem) = optionLine name type rem := by
  apply Text.trim_id
  · intro c hc; unfold optionLine at hc; simp at hc; subst hc; decide
  · intro c hc
    obtain ⟨hne, hl⟩ := hr
    apply hl
    unfold optionLine at hc
    rw [Text.getLast?_append_ne (by simp), Text.getLast?_append_ne (by simp), Text.getLast?_append_ne (by simp),
      Text.getLast?_append_ne (by simp), ← List.singleton_append, Text.getLast?_append_ne hne] at hc
    exact hc

theorem optionButton_trim (name : List Char) :
    optionText name "button".toList [] = "option name ".toList ++ (name ++ " type button".toList) := by
  have e : "option name ".toList ++ (name ++ (" type ".toList ++ ("button".toList ++ [' '])))
      = ("option name ".toList ++ (name ++ " type button".toList)) ++ [' '] := by simp
  unfold optionText
  rw [e]
  refine Text.trim_around (lead := []) (x := "option name ".toList ++ (name ++ " type button".toList)) (trail := [' '])
    (fun _ h => nomatch h) (by decide) ?_ ?_
  · intro c hc; simp at hc; subst hc; decide
  · intro c hc
    have e2 : "option name ".toList ++ (name ++ " type button".toList)
        = ("option name ".toList ++ (name ++ " type butto".toList)) ++ ['n'] := by simp
    rw [e2, List.getLast?_concat] at hc
    cases hc; decide

theorem isText_cons_split (d : Tok) (rest : List Char) (h : d ≠ []) : isText (d :: splitOnChar ' ' rest) = true := by
  cases hs : splitOnChar ' ' rest <;> simp [isText, h]

instance (i : Info) : Decidable (WFInfo i) :=
  decidable_of_iff (MovesOk i.pv ∧ MoveOptOk i.currmove ∧ MovesOk i.refutation ∧ CurrlineOk i.currline ∧
      ∀ s, i.string = some s → ∀ c ∈ s, isLineBreak c = false)
    ⟨fun ⟨a, b, c, d, e⟩ => ⟨a, b, c, d, e⟩, fun h => ⟨h.pv, h.currmove, h.refutation, h.currline, h.string⟩⟩

/-- side conditions under which a message value is printed as a UCI line: squares are squares, free text has no
line break, `id` texts are not empty (the Rust `assert!`s it), **present move lists are not empty** (`WFInfo`), an
option name is not empty and does not start with a space, a string/combo default is not empty and does not end in
white space (`trim` would eat it) -/
def WFMsg : TxMsg → Prop
  | .idName n => n ≠ [] ∧ ∀ c ∈ n, isLineBreak c = false
  | .idAuthor a => a ≠ [] ∧ ∀ c ∈ a, isLineBreak c = false
  | .uciOk => True
  | .readyOk => True
  | .bestMove b p => MoveOptOk b ∧ MoveOptOk p
  | .copyProtection _ => True
  | .registration _ => True
  | .info i => WFInfo i
  | .optionCheck n _ => NameOk n ∧ ∀ c ∈ n, isLineBreak c = false
  | .optionSpin n _ _ _ => NameOk n ∧ ∀ c ∈ n, isLineBreak c = false
  | .optionCombo n d vars =>
    NameOk n ∧ EndOk (d ++ varsText vars) ∧ ∀ t ∈ n :: d :: vars, ∀ c ∈ t, isLineBreak c = false
  | .optionButton n => NameOk n ∧ ∀ c ∈ n, isLineBreak c = false
  | .optionString n d => NameOk n ∧ EndOk d ∧ ∀ t ∈ [n, d], ∀ c ∈ t, isLineBreak c = false

instance (m : TxMsg) : Decidable (WFMsg m) := by
  cases m <;> unfold WFMsg <;> infer_instance

theorem wf_moves {m : TxMsg} (h : WFMsg m) : ∀ mv ∈ movesOf m, MoveOk mv := by
  cases m with
  | bestMove b p =>
    intro mv hmv
    obtain ⟨hb, hp⟩ := h
    simp only [movesOf, List.mem_append, Option.mem_toList] at hmv
    rcases hmv with e | e
    · rw [e] at hb; exact hb
    · rw [e] at hp; exact hp
  | info i =>
    intro mv hmv
    have h : WFInfo i := h
    simp only [movesOf, List.mem_append, Option.mem_toList] at hmv
    rcases hmv with hmv | e | hmv | hmv
    · cases hpv : i.pv with
      | none => simp [hpv, optMoves] at hmv
      | some ms => have := h.pv; rw [hpv] at this hmv; exact this.2 mv hmv
    · have := h.currmove; rw [e] at this; exact this
    · cases hpv : i.refutation with
      | none => simp [hpv, optMoves] at hmv
      | some ms => have := h.refutation; rw [hpv] at this hmv; exact this.2 mv hmv
    · cases hpv : i.currline with
      | none => simp [hpv, optMoves] at hmv
      | some c => have := h.currline; rw [hpv] at this hmv; exact this.2 mv hmv
  | _ => intro mv hmv; simp [movesOf] at hmv

theorem wf_texts {m : TxMsg} (h : WFMsg m) : ∀ t ∈ textsOf m, ∀ c ∈ t, isLineBreak c = false := by
  cases m with
  | idName n => intro t ht; simp only [textsOf, List.mem_singleton] at ht; subst ht; exact h.2
  | idAuthor n => intro t ht; simp only [textsOf, List.mem_singleton] at ht; subst ht; exact h.2
  | info i =>
    intro t ht
    simp only [textsOf, Option.mem_toList] at ht
    exact (show WFInfo i from h).string t ht
  | optionCheck n _ => intro t ht; simp only [textsOf, List.mem_singleton] at ht; subst ht; exact h.2
  | optionSpin n _ _ _ => intro t ht; simp only [textsOf, List.mem_singleton] at ht; subst ht; exact h.2
  | optionButton n => intro t ht; simp only [textsOf, List.mem_singleton] at ht; subst ht; exact h.2
  | optionCombo n d vars => exact h.2.2
  | optionString n d => exact h.2.2
  | _ => intro t ht; simp [textsOf] at ht

theorem all_varsText {P : Char → Prop} (hP : Tame P) : ∀ (vars : List (List Char)), (∀ v ∈ vars, All P v) →
    All P (varsText vars)
  | [], _ => All.nil
  | v :: vs, h =>
    show All P (" var ".toList ++ (v ++ varsText vs)) from
    (Plain.all hP (by decide)).append ((h v (by simp)).append
      (all_varsText hP vs (fun x hx => h x (by simp [hx]))))

theorem all_optionText {P : Char → Prop} (hP : Tame P) {name type rem : List Char} (hn : All P name)
    (ht : Plain type) (hr : All P rem) : All P (optionText name type rem) := by
  intro c hc
  have hL : All P ("option name ".toList ++ (name ++ (" type ".toList ++ (type ++ ' ' :: rem)))) :=
    (Plain.all hP (by decide)).append (hn.append ((Plain.all hP (by decide)).append
      ((ht.all hP).append (All.cons hP.space hr))))
  exact hL c (Text.mem_trim hc)

theorem all_renderChars {P : Char → Prop} (hP : Tame P) (m : TxMsg) (hm : ∀ mv ∈ movesOf m, MoveOk mv)
    (ht : ∀ t ∈ textsOf m, All P t) : All P (renderChars m) := by
  cases m with
  | idName n => exact (Plain.all hP (by decide)).append (ht n (by simp [textsOf]))
  | idAuthor n => exact (Plain.all hP (by decide)).append (ht n (by simp [textsOf]))
  | uciOk => exact Plain.all hP (by decide)
  | readyOk => exact Plain.all hP (by decide)
  | copyProtection p => exact Plain.all hP (by cases p <;> decide)
  | registration p => exact Plain.all hP (by cases p <;> decide)
  | info i => exact all_infoText hP i hm ht
  | bestMove b p =>
    refine (Plain.all hP (by decide)).append (All.append ?_ ?_)
    · cases b with
      | none => exact Plain.all hP (by decide)
      | some m => exact all_render hP (hm m (by simp [movesOf]))
    · cases p with
      | none => exact All.nil
      | some m => exact (Plain.all hP (by decide)).append (all_render hP (hm m (by simp [movesOf])))
  | optionCheck n d =>
    exact all_optionText hP (ht n (by simp [textsOf])) (by decide)
      ((Plain.all hP (by decide)).append (Plain.all hP (by cases d <;> decide)))
  | optionSpin n d lo hi =>
    exact all_optionText hP (ht n (by simp [textsOf])) (by decide)
      ((Plain.all hP (by decide)).append ((all_intText hP d).append ((Plain.all hP (by decide)).append
        ((all_intText hP lo).append ((Plain.all hP (by decide)).append (all_intText hP hi))))))
  | optionCombo n d vars =>
    exact all_optionText hP (ht n (by simp [textsOf])) (by decide)
      ((Plain.all hP (by decide)).append ((ht d (by simp [textsOf])).append
        (all_varsText hP vars (fun v hv => ht v (by simp [textsOf, hv])))))
  | optionButton n => exact all_optionText hP (ht n (by simp [textsOf])) (by decide) All.nil
  | optionString n d =>
    exact all_optionText hP (ht n (by simp [textsOf])) (by decide)
      ((Plain.all hP (by decide)).append (ht d (by simp [textsOf])))

theorem tame_noBreak : Tame (fun c => isLineBreak c = false) :=
  ⟨by decide, fun c h => by
    simp only [isLineBreak, Bool.or_eq_false_iff, decide_eq_false_iff_not]
    constructor <;> (intro e; subst e; revert h; decide)⟩

theorem tame_noLF : Tame (fun c => c ≠ '\n') :=
  ⟨by decide, fun c h e => by subst e; revert h; decide⟩

theorem endOk_hi {t : List Char} (hne : t ≠ []) (h : Hi t) : EndOk t :=
  ⟨hne, fun c hc => Text.hi_not_ws h c (List.mem_of_getLast? hc)⟩

theorem endOk_append (a : List Char) {b : List Char} (h : EndOk b) : EndOk (a ++ b) :=
  ⟨by simp [h.1], fun c hc => h.2 c (by rwa [Text.getLast?_append_ne h.1] at hc)⟩

theorem intText_ne (v : Int) : intText v ≠ [] := by
  have := isInt_intText v
  intro e; rw [e] at this; simp [isInt, isNat] at this

theorem spin_ok {d lo hi : Tok} (hd : isInt d = true) (hlo : isInt lo = true) (hhi : isInt hi = true) :
    optType ["spin".toList, "default".toList, d, "min".toList, lo, "max".toList, hi] = true := by
  simp [optType, spinParams, hd, hlo, hhi]

theorem text_ok {ty : Tok} (hty : ty = "combo".toList ∨ ty = "string".toList) (text : List Tok)
    (h : isText text = true) : optType (ty :: "default".toList :: text) = true := by
  rcases hty with rfl | rfl <;> simp [optType, h]

theorem acceptsFields_render (m : TxMsg) (h : WFMsg m) : acceptsFields (splitOnChar ' ' (renderChars m)) = true := by
  cases m with
  | idName n => exact acceptsFields_id (w := "name".toList) (Or.inl rfl) h.1
  | idAuthor n => exact acceptsFields_id (w := "author".toList) (Or.inr rfl) h.1
  | uciOk => decide
  | readyOk => decide
  | copyProtection p => cases p <;> decide
  | registration p => cases p <;> decide
  | info i => exact acceptsFields_info i h
  | bestMove b p =>
    obtain ⟨hb, hp⟩ := h
    have hp' : ∀ q, p = some q → MoveOk q := by intro q e; rw [e] at hp; exact hp
    cases b with
    | none =>
      have := acceptsFields_best (M := "0000".toList) (Or.inr rfl) (by decide) p hp'
      cases p <;> exact this
    | some m =>
      have := acceptsFields_best (Or.inl (isMove_render hb)) (Text.hi_render hb).nosp p hp'
      cases p <;> exact this
  | optionCheck n d =>
    have hend : EndOk ("default ".toList ++ boolText d) :=
      endOk_append _ (endOk_hi (by cases d <;> decide) (by cases d <;> decide))
    show acceptsFields (splitOnChar ' ' (Uci.trim (optionLine n _ _))) = true
    rw [optionLine_trim hend]
    exact optionLine_fields h.1 (by decide) (by cases d <;> decide)
  | optionSpin n d lo hi =>
    have hend : EndOk ("default ".toList ++ (intText d ++ (" min ".toList ++ (intText lo ++ (" max ".toList ++
        intText hi))))) :=
      endOk_append _ (endOk_append _ (endOk_append _ (endOk_append _ (endOk_append _
        (endOk_hi (intText_ne hi) (hi_of_isInt (isInt_intText hi)))))))
    show acceptsFields (splitOnChar ' ' (Uci.trim (optionLine n _ _))) = true
    rw [optionLine_trim hend]
    apply optionLine_fields h.1 (by decide)
    have e : "default ".toList ++ (intText d ++ (" min ".toList ++ (intText lo ++ (" max ".toList ++ intText hi))))
        = "default".toList ++ tailText [intText d, "min".toList, intText lo, "max".toList, intText hi] := by
      simp only [String.reduceToList, List.cons_append, List.nil_append, Text.tailText_cons, Text.tailText_nil,
        List.append_nil]
    rw [e, Text.split_tailText (by decide)]
    · exact spin_ok (isInt_intText d) (isInt_intText lo) (isInt_intText hi)
    · intro t ht
      simp only [List.mem_cons, List.not_mem_nil, or_false] at ht
      rcases ht with rfl | rfl | rfl | rfl | rfl
      · exact (hi_of_isInt (isInt_intText d)).nosp
      · decide
      · exact (hi_of_isInt (isInt_intText lo)).nosp
      · decide
      · exact (hi_of_isInt (isInt_intText hi)).nosp
  | optionCombo n d vars =>
    obtain ⟨hn, hend, -⟩ := h
    show acceptsFields (splitOnChar ' ' (Uci.trim (optionLine n _ _))) = true
    rw [optionLine_trim (endOk_append _ hend)]
    apply optionLine_fields hn (by decide)
    have e : "default ".toList ++ (d ++ varsText vars) = "default".toList ++ ' ' :: (d ++ varsText vars) := by
      simp only [String.reduceToList, List.cons_append, List.nil_append]
    rw [e, Text.split_append, Text.split_nosep (t := "default".toList) (by decide)]
    exact text_ok (Or.inl rfl) _ (isText_split hend.1)
  | optionButton n =>
    show acceptsFields (splitOnChar ' ' (optionText n "button".toList [])) = true
    rw [optionButton_trim]
    exact optionButton_fields h.1
  | optionString n d =>
    obtain ⟨hn, hend, -⟩ := h
    show acceptsFields (splitOnChar ' ' (Uci.trim (optionLine n _ _))) = true
    rw [optionLine_trim (endOk_append _ hend)]
    apply optionLine_fields hn (by decide)
    have e : "default ".toList ++ d = "default".toList ++ ' ' :: d := by
      simp only [String.reduceToList, List.cons_append, List.nil_append]
    rw [e, Text.split_append, Text.split_nosep (t := "default".toList) (by decide)]
    exact text_ok (Or.inr rfl) _ (isText_split hend.1)

theorem renderChars_accepts (m : TxMsg) (h : WFMsg m) : accepts (renderChars m) = true := by
  unfold accepts
  have h1 : (renderChars m).any isLineBreak = false := by
    rw [List.any_eq_false]
    intro c hc
    have := all_renderChars tame_noBreak m (wf_moves h) (wf_texts h) c hc
    simp [this]
  rw [h1, acceptsFields_render m h]; rfl

/-- **C16, output syntax.**  Every message value (all subsets of the 17 optional `info` fields, all integers, all move
lists, all free texts) that satisfies the side conditions `WFMsg` is printed as a line of the engine-to-GUI grammar. -/
theorem render_accepts (m : TxMsg) (h : WFMsg m) : accepts (render m).toList = true := by
  rw [render, String.toList_ofList]; exact renderChars_accepts m h

/-- **one call, one line**: if the free texts of the message contain no U+000A (and squares are squares), the printed
line contains none — `println!` then writes exactly one line.  No non-emptiness condition is needed here. -/
theorem render_single_line (m : TxMsg) (hm : ∀ mv ∈ movesOf m, MoveOk mv) (ht : ∀ t ∈ textsOf m, '\n' ∉ t) :
    '\n' ∉ (render m).toList := by
  rw [render, String.toList_ofList]
  intro hc
  exact all_renderChars tame_noLF m hm (fun t htt c hcc e => ht t htt (e ▸ hcc)) '\n' hc rfl

#print axioms render_accepts
#print axioms render_single_line

/-- an empty move list leaves an empty field where a move must stand -/
theorem val_empty_moves {key : Tok} (hk : key = "pv".toList ∨ key = "refutation".toList) (rest : List Tok) :
    Val false (segFields (key, some (movesText [])) ++ rest) := by
  have hkind : itemOf key = some .moves ∧ isMove key = false := by rcases hk with rfl | rfl <;> decide
  refine Val.cons hkind.1 fun more => ?_
  show items more (key :: [] :: rest) = false
  rw [items.eq_def]; simp only [hkind.1, hkind.2, Bool.and_false, Bool.false_eq_true, if_false]; rfl

/-- **the printer can produce a line that is not UCI**: an `Info` whose principal variation is the empty list is
printed with nothing after `pv ` (a double space or a trailing space), which the grammar rejects — whatever the
other 16 fields are -/
theorem empty_pv_rejected (i : Info) (h : i.pv = some []) : accepts (render (.info i)).toList = false := by
  rw [render, String.toList_ofList]
  show accepts (infoText i) = false
  unfold accepts
  rw [split_infoText, acceptsFields_info_cons]
  simp only [infoSegs, List.flatMap_cons, List.flatMap_nil, List.append_nil, h, Option.map_some]
  rw [(eaten_nat (by decide) _ <| eaten_nat (by decide) _ <| eaten_nat (by decide) _ <| eaten_nat (by decide) _ <|
    val_empty_moves (.inl rfl) _).1 false, Bool.and_false]

#print axioms empty_pv_rejected

/-- the fully populated line of the (commented-out) Rust test `info_all` -/
example : renderChars (.info infoAll) = "info depth 20 seldepth 10 time 21234 nodes 45000000 pv a1a2 a3a4 multipv 1 score cp 200 lowerbound currmove h8h7q currmovenumber 24 hashfull 80 nps 200000000 tbhits 213333 sbhits 2040 cpuload 99 refutation d1d2 c3c4 currline 1 h1h2 b3b4 string hi it's info".toList := by
  decide +kernel
example : WFMsg (.info infoAll) := by decide
example : accepts (render (.info infoAll)).toList = true := render_accepts _ (by decide)
example : '\n' ∉ (render (.info infoAll)).toList := render_single_line _ (by decide) (by decide)

/-- what the engine sends: `id`, `uciok`, `readyok`, `registration`, iteration infos, periodic infos, `bestmove` -/
example : WFMsg (.idName "Inkayaku".toList) ∧
    WFMsg (.idAuthor "Marvin Kuhnke (see https://github.com/marvk/rust-chess)".toList) ∧
    WFMsg .uciOk ∧ WFMsg .readyOk ∧ WFMsg (.registration .checking) ∧ WFMsg (.registration .ok) ∧
    WFMsg (.info { depth := some 3, time := some 12, nodes := some 4711, pv := some [⟨52, 36, none⟩, ⟨12, 28, none⟩],
                   score := some (.cp (-17)), hashfull := some 1, nps := some 392583 }) ∧
    WFMsg (.info { time := some 7, nodes := some 1000, hashfull := some 0, nps := some 142857 }) ∧
    WFMsg (.info { depth := some 0, time := some 0, nodes := some 1, hashfull := some 0, nps := some 0,
                   string := some "tphitrate NaN nrate 1 qrate 0 avgqdepth NaN qstartedrate 0 qtphitrate NaN".toList }) ∧
    WFMsg (.bestMove (some ⟨52, 36, none⟩) (some ⟨12, 28, none⟩)) ∧ WFMsg (.bestMove none none) ∧
    WFMsg (.bestMove (some ⟨8, 0, some .queen⟩) none) := by decide +kernel

/-- `option` lines (never sent by the engine) -/
example : WFMsg (.optionButton "Clear Hash".toList) ∧ WFMsg (.optionCheck "Nullmove".toList true) ∧
    WFMsg (.optionSpin "Selectivity".toList 2 0 4) ∧
    WFMsg (.optionCombo "Style".toList "Normal".toList ["Solid".toList, "Normal".toList, "Risky".toList]) ∧
    WFMsg (.optionString "NalimovPath".toList "c:\\".toList) := by decide

/-- the side conditions are not decoration: each of these values is printed as a line the grammar rejects -/
example : ¬ WFMsg (.info { depth := some 1, pv := some [], score := some (.cp 3) }) := by decide
example : accepts (render (.info { depth := some 1, pv := some [], score := some (.cp 3) })).toList = false :=
  empty_pv_rejected _ rfl
#guard render (.info { depth := some 1, pv := some [], score := some (.cp 3) }) == "info depth 1 pv  score cp 3"
#guard !accepts (render (.info { refutation := some [] })).toList               -- "info refutation "
#guard !accepts (render (.info { currline := some ⟨1, []⟩ })).toList             -- "info currline 1 "
#guard !accepts (render (.info { string := some "a\nquit".toList })).toList      -- two lines
#guard !accepts (render (.idName [])).toList                                     -- "id name " (Rust: assert! panics)
#guard !accepts (render (.bestMove (some ⟨64, 0, none⟩) none)).toList            -- not a square: "bestmove a0a8"
#guard !accepts (render (.optionString "X".toList [])).toList                    -- "option name X type string default"
#guard !accepts (render (.optionCheck " X".toList true)).toList                  -- two spaces after `name`
#guard accepts (render (.info infoAll)).toList

end Inkayaku.C16Console
