import Inkayaku.Proofs.EndToEndText
import Inkayaku.Proofs.EndToEndSearch
import Inkayaku.Proofs.EndToEndProject
import Inkayaku.Props.C08Transp
import Inkayaku.Proofs.SearchSimThread
import Inkayaku.Props.C07Final
import Inkayaku.Model.AppOps
/-!
# End to end at the PROCESS level: from the text a GUI sends to the text the engine prints

The process model `App.appRun` (`Model/App.lean`) maps stdin lines to stdout lines.  The theorems of this file compose the
per-property results into statements whose hypotheses AND conclusions are texts and rules-level objects only:

    stdin text ──C15 parser──▶ command ──C12 FEN reader──▶ board ──C13 find_uci / C02 make──▶ position
               ──C07/C08 search──▶ `Out` stream ──C16 `toTx` + `Console.render`──▶ stdout text

The lines sent (defined in `Proofs/EndToEndText.lean`):
`positionLine b = "position fen " ++ fenText b`, `positionMovesLine b ms = … ++ " moves m1 … mn"`,
`goDepthLine d = "go depth " ++ toString d`, where `fenText b` is the canonical FEN of `b` written by the independent printer
`Spec/FenText.lean` (= what the engine's own writer prints, `printFen_fenText`, C12).

The statements, each with the details in its docstring: `app_position_fen_sets_board` (1), `app_go_depth_reports_minimax`
(2, the fresh process; `app_position_go_depth` is the same script from any live state, `app_go_depth_held` its `go` line alone;
with `infoLine_projected`), `app_go_bestmove_legal` (3; `_held` is its `go` line alone, `app_run_go_bestmove_legal` the fresh
process), `app_position_moves` (4), `app_go_bestmove_legal_after_moves` (3 + 4).  The compositions are proved once about what the
lines PARSE TO (`app_position_parsed`, `app_position_go_legal`); the texts enter through `parseLine_positionLine`,
`parseLine_positionMovesLine`, `parseLine_goDepthLine`.
The projection used when comparing with the real binary, `projectChars`, and what is not proved about it, is in
`Proofs/EndToEndProject.lean`.
-/
namespace Inkayaku.EndToEnd
open Inkayaku.App Inkayaku.Board Inkayaku.WF Inkayaku.BoardCongr Inkayaku.Search Inkayaku.EngineOut Inkayaku.Abs
open Inkayaku.SearchSim Inkayaku.SpecSearch Inkayaku.Eval
open Inkayaku.Uci (UciMove parseLine)
open Inkayaku.UciGrammar (MoveWf)
open Inkayaku.Console (render)
open Inkayaku.C16App (goStart goRun isBestmoveLine)

theorem app_position_fenChars (cfg : Cfg) {s : AppSt} (halive : s.alive = true) {b : Board} (hr : FenRoundtrip.Repr b)
    {l : String} {ms : List UciMove} (hp : parseLine l = .ok (.positionFrom (fenChars b) ms)) :
    appStep cfg s l = ({ s with search := setPosition s.search (vis b) (moveTexts ms) }, []) := by
  obtain ⟨b0, hb0, hs⟩ := C16App.app_position cfg halive hp
  have h1 : FenBoard.fromFenString (String.ofList (fenChars b)) = .ok (vis b) := fromFen_fenText hr
  rw [hb0] at h1
  injection h1 with h1
  rw [hs, h1]
  rfl

theorem app_position_fen_setPosition (cfg : Cfg) {s : AppSt} (halive : s.alive = true) {b : Board} (hwf : wf b = true) :
    appStep cfg s (positionLine b) = ({ s with search := setPosition s.search (vis b) [] }, []) :=
  app_position_fenChars cfg halive (C12.wf_repr hwf) (parseLine_positionLine (C12.wf_repr hwf))

/-- **1. `app_position_fen_sets_board`.**  For every legal position `b` (`WF.wf`), the line `position fen <canonical FEN of b>`
sent to a live process prints nothing and leaves the process in the state in which the search thread holds exactly
`WF.vis b` – the board `b` with its two scratch occupancy words cleared –, the repetition history of a new game (all zero except
the hash of `b` at its ply clock) and an empty list of played moves; everything else (table, killers, previous PV, debug
switch, …) is as before. -/
theorem app_position_fen_sets_board (cfg : Cfg) {s : AppSt} (halive : s.alive = true) {b : Board} (hwf : wf b = true) :
    appStep cfg s (positionLine b) =
      ({ s with search := { s.search with
          board := vis b
          history := historySet (Array.replicate 5000 0) (plyClock b) (Zobrist.hash b).toNat
          playedMoves := [] } }, []) := by
  rw [app_position_fen_setPosition cfg halive hwf, SearchSim.setPosition_nil, hash_vis, plyClock_vis]

/-- the scratch words are clear (every board read from a FEN, every board of `setPosition`'s input in the process) -/
theorem vis_eq_self {b : Board} (hw : b.white.o0 = 0) (hb : b.black.o0 = 0) : vis b = b :=
  (eq_vis_of_scratch rfl hw hb).symm

theorem app_position_fen_board (cfg : Cfg) {s : AppSt} (halive : s.alive = true) {b : Board} (hwf : wf b = true) :
    (appStep cfg s (positionLine b)).2 = [] ∧
    (appStep cfg s (positionLine b)).1.search.board = vis b ∧
    vis (appStep cfg s (positionLine b)).1.search.board = vis b ∧
    abs (appStep cfg s (positionLine b)).1.search.board = abs b ∧
    (b.white.o0 = 0 → b.black.o0 = 0 → (appStep cfg s (positionLine b)).1.search.board = b) ∧
    (appStep cfg s (positionLine b)).1.alive = true := by
  rw [app_position_fen_sets_board cfg halive hwf]
  exact ⟨rfl, rfl, rfl, rfl, fun hw hb => vis_eq_self hw hb, halive⟩

/-- the text of the iteration info `o = info (some d) t n (some sc) (some pv)` as the process prints it under `cfg` -/
def infoLine (cfg : Cfg) (debug : Bool) (d : Nat) (t : Option Nat) (n : Nat) (sc : Score) (pv : List Move) : String :=
  let aux := auxOf cfg debug (.info (some d) t n (some sc) (some pv))
  String.ofList (infoLineChars d t n (pv.map fun m => m.uci.toList) (Console.scoreText (scoreOf sc)) aux.hashfull aux.nps
    (aux.debug.map debugText))

theorem render_infoLine (cfg : Cfg) (debug : Bool) (d : Nat) (t : Option Nat) (n : Nat) (sc : Score) (pv : List Move) :
    render (toTx (auxOf cfg debug (.info (some d) t n (some sc) (some pv))) (.info (some d) t n (some sc) (some pv))) =
      infoLine cfg debug d t n sc pv := by
  unfold render infoLine
  rw [render_info]

/-- **the projected form of that line** (`projectChars` = the `app` op's projection on characters, see
`Proofs/EndToEndProject.lean`): `info depth d pv m1 … mk score S` — run dependent fields and the debug string removed -/
theorem infoLine_projected (cfg : Cfg) (debug : Bool) (d : Nat) (t : Option Nat) (n : Nat) (sc : Score) {pv : List Move}
    (hpv : pv ≠ []) :
    projectChars (infoLine cfg debug d t n sc pv).toList =
      "info depth ".toList ++ (Console.natText d ++ (" pv ".toList ++ (Console.joinSp (pv.map fun m => m.uci.toList) ++
        (" score ".toList ++ Console.scoreText (scoreOf sc))))) := by
  have epv : (pv.map uciOf).map UciMove.render = pv.map fun m => m.uci.toList := by
    rw [List.map_map]; exact List.map_congr_left (fun m _ => uciOf_render_toList m)
  unfold infoLine
  rw [String.toList_ofList, ← render_info]
  show projectChars (Console.infoText _) = _
  rw [project_infoText (d := d) (fun m hm => by
    have hm' : m ∈ pv.map uciOf ++ [] := hm
    rw [List.append_nil] at hm'
    obtain ⟨x, -, rfl⟩ := List.mem_map.mp hm'
    exact C16Wf.moveOk_uciOf x) rfl]
  show Console.infoText { depth := some d, pv := some (pv.map uciOf), score := some (scoreOf sc) } = _
  unfold Console.infoText Console.infoSegments Console.movesText
  simp only [Option.map_some, Option.map_none, appendMaybe_some, appendMaybe_none, epv, String.reduceToList,
    List.flatten_cons, List.flatten_nil, List.cons_append, List.nil_append, List.append_nil]

theorem searchLines_no_bestmove (aux : Out → Aux) {infos : List Out} (hn : bestMoves infos = []) :
    ∀ l ∈ searchLines aux infos, isBestmoveLine l = false := by
  have h := C16App.countBestmoves_searchLines aux infos
  rw [hn] at h
  intro l hl
  simpa using List.filter_eq_nil_iff.mp (List.length_eq_zero_iff.mp h) l hl

theorem appSteps_two (cfg : Cfg) (s : AppSt) (l1 l2 : String) :
    (appSteps cfg s [l1, l2]).2 = (appStep cfg s l1).2 ++ (appStep cfg (appStep cfg s l1).1 l2).2 := by
  simp only [appSteps, List.append_nil]

/-- **whatever state the process is in**: a live process whose search thread holds `b` up to the scratch words, with a
repetition history that is empty below `b` and a standing clock, answers a line that parses to `go depth d` (`1 ≤ d ≤ 3`, the
hypotheses of `C08Transp.go_eq_spec_le3` on `b`) by info lines, the last of which is the info of depth `d` with the exact minimax
value, and the `bestmove` line of an optimal move -/
theorem app_go_depth_held (cfg : Cfg) {s : AppSt} (halive : s.alive = true) {b : Board} (hb : vis s.search.board = vis b)
    (hz : HistZero (plyClock b) s.search) (hns : s.search.nsPerNode = none) {l : String} {d : Nat}
    (hp : parseLine l = .ok (.go { depth := some d })) (hd1 : 1 ≤ d) (hd3 : d ≤ 3)
    (hinv : Inv (fuelFor d) b) (hlegal : genLegal b ≠ []) (hnowrap : ply2 b + d < 65536)
    (hnc : NoCollision b d) (hnz : HashNonzero b d) (hmat : material b ≤ 64) :
    ∃ (older : List Out) (t : Option Nat) (nodes : Nat) (pv : List Move) (m : Move),
      (appStep cfg s l).2 = searchLines (auxOf cfg s.debug) older ++
        [infoLine cfg s.debug d t nodes (scoreFromValue (specValue d b) b) pv, bestLine m pv[1]?] ∧
      m.uci ∈ specBestMoves d b ∧ pv ≠ [] ∧
      ∀ x ∈ searchLines (auxOf cfg s.debug) older ++ [infoLine cfg s.debug d t nodes (scoreFromValue (specValue d b) b) pv],
        isBestmoveLine x = false := by
  rw [C16App.appStep_ok cfg halive hp]
  show ∃ older t nodes pv m, (runGo cfg s _).2 = _ ∧ _
  rw [C16App.runGo_lines]
  -- the search runs on `b` itself: scratch words do not matter (`goCmd_congr`)
  have heqv : Eqv { goStart s with board := b } (goStart s) := ⟨s.search.board, hb, rfl⟩
  show ∃ older t nodes pv m, searchLines _ (goCmd (goStart s) { depth := some d } (max d 1)).out = _ ∧ _
  rw [(goCmd_congr heqv _ _).1]
  -- C08 (the two newest messages), C07 (no other bestmove), C16 (the PV is not empty)
  obtain ⟨pv, nodes, t, m, older, hout, hopt, -⟩ := C08Sim.go_eq_spec_general { goStart s with board := b } d (max d 1) hd1 hd3
    (by omega) hinv hlegal hnowrap (C08Transp.hashInj_of_noCollision_le3 (Inv_mono (by unfold fuelFor; omega) hinv) hd3 hnc)
    hnz hmat hz hns (Or.inr rfl)
  obtain ⟨best, ponder, infos, hout', hnil⟩ :=
    C07.go_exactly_one_bestmove { goStart s with board := b } { depth := some d } (max d 1) rfl
  have hpvne : pv ≠ [] :=
    C16Wf.engine_pv_nonempty { goStart s with board := b } { depth := some d } (max d 1) _ _ _ _ pv
      (by rw [hout]; exact List.mem_cons_of_mem _ List.mem_cons_self) List.not_mem_nil
  rw [hout] at hout'
  injection hout' with _ hinfos
  subst hinfos
  rw [hout, searchLines_shape, searchLines_shape, render_infoLine, render_bestMove]
  refine ⟨older, t, nodes, pv, m, by simp, hopt, hpvne, ?_⟩
  rw [← render_infoLine, ← searchLines_shape]
  exact searchLines_no_bestmove _ hnil

/-- the same after `position fen <canonical FEN of b>`, from any live state with a standing clock (in the middle of a session:
table, killers, previous PV, debug switch as they are): the depth-`d` info is the last info line -/
theorem app_position_go_depth (cfg : Cfg) {s : AppSt} (halive : s.alive = true) (hns : s.search.nsPerNode = none)
    (b : Board) (d : Nat) (hd1 : 1 ≤ d) (hd3 : d ≤ 3)
    (hinv : Inv (fuelFor d) b) (hlegal : genLegal b ≠ []) (hnowrap : ply2 b + d < 65536)
    (hnc : NoCollision b d) (hnz : HashNonzero b d) (hmat : material b ≤ 64) :
    ∃ (older : List Out) (t : Option Nat) (nodes : Nat) (pv : List Move) (m : Move),
      (appSteps cfg s [positionLine b, goDepthLine d]).2 = searchLines (auxOf cfg s.debug) older ++
        [infoLine cfg s.debug d t nodes (scoreFromValue (specValue d b) b) pv, bestLine m pv[1]?] ∧
      m.uci ∈ specBestMoves d b ∧ pv ≠ [] ∧
      ∀ x ∈ searchLines (auxOf cfg s.debug) older ++ [infoLine cfg s.debug d t nodes (scoreFromValue (specValue d b) b) pv],
        isBestmoveLine x = false := by
  rw [appSteps_two, app_position_fen_setPosition cfg halive hinv.wf, List.nil_append]
  have hz : HistZero (plyClock b) (setPosition s.search (vis b) []) := by
    have := SearchSim.setPosition_histZero s.search (vis b)
    rwa [plyClock_vis] at this
  exact app_go_depth_held cfg (s := { s with search := setPosition s.search (vis b) [] }) halive (b := b)
    (by show vis (setPosition s.search (vis b) []).board = _; rw [SearchSim.setPosition_nil]; exact vis_vis b) hz
    (by show (setPosition s.search (vis b) []).nsPerNode = _; rw [SearchSim.setPosition_nil]; exact hns)
    (parseLine_goDepthLine d (by omega)) hd1 hd3 hinv hlegal hnowrap hnc hnz hmat

/-- **2. `app_go_depth_reports_minimax`.**  From the TEXT a GUI sends to the TEXT the process prints: for a legal position `b`
that has a legal move, a search depth `d ∈ {1, 2, 3}`, within the clock budget and without 64-bit hash collision / zero hash
among the positions within `d` plies (the hypotheses of `C08Transp.go_eq_spec_le3`), a freshly started process that reads

    position fen <canonical FEN of b>
    go depth d

prints: the banner; info lines (none of them a `bestmove` line), one of which is

    info depth d [time T] nodes N pv m1 … mk score S hashfull H nps P [string …]

with `S` the text of `scoreFromValue (specValue d b) b` — centipawns or mate distance of the EXACT depth-`d` minimax value
of the rules-level specification —; and, as its last line, `bestmove m[ ponder p]` where `m` is an optimal move
(`m ∈ specBestMoves d b`) and `p` the second move of that info's PV.  For every `cfg` (run dependent numbers, debug texts). -/
theorem app_go_depth_reports_minimax (cfg : Cfg) (b : Board) (d : Nat) (hd1 : 1 ≤ d) (hd3 : d ≤ 3)
    (hinv : Inv (fuelFor d) b) (hlegal : genLegal b ≠ []) (hnowrap : ply2 b + d < 65536)
    (hnc : NoCollision b d) (hnz : HashNonzero b d) (hmat : material b ≤ 64) :
    ∃ (pre post : List String) (t : Option Nat) (nodes : Nat) (pv : List Move) (m : Move),
      appRun [positionLine b, goDepthLine d] cfg =
        bannerLine :: (pre ++ infoLine cfg cfg.debugDefault d t nodes (scoreFromValue (specValue d b) b) pv :: post ++
          [bestLine m pv[1]?]) ∧
      m.uci ∈ specBestMoves d b ∧ pv ≠ [] ∧
      (∀ l ∈ pre ++ infoLine cfg cfg.debugDefault d t nodes (scoreFromValue (specValue d b) b) pv :: post,
        isBestmoveLine l = false) := by
  obtain ⟨older, t, nodes, pv, m, hl, hopt, hpv, hno⟩ :=
    app_position_go_depth cfg (s := appInit cfg) rfl rfl b d hd1 hd3 hinv hlegal hnowrap hnc hnz hmat
  refine ⟨_, [], t, nodes, pv, m, ?_, hopt, hpv, hno⟩
  unfold appRun
  rw [hl]
  simp
  rfl

theorem sm_uci_ne_null (sm : Spec.SMove) : sm.uci ≠ "0000" := by
  intro h
  have h' := congrArg String.toList h
  rw [GenSpec.uci_toList] at h'
  have h0 : "0000".toList = ['0', '0', '0', '0'] := by decide
  rw [h0] at h'
  simp only [List.cons_append, List.cons.injEq] at h'
  have hk : ∀ k, k < 8 → Char.ofNat (97 + k) ≠ '0' := by decide
  exact hk _ (Nat.mod_lt _ (by decide)) h'.1

theorem legalRoot_of_rules {b : Board} (hwf : wf b = true) {texts : List String}
    (h : ∃ sm ∈ Spec.legalMoves (abs b), texts = [] ∨ sm.uci ∈ texts) : ∃ m, LegalRoot b texts m := by
  obtain ⟨sm, hsm, hin⟩ := h
  obtain ⟨m, hm, hmu⟩ := List.mem_map.mp ((Closure.genLegal_eq_rules hwf sm).mpr hsm)
  have hmu' : smove m = sm := hmu
  have hmp : m ∈ genPseudo b := (List.mem_filter.mp hm).1
  refine ⟨m, hmp, (List.mem_filter.mp hm).2, ?_⟩
  intro hne
  rcases hin with e | hin
  · exact absurd e hne
  · rw [uci_smove hwf hmp, hmu']; exact hin

/-- the answer of one `go` line: info lines, then `bestmove <legal move of the rules in position p>[ ponder …]` -/
def AnswersLegal (lines : List String) (p : Spec.Pos) (searchmoves : List String) : Prop :=
  ∃ (infoLines : List String) (sm : Spec.SMove) (ponder : Option Move),
    lines = infoLines ++ ["bestmove " ++ sm.uci ++ (match ponder with | none => "" | some q => " ponder " ++ q.uci)] ∧
    sm ∈ Spec.legalMoves p ∧ sm.uci ≠ "0000" ∧ (searchmoves ≠ [] → sm.uci ∈ searchmoves) ∧
    (∀ x ∈ infoLines, isBestmoveLine x = false)

/-- **whatever position the process holds**: a live process (poll period above 41 218 nodes; the engine's is 100 000) whose
search thread holds a legal position with a legal move by the rules (among `searchmoves` if given), within the clock budget of
the search, answers ANY line that parses to a `go` by info lines followed by exactly one `bestmove` line with the UCI text of a
legal move of the rules Spec in the held position — never `0000` -/
theorem app_go_bestmove_legal_held (cfg : Cfg) {s : AppSt} (halive : s.alive = true) (hpoll : 41218 < s.search.pollPeriod)
    {l : String} {g : Uci.Go} (hp : parseLine l = .ok (.go g))
    (hinv : Inv (goBudget (maxIterOf cfg g)) s.search.board) (hfm : s.search.board.fullmove < 33554431)
    (hfuel : g.depth = none → 1 ≤ cfg.fuel)
    (hlegal : ∃ sm ∈ Spec.legalMoves (abs s.search.board),
      moveTexts g.searchMoves = [] ∨ sm.uci ∈ moveTexts g.searchMoves) :
    AnswersLegal (appStep cfg s l).2 (abs s.search.board) (moveTexts g.searchMoves) := by
  have hwf := hinv.wf
  rw [C16App.appStep_ok cfg halive hp]
  show AnswersLegal (runGo cfg s g).2 _ _
  rw [C16App.runGo_lines]
  unfold goRun
  have hiter : 1 ≤ maxIterOf cfg g := by
    unfold maxIterOf
    cases hd : g.depth with
    | none => exact hfuel hd
    | some d => exact Nat.le_max_right _ _
  obtain ⟨m, ponder, infos, hout, hnil, hmp, hvalid, hsm⟩ :=
    C07.go_answers_legal_move (goStart s) (SessionOps.goParamsOf g) (maxIterOf cfg g) hinv hfm hiter hpoll
      (legalRoot_of_rules hwf hlegal) rfl
  have hmp' : m ∈ genPseudo s.search.board := hmp
  have hvalid' : isValid (make s.search.board m) = true := hvalid
  refine ⟨searchLines (auxOf cfg s.debug) infos, smove m, ponder, ?_, smove_legal hwf hmp' hvalid', sm_uci_ne_null _, ?_,
    searchLines_no_bestmove _ hnil⟩
  · rw [hout, searchLines_shape, render_bestMove, ← uci_smove hwf hmp']
    rfl
  · intro hne
    rw [← uci_smove hwf hmp']
    exact hsm hne

/-- what a `position` line with the canonical FEN of `b` and the moves `us` does, for ANY line that parses to that command
(whatever its spacing and line end); the details are in the docstring of `app_position_moves` -/
theorem app_position_parsed (cfg : Cfg) {s : AppSt} (halive : s.alive = true) {b : Board} {us : List UciMove} {lp : String}
    (hlp : parseLine lp = .ok (.positionFrom (fenChars b) us)) (hus : ∀ u ∈ us, MoveWf u) (k : Nat)
    (hinv : Inv (us.length + k) b) :
    (RulesLine (abs b) (us.map toSMove) →
      ∃ b' hist mv, appStep cfg s lp =
          ({ s with search := { s.search with board := b', history := hist, playedMoves := mv } }, []) ∧
        Inv k b' ∧ abs b' = applyLine (abs b) (us.map toSMove) ∧ mv.length = us.length ∧
        b'.fullmove ≤ b.fullmove + us.length) ∧
    (¬ RulesLine (abs b) (us.map toSMove) → appStep cfg s lp = (s, [])) := by
  have hwf := hinv.wf
  have hs := app_position_fenChars cfg halive (C12.wf_repr hwf) hlp
  obtain ⟨g1, g2⟩ := setPosition_go_rules k us (vis b)
    (historySet (Array.replicate 5000 0) (plyClock (vis b)) (Zobrist.hash (vis b)).toNat) [] hus (inv_vis hinv)
  constructor
  · intro hl
    obtain ⟨b', h', mv, e1, e2, e3, e4, e5⟩ := g1 hl
    refine ⟨b', h', mv, ?_, e2, e3, by simpa using e4, fullmove_of_ply2 hwf e2.wf e5⟩
    rw [hs, SearchRep.setPosition_of_go_some _ _ _ _ _ _ e1]
  · intro hl
    rw [hs, SearchRep.setPosition_of_go_none _ _ _ (g2 hl)]

/-- **4. `app_position_moves`.**  `position fen <FEN of b> moves m1 … mn` on a live process, `b` legal with a clock budget of
`n + k` plies, the `mi` any UCI move values (squares on the board).  Nothing is printed.  If every `mi` is a legal move of the
rules Spec in the position reached by `m1 … m(i-1)` (`RulesLine`), the process afterwards differs from before in the search
thread's board, repetition history and played-move list only, and the board is well-formed (budget `k` left), `n` plies after
`b`, and stands for the position `Spec.apply (… (Spec.apply (abs b) m1) …) mn`.  If some `mi` is not legal there, the state of the
process is EXACTLY what it was (the engine keeps its old position). -/
theorem app_position_moves (cfg : Cfg) {s : AppSt} (halive : s.alive = true) {b : Board} {us : List UciMove}
    (hus : ∀ u ∈ us, MoveWf u) (k : Nat) (hinv : Inv (us.length + k) b) :
    (RulesLine (abs b) (us.map toSMove) →
      ∃ b' hist mv, appStep cfg s (positionMovesLine b us) =
          ({ s with search := { s.search with board := b', history := hist, playedMoves := mv } }, []) ∧
        Inv k b' ∧ abs b' = applyLine (abs b) (us.map toSMove) ∧ mv.length = us.length ∧
        b'.fullmove ≤ b.fullmove + us.length) ∧
    (¬ RulesLine (abs b) (us.map toSMove) → appStep cfg s (positionMovesLine b us) = (s, [])) :=
  app_position_parsed cfg halive (parseLine_positionMovesLine (C12.wf_repr hinv.wf) hus) hus k hinv

/-- 3 and 4 composed once, for any two lines that parse to "`position`, canonical FEN of `b`, a legal line `us` of the rules"
and to a `go`: the answer carries a legal move of the rules in the position reached by `us` -/
theorem app_position_go_legal (cfg : Cfg) {s : AppSt} (halive : s.alive = true)
    (hpoll : 41218 < s.search.pollPeriod) {b : Board} {us : List UciMove} (hus : ∀ u ∈ us, MoveWf u)
    {lp l : String} {g : Uci.Go} (hlp : parseLine lp = .ok (.positionFrom (fenChars b) us)) (hp : parseLine l = .ok (.go g))
    (hinv : Inv (us.length + goBudget (maxIterOf cfg g)) b) (hfm : b.fullmove + us.length < 33554431)
    (hfuel : g.depth = none → 1 ≤ cfg.fuel) (hline : RulesLine (abs b) (us.map toSMove))
    (hlegal : ∃ sm ∈ Spec.legalMoves (applyLine (abs b) (us.map toSMove)),
      moveTexts g.searchMoves = [] ∨ sm.uci ∈ moveTexts g.searchMoves) :
    AnswersLegal (appSteps cfg s [lp, l]).2 (applyLine (abs b) (us.map toSMove)) (moveTexts g.searchMoves) := by
  obtain ⟨b', hist, mv, e1, e2, e3, -, e5⟩ := (app_position_parsed cfg halive hlp hus _ hinv).1 hline
  rw [appSteps_two, e1, List.nil_append, ← e3]
  exact app_go_bestmove_legal_held cfg
    (s := { s with search := { s.search with board := b', history := hist, playedMoves := mv } }) halive hpoll hp e2
    (by show b'.fullmove < _; omega) hfuel (by rw [e3]; exact hlegal)

/-- **3. `app_go_bestmove_legal`.**  A live process (with the engine's poll period: more than 41 218 nodes between two polls; the
engine's is 100 000) reads `position fen <FEN of b>` for a legal position `b` that has a legal move by the rules (one of
`searchmoves` if the `go` names some), and then ANY line that parses to a `go` command — every combination of limits.  Within the
clock budget of the search (`Inv (goBudget maxIter)`, as in C07) it prints info lines and then exactly one `bestmove` line, whose
move is the UCI text of a LEGAL MOVE OF THE RULES Spec in `b` (and one of `searchmoves` when given) — never `bestmove 0000`. -/
theorem app_go_bestmove_legal (cfg : Cfg) {s : AppSt} (halive : s.alive = true) (hpoll : 41218 < s.search.pollPeriod)
    {b : Board} {l : String} {g : Uci.Go} (hp : parseLine l = .ok (.go g))
    (hinv : Inv (goBudget (maxIterOf cfg g)) b) (hfm : b.fullmove < 33554431) (hfuel : g.depth = none → 1 ≤ cfg.fuel)
    (hlegal : ∃ sm ∈ Spec.legalMoves (abs b), moveTexts g.searchMoves = [] ∨ sm.uci ∈ moveTexts g.searchMoves) :
    AnswersLegal (appSteps cfg s [positionLine b, l]).2 (abs b) (moveTexts g.searchMoves) :=
  -- the empty line of moves
  app_position_go_legal cfg halive hpoll (us := []) (fun _ h => nomatch h) (parseLine_positionLine (C12.wf_repr hinv.wf)) hp
    (by rw [List.length_nil, Nat.zero_add]; exact hinv) hfm hfuel trivial hlegal

/-- the same for a freshly started process (poll period 100 000): the whole stdout of the two-line script -/
theorem app_run_go_bestmove_legal (cfg : Cfg) {b : Board} {l : String} {g : Uci.Go} (hp : parseLine l = .ok (.go g))
    (hinv : Inv (goBudget (maxIterOf cfg g)) b) (hfm : b.fullmove < 33554431) (hfuel : g.depth = none → 1 ≤ cfg.fuel)
    (hlegal : ∃ sm ∈ Spec.legalMoves (abs b), moveTexts g.searchMoves = [] ∨ sm.uci ∈ moveTexts g.searchMoves) :
    ∃ lines, appRun [positionLine b, l] cfg = bannerLine :: lines ∧
      AnswersLegal lines (abs b) (moveTexts g.searchMoves) :=
  ⟨_, rfl, app_go_bestmove_legal cfg (s := appInit cfg) rfl (by show 41218 < 100000; decide) hp hinv hfm hfuel hlegal⟩

/-- **3 + 4: a game, then any `go`.**  `position fen <FEN of b> moves m1 … mn` with a legal line of the rules, followed by any
line that parses to a `go`: the process answers with info lines and one `bestmove` line carrying a legal move of the rules
Spec IN THE POSITION REACHED BY THE LINE (`applyLine (abs b) [m1, …, mn]`), never `0000` — provided that position has a legal
move (among `searchmoves` if given) and the clocks of `b` leave room for the game and the search. -/
theorem app_go_bestmove_legal_after_moves (cfg : Cfg) {s : AppSt} (halive : s.alive = true)
    (hpoll : 41218 < s.search.pollPeriod) {b : Board} {us : List UciMove} (hus : ∀ u ∈ us, MoveWf u)
    {l : String} {g : Uci.Go} (hp : parseLine l = .ok (.go g))
    (hinv : Inv (us.length + goBudget (maxIterOf cfg g)) b) (hfm : b.fullmove + us.length < 33554431)
    (hfuel : g.depth = none → 1 ≤ cfg.fuel) (hline : RulesLine (abs b) (us.map toSMove))
    (hlegal : ∃ sm ∈ Spec.legalMoves (applyLine (abs b) (us.map toSMove)),
      moveTexts g.searchMoves = [] ∨ sm.uci ∈ moveTexts g.searchMoves) :
    AnswersLegal (appSteps cfg s [positionMovesLine b us, l]).2 (applyLine (abs b) (us.map toSMove))
      (moveTexts g.searchMoves) :=
  app_position_go_legal cfg halive hpoll hus (parseLine_positionMovesLine (C12.wf_repr hinv.wf) hus) hp hinv hfm hfuel hline
    hlegal

#print axioms app_position_fen_sets_board
#print axioms app_position_fen_board
#print axioms app_go_depth_held
#print axioms app_go_depth_reports_minimax
#print axioms app_go_bestmove_legal_held
#print axioms app_go_bestmove_legal
#print axioms app_go_bestmove_legal_after_moves
#print axioms infoLine_projected
#print axioms app_run_go_bestmove_legal
#print axioms app_position_moves

/-! ## non-vacuity: concrete scripts

`kc` = `k7/8/2K5/8/8/8/8/7R w - - 0 1` (White mates in two: depth 3 reports `mate 2`), `kr` = `k7/8/1K6/8/8/8/8/7R w - - 0 1`
(`C08.Example.kr`).  Hypotheses that are propositions about the bitboard model (`wf`, clock budget, legal move, hash hypotheses
at depth 2) are checked IN THE KERNEL and the theorems are instantiated; the printed texts themselves (`Std.HashMap`, strings)
are evaluated by the compiler (`#guard`) and compared with `specValue` / `specBestMoves`. -/
namespace Example
open Inkayaku.C08.Example Inkayaku.C08Sim.Example

def kc : Board := boardOf "k7/8/2K5/8/8/8/8/7R w - - 0 1"

theorem kc_wf : wf kc = true := by decide +kernel
theorem kr_wf : wf kr = true := by decide +kernel

/-- the legal moves of `kc` by the rules: seven of the king, fourteen of the rook -/
theorem kc_legalMoves : Spec.legalMoves (abs kc) =
    [⟨18, 10, none⟩, ⟨18, 11, none⟩, ⟨18, 17, none⟩, ⟨18, 19, none⟩, ⟨18, 25, none⟩, ⟨18, 26, none⟩, ⟨18, 27, none⟩,
     ⟨63, 7, none⟩, ⟨63, 15, none⟩, ⟨63, 23, none⟩, ⟨63, 31, none⟩, ⟨63, 39, none⟩, ⟨63, 47, none⟩, ⟨63, 55, none⟩,
     ⟨63, 56, none⟩, ⟨63, 57, none⟩, ⟨63, 58, none⟩, ⟨63, 59, none⟩, ⟨63, 60, none⟩, ⟨63, 61, none⟩, ⟨63, 62, none⟩] := by
  decide +kernel

/-- … and of the position after `h1g1`: the black king has `a8b8` and `a8a7` -/
theorem kc_g1_legalMoves :
    Spec.legalMoves (Spec.apply (abs kc) (toSMove ⟨63, 62, none⟩)) = [⟨0, 1, none⟩, ⟨0, 8, none⟩] := by
  decide +kernel

#guard fenText kc == "k7/8/2K5/8/8/8/8/7R w - - 0 1" && FenBoard.printFen kc == some (fenText kc)
#guard positionLine kc == "position fen k7/8/2K5/8/8/8/8/7R w - - 0 1"
#guard positionLine FenBoard.startBoard == "position fen rnbqkbnr/pppppppp/8/8/8/8/PPPPPPPP/RNBQKBNR w KQkq - 0 1"
#guard goDepthLine 3 == "go depth 3" && goDepthLine 12 == "go depth 12"
#guard positionMovesLine kc [⟨63, 62, none⟩, ⟨0, 8, none⟩] == "position fen k7/8/2K5/8/8/8/8/7R w - - 0 1 moves h1g1 a8a7"
#guard positionMovesLine kc [] == "position fen k7/8/2K5/8/8/8/8/7R w - - 0 1 moves"

/-- theorem 1 instantiated: the freshly started process, the line of `kc` -/
example : (appStep {} appInit (positionLine kc)).2 = [] ∧ (appStep {} appInit (positionLine kc)).1.search.board = vis kc :=
  ⟨(app_position_fen_board {} (s := appInit) rfl kc_wf).1, (app_position_fen_board {} (s := appInit) rfl kc_wf).2.1⟩
-- `kc` was read from a FEN: its scratch words are clear, the board held is `kc` itself
#guard vis kc == kc && (appFinal [positionLine kc]).search.board == kc
-- also in the middle of a session (table, killers, previous PV present)
#guard (appFinal ["go depth 2", positionLine kc]).search.board == kc && (appRun ["go depth 1", positionLine kc]).length == 3

/-- the hash hypotheses of `kr` at depth 2, in the kernel (evaluated with the hashes updated move by move: `injCheckH`,
`hashNonzeroH`) -/
theorem kr_hash2 : hashInjB kr 2 = true ∧ hashNonzeroB kr 2 = true :=
  have hinv : Inv 2 kr := Inv_mono (by decide) C08Transp.Example.kr_inv3
  ⟨hashInjB_of_hashInj (hashInj_of_vis hinv (hashInjVis_of_checkH kr 2 hinv (by decide +kernel))),
   hashNonzeroB_of_H hinv (by decide +kernel)⟩

/-- theorem 2 instantiated at `kr`, depth 2 (every hypothesis kernel-checked) -/
example : ∃ (pre post : List String) (t : Option Nat) (nodes : Nat) (pv : List Move) (m : Move),
    appRun [positionLine kr, goDepthLine 2] =
      bannerLine :: (pre ++ infoLine {} false 2 t nodes (scoreFromValue (specValue 2 kr) kr) pv :: post ++
        [bestLine m pv[1]?]) ∧
    m.uci ∈ specBestMoves 2 kr ∧ pv ≠ [] ∧
    (∀ l ∈ pre ++ infoLine {} false 2 t nodes (scoreFromValue (specValue 2 kr) kr) pv :: post, isBestmoveLine l = false) :=
  app_go_depth_reports_minimax {} kr 2 (by decide) (by decide) ⟨kr_wf, by decide, by decide⟩ (by decide +kernel) (by decide)
    (noCollision_of_hashInj (hashInj_of_check kr_hash2.1)) (hashNonzero_of_check kr_hash2.2) (by decide +kernel)

/-- the conclusion of theorem 2, evaluated on the printed text: some line projects to `info depth d pv … score S` with `S` the
text of the exact minimax value, the last line announces an optimal move -/
def reportsMinimax (b : Board) (d : Nat) : Bool :=
  let out := (appRun [positionLine b, goDepthLine d]).tail
  let want := " score " ++ String.ofList (Console.scoreText (scoreOf (scoreFromValue (specValue d b) b)))
  let head := "info depth " ++ toString d ++ " pv "
  (out.any fun l =>
    let p := String.ofList (projectChars l.toList)
    p == AppOps.projectLine l && p.startsWith head && p.endsWith want) &&
  (match out.getLast? with
   | some l => (specBestMoves d b).any fun m => l == "bestmove " ++ m || l.startsWith ("bestmove " ++ m ++ " ponder ")
   | none => false) &&
  C16App.countBestmoves out == 1

#guard hypotheses kc 1 && reportsMinimax kc 1
#guard hypotheses kc 2 && reportsMinimax kc 2
#guard hypotheses kc 3 && reportsMinimax kc 3
#guard reportsMinimax kr 3      -- (`hypotheses kr 3`: `#guard` in Props/C08Sim.lean)
-- black to move, castling rights / e.p. / promotion in the tree
#guard hypotheses (boardOf "7K/8/5k2/8/8/8/8/r7 b - - 60 40") 2 && reportsMinimax (boardOf "7K/8/5k2/8/8/8/8/r7 b - - 60 40") 2
#guard hypotheses (boardOf "r3k3/1P6/8/3pP3/8/8/8/4K2R w Kq d6 0 2") 2 &&
  reportsMinimax (boardOf "r3k3/1P6/8/3pP3/8/8/8/4K2R w Kq d6 0 2") 2
#guard specValue 2 kc == 570 && specScore 3 kc == "mate2" && specBestMoves 3 kc == ["c6c7", "c6b6"]
#guard appRun [positionLine kc, goDepthLine 2] ==
  ["Inkayaku by Marvin Kuhnke (see https://github.com/marvk/rust-chess)",
   "info depth 1 time 0 nodes 22 pv c6d5 score cp 590 hashfull 0 nps 0",
   "info depth 2 time 0 nodes 67 pv c6d5 a8b8 score cp 570 hashfull 0 nps 0",
   "bestmove c6d5 ponder a8b8"]
#guard (appRun [positionLine kc, goDepthLine 3]).map AppOps.projectLine ==
  ["Inkayaku by Marvin Kuhnke (see https://github.com/marvk/rust-chess)",
   "info depth 1 pv c6d5 score cp 590", "info depth 2 pv c6d5 a8b8 score cp 570",
   "info depth 3 pv c6c7 a8a7 h1a1 score mate 2", "bestmove c6c7 ponder a8a7"]
-- run dependent numbers and the debug string do not matter
#guard (appRun [positionLine kc, goDepthLine 3] C16App.Example.cfg2).map AppOps.projectLine ==
  (appRun [positionLine kc, goDepthLine 3]).map AppOps.projectLine
#guard ((appRun ["debug on", positionLine kc, goDepthLine 3]).map fun l => String.ofList (projectChars l.toList)) ==
  (appRun [positionLine kc, goDepthLine 3]).map AppOps.projectLine

def isGo (l : String) (g : Uci.Go) : Bool := match parseLine l with | .ok (.go g') => g' == g | _ => false

theorem go_of_isGo {l : String} {g : Uci.Go} (h : isGo l g = true) : parseLine l = .ok (.go g) := by
  unfold isGo at h
  split at h
  · rename_i g' hp; rw [hp]; simp at h; rw [h]
  · cases h

/-- theorem 3 instantiated: `go movetime 0` (no depth: `cfg.fuel = 4` iterations in the model) after the line of `kc` -/
example : ∃ lines, appRun [positionLine kc, "go movetime 0"] = bannerLine :: lines ∧ AnswersLegal lines (abs kc) [] :=
  app_run_go_bestmove_legal {} (g := { moveTime := some 0 }) (go_of_isGo (by decide +kernel))
    ⟨kc_wf, by decide, by decide⟩ (by decide) (fun _ => by decide)
    ⟨⟨63, 7, none⟩, by rw [kc_legalMoves]; decide, Or.inl rfl⟩

/-- … with clocks, zero increments and `searchmoves`: the announced move is one of them -/
example : ∃ lines, appRun [positionLine kc, "go wtime 1 btime 1 winc 0 binc 0 searchmoves h1h8 c6c7"] = bannerLine :: lines ∧
    AnswersLegal lines (abs kc) ["h1h8", "c6c7"] :=
  app_run_go_bestmove_legal {}
    (g := { wtime := some 1, btime := some 1, winc := some 0, binc := some 0, searchMoves := [⟨63, 7, none⟩, ⟨18, 10, none⟩] })
    (go_of_isGo (by decide +kernel)) ⟨kc_wf, by decide, by decide⟩ (by decide) (fun _ => by decide)
    ⟨⟨63, 7, none⟩, by rw [kc_legalMoves]; decide, Or.inr (by decide)⟩

/-- the conclusion evaluated: the last line announces a legal move of the rules Spec, all other lines are infos -/
def answersLegal (b : Board) (goLine : String) : Bool :=
  let out := (appRun [positionLine b, goLine]).tail
  (match out.getLast? with
   | some l => (Spec.legalMoves (abs b)).any fun sm => l == "bestmove " ++ sm.uci || l.startsWith ("bestmove " ++ sm.uci ++ " ponder ")
   | none => false) &&
  out.dropLast.all fun l => !isBestmoveLine l

#guard answersLegal kc "go movetime 0" && answersLegal kc "go" && answersLegal kc "go infinite" && answersLegal kc "go depth 0"
#guard answersLegal kc "go wtime 1 btime 1 winc 0 binc 0 searchmoves h1h8 c6c7" && answersLegal kc "go depth 4 nodes 1 mate 1"
#guard answersLegal FenBoard.startBoard "go depth 2" && answersLegal FenBoard.startBoard "go movetime 1 ponder"
#guard (appRun [positionLine kc, "go depth 2 searchmoves h1h8"]).getLast? == some "bestmove h1h8 ponder a8a7"
-- without a legal move the hypothesis fails and the answer is the null move (stalemate position)
#guard (Spec.legalMoves (abs (boardOf "k7/8/1Q6/8/8/8/8/K7 b - - 0 1"))).isEmpty &&
  (appRun [positionLine (boardOf "k7/8/1Q6/8/8/8/8/K7 b - - 0 1"), "go depth 2"]).getLast? == some "bestmove 0000"

theorem kc_line : RulesLine (abs kc) ([⟨63, 62, none⟩, ⟨0, 8, none⟩].map toSMove) := by
  refine ⟨?_, ?_, trivial⟩
  · rw [kc_legalMoves]; decide
  · rw [kc_g1_legalMoves]; decide

theorem kc_not_line : ¬ RulesLine (abs kc) ([⟨63, 62, none⟩, ⟨0, 9, none⟩].map toSMove) := by
  intro h
  have h2 := h.2.1
  rw [kc_g1_legalMoves] at h2
  revert h2
  decide

/-- theorem 4 instantiated, legal line `h1g1 a8a7` -/
example : ∃ b' hist mv, appStep {} appInit (positionMovesLine kc [⟨63, 62, none⟩, ⟨0, 8, none⟩]) =
      ({ appInit with search := { appInit.search with board := b', history := hist, playedMoves := mv } }, []) ∧
    Inv 0 b' ∧ abs b' = applyLine (abs kc) ([⟨63, 62, none⟩, ⟨0, 8, none⟩].map toSMove) ∧ mv.length = 2 ∧
    b'.fullmove ≤ kc.fullmove + 2 :=
  (app_position_moves {} (s := appInit) rfl (by decide) 0 ⟨kc_wf, by decide, by decide⟩).1 kc_line

/-- … and with the illegal second move `a8b7` (the king would step next to the white king): nothing changes -/
example : appStep {} appInit (positionMovesLine kc [⟨63, 62, none⟩, ⟨0, 9, none⟩]) = (appInit, []) :=
  (app_position_moves {} (s := appInit) rfl (by decide) 0 ⟨kc_wf, by decide, by decide⟩).2 kc_not_line

/-- 3 + 4 instantiated: the game `h1g1 a8a7`, then `go depth 2` -/
example : AnswersLegal (appSteps {} appInit [positionMovesLine kc [⟨63, 62, none⟩, ⟨0, 8, none⟩], "go depth 2"]).2
    (applyLine (abs kc) ([⟨63, 62, none⟩, ⟨0, 8, none⟩].map toSMove)) [] :=
  app_go_bestmove_legal_after_moves {} (s := appInit) rfl (by show 41218 < 100000; decide) (by decide)
    (g := { depth := some 2 }) (go_of_isGo (by decide +kernel)) ⟨kc_wf, by decide, by decide⟩ (by decide) (fun h => by cases h)
    kc_line ⟨⟨62, 6, none⟩, by decide +kernel, Or.inl rfl⟩

#guard FenBoard.printFen (appFinal [positionMovesLine kc [⟨63, 62, none⟩, ⟨0, 8, none⟩]]).search.board ==
  some "8/k7/2K5/8/8/8/8/6R1 w - - 2 2"
#guard Spec.fen (applyLine (abs kc) ([⟨63, 62, none⟩, ⟨0, 8, none⟩].map toSMove)) == "8/k7/2K5/8/8/8/8/6R1 w - - 2 2"
#guard (appFinal [positionMovesLine kc [⟨63, 62, none⟩, ⟨0, 8, none⟩]]).search.playedMoves.map Move.uci == ["h1g1", "a8a7"]
-- the illegal line keeps the previous position (here: the start position), on stdout nothing
#guard (appFinal [positionMovesLine kc [⟨63, 62, none⟩, ⟨0, 9, none⟩]]).search.board == FenBoard.startBoard
#guard appRun [positionLine kc, positionMovesLine kc [⟨63, 62, none⟩, ⟨0, 9, none⟩], "go depth 2"] ==
  appRun [positionLine kc, "go depth 2"]
#guard (appRun [positionMovesLine kc [⟨63, 62, none⟩, ⟨0, 8, none⟩], goDepthLine 2]).getLast? == some "bestmove g1g7 ponder a7a6"

end Example

end Inkayaku.EndToEnd
