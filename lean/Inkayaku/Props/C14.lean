import Inkayaku.Proofs.SanProofs
import Inkayaku.Props.C05
import Inkayaku.Props.C01
import Inkayaku.Model.FenBoard
/-!
# C14 — SAN: what `uci_to_pgn` writes and what `pgn_to_bb` reads

Property text: *For every legal position and legal move, the SAN text produced for the move is the standard algebraic
notation of that move: piece letter, minimal disambiguation (file, else rank, else both) whenever another piece of the
same kind can legally reach the target, capture mark, promotion suffix, castling as O-O/O-O-O, `+` for check and `#`
only for checkmate (never for stalemate).  Parsing that text back in the same position yields exactly the original
move, and the SAN parser maps any standard SAN string to the unique legal move it denotes or reports an error.*

Objects: `San.uciToSan` = `uci_to_pgn`, `San.sanToMove` = `pgn_to_bb`, `San.sanCaptures` = the hand translation of
`PGN_REGEX` (model of board/src/board.rs, `Model/San.lean`); `Spec.SanGrammar` = the SAN shapes as a printer
(`renderSan`), the standard disambiguation rule (`standardDisamb`); `Spec.isCheckmate` / `Spec.isStalemate` /
`Spec.inCheck` (the rules), `Abs.abs`, `WF.wf` ("legal position").  Proofs: `Proofs/SanProofs.lean`.

The hypotheses besides `WF.wf b`:
* `UciNodup b` (the UCI texts of the pseudo-legal moves are pairwise different: part of property C01) — round trip;
  `san_roundtrip_wf` discharges it with `C01.genPseudo_nodup`, so that only `WF.wf b` remains;
* `WF.wf (make b m)` and `hlegal` (the model's legal-move list after the move is empty iff the Spec's is) — only where
  the check mark is related to the RULES (`check_mark_rules`, `never_hash_for_stalemate`); `Search.make_wf` and
  `Closure.no_moves_iff_rules` supply both for a legal position with one more ply of room in the clocks, which is how
  `C14Spec.san_eq_spec` covers the suffix; the statement about the model (`check_mark`) has no hypothesis.
The facts about the move generator the round trip needs (`SanProofs.SanGenFacts`: castling squares, king step, promotion
rank, pawn geometry incl. en passant and the double step) follow from `WF.wf b` (`SanProofs.sanGenFacts_of_wf`).

The literal equation with the executable reference, `s = Spec.san (Abs.abs b) (Abs.absMove m.f)`, is
`C14Spec.san_eq_spec` (Props/C14Spec.lean; it rests on the generator/successor correspondences of C01/C02/C05).
-/
namespace Inkayaku.C14
open Inkayaku.Board Inkayaku.San Inkayaku.Spec.SanGrammar Inkayaku.SanProofs Inkayaku.Util

/-- every printed shape — all combinations of piece letter, source file, source rank, capture mark, promotion, either
castling, any check mark, any annotation — is read back with exactly its parts as captures (the
greedy-then-backtrack order of the optional groups picks the right decomposition) -/
theorem sanCaptures_render (sh : SanShape) (h : sh.wf = true) : sanCaptures (renderSan sh) = some (capsOf sh) :=
  SanProofs.sanCaptures_render sh h

/-- nothing else is accepted -/
theorem sanCaptures_complete {s : List Char} {r : SanCaps} (h : sanCaptures s = some r) :
    ∃ sh : SanShape, sh.wf = true ∧ renderSan sh = s ∧ capsOf sh = r :=
  SanProofs.sanCaptures_inv h

theorem sanCaptures_none {s : List Char} (h : ¬ ∃ sh : SanShape, sh.wf = true ∧ renderSan sh = s) :
    sanCaptures s = none :=
  SanProofs.sanCaptures_none h

theorem sanCaptures_empty : sanCaptures [] = none := by decide

theorem sanCaptures_illegal_char {s : List Char} {c : Char} (hc : c ∈ s) (hbad : isSanChar c = false) :
    sanCaptures s = none := by
  apply sanCaptures_none
  rintro ⟨sh, hw, rfl⟩
  rw [renderSan_alphabet hw c hc] at hbad
  cases hbad

theorem sanCaptures_short {s : List Char} (h : s.length < 2) : sanCaptures s = none := by
  apply sanCaptures_none
  rintro ⟨sh, _, rfl⟩
  have := renderSan_length (sh := sh)
  omega

/-- **the check mark, as a statement about the model**: whenever `uci_to_pgn` answers `s` for the text `u`, `u`
(trimmed) names a pseudo-legal move `m` that is legal, and the LAST character of `s` is
`#` iff the side to move after `m` is in check and has no legal move,
`+` iff it is in check and has a legal move, and no check mark at all iff it is not in check. -/
theorem check_mark {b : Board} {u s : String} (h : (uciToSan b u).1 = .ok s) :
    ∃ m, (genPseudo b).find? (fun m => m.uci == rustTrim u) = some m ∧ isMoveLegal b m = true ∧
      (s.toList.getLast? = some '#' ↔ (isCurrentInCheck (make b m) = true ∧ genLegal (make b m) = [])) ∧
      (s.toList.getLast? = some '+' ↔ (isCurrentInCheck (make b m) = true ∧ genLegal (make b m) ≠ [])) ∧
      ((∀ c, s.toList.getLast? = some c → isCheckMark c = false) ↔ isCurrentInCheck (make b m) = false) := by
  obtain ⟨m, hm, hl, rfl⟩ := uciToSan_ok h
  refine ⟨m, hm, hl, ?_, ?_, ?_⟩
  · rw [sanText, String.toList_ofList, getLast?_chars (bodyChars_noMark _ m) _ '#' (by decide), sanSuffix_hash]
  · rw [sanText, String.toList_ofList, getLast?_chars (bodyChars_noMark _ m) _ '+' (by decide), sanSuffix_plus]
  · rw [← sanSuffix_none, sanText, String.toList_ofList]
    constructor
    · intro hall
      cases hs : sanSuffix (make b m) with
      | none => rfl
      | some c =>
        have hc : isCheckMark c = true := by
          have := sanSuffix_ok (make b m)
          rwa [hs] at this
        have := hall c (by
          rw [hs]
          simp only [optC, List.getLast?_append, List.getLast?_singleton, Option.some_or])
        rw [hc] at this; cases this
    · intro hs c hc
      rw [hs] at hc
      simp only [optC, List.append_nil] at hc
      exact bodyChars_noMark _ m c (List.mem_of_getLast? hc)

/-- **the check mark and the rules**: if the position after the move is legal (`WF.wf`) and its legal-move list is
empty exactly when the Spec's is, then `#` ⇔ checkmate, `+` ⇔ check that is not mate, and in a stalemate the text
carries no check mark -/
theorem check_mark_rules {b : Board} {u s : String} (h : (uciToSan b u).1 = .ok s) :
    ∃ m, (genPseudo b).find? (fun m => m.uci == rustTrim u) = some m ∧ isMoveLegal b m = true ∧
      ∀ (_hwf1 : WF.wf (make b m) = true)
        (_hlegal : (genLegal (make b m)).isEmpty = (Spec.legalMoves (Abs.abs (make b m))).isEmpty),
        (s.toList.getLast? = some '#' ↔ Spec.isCheckmate (Abs.abs (make b m)) = true) ∧
        (s.toList.getLast? = some '+' ↔
          (Spec.inCheck (Abs.abs (make b m)) (Abs.abs (make b m)).whiteToMove = true ∧
            Spec.isCheckmate (Abs.abs (make b m)) = false)) ∧
        (Spec.isStalemate (Abs.abs (make b m)) = true → ∀ c, s.toList.getLast? = some c → isCheckMark c = false) := by
  obtain ⟨m, hfind, hleg, hhash, hplus, hnone⟩ := check_mark h
  refine ⟨m, hfind, hleg, fun hwf1 hlegal => ?_⟩
  obtain ⟨hmate, hstale, _, _⟩ := C05.no_moves_iff (make b m) hwf1 hlegal
  have hchk := C05.current_in_check (make b m) hwf1
  rw [← hmate, ← hstale, ← hchk]
  refine ⟨?_, ?_, ?_⟩
  · rw [hhash, ← List.isEmpty_iff]
    cases (genLegal (make b m)).isEmpty <;> cases isCurrentInCheck (make b m) <;> simp
  · rw [hplus, Ne, ← List.isEmpty_iff]
    cases (genLegal (make b m)).isEmpty <;> cases isCurrentInCheck (make b m) <;> simp
  · intro hst
    apply hnone.mpr
    cases hc : isCurrentInCheck (make b m)
    · rfl
    · rw [hc] at hst; simp at hst

/-- **never `#` (nor `+`) for stalemate** -/
theorem never_hash_for_stalemate {b : Board} {u s : String} (h : (uciToSan b u).1 = .ok s) :
    ∃ m, (genPseudo b).find? (fun m => m.uci == rustTrim u) = some m ∧
      ∀ (_hwf1 : WF.wf (make b m) = true)
        (_hlegal : (genLegal (make b m)).isEmpty = (Spec.legalMoves (Abs.abs (make b m))).isEmpty),
        Spec.isStalemate (Abs.abs (make b m)) = true →
          s.toList.getLast? ≠ some '#' ∧ s.toList.getLast? ≠ some '+' := by
  obtain ⟨m, hfind, _, hrules⟩ := check_mark_rules h
  refine ⟨m, hfind, fun hwf1 hlegal hst => ?_⟩
  have := (hrules hwf1 hlegal).2.2 hst
  exact ⟨fun h' => by have := this _ h'; revert this; decide, fun h' => by have := this _ h'; revert this; decide⟩

/-- **the four-way case split of `uci_to_pgn` is the standard rule** (`cands` = source squares of the legal moves of
the same kind of piece to the same target, the mover included): no other candidate → nothing; else no other
candidate on the mover's file → file letter; else none on its rank → rank digit; else both -/
theorem disamb_standard (src : Nat) (cands : List Nat) : modelDisamb src cands false = standardDisamb src cands :=
  SanProofs.disamb_standard src cands

/-- **the hint identifies the mover uniquely among the candidates** -/
theorem disamb_unique (src : Nat) (cands : List Nat) (o : Nat) (ho : o ∈ cands)
    (h : (standardDisamb src cands).agrees src o = true) : o = src :=
  SanProofs.disamb_unique src cands o ho h

/-- **what is written for a legal move**: the text is the rendering of `shapeOfMove b m`, and that shape is a
STANDARD SAN shape (a pawn move has no piece letter and no source rank, names its source file exactly when it
captures; a piece move has no promotion; no annotation) -/
theorem text_standard {b : Board} (hwf : WF.wf b = true) (hnd : UciNodup b) {m : Move} (hm : m ∈ genLegal b)
    {s : String} (h : (uciToSan b m.uci).1 = .ok s) :
    s.toList = renderSan (shapeOfMove b m) ∧ (shapeOfMove b m).standard = true :=
  have hF := sanGenFacts_of_wf hwf
  ⟨by rw [uciToSan_legal hnd hm] at h; cases h; exact sanText_shape hwf hF (mem_genPseudo_of_legal hm),
    shapeOfMove_standard hF (mem_genPseudo_of_legal hm)⟩

/-- the shape of a piece move: piece letter, the STANDARD disambiguation over the candidate sources, capture mark
iff something is captured, target square, no promotion, check mark from the position after the move -/
theorem shape_piece {b : Board} (hwf : WF.wf b = true) {m : Move} (hm : m ∈ genLegal b)
    (hck : castleKind m.f = none) (hp : m.f.pieceMoved ≠ PAWN) :
    shapeOfMove b m =
      ⟨.move (letterOf m.f.pieceMoved)
          ((standardDisamb m.f.source (candSources b (genPseudo b) m.f)).fileOf (fileChar m.f.source))
          ((standardDisamb m.f.source (candSources b (genPseudo b) m.f)).rankOf (rankChar m.f.source))
          (capturesOf m.f) (fileChar m.f.target) (rankChar m.f.target) none,
        sanSuffix (make b m), []⟩ :=
  SanProofs.shape_piece (sanGenFacts_of_wf hwf) (mem_genPseudo_of_legal hm) hck hp

/-- exactly the generated castling moves are written as castling (`shape_castle`) -/
theorem castleKind_iff {b : Board} (hwf : WF.wf b = true) {m : Move} (hm : m ∈ genPseudo b) :
    (castleKind m.f).isSome = m.f.castle := by
  rw [castleKind_generated (sanGenFacts_of_wf hwf) hm]
  cases m.f.castle <;> rfl

/-- `uci_to_pgn` accepts the UCI text of every legal move -/
theorem uciToSan_legal_ok {b : Board} (hnd : UciNodup b) {m : Move} (hm : m ∈ genLegal b) :
    ∃ s, (uciToSan b m.uci).1 = .ok s := ⟨_, uciToSan_legal hnd hm⟩

/-- **round trip**: in a legal position the SAN text written for a legal move — castling, pawn pushes, pawn
captures, en passant, promotions, piece moves with every disambiguation — is parsed back to EXACTLY that move -/
theorem san_roundtrip {b : Board} (hwf : WF.wf b = true) (hnd : UciNodup b) {m : Move} (hm : m ∈ genLegal b)
    {s : String} (h : (uciToSan b m.uci).1 = .ok s) : sanToMove b s = some m :=
  SanProofs.san_roundtrip hwf hnd hm h

theorem san_roundtrip_exists {b : Board} (hwf : WF.wf b = true) (hnd : UciNodup b) {m : Move} (hm : m ∈ genLegal b) :
    ∃ s, (uciToSan b m.uci).1 = .ok s ∧ sanToMove b s = some m := by
  obtain ⟨s, hs⟩ := uciToSan_legal_ok hnd hm
  exact ⟨s, hs, san_roundtrip hwf hnd hm hs⟩

/-- `UciNodup` is a theorem of property C01 (`C01.genPseudo_nodup`); with it the round trip needs `WF.wf b` only -/
theorem uciNodup_of_wf {b : Board} (hwf : WF.wf b = true) : UciNodup b := C01.genPseudo_nodup hwf

/-- **round trip, no hypothesis besides "legal position" and "legal move"** -/
theorem san_roundtrip_wf {b : Board} (hwf : WF.wf b = true) {m : Move} (hm : m ∈ genLegal b) :
    ∃ s, (uciToSan b m.uci).1 = .ok s ∧ sanToMove b s = some m :=
  san_roundtrip_exists hwf (uciNodup_of_wf hwf) hm

/-- **soundness of `pgn_to_bb`**: an answer `m` is a legal move of the position; the text is the rendering of a
well-formed shape `sh`; `m` is consistent with the parts of `sh` (`consistent_piece` / `consistent_pawn` /
`consistent_castle` say what that means) and it is the ONLY legal move that is -/
theorem sanToMove_sound {b : Board} {s : String} {m : Move} (h : sanToMove b s = some m) :
    ∃ sh : SanShape, sh.wf = true ∧ renderSan sh = s.toList ∧
      m ∈ genLegal b ∧ consistent (capsOf sh) m = true ∧
      (∀ m' ∈ genLegal b, consistent (capsOf sh) m' = true → m' = m) ∧
      (genLegal b).filter (consistent (capsOf sh)) = [m] :=
  SanProofs.sanToMove_sound h

theorem sanToMove_some_iff (b : Board) (s : String) (m : Move) :
    sanToMove b s = some m ↔
      ∃ caps, sanCaptures s.toList = some caps ∧ (genLegal b).filter (consistent caps) = [m] :=
  SanProofs.sanToMove_some_iff b s m

/-- an error in every other case: the text is outside the grammar, or no / more than one legal move fits -/
theorem sanToMove_none_iff (b : Board) (s : String) :
    sanToMove b s = none ↔
      (sanCaptures s.toList = none ∨
        ∃ caps, sanCaptures s.toList = some caps ∧ ∀ m, (genLegal b).filter (consistent caps) ≠ [m]) := by
  constructor
  · intro h
    cases hc : sanCaptures s.toList with
    | none => exact Or.inl rfl
    | some caps =>
      refine Or.inr ⟨caps, rfl, fun m hm => ?_⟩
      have := (sanToMove_some_iff b s m).mpr ⟨caps, hc, hm⟩
      rw [h] at this; cases this
  · intro h
    cases hm : sanToMove b s with
    | none => rfl
    | some m =>
      obtain ⟨caps, hc, hl⟩ := (sanToMove_some_iff b s m).mp hm
      rcases h with h | ⟨caps', hc', hne⟩
      · rw [h] at hc; cases hc
      · rw [hc] at hc'; cases hc'; exact absurd hl (hne m)

/-- piece move text: kind of piece, capture mark ⇒ the move captures, source file / rank when written, target -/
theorem consistent_piece (p : Char) (ff fr : Option Char) (takes : Bool) (tf tr : Char) (promo sfx : Option Char)
    (annot : List Char) (m : Move) :
    consistent (capsOf ⟨.move (some p) ff fr takes tf tr promo, sfx, annot⟩) m = true ↔
      (m.f.pieceMoved = pieceOfLetter p ∧ (takes = true → m.isAttack = true) ∧
        (∀ c, ff = some c → m.f.source % 8 = fileIdx c) ∧ (∀ c, fr = some c → m.f.source / 8 = rowIdx c) ∧
        m.f.target = fileIdx tf + 8 * rowIdx tr) :=
  SanProofs.consistent_piece p ff fr takes tf tr promo sfx annot m

/-- pawn move text: a pawn moves, capture mark ⇒ capture, promotion piece when written, source file when written,
target (a written source rank is ignored: quirk of the implementation, harmless for standard texts) -/
theorem consistent_pawn (ff fr : Option Char) (takes : Bool) (tf tr : Char) (promo sfx : Option Char)
    (annot : List Char) (m : Move) :
    consistent (capsOf ⟨.move none ff fr takes tf tr promo, sfx, annot⟩) m = true ↔
      (m.f.pieceMoved = PAWN ∧ (takes = true → m.isAttack = true) ∧
        (∀ q, promo = some q → m.isPromotion = true ∧ m.f.promotion = pieceOfLetter q) ∧
        (∀ c, ff = some c → m.f.source % 8 = fileIdx c) ∧
        m.f.target = fileIdx tf + 8 * rowIdx tr) :=
  SanProofs.consistent_pawn ff fr takes tf tr promo sfx annot m

theorem consistent_castle (long : Bool) (sfx : Option Char) (annot : List Char) (m : Move) :
    consistent (capsOf ⟨.castle long, sfx, annot⟩) m = true ↔
      (m.f.castle = true ∧ m.f.target % 8 = if long then 2 else 6) :=
  SanProofs.consistent_castle long sfx annot m

#print axioms sanCaptures_render
#print axioms sanCaptures_complete
#print axioms sanCaptures_none
#print axioms sanCaptures_illegal_char
#print axioms sanCaptures_short
#print axioms check_mark
#print axioms check_mark_rules
#print axioms never_hash_for_stalemate
#print axioms disamb_standard
#print axioms disamb_unique
#print axioms text_standard
#print axioms shape_piece
#print axioms castleKind_iff
#print axioms uciToSan_legal_ok
#print axioms san_roundtrip
#print axioms san_roundtrip_exists
#print axioms san_roundtrip_wf
#print axioms sanToMove_sound
#print axioms sanToMove_some_iff
#print axioms sanToMove_none_iff
#print axioms SanProofs.sanGenFacts_of_wf

/-! ## Non-vacuity and sanity: concrete texts and positions, evaluated by the kernel -/

section Examples
set_option maxRecDepth 100000

def bd (s : String) : Board :=
  match FenBoard.fromFenString s with
  | .ok b => b
  | .error _ => default

def sanOf (fen u : String) : Option String :=
  match (uciToSan (bd fen) u).1 with
  | .ok s => some s
  | .error _ => none

def parseOf (fen san : String) : Option String := (sanToMove (bd fen) san).map Move.uci

def mv (fen u : String) : Move := ((genLegal (bd fen)).find? (fun m => m.uci == u)).getD default

def roundtripAll (b : Board) : Bool :=
  (genLegal b).all fun m =>
    match (uciToSan b m.uci).1 with
    | .ok s => sanToMove b s == some m
    | .error _ => false

def roundtripOn (b : Board) (ucis : List String) : Bool :=
  ucis.all fun u =>
    match (genLegal b).find? (fun m => m.uci == u) with
    | some m =>
      (match (uciToSan b m.uci).1 with
       | .ok s => sanToMove b s == some m
       | .error _ => false)
    | none => false

instance (b : Board) : Decidable (UciNodup b) := by unfold UciNodup; exact inferInstance

-- the regex translation: one text per decomposition, with check marks and annotations; and rejections
example : sanCaptures "e4".toList = some { target := some ('e', '4') } := by decide +kernel
example : sanCaptures "bxc3".toList = some { fromFile := some 'b', takes := true, target := some ('c', '3') } := by
  decide +kernel
example : sanCaptures "Nbd2".toList = some { piece := some 'N', fromFile := some 'b', target := some ('d', '2') } := by
  decide +kernel
example : sanCaptures "R1a3".toList = some { piece := some 'R', fromRank := some '1', target := some ('a', '3') } := by
  decide +kernel
example : sanCaptures "Qh4e1".toList =
    some { piece := some 'Q', fromFile := some 'h', fromRank := some '4', target := some ('e', '1') } := by
  decide +kernel
example : sanCaptures "exd8=Q+".toList =
    some { fromFile := some 'e', takes := true, target := some ('d', '8'), promotion := some 'Q' } := by decide +kernel
example : sanCaptures "O-O-O#".toList = some { castle := true, longCastle := true } := by decide +kernel
example : sanCaptures "O-O!?".toList = some { castle := true } := by decide +kernel
example : sanCaptures "Nf3+!?".toList = some { piece := some 'N', target := some ('f', '3') } := by decide +kernel
example : sanCaptures "".toList = none ∧ sanCaptures "e".toList = none ∧ sanCaptures "Nz3".toList = none ∧
    sanCaptures "e9".toList = none ∧ sanCaptures "O-O-".toList = none ∧ sanCaptures "e4#+".toList = none ∧
    sanCaptures "e8=K".toList = none := by decide +kernel
-- the hypotheses of `sanCaptures_render` hold for a shape with every optional part present
example : (⟨.move (some 'Q') (some 'h') (some '4') true 'e' '1' none, some '#', ['!', '?']⟩ : SanShape).wf = true ∧
    renderSan ⟨.move (some 'Q') (some 'h') (some '4') true 'e' '1' none, some '#', ['!', '?']⟩ = "Qh4xe1#!?".toList := by
  decide +kernel

-- disambiguation: two knights that can both reach d2: file letters; the bare text is ambiguous and rejected
example : let fen := "4k3/8/8/8/8/5N2/8/1N2K3 w - - 0 1"
    WF.wf (bd fen) = true ∧ UciNodup (bd fen) ∧ sanOf fen "b1d2" = some "Nbd2" ∧ sanOf fen "f3d2" = some "Nfd2" ∧
      parseOf fen "Nbd2" = some "b1d2" ∧ parseOf fen "Nfd2" = some "f3d2" ∧ parseOf fen "Nd2" = none ∧
      candSources (bd fen) (genPseudo (bd fen)) (mv fen "b1d2").f = [45, 57] := by decide +kernel
-- two rooks on one file: rank digit
example : let fen := "4k3/8/8/R7/8/8/8/R3K3 w - - 0 1"
    WF.wf (bd fen) = true ∧ sanOf fen "a1a3" = some "R1a3" ∧ sanOf fen "a5a3" = some "R5a3" ∧
      parseOf fen "R1a3" = some "a1a3" := by decide +kernel
-- three queens (e4, h4, h1) that all reach e1: the h4 queen needs file AND rank
example : let fen := "1k6/8/8/8/4Q2Q/8/8/K6Q w - - 0 1"
    WF.wf (bd fen) = true ∧ sanOf fen "h4e1" = some "Qh4e1" ∧ sanOf fen "e4e1" = some "Qee1" ∧
      sanOf fen "h1e1" = some "Q1e1" ∧ parseOf fen "Qh4e1" = some "h4e1" ∧ parseOf fen "Qhe1" = none := by
  decide +kernel

-- the check mark: the stalemating move Qg6 carries no `#`; the mating move Qg7 does; hypotheses of `check_mark_rules` hold
example : let fen := "7k/8/5K2/8/8/8/6Q1/8 w - - 0 1"
    let b1 := make (bd fen) (mv fen "g2g6")
    WF.wf (bd fen) = true ∧ sanOf fen "g2g6" = some "Qg6" ∧ sanOf fen "g2g7" = some "Qg7#" ∧
      WF.wf b1 = true ∧ (genLegal b1).isEmpty = (Spec.legalMoves (Abs.abs b1)).isEmpty ∧
      genLegal b1 = [] ∧ isCurrentInCheck b1 = false ∧ Spec.isStalemate (Abs.abs b1) = true ∧
      Spec.isCheckmate (Abs.abs b1) = false := by decide +kernel
example : let fen := "7k/8/5K2/8/8/8/6Q1/8 w - - 0 1"
    let b1 := make (bd fen) (mv fen "g2g7")
    WF.wf b1 = true ∧ (genLegal b1).isEmpty = (Spec.legalMoves (Abs.abs b1)).isEmpty ∧
      Spec.isCheckmate (Abs.abs b1) = true := by decide +kernel

-- promotion with capture and check; en passant; castling with check, both sides
example : let fen := "3rk3/4P3/8/8/8/8/8/4K3 w - - 0 1"
    WF.wf (bd fen) = true ∧ sanOf fen "e7d8q" = some "exd8=Q+" ∧ sanOf fen "e7d8n" = some "exd8=N" ∧
      parseOf fen "exd8=Q+" = some "e7d8q" ∧ parseOf fen "exd8=N" = some "e7d8n" ∧ parseOf fen "exd8" = none := by
  decide +kernel
example : let fen := "4k3/8/8/3pP3/8/8/8/4K3 w - d6 0 2"
    WF.wf (bd fen) = true ∧ sanOf fen "e5d6" = some "exd6" ∧ sanOf fen "e5e6" = some "e6" ∧
      parseOf fen "exd6" = some "e5d6" ∧ parseOf fen "e6" = some "e5e6" := by decide +kernel
example : sanOf "5k2/8/8/8/8/8/8/4K2R w K - 0 1" "e1g1" = some "O-O+" ∧
    sanOf "3k4/8/8/8/8/8/8/R3K3 w Q - 0 1" "e1c1" = some "O-O-O+" ∧
    parseOf "5k2/8/8/8/8/8/8/4K2R w K - 0 1" "O-O+" = some "e1g1" ∧
    parseOf "3k4/8/8/8/8/8/8/R3K3 w Q - 0 1" "O-O-O" = some "e1c1" ∧
    parseOf "3k4/8/8/8/8/8/8/R3K3 w Q - 0 1" "O-O" = none := by decide +kernel

-- round trip: the hypotheses of `san_roundtrip` hold in a middlegame with 43 legal moves; its conclusion is confirmed for
-- both castlings, a capture, a pawn push and piece moves …
example : let b := bd "r3k2r/pp1n1ppp/2p1pn2/q2p1b2/1b1P1B2/2N1PN2/PPPQBPPP/R3K2R w KQkq - 0 1"
    WF.wf b = true ∧ UciNodup b ∧ (genLegal b).length = 43 ∧
      roundtripOn b ["e1g1", "e1c1", "c3d5", "a2a3", "f3e5", "a1d1"] = true := by decide +kernel
-- … and for ALL legal moves of a position with black to move, en passant, promotions (with and without capture)
-- and castling available
example : let b := bd "4k2r/8/8/8/3pP3/8/6p1/4K2R b Kk e3 0 1"
    WF.wf b = true ∧ UciNodup b ∧ (genLegal b).length = 25 ∧ roundtripAll b = true := by decide +kernel

end Examples

end Inkayaku.C14
