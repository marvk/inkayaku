import Inkayaku.Proofs.SpecSearchValue
import Inkayaku.Props.C11
/-!
# C08 – shallow scores are exact minimax; mates are found and real

Specification: `Spec/Minimax.lean` (abstract game, `mm`, `optimalMoves`, `ab`, `Qexact`, `q`, `abT`),
instance on the board model: `Model/SpecSearch.lean` (`game`, `specValue`, `specBestMoves`, `ForcedMate`),
helper proofs: `Proofs/AlphaBeta.lean`.

Abstract game, every move order:
  `quiescence_clamp`, `ab_ok`, `order_irrelevant`, `root_exact`, `best_move_optimal`, `ab_tt_ok` (transposition table with
  the explicit `SameDraft` restriction, killer/PV/TT-move ordering as arbitrary state dependent permutations).
Board instance, no hypothesis on the position (in `Proofs/SpecSearchValue.lean`, which the simulation builds on):
  `specValue_eq_mm`, `search_eq_mm` (any move order, any capture order), `specBestMoves_eq_optimal`,
  `search_best_move_optimal`.
Mates: `mate_found` (a forced mate in N that is not a mate in N-1 makes the depth 2N-1 value `mate N`, and the
  move played keeps the forced mate – for EVERY N, not only N ≤ 3), `mate_real` (a reported positive `mate N` comes from
  a forced mate in N moves).
That the concrete `Search.negamax` (hash-keyed table, repetition test, fuel, abort flags) computes `specValue` for d ≤ 3 is
  `C08Sim.go_eq_spec` / `C08Transp.go_eq_spec_le3`; the principal-variation half of the mate statement, which speaks about
  `VM.pv` of that model, is `C16Pv.mate_pv`.
-/
namespace Inkayaku.C08
open Inkayaku.Board Inkayaku.Eval Inkayaku.Gen Inkayaku.Minimax Inkayaku.SpecSearch

section Abstract
variable {P μ : Type}

/-- the fail-hard quiescence of the code returns the exhaustive capture resolution clamped to the window, whatever the
order in which the captures are tried -/
theorem quiescence_clamp (h : QGame P μ) (order : P → List μ → List μ) (ho : ∀ p l, (order p l).Perm l)
    (fuel : Nat) (p : P) (α β : Int) (hαβ : α < β) :
    q h order fuel p α β = clamp (Qexact h fuel p) α β :=
  Minimax.quiescence_clamp h order ho fuel p α β hαβ

theorem quiescence_ok (h : QGame P μ) (order : P → List μ → List μ) (ho : ∀ p l, (order p l).Perm l)
    (fuel : Nat) (p : P) (α β : Int) (hαβ : α < β) :
    Ok (Qexact h fuel p) (q h order fuel p α β) α β :=
  Minimax.quiescence_ok h order ho fuel p α β hαβ

/-- "exhaustive": when every capture decreases a rank (men + pawns on the board, say), fuel beyond the rank of the
position does not change the capture resolution – `Qexact` with enough fuel is the unbounded resolution -/
theorem Qexact_fuel_stable (h : QGame P μ) (rank : P → Nat)
    (hr : ∀ p m, m ∈ h.captures p → rank (h.child p m) < rank p) (p : P) (f : Nat) (hf : rank p ≤ f) :
    Qexact h f p = Qexact h (rank p) p :=
  Minimax.Qexact_fuel_stable h rank hr (rank p) p (Nat.le_refl _) f hf

/-- alpha-beta with ANY move order obeys the fail-soft contract w.r.t. plain minimax:
`r ≤ α → mm ≤ r`, `β ≤ r → r ≤ mm`, `α < r < β → r = mm` -/
theorem ab_ok (g : Game P μ) (order : P → List μ → List μ) (ho : ∀ p l, (order p l).Perm l)
    (hleaf : ∀ p a b, g.loss ≤ a → a < b → b ≤ -g.loss → Ok (g.leafExact p) (g.leaf p a b) a b)
    (d : Nat) (p : P) (α β : Int) (hL : g.loss ≤ α) (hαβ : α < β) (hU : β ≤ -g.loss) :
    Ok (mm g d p) (ab g order d p α β).1 α β :=
  Minimax.ab_ok g order ho hleaf d p α β hL hαβ hU

/-- the full window at the root gives the exact minimax value -/
theorem root_exact (g : Game P μ) (order : P → List μ → List μ) (ho : ∀ p l, (order p l).Perm l)
    (hleaf : ∀ p a b, g.loss ≤ a → a < b → b ≤ -g.loss → Ok (g.leafExact p) (g.leaf p a b) a b)
    (d : Nat) (p : P) (hneg : g.loss < 0) (hlo : g.loss ≤ mm g d p) (hhi : mm g d p ≤ -g.loss) :
    (ab g order d p g.loss (-g.loss)).1 = mm g d p :=
  Minimax.root_exact g order ho hleaf d p hneg hlo hhi

/-- two move orders give the same root value: pruning and move ordering never change the result -/
theorem order_irrelevant (g : Game P μ) (o₁ o₂ : P → List μ → List μ)
    (h₁ : ∀ p l, (o₁ p l).Perm l) (h₂ : ∀ p l, (o₂ p l).Perm l)
    (hleaf : ∀ p a b, g.loss ≤ a → a < b → b ≤ -g.loss → Ok (g.leafExact p) (g.leaf p a b) a b)
    (d : Nat) (p : P) (hneg : g.loss < 0) (hlo : g.loss ≤ mm g d p) (hhi : mm g d p ≤ -g.loss) :
    (ab g o₁ d p g.loss (-g.loss)).1 = (ab g o₂ d p g.loss (-g.loss)).1 :=
  Minimax.order_irrelevant g o₁ o₂ h₁ h₂ hleaf d p hneg hlo hhi

/-- the move announced at the root is a move of the root whose child has the negated root value -/
theorem best_move_optimal (g : Game P μ) (order : P → List μ → List μ) (ho : ∀ p l, (order p l).Perm l)
    (hleaf : ∀ p a b, g.loss ≤ a → a < b → b ≤ -g.loss → Ok (g.leafExact p) (g.leaf p a b) a b)
    (d : Nat) (p : P) (hne : (g.moves p).isEmpty = false)
    (hlo : g.loss < mm g (d + 1) p) (hhi : mm g (d + 1) p < -g.loss) :
    ∃ m, (ab g order (d + 1) p g.loss (-g.loss)).2 = some m ∧ m ∈ g.moves p ∧
      - mm g d (g.child p m) = mm g (d + 1) p :=
  Minimax.best_move_optimal g order ho hleaf d p hne hlo hhi

/-- **with transposition table and state dependent ordering** (`Heur`: killer / PV / TT-move hints are arbitrary
functions of the search state that permute the move list; mate values may or may not be stored).
`TTValid`: Exact ⇒ value = mm of the STORED draft, Lower ⇒ value ≤ it, Upper ⇒ it ≤ value.
`SameDraft draft`: no entry of `p` is deeper than the draft `draft p` with which `p` is searched, so an entry accepted by
the code's probe (`stored ≥ remaining`) has exactly the remaining draft.  Both are preserved by the search. -/
theorem ab_tt_ok {H : Type} [DecidableEq P] (g : Game P μ) (hr : Heur P μ H)
    (ho : ∀ h e d p l, (hr.order h e d p l).Perm l)
    (hleaf : ∀ p a b, g.loss ≤ a → a < b → b ≤ -g.loss → Ok (g.leafExact p) (g.leaf p a b) a b)
    (draft : P → Nat) (hdraft : ∀ p m, m ∈ g.moves p → 0 < draft p → draft (g.child p m) + 1 = draft p)
    (d : Nat) (p : P) (α β : Int) (s : TState P μ H) (hd : draft p = d)
    (hL : g.loss ≤ α) (hαβ : α < β) (hU : β ≤ -g.loss)
    (hv : TTValid g s.tt) (hsd : SameDraft draft s.tt) :
    Ok (mm g d p) (abT g hr d p α β s).1.1 α β ∧
      TTValid g (abT g hr d p α β s).2.tt ∧ SameDraft draft (abT g hr d p α β s).2.tt := by
  obtain ⟨h1, h2, h3⟩ := Minimax.abT_ok g hr ho hleaf draft hdraft d p α β s hd hL hαβ hU ⟨hv, hsd⟩
  exact ⟨h1, h2, h3⟩

/-- … and the full window gives the exact value with the table too -/
theorem root_exact_tt {H : Type} [DecidableEq P] (g : Game P μ) (hr : Heur P μ H)
    (ho : ∀ h e d p l, (hr.order h e d p l).Perm l)
    (hleaf : ∀ p a b, g.loss ≤ a → a < b → b ≤ -g.loss → Ok (g.leafExact p) (g.leaf p a b) a b)
    (draft : P → Nat) (hdraft : ∀ p m, m ∈ g.moves p → 0 < draft p → draft (g.child p m) + 1 = draft p)
    (d : Nat) (p : P) (s : TState P μ H) (hd : draft p = d)
    (hv : TTValid g s.tt) (hsd : SameDraft draft s.tt)
    (hneg : g.loss < 0) (hlo : g.loss ≤ mm g d p) (hhi : mm g d p ≤ -g.loss) :
    (abT g hr d p g.loss (-g.loss) s).1.1 = mm g d p :=
  (Minimax.abT_root_exact g hr ho hleaf draft hdraft d p s hd ⟨hv, hsd⟩ hneg hlo hhi).1

end Abstract

#print axioms quiescence_clamp
#print axioms quiescence_ok
#print axioms Qexact_fuel_stable
#print axioms ab_ok
#print axioms root_exact
#print axioms order_irrelevant
#print axioms best_move_optimal
#print axioms ab_tt_ok
#print axioms root_exact_tt

/-! ### non-vacuity: a three-level binary tree searched in reverse order, with and without table -/

namespace Toy

/-- positions = paths; two moves everywhere down to depth 3; leaf values from the path -/
def val (p : List Bool) : Int := (p.foldl (fun acc b => 3 * acc + (if b then 2 else -1)) 0) % 7 - 3

def g : Game (List Bool) Bool :=
  { moves := fun p => if p.length < 3 then [false, true] else []
    child := fun p m => p ++ [m]
    term := val
    leafExact := val
    leaf := fun p a b => clamp (val p) a b
    loss := -100 }

def qg : QGame (List Bool) Bool :=
  { captures := fun p => if p.length < 3 then [false, true] else []
    child := fun p m => p ++ [m]
    standPat := val }

def rev : List Bool → List Bool → List Bool := fun _ l => l.reverse

theorem rev_perm : ∀ (p : List Bool) (l : List Bool), (rev p l).Perm l := fun _ l => List.reverse_perm l

theorem leafOk : ∀ p a b, g.loss ≤ a → a < b → b ≤ -g.loss → Ok (g.leafExact p) (g.leaf p a b) a b :=
  fun p a b _ h _ => ok_clamp (val p) a b h

def hr : Heur (List Bool) Bool Unit :=
  { order := fun _ e _ _ l => match e with | some _ => l | none => l.reverse
    onCut := fun _ _ _ _ => ()
    storable := fun v => v != 3 }

theorem hr_perm : ∀ h e d p l, (hr.order h e d p l).Perm l := by
  intro _ e _ _ l
  cases e with
  | none => exact List.reverse_perm l
  | some _ => exact List.Perm.refl l

def draft (p : List Bool) : Nat := 3 - p.length

example : mm g 3 [] = 1 ∧ ab g rev 3 [] (-100) 100 = (1, some true) ∧ optimalMoves g 3 [] = [true] := by decide

example : (ab g rev 3 [] g.loss (-g.loss)).1 = mm g 3 [] :=
  root_exact g rev rev_perm leafOk 3 [] (by decide) (by decide) (by decide)

example : ∃ m, (ab g rev 3 [] g.loss (-g.loss)).2 = some m ∧ m ∈ g.moves [] ∧ - mm g 2 (g.child [] m) = mm g 3 [] :=
  best_move_optimal g rev rev_perm leafOk 2 [] (by decide) (by decide) (by decide)

example : q qg rev 3 [] (-2) 0 = clamp (Qexact qg 3 []) (-2) 0 ∧ Qexact qg 3 [] = 1 ∧ q qg rev 3 [] (-2) 0 = 0 :=
  ⟨quiescence_clamp qg rev rev_perm 3 [] (-2) 0 (by decide), by decide, by decide⟩

example : Qexact qg 64 [] = Qexact qg 3 [] :=
  Qexact_fuel_stable qg (fun p => 3 - p.length)
    (by intro p m hm
        have hlt : p.length < 3 := by
          by_cases h : p.length < 3
          · exact h
          · simp [qg, h] at hm
        show 3 - (p ++ [m]).length < 3 - p.length
        rw [List.length_append, List.length_singleton]
        omega)
    [] 64 (by decide)

example : (abT g hr 3 [] g.loss (-g.loss) { tt := fun _ => none, hints := () }).1.1 = mm g 3 [] :=
  root_exact_tt g hr hr_perm leafOk draft
    (by intro p m _ h
        show 3 - (p ++ [m]).length + 1 = 3 - p.length
        have : 0 < 3 - p.length := h
        rw [List.length_append, List.length_singleton]
        omega)
    3 [] _ rfl (fun _ _ h => by cases h) (fun _ _ h => by cases h) (by decide) (by decide) (by decide)

end Toy

/-- `mateFull` inverts `score_from_value` on the mate scores of the mover: a value not below "mated on the spot" is reported as a
positive `mate N` exactly when it is "mates with the `N`-th move" -/
theorem score_mate_iff (b : Board) (ht : b.turn ≤ 1) (v : Int) (N : Nat) (hN : 0 < N) (hlo : lossScore + (b.fullmove : Int) ≤ v) :
    scoreFromValue v b = Score.mate N ↔ v = winScore - mateFull b N ∧ mateFull b N < 8388608 := by
  unfold mateFull
  exact EvalFlip.score_mate_pos b ht v N (by omega) hlo

/-- **a forced mate is found**: if the side to move can force mate in `N` moves but not in `N-1`, the depth `2N-1`
value is reported as `mate N`, and the move played keeps the forced mate (it mates, or every reply allows a forced mate in
`N-1`).  Holds for every `N`; the restriction `N ≤ 3` of the property text comes from the engine's hash-keyed table. -/
theorem mate_found (b : Board) (N : Nat) (ht : b.turn ≤ 1) (hfm : 1 ≤ b.fullmove) (hbig : b.fullmove + 2 * N < 1000000)
    (hN : ForcedMate N b) (hmin : ¬ ForcedMate (N - 1) b) :
    scoreFromValue (specValue (2 * N - 1) b) b = Score.mate N ∧
    ∃ m, (specSearch (2 * N - 1) (b, [])).2 = some m ∧ m ∈ genLegal b ∧ KeepsMate (ForcedMate (N - 1)) b m := by
  have hw := winScore_val
  have hl := lossScore_val
  cases N with
  | zero => exact absurd hN (by simp [ForcedMate])
  | succ k =>
    have hd : 2 * (k + 1) - 1 = 2 * k + 1 := by omega
    have hs : Small b (2 * k + 1) := ⟨ht, by omega⟩
    have hlo := (forcedMate_iff (2 * k + 1) b (k + 1) hs (by unfold mateFull; omega) (by omega)).mp hN
    have hval : V (2 * k + 1) b = winScore - mateFull b (k + 1) := by
      have hup : ¬ (winScore - mateFull b k ≤ V (2 * k + 1) b) := fun h =>
        hmin ((mate_threshold (2 * k + 1) b k hs (by unfold mateFull; omega)).1 h)
      unfold mateFull at *
      omega
    rw [hd]
    constructor
    · rw [specValue_eq_mm]
      exact (score_mate_iff b ht _ (k + 1) (by omega) (V_bounds _ b hs).1).mpr ⟨hval, by unfold mateFull; omega⟩
    · have hne : (rootMoves b []).isEmpty = false := by
        obtain ⟨m, hm, _⟩ := hN
        have : rootMoves b [] = genLegal b := moves_nil b
        rw [this]
        cases hg : genLegal b with
        | nil => rw [hg] at hm; cases hm
        | cons _ _ => rfl
      obtain ⟨m, h1, h2, h3, _⟩ := search_best_move_optimal searchOrder byMvvLva isOrder_searchOrder isOrder_byMvvLva
        (2 * k) b [] ht hfm (by omega) hne
      have hmem : m ∈ genLegal b := by
        have : rootMoves b [] = genLegal b := moves_nil b
        rw [this] at h2; exact h2
      refine ⟨m, h1, hmem, ?_⟩
      show KeepsMate (ForcedMate k) b m
      apply keeps_of_value (2 * k) b k m ⟨ht, by omega⟩ (by unfold mateFull; omega)
      show mm game (2 * k) (make b m, []) ≤ _
      have : mm game (2 * k + 1) (b, []) = V (2 * k + 1) b := rfl
      rw [this, hval] at h3
      omega

/-- **a reported mate is real**: if the depth `d` value is reported as a positive `mate N`, the side to move has a forced
mate in `N` moves (against every defence, by legal moves, ending in checkmate) -/
theorem mate_real (b : Board) (d N : Nat) (ht : b.turn ≤ 1) (hbig : b.fullmove + d < 1000000) (hN : 0 < N)
    (h : scoreFromValue (specValue d b) b = Score.mate N) : ForcedMate N b := by
  rw [specValue_eq_mm] at h
  obtain ⟨hv, hK⟩ := (score_mate_iff b ht _ N hN (V_bounds d b ⟨ht, by omega⟩).1).mp h
  exact (mate_threshold d b N ⟨ht, by omega⟩ (by omega)).1 (Int.le_of_eq hv.symm)

#print axioms mate_found
#print axioms mate_real

/-! ### non-vacuity on real positions

`kr` = `k7/8/1K6/8/8/8/8/7R w - - 0 1` (mate in one by `h1h8`).  The values are computed IN THE KERNEL with the generator's
natural move and capture order and carried over to the oracle (which sorts by MVV-LVA) by `specValue_order_irrelevant` –
the theorem at work. -/

namespace Example

def kr : Board :=
  { white := { rooks := 9223372036854775808, kings := 131072 }
    black := { kings := 1 }
    turn := 0, ep := 0, fullmove := 1, halfmove := 0 }

def h1h8 : Move := ⟨2093060, 0⟩

theorem kr_value : specValue 1 kr = 16777215 := by
  rw [← specValue_order_irrelevant natural natural isOrder_natural isOrder_natural]
  decide +kernel

example : mm game 1 (kr, []) = winScore - 1 := by rw [← specValue_eq_mm, kr_value]; decide

example : scoreFromValue (specValue 1 kr) kr = Score.mate 1 := by rw [kr_value]; decide +kernel

theorem kr_forced : ForcedMate 1 kr :=
  ⟨h1h8, by decide +kernel, Or.inl ⟨by decide +kernel, by decide +kernel⟩⟩

example : scoreFromValue (specValue (2 * 1 - 1) kr) kr = Score.mate (1 : Nat) ∧
    ∃ m, (specSearch (2 * 1 - 1) (kr, [])).2 = some m ∧ m ∈ genLegal kr ∧ KeepsMate (ForcedMate (1 - 1)) kr m :=
  mate_found kr 1 (by decide) (by decide) (by decide) kr_forced (fun h => h)

example : ForcedMate 1 kr :=
  mate_real kr 1 1 (by decide) (by decide) (by decide) (by rw [kr_value]; decide +kernel)

example : ∃ m, (ab (chess.game natural) natural (0 + 1) (kr, []) lossScore (-lossScore)).2 = some m ∧
    m ∈ rootMoves kr [] ∧ - mm game 0 (make kr m, []) = mm game (0 + 1) (kr, []) ∧ m ∈ optimalMoves game (0 + 1) (kr, []) :=
  search_best_move_optimal natural natural isOrder_natural isOrder_natural 0 kr [] (by decide) (by decide) (by decide)
    (by decide +kernel)

-- the oracle itself (compiled evaluation; strings and FEN parsing are not kernel material)
#guard specScore 1 kr == "mate1"
#guard specBestMoves 1 kr == ["h1h8"]
#guard handleSpecSearch ["k7/8/1K6/8/8/8/8/7R_w_-_-_0_1", "1"] == "mate1 h1h8"
#guard handleSpecSearch ["k7/8/2K5/8/8/8/8/7R_w_-_-_0_1", "3"] == "mate2 c6b6,c6c7"
#guard handleSpecSearch ["7K/8/5k2/8/8/8/8/r7_b_-_-_0_9", "3"] == "mate2 f6f7,f6g6"
#guard handleSpecSearch ["k7/8/2K5/8/8/8/8/7R_w_-_-_0_1", "1"] == "cp590 c6d5"
#guard handleSpecSearch ["k7/8/2K5/8/8/8/8/7R_w_-_-_0_1", "2", "h1h2", "c6d5"] == "cp570 c6d5"
#guard handleSpecSearch ["k7/2Q5/1K6/8/8/8/8/8_b_-_-_0_1", "2"] == "nomoves"

end Example

end Inkayaku.C08
