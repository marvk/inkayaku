import Inkayaku.Props.C19Split
import Inkayaku.Gen.LichessSchema
/-!
# C19, `decode_encode`: decoding a document of the documented shape gives back the value
-/
namespace Inkayaku.Props.C19
open Inkayaku.Json Inkayaku.Lichess
open Inkayaku.Gen.Lichess (TypeDef TyRef Field Variant Prim Custom schema csvRuleTable)

def nodupKeys : List Key → Bool
  | [] => true
  | k :: ks => !ks.contains k && nodupKeys ks

def directKeys : List (FieldInfo × Ty) → List Key
  | [] => []
  | (fi, _) :: rest => if fi.flatten then directKeys rest else fi.wire :: directKeys rest

def innerKeys : Ty → List Key
  | .struct inner => directKeys inner
  | _ => []

def flatKeys : List (FieldInfo × Ty) → List Key
  | [] => []
  | (fi, t) :: rest => if fi.flatten then innerKeys t ++ flatKeys rest else flatKeys rest

def flattenCount : List (FieldInfo × Ty) → Nat
  | [] => 0
  | (fi, _) :: rest => (if fi.flatten then 1 else 0) + flattenCount rest

def fieldOk (fi : FieldInfo) (t : Ty) : Bool :=
  (if fi.flatten then (match t with | .struct inner => !hasFlatten inner | _ => false) && !fi.default else true)
    && (if fi.default then (defaultOf t).isSome else true)

def shapeOk (fs : List (FieldInfo × Ty)) : Bool :=
  nodupKeys (directKeys fs ++ flatKeys fs) && decide (flattenCount fs ≤ 1)

/-- the documented (camelCase) spelling of a rule is understood by `from_str` and survives `split(',')` unescaped -/
def ruleOk (table : List (Key × String)) (p : String × Key) : Bool :=
  lookupKey (p.2.map lowerChar) table == some p.1 && !p.2.contains ',' && !p.2.any needsEscape

mutual
def wfTy : Ty → Bool
  | .opt t => (match t with | .opt _ => false | _ => true) && wfTy t
  | .unitEnum vs => nodupKeys (vs.map (·.2))
  | .csvRules table wires => wires.all (ruleOk table)
  | .struct fs => shapeOk fs && wfFields fs
  | .tagged tag vs => nodupKeys (vs.map (·.1.wire)) && wfVariants tag vs
  | _ => true
def wfFields : List (FieldInfo × Ty) → Bool
  | [] => true
  | (fi, t) :: rest => fieldOk fi t && wfTy t && wfFields rest
def wfVariants (tag : Key) : List (VariantInfo × List (FieldInfo × Ty)) → Bool
  | [] => true
  | (vi, fs) :: rest =>
    shapeOk fs && !(directKeys fs ++ flatKeys fs).contains tag && (!vi.unit || fs.isEmpty) && wfFields fs
      && wfVariants tag rest
end

/-- an empty rule list is a value of a `default` field only (the wire format has no way to spell it) -/
def emptyRules : Ty → DVal → Bool
  | .csvRules _ _, .rules [] => true
  | _, _ => false

mutual
def wt : Ty → DVal → Bool
  | .u32, .nat n => decide (n < 2 ^ 32)
  | .u64, .nat n => decide (n < 2 ^ 64)
  | .i32, .int i => decide (-(2 ^ 31 : Int) ≤ i ∧ i < 2 ^ 31)
  | .bool, .bool _ => true
  | .str, .str _ => true
  | .spaceSv, .strs l => l.all tokenOk
  | .csvRules _ wires, .rules l => !l.isEmpty && l.all (fun r => (findByRust r wires).isSome)
  | .opt _, .none => true
  | .opt t, .some v => wt t v
  | .unitEnum vs, .enumv r => (findByRust r vs).isSome
  | .struct fs, .struct vals => wtFields fs vals
  | .tagged _ vs, .variant r vals => wtVariant vs r vals
  | _, _ => false
def wtFields : List (FieldInfo × Ty) → List DVal → Bool
  | [], [] => true
  | (fi, t) :: rest, v :: vals => ((fi.default && emptyRules t v) || wt t v) && wtFields rest vals
  | _, _ => false
def wtVariant : List (VariantInfo × List (FieldInfo × Ty)) → String → List DVal → Bool
  | [], _, _ => false
  | (vi, fs) :: rest, r, vals => if vi.rust = r then wtFields fs vals else wtVariant rest r vals
end

/-- induction over type trees with membership hypotheses for the nested lists -/
theorem Ty.induct' {P : Ty → Prop} (u32 : P .u32) (u64 : P .u64) (i32 : P .i32) (bool : P .bool) (str : P .str)
    (spaceSv : P .spaceSv) (csv : ∀ a b, P (.csvRules a b)) (opt : ∀ t, P t → P (.opt t))
    (unitEnum : ∀ vs, P (.unitEnum vs))
    (struct : ∀ fs, (∀ p ∈ fs, P p.2) → P (.struct fs))
    (tagged : ∀ tag vs, (∀ q ∈ vs, ∀ p ∈ q.2, P p.2) → P (.tagged tag vs)) : ∀ t, P t := by
  intro t
  refine Ty.rec (motive_1 := P) (motive_2 := fun fs => ∀ p ∈ fs, P p.2)
    (motive_3 := fun vs => ∀ q ∈ vs, ∀ p ∈ q.2, P p.2) (motive_4 := fun p => P p.2)
    (motive_5 := fun q => ∀ p ∈ q.2, P p.2)
    u32 u64 i32 bool str spaceSv csv opt unitEnum struct tagged ?_ ?_ ?_ ?_ ?_ ?_ t
  · intro p hp; cases hp
  · intro head tail h1 h2 p hp
    cases hp with
    | head => exact h1
    | tail _ h => exact h2 p h
  · intro q hq; cases hq
  · intro head tail h1 h2 q hq
    cases hq with
    | head => exact h1
    | tail _ h => exact h2 q h
  · intro fst snd h; exact h
  · intro fst snd h; exact h

def Holds (P : Ty → DVal → JVal → Prop) (t : Ty) : Prop :=
  ∀ (v : DVal) (absent : List String → Bool) (path : List String),
    wfTy t = true → wt t v = true → P t v (wireEncode absent path t v)

abbrev Decodes (t : Ty) (v : DVal) (j : JVal) : Prop := decodeTy t j = .ok v

/-- the round-trip statement for one type tree: `Holds Decodes t`, written out so that `simp` sees the equation -/
def RT (t : Ty) : Prop :=
  ∀ (v : DVal) (absent : List String → Bool) (path : List String),
    wfTy t = true → wt t v = true → decodeTy t (wireEncode absent path t v) = .ok v

theorem nodupKeys_cons {k : Key} {ks : List Key} : nodupKeys (k :: ks) = true ↔ k ∉ ks ∧ nodupKeys ks = true := by
  simp [nodupKeys]

theorem nodupKeys_append {a b : List Key} (h : nodupKeys (a ++ b) = true) :
    nodupKeys a = true ∧ nodupKeys b = true ∧ ∀ k, k ∈ a → k ∉ b := by
  induction a with
  | nil => simpa [nodupKeys] using h
  | cons x a ih =>
    rw [List.cons_append, nodupKeys_cons] at h
    obtain ⟨h1, h2, h3⟩ := ih h.2
    refine ⟨nodupKeys_cons.mpr ⟨fun m => h.1 (List.mem_append_left _ m), h1⟩, h2, ?_⟩
    intro k hk
    cases hk with
    | head => exact fun m => h.1 (List.mem_append_right _ m)
    | tail _ hk => exact h3 k hk

theorem any_joinWith (p : Char → Bool) (sep : Char) (hsep : p sep = false) :
    ∀ (l : List (List Char)), (∀ t ∈ l, t.any p = false) → (joinWith sep l).any p = false
  | [], _ => rfl
  | [t], h => by simpa [joinWith] using h t (by simp)
  | t :: u :: rest, h => by
    have ih := any_joinWith p sep hsep (u :: rest) (fun x hx => h x (List.mem_cons_of_mem _ hx))
    have ht := h t (by simp)
    simp only [joinWith, List.any_append, List.any_cons, ht, hsep, ih, Bool.or_self]

theorem tokenOk_noEscape {t : List Char} (h : tokenOk t = true) : t.any needsEscape = false := by
  simp only [tokenOk, Bool.and_eq_true, List.all_eq_true, Bool.not_eq_true'] at h
  rw [List.any_eq_false]
  intro c hc
  simpa using (h.2 c hc).2

theorem mapM?_map {α β : Type} (f : β → Option α) (g : α → β) :
    ∀ (l : List α), (∀ r ∈ l, f (g r) = some r) → mapM? f (l.map g) = some l
  | [], _ => rfl
  | r :: l, h => by
    have ih := mapM?_map f g l (fun x hx => h x (List.mem_cons_of_mem _ hx))
    simp [mapM?, h r (by simp), ih]

theorem findByRust_mem {r : String} {w : Key} : ∀ {vs : List (String × Key)}, findByRust r vs = some w → (r, w) ∈ vs
  | [], h => by simp [findByRust] at h
  | (r', w') :: rest, h => by
    simp only [findByRust] at h
    split at h
    · rename_i e
      simp only [Option.some.injEq] at h
      subst e; subst h
      exact List.mem_cons_self
    · exact List.mem_cons_of_mem _ (findByRust_mem h)

theorem findByWire_of_mem {r : String} {w : Key} :
    ∀ {vs : List (String × Key)}, nodupKeys (vs.map (·.2)) = true → (r, w) ∈ vs → findByWire w vs = some r
  | [], _, h => by cases h
  | (r', w') :: rest, hn, h => by
    simp only [List.map_cons, nodupKeys_cons] at hn
    simp only [findByWire]
    cases h with
    | head => simp
    | tail _ h =>
      have hne : ¬ w' = w := by
        intro e
        subst e
        exact hn.1 (List.mem_map.mpr ⟨(r, w'), h, rfl⟩)
      simp only [hne, if_false]
      exact findByWire_of_mem hn.2 h

theorem rt_u32 : RT .u32 := by
  intro v absent path _ hv
  cases v <;> simp [wt] at hv
  simp [wireEncode, decodeTy, decodeUnsigned, hv]

theorem rt_u64 : RT .u64 := by
  intro v absent path _ hv
  cases v <;> simp [wt] at hv
  simp [wireEncode, decodeTy, decodeUnsigned, hv]

theorem rt_i32 : RT .i32 := by
  intro v absent path _ hv
  cases v <;> simp [wt] at hv
  rename_i i
  simp only [wireEncode, decodeTy, encodeI32]
  by_cases h : i < 0
  · have h1 : 0 < i.natAbs ∧ i.natAbs ≤ 2 ^ 31 := by omega
    have h2 : - (i.natAbs : Int) = i := by omega
    simp [h, decodeI32, h1, h2]
  · have h1 : i.natAbs < 2 ^ 31 := by omega
    have h2 : (i.natAbs : Int) = i := by omega
    simp [h, decodeI32, h1, h2]

theorem rt_bool : RT .bool := by
  intro v absent path _ hv
  cases v <;> simp [wt] at hv
  simp [wireEncode, decodeTy, decodeBool]

theorem rt_str : RT .str := by
  intro v absent path _ hv
  cases v <;> simp [wt] at hv
  simp [wireEncode, decodeTy, decodeStr, jstr]

theorem rt_spaceSv : RT .spaceSv := by
  intro v absent path _ hv
  cases v <;> simp only [wt, Bool.false_eq_true] at hv
  rename_i l
  have hall : ∀ t ∈ l, tokenOk t = true := by simpa [List.all_eq_true] using hv
  have hflag : (joinWith ' ' l).any needsEscape = false :=
    any_joinWith needsEscape ' ' (by decide) l (fun t ht => tokenOk_noEscape (hall t ht))
  simp [wireEncode, decodeTy, jstr, hflag, decodeSpaceSv, moves_split_tokens l hv]

theorem rt_csvRules (table : List (Key × String)) (wires : List (String × Key)) : RT (.csvRules table wires) := by
  intro v absent path hwf hv
  cases v <;> simp only [wt, Bool.false_eq_true] at hv
  rename_i l
  simp only [wfTy, List.all_eq_true] at hwf
  simp only [Bool.and_eq_true, Bool.not_eq_true', List.isEmpty_eq_false_iff, List.all_eq_true] at hv
  let W : String → Key := fun r => (findByRust r wires).getD []
  have hW : ∀ r ∈ l, lookupKey ((W r).map lowerChar) table = some r ∧ ',' ∉ W r ∧ (W r).any needsEscape = false := by
    intro r hr
    have hs := hv.2 r hr
    obtain ⟨w, hw⟩ := Option.isSome_iff_exists.mp hs
    have hm := hwf (r, w) (findByRust_mem hw)
    simp only [ruleOk, Bool.and_eq_true, beq_iff_eq, Bool.not_eq_true', List.contains_eq_mem, decide_eq_false_iff_not] at hm
    simp only [W, hw, Option.getD_some]
    exact ⟨hm.1.1, hm.1.2, hm.2⟩
  have hflag : (joinWith ',' (l.map W)).any needsEscape = false :=
    any_joinWith needsEscape ',' (by decide) _ (by
      intro t ht
      obtain ⟨r, hr, rfl⟩ := List.mem_map.mp ht
      exact (hW r hr).2.2)
  have hsplit : splitOn ',' (joinWith ',' (l.map W)) = l.map W :=
    splitOn_joinWith ',' _ (by simpa using hv.1) (by
      intro t ht
      obtain ⟨r, hr, rfl⟩ := List.mem_map.mp ht
      exact (hW r hr).2.1)
  have hmap : mapM? (ruleFromStr table) (l.map W) = some l :=
    mapM?_map _ _ l (fun r hr => by simpa [ruleFromStr] using (hW r hr).1)
  simp only [wireEncode, decodeTy, jstr]
  show decodeCsvRules table (.str ((joinWith ',' (l.map W)).any needsEscape) (joinWith ',' (l.map W))) = _
  rw [hflag]
  simp [decodeCsvRules, csvRules, hsplit, hmap]

theorem rt_unitEnum (vs : List (String × Key)) : RT (.unitEnum vs) := by
  intro v absent path hwf hv
  cases v <;> simp only [wt, Bool.false_eq_true] at hv
  rename_i r
  simp only [wfTy] at hwf
  obtain ⟨w, hw⟩ := Option.isSome_iff_exists.mp hv
  have := findByWire_of_mem hwf (findByRust_mem hw)
  simp [wireEncode, decodeTy, jstr, hw, decodeUnitEnum, this]

theorem wireEncode_ne_null (absent : List String → Bool) (path : List String) (t : Ty) (v : DVal)
    (hopt : (match t with | .opt _ => false | _ => true) = true) (hv : wt t v = true) :
    wireEncode absent path t v ≠ .null := by
  cases t <;> cases v <;> simp [wt] at hv <;> simp [wireEncode, jstr, encodeI32] at hopt ⊢

theorem decodeTy_opt (t : Ty) (j : JVal) (h : j ≠ .null) : decodeTy (.opt t) j = mapOk .some (decodeTy t j) := by
  cases j <;> simp [decodeTy] at h ⊢

theorem wireFields_cons (absent : List String → Bool) (path : List String) (fi : FieldInfo) (t : Ty)
    (rest : List (FieldInfo × Ty)) (v : DVal) (vals : List DVal) :
    wireFields absent path ((fi, t) :: rest) (v :: vals) =
      (if fi.flatten then
         match wireEncode absent (fi.rust :: path) t v with
         | .obj es => es
         | _ => []
       else if skipField fi t v (absent (fi.rust :: path)) then []
       else [(fi.wire, wireEncode absent (fi.rust :: path) t v)]) ++ wireFields absent path rest vals := by
  simp only [wireFields]
  rfl

theorem scan_unknown (f : Key → JVal → Option (R DVal)) :
    ∀ (E1 E2 : List (Key × JVal)) (s : List (Key × DVal)) (o : List (Key × JVal)),
      (∀ p ∈ E1, f p.1 p.2 = none) → scan f (E1 ++ E2) s o = scan f E2 s (o ++ E1)
  | [], E2, s, o, _ => by simp
  | (k, v) :: E1, E2, s, o, h => by
    have hk : f k v = none := h (k, v) (by simp)
    have ih := scan_unknown f E1 E2 s (o ++ [(k, v)]) (fun p hp => h p (List.mem_cons_of_mem _ hp))
    simp only [List.cons_append, scan, hk]
    rw [ih]
    simp

theorem hasKey_false_iff {β : Type} {k : Key} : ∀ {s : List (Key × β)}, hasKey k s = false ↔ ∀ p ∈ s, ¬ p.1 = k
  | [] => by simp [hasKey]
  | (k', b) :: s => by
    simp only [hasKey, Bool.or_eq_false_iff, decide_eq_false_iff_not, List.mem_cons, forall_eq_or_imp]
    rw [hasKey_false_iff]

theorem lookupKey_none_of_not_hasKey {β : Type} {k : Key} :
    ∀ {s : List (Key × β)}, hasKey k s = false → lookupKey k s = none
  | [], _ => rfl
  | (k', b) :: s, h => by
    simp only [hasKey, Bool.or_eq_false_iff, decide_eq_false_iff_not] at h
    simp only [lookupKey, h.1, if_false]
    exact lookupKey_none_of_not_hasKey h.2

theorem decAt_cons_of_ne {fi : FieldInfo} {t : Ty} {rest : List (FieldInfo × Ty)} {k : Key} (j : JVal)
    (h : fi.flatten = false → ¬ fi.wire = k) : decAt ((fi, t) :: rest) k j = decAt rest k j := by
  simp only [decAt]
  exact if_neg fun c => h c.1 c.2

theorem decAt_none (k : Key) (j : JVal) : ∀ (fs : List (FieldInfo × Ty)), k ∉ directKeys fs → decAt fs k j = none
  | [], _ => rfl
  | (fi, t) :: rest, h => by
    simp only [directKeys] at h
    rw [decAt_cons_of_ne j fun hf e => h (by simp [hf, e])]
    exact decAt_none k j rest fun hk => h (by split; exact hk; exact List.mem_cons_of_mem _ hk)

theorem hasFlatten_cons (fi : FieldInfo) (t : Ty) (rest : List (FieldInfo × Ty)) :
    hasFlatten ((fi, t) :: rest) = (fi.flatten || hasFlatten rest) := by
  simp [hasFlatten]

theorem wireFields_keys (absent : List String → Bool) (path : List String) :
    ∀ (inner : List (FieldInfo × Ty)) (ivals : List DVal), hasFlatten inner = false →
      ∀ e ∈ wireFields absent path inner ivals, e.1 ∈ directKeys inner
  | [], _, _, e, he => by simp [wireFields] at he
  | _ :: _, [], _, e, he => by simp [wireFields] at he
  | (fi, t) :: rest, v :: vals, h, e, he => by
    rw [hasFlatten_cons, Bool.or_eq_false_iff] at h
    rw [wireFields_cons] at he
    simp only [h.1, Bool.false_eq_true, if_false, List.mem_append] at he
    simp only [directKeys, h.1, Bool.false_eq_true, if_false]
    cases he with
    | inl he =>
      split at he
      · cases he
      · simp only [List.mem_singleton] at he
        subst he
        exact List.mem_cons_self
    | inr he => exact List.mem_cons_of_mem _ (wireFields_keys absent path rest vals h.2 e he)

theorem flatten_shape {fi : FieldInfo} {t : Ty} {v : DVal} (hok : fieldOk fi t = true) (hf : fi.flatten = true)
    (hv : ((fi.default && emptyRules t v) || wt t v) = true) :
    fi.default = false ∧ ∃ inner ivals, t = .struct inner ∧ v = .struct ivals ∧ hasFlatten inner = false := by
  simp only [fieldOk, hf, if_true, Bool.and_eq_true, Bool.not_eq_true'] at hok
  have hd := hok.1.2
  simp only [hd, Bool.false_and, Bool.false_or] at hv
  refine ⟨hd, ?_⟩
  cases t <;> simp at hok
  rename_i inner
  cases v <;> simp only [wt, Bool.false_eq_true] at hv
  rename_i ivals
  exact ⟨inner, ivals, rfl, rfl, hok.1.1⟩

theorem wt_of_emitted {fi : FieldInfo} {t : Ty} {v : DVal} {a : Bool}
    (hv : ((fi.default && emptyRules t v) || wt t v) = true) (hs : skipField fi t v a = false) : wt t v = true := by
  rcases Bool.or_eq_true_iff.mp hv with h | h
  · exfalso
    simp only [Bool.and_eq_true] at h
    cases t <;> cases v <;> simp [emptyRules] at h
    rename_i l
    cases l <;> simp at h
    simp [skipField, h, isEmptyList] at hs
  · exact h

theorem missing_of_skipped {fi : FieldInfo} {t : Ty} {v : DVal} {a : Bool} (hok : fieldOk fi t = true)
    (hv : ((fi.default && emptyRules t v) || wt t v) = true) (hs : skipField fi t v a = true) :
    missingValue fi t = some v := by
  cases v with
  | none =>
    have : wt t .none = true := by
      rcases Bool.or_eq_true_iff.mp hv with h | h
      · cases t <;> simp [emptyRules] at h
      · exact h
    cases t <;> simp [wt] at this
    simp [missingValue]
  | strs l =>
    simp only [skipField, Bool.and_eq_true] at hs
    cases l <;> simp [isEmptyList] at hs
    cases t <;> simp [emptyRules, wt] at hv
    simp [missingValue, hs.1, defaultOf]
  | rules l =>
    simp only [skipField, Bool.and_eq_true] at hs
    cases l <;> simp [isEmptyList] at hs
    cases t <;> simp [emptyRules, wt] at hv
    simp [missingValue, hs.1, defaultOf]
  | _ => simp [skipField, isEmptyList] at hs

theorem hasKey_snoc_false {β : Type} {ks : List Key} {seen : List (Key × β)} {w : Key} (v : β)
    (hseen : ∀ k ∈ ks, hasKey k seen = false) (hw : w ∉ ks) : ∀ k ∈ ks, hasKey k (seen ++ [(w, v)]) = false := by
  intro k hk
  rw [hasKey_false_iff]
  intro p hp
  rcases List.mem_append.mp hp with hp | hp
  · exact hasKey_false_iff.mp (hseen k hk) p hp
  · simp only [List.mem_singleton] at hp
    subst hp
    exact fun e => hw (by simpa [← e] using hk)

/-- `Presents P fs vals E S O os`: the member list `E` presents the fields `fs`, in their order, with the values `vals`:
a flatten field by the members `F` of an object, a direct field by one member under its key or, when its value is what
absence decodes to, by nothing; `P t v j` is what is known of a document `j` that stands for `v` at type `t`.
`S`, `O`, `os` are what the three phases of `decodeMapWith` make of `E`: the members the scan claims (decoded), the
members it passes on, and the slots handed to `fillFlatten`. -/
inductive Presents (P : Ty → DVal → JVal → Prop) : List (FieldInfo × Ty) → List DVal → List (Key × JVal) →
    List (Key × DVal) → List (Key × JVal) → List (Option DVal) → Prop
  | nil : Presents P [] [] [] [] [] []
  | flat {fi t v F rest vals E S O os} : fi.flatten = true → P t v (.obj F) → (∀ e ∈ F, e.1 ∈ innerKeys t) →
      Presents P rest vals E S O os → Presents P ((fi, t) :: rest) (v :: vals) (F ++ E) S (F ++ O) (none :: os)
  | missing {fi t v rest vals E S O os} : fi.flatten = false → missingValue fi t = some v →
      Presents P rest vals E S O os → Presents P ((fi, t) :: rest) (v :: vals) E S O (some v :: os)
  | member {fi t v j rest vals E S O os} : fi.flatten = false → P t v j → Presents P rest vals E S O os →
      Presents P ((fi, t) :: rest) (v :: vals) ((fi.wire, j) :: E) ((fi.wire, v) :: S) O (some v :: os)

section
variable {P : Ty → DVal → JVal → Prop} {fs : List (FieldInfo × Ty)} {vals : List DVal} {E : List (Key × JVal)}
  {S : List (Key × DVal)} {O : List (Key × JVal)} {os : List (Option DVal)}

theorem Presents.keys (h : Presents P fs vals E S O os) :
    (∀ e ∈ S, e.1 ∈ directKeys fs) ∧ (∀ e ∈ E, e.1 ∈ directKeys fs ++ flatKeys fs) ∧ (flattenCount fs = 0 → O = []) := by
  induction h with
  | nil => simp
  | flat hf _ hk _ ih =>
    simp only [directKeys, flatKeys, flattenCount, hf, if_true, List.mem_append] at ih ⊢
    exact ⟨ih.1, fun e he => he.elim (fun h => .inr (.inl (hk e h))) (fun h => (ih.2.1 e h).imp_right .inr), by omega⟩
  | missing hf _ _ ih =>
    simp only [directKeys, flatKeys, flattenCount, hf, Bool.false_eq_true, if_false, List.mem_append, List.mem_cons,
      Nat.zero_add] at ih ⊢
    exact ⟨fun e he => .inr (ih.1 e he), fun e he => (ih.2.1 e he).imp_left .inr, ih.2.2⟩
  | member hf _ _ ih =>
    simp only [directKeys, flatKeys, flattenCount, hf, Bool.false_eq_true, if_false, List.mem_append, List.mem_cons,
      Nat.zero_add] at ih ⊢
    exact ⟨fun e he => he.imp (congrArg Prod.fst) (ih.1 e), fun e he => he.elim (fun h => .inl (.inl (congrArg Prod.fst h)))
      (fun h => (ih.2.1 e h).imp_left .inr), ih.2.2⟩

/-- **scan**, by any per-key decoder that agrees with `decAt fs` on the keys of `fs` (in the induction `fs` shrinks, the
decoder stays): every member is either claimed by its own field (and decodes to its value) or belongs to a flatten
field and is passed on -/
theorem Presents.scan_eq {dec : Key → JVal → Option (R DVal)} (h : Presents Decodes fs vals E S O os)
    (hdec : ∀ k j, k ∈ directKeys fs ∨ k ∈ flatKeys fs → dec k j = decAt fs k j)
    (hnd : nodupKeys (directKeys fs) = true) (hdis : ∀ k ∈ directKeys fs, k ∉ flatKeys fs) :
    ∀ (s : List (Key × DVal)) (o : List (Key × JVal)), (∀ k ∈ directKeys fs, hasKey k s = false) →
      scan dec E s o = .ok (s ++ S, o ++ O) := by
  induction h with
  | nil => intro s o _; simp [scan]
  | @flat fi t v F rest vals E S O os hf _ hk _ ih =>
    intro s o hs
    simp only [directKeys, flatKeys, hf, if_true, List.mem_append, not_or] at hdec hnd hdis hs
    have hrest : ∀ k j, k ∈ directKeys rest ∨ k ∈ innerKeys t ∨ k ∈ flatKeys rest → dec k j = decAt rest k j :=
      fun k j hk' => (hdec k j hk').trans (decAt_cons_of_ne j fun c => by rw [hf] at c; cases c)
    have hunk : ∀ e ∈ F, dec e.1 e.2 = none := fun e he =>
      (hrest _ _ (.inr (.inl (hk e he)))).trans (decAt_none _ _ _ fun hk' => (hdis _ hk').1 (hk e he))
    rw [scan_unknown _ _ _ _ _ hunk, ih (fun k j hk' => hrest k j (hk'.imp_right .inr)) hnd
      (fun k hk' => (hdis k hk').2) _ _ hs, List.append_assoc]
  | @missing fi t v rest vals E S O os hf _ _ ih =>
    intro s o hs
    simp only [directKeys, flatKeys, hf, Bool.false_eq_true, if_false, nodupKeys_cons, List.mem_cons, forall_eq_or_imp]
      at hdec hnd hdis hs
    exact ih (fun k j hk' => (hdec k j (hk'.imp_left .inr)).trans
      (decAt_cons_of_ne j fun _ e => hk'.elim (e ▸ hnd.1) (e ▸ hdis.1))) hnd.2 hdis.2 _ _ hs.2
  | @member fi t v j rest vals E S O os hf hj _ ih =>
    intro s o hs
    simp only [directKeys, flatKeys, hf, Bool.false_eq_true, if_false, nodupKeys_cons, List.mem_cons, forall_eq_or_imp]
      at hdec hnd hdis hs
    have h0 : dec fi.wire j = some (.ok v) := by rw [hdec _ _ (.inl (.inl rfl)), decAt, if_pos ⟨hf, rfl⟩, hj]
    simp only [scan, h0, hs.1, Bool.false_eq_true, if_false]
    rw [ih (fun k j hk' => (hdec k j (hk'.imp_left .inr)).trans
      (decAt_cons_of_ne j fun _ e => hk'.elim (e ▸ hnd.1) (e ▸ hdis.1))) hnd.2 hdis.2 _ _
      (hasKey_snoc_false v hs.2 hnd.1)]
    simp

theorem directVals_cons_seen {k : Key} {d : DVal} : ∀ (fs : List (FieldInfo × Ty)) (seen : List (Key × DVal)),
    k ∉ directKeys fs → directVals fs ((k, d) :: seen) = directVals fs seen
  | [], _, _ => rfl
  | (fi, t) :: rest, seen, h => by
    simp only [directKeys] at h
    cases hf : fi.flatten with
    | true =>
      simp only [hf, if_true] at h
      simp only [directVals, hf, if_true, directVals_cons_seen rest seen h]
    | false =>
      simp only [hf, Bool.false_eq_true, if_false, List.mem_cons, not_or] at h
      simp only [directVals, hf, Bool.false_eq_true, if_false, lookupKey, h.1, directVals_cons_seen rest seen h.2]

theorem Presents.directVals_eq (h : Presents P fs vals E S O os) (hnd : nodupKeys (directKeys fs) = true) :
    directVals fs S = .ok os := by
  induction h with
  | nil => rfl
  | flat hf _ _ _ ih =>
    simp only [directKeys, hf, if_true] at hnd
    simp only [directVals, hf, if_true, ih hnd]
  | @missing fi t v rest vals E S O os hf hmiss h ih =>
    simp only [directKeys, hf, Bool.false_eq_true, if_false, nodupKeys_cons] at hnd
    have hnone : lookupKey fi.wire S = none :=
      lookupKey_none_of_not_hasKey (hasKey_false_iff.mpr fun p hp e => hnd.1 (e ▸ h.keys.1 p hp))
    simp only [directVals, hf, Bool.false_eq_true, if_false, hnone, hmiss, ih hnd.2]
  | @member fi t v j rest vals E S O os hf _ _ ih =>
    simp only [directKeys, hf, Bool.false_eq_true, if_false, nodupKeys_cons] at hnd
    simp only [directVals, hf, Bool.false_eq_true, if_false, lookupKey, if_true, directVals_cons_seen rest S hnd.1,
      ih hnd.2]

theorem Presents.fill_eq (h : Presents Decodes fs vals E S O os) (hc : flattenCount fs ≤ 1) :
    ∀ O', (flattenCount fs = 1 → O' = O) → fillFlatten fs os O' = .ok vals := by
  induction h with
  | nil => intro _ _; rfl
  | @flat fi t v F rest vals E S O os hf hdec _ h ih =>
    intro O' hO
    simp only [flattenCount, hf, if_true] at hc hO
    have hO' : O' = F := by rw [hO (by omega), h.keys.2.2 (by omega), List.append_nil]
    subst hO'
    simp only [fillFlatten, hf, if_true, show decodeTy t (.obj O') = .ok v from hdec, ih (by omega) O' (by omega), mapOk]
  | missing hf _ _ ih =>
    intro O' hO
    simp only [flattenCount, hf, Bool.false_eq_true, if_false, Nat.zero_add] at hc hO
    simp only [fillFlatten, hf, Bool.false_eq_true, if_false, ih hc O' hO, mapOk]
  | member hf _ _ ih =>
    intro O' hO
    simp only [flattenCount, hf, Bool.false_eq_true, if_false, Nat.zero_add] at hc hO
    simp only [fillFlatten, hf, Bool.false_eq_true, if_false, ih hc O' hO, mapOk]

theorem decodeMap_presents (h : Presents Decodes fs vals E S O os) (hshape : shapeOk fs = true) :
    decodeMapWith (decAt fs) (fillFlatten fs) fs E = .ok vals := by
  simp only [shapeOk, Bool.and_eq_true, decide_eq_true_eq] at hshape
  obtain ⟨hndD, _, hdis⟩ := nodupKeys_append hshape.1
  have h1 := h.scan_eq (fun _ _ _ => rfl) hndD hdis [] [] (by simp [hasKey])
  simp only [List.nil_append] at h1
  simp only [decodeMapWith, h1, h.directVals_eq hndD, h.fill_eq hshape.2 O (fun _ => rfl)]

end

/-- the encoder presents the fields: whatever holds of the encoding of every well-typed value of a field's type holds
of the pieces -/
theorem presents_wireFields {P : Ty → DVal → JVal → Prop} (absent : List String → Bool) :
    ∀ (fs : List (FieldInfo × Ty)) (vals : List DVal) (path : List String),
      (∀ p ∈ fs, Holds P p.2) →
      wfFields fs = true → wtFields fs vals = true →
      ∃ S O os, Presents P fs vals (wireFields absent path fs vals) S O os
  | [], [], _, _, _, _ => ⟨_, _, _, .nil⟩
  | [], _ :: _, _, _, _, hwt => by simp [wtFields] at hwt
  | _ :: _, [], _, _, _, hwt => by simp [wtFields] at hwt
  | (fi, t) :: rest, v :: vals, path, H, hwf, hwt => by
    simp only [wfFields, Bool.and_eq_true] at hwf
    simp only [wtFields, Bool.and_eq_true] at hwt
    obtain ⟨S, O, os, ih⟩ :=
      presents_wireFields absent rest vals path (fun p hp => H p (List.mem_cons_of_mem _ hp)) hwf.2 hwt.2
    have hP := H _ List.mem_cons_self v absent (fi.rust :: path) hwf.1.2
    rw [wireFields_cons]
    cases hf : fi.flatten with
    | true =>
      obtain ⟨hd, inner, ivals, rfl, rfl, hnf⟩ := flatten_shape hwf.1.1 hf hwt.1
      have hP := hP (by simpa [hd] using hwt.1)
      simp only [if_true, wireEncode] at hP ⊢
      exact ⟨_, _, _, .flat hf hP (wireFields_keys absent _ inner ivals hnf) ih⟩
    | false =>
      simp only [Bool.false_eq_true, if_false]
      cases hs : skipField fi t v (absent (fi.rust :: path)) with
      | true => exact ⟨_, _, _, .missing hf (missing_of_skipped hwf.1.1 hwt.1 hs) ih⟩
      | false => exact ⟨_, _, _, .member hf (hP (wt_of_emitted hwt.1 hs)) ih⟩

theorem variant_cases (absent : List String → Bool) (tag : Key) (path : List String) :
    ∀ {vs : List (VariantInfo × List (FieldInfo × Ty))} {r : String} {vals : List DVal}, wtVariant vs r vals = true →
      ∃ vi fs, (vi, fs) ∈ vs ∧ vi.rust = r ∧ wtFields fs vals = true ∧
        wireVariant absent tag path vs r vals = (tag, jstr vi.wire) :: wireFields absent (vi.rust :: path) fs vals
  | [], _, _, h => by simp [wtVariant] at h
  | (vi, fs) :: rest, r, vals, h => by
    simp only [wtVariant] at h
    by_cases e : vi.rust = r
    · simp only [e, if_true] at h
      exact ⟨vi, fs, List.mem_cons_self, e, h, by simp [wireVariant, e]⟩
    · simp only [e, if_false] at h
      obtain ⟨vi', fs', h1, h2, h3, h4⟩ := variant_cases absent tag path h
      exact ⟨vi', fs', List.mem_cons_of_mem _ h1, h2, h3, by simp [wireVariant, e, h4]⟩

theorem wfVariants_mem {tag : Key} :
    ∀ {vs : List (VariantInfo × List (FieldInfo × Ty))} {vi : VariantInfo} {fs : List (FieldInfo × Ty)},
      wfVariants tag vs = true → (vi, fs) ∈ vs →
      shapeOk fs = true ∧ tag ∉ directKeys fs ++ flatKeys fs ∧ (vi.unit = true → fs = []) ∧ wfFields fs = true
  | [], _, _, _, h => by cases h
  | (vi', fs') :: rest, vi, fs, hwf, h => by
    simp only [wfVariants, Bool.and_eq_true, Bool.not_eq_true', List.contains_eq_mem, decide_eq_false_iff_not,
      Bool.or_eq_true, List.isEmpty_iff] at hwf
    cases h with
    | head =>
      refine ⟨hwf.1.1.1.1, hwf.1.1.1.2, ?_, hwf.1.2⟩
      intro hu
      rcases hwf.1.1.2 with h | h
      · simp [hu] at h
      · exact h
    | tail _ h => exact wfVariants_mem hwf.2 h

theorem decVariant_name (payload : JVal) :
    ∀ {vs : List (VariantInfo × List (FieldInfo × Ty))} {vi : VariantInfo} {fs : List (FieldInfo × Ty)},
      nodupKeys (vs.map (·.1.wire)) = true → (vi, fs) ∈ vs →
      decVariant vs (.name vi.wire) payload = decVariant [(vi, fs)] (.name vi.wire) payload
  | [], _, _, _, h => by cases h
  | (vi', fs') :: rest, vi, fs, hn, h => by
    simp only [List.map_cons, nodupKeys_cons] at hn
    cases h with
    | head => simp only [decVariant, tagMatches, decide_true, if_true]
    | tail _ h =>
      have hne : ¬ vi'.wire = vi.wire := fun e => hn.1 (e ▸ List.mem_map.mpr ⟨(vi, fs), h, rfl⟩)
      rw [← decVariant_name payload hn.2 h]
      simp only [decVariant, tagMatches, hne, decide_false, Bool.false_eq_true, if_false, tagNext]

theorem splitTag_cons (tag w : Key) (E : List (Key × JVal)) (h : ∀ e ∈ E, ¬ e.1 = tag) :
    splitTag tag ((tag, jstr w) :: E) = some (.name w, E) := by
  have h1 : E.filter (fun p => decide (p.1 = tag)) = [] := by
    rw [List.filter_eq_nil_iff]
    intro e he
    simpa using h e he
  have h2 : E.filter (fun p => decide (¬ p.1 = tag)) = E := by
    rw [List.filter_eq_self]
    intro e he
    simpa using h e he
  simp only [splitTag, List.filter_cons, decide_true, if_true, h1, not_true_eq_false, decide_false, Bool.false_eq_true,
    if_false, h2, jstr, tagOf]

/-- **induction over the documents the encoder writes**: the one walk over type trees.  The round trip, `Fits` (Props/C19)
and `numericTag_wireEncode` are its instances; what they see of a struct or a variant is a `Presents` fact. -/
theorem Holds.induct {P : Ty → DVal → JVal → Prop} (u32 : Holds P .u32) (u64 : Holds P .u64) (i32 : Holds P .i32)
    (bool : Holds P .bool) (str : Holds P .str) (spaceSv : Holds P .spaceSv) (csv : ∀ a b, Holds P (.csvRules a b))
    (unitEnum : ∀ vs, Holds P (.unitEnum vs)) (none : ∀ t, P (.opt t) .none .null)
    (some : ∀ t v j, P t v j → j ≠ .null → P (.opt t) (.some v) j)
    (struct : ∀ {fs vals E S O os}, shapeOk fs = true → Presents P fs vals E S O os → P (.struct fs) (.struct vals) (.obj E))
    (tagged : ∀ {tag vs vi fs vals E S O os}, nodupKeys (vs.map (·.1.wire)) = true → (vi, fs) ∈ vs → shapeOk fs = true →
      (vi.unit = true → fs = []) → (∀ e ∈ E, ¬ e.1 = tag) → Presents P fs vals E S O os →
      P (.tagged tag vs) (.variant vi.rust vals) (.obj ((tag, jstr vi.wire) :: E))) : ∀ t, Holds P t := by
  refine Ty.induct' u32 u64 i32 bool str spaceSv csv ?_ unitEnum ?_ ?_
  · intro t ih v absent path hwf hv
    simp only [wfTy, Bool.and_eq_true] at hwf
    cases v <;> simp only [wt, Bool.false_eq_true] at hv
    · exact none t
    · exact some _ _ _ (ih _ absent path hwf.2 hv) (wireEncode_ne_null absent path t _ hwf.1 hv)
  · intro fs ih v absent path hwf hv
    cases v <;> simp only [wt, Bool.false_eq_true] at hv
    simp only [wfTy, Bool.and_eq_true] at hwf
    obtain ⟨S, O, os, h⟩ := presents_wireFields absent fs _ path ih hwf.2 hv
    exact struct hwf.1 h
  · intro tag vs ih v absent path hwf hv
    cases v <;> simp only [wt, Bool.false_eq_true] at hv
    simp only [wfTy, Bool.and_eq_true] at hwf
    obtain ⟨vi, fs, hmem, rfl, hwtf, henc⟩ := variant_cases absent tag path hv
    obtain ⟨hshape, htag, hunit, hwff⟩ := wfVariants_mem hwf.2 hmem
    obtain ⟨S, O, os, h⟩ := presents_wireFields absent fs _ (vi.rust :: path) (ih _ hmem) hwff hwtf
    simp only [wireEncode, henc]
    exact tagged hwf.1 hmem hshape hunit (fun e he heq => htag (heq ▸ h.keys.2.1 e he)) h

/-- **round trip on type trees**: for every well-formed type tree and every well-typed value, decoding the document
`wireEncode absent path t v` (any choice `absent` of which `None` / empty-default fields are left out) gives `v` back. -/
theorem decodeTy_wireEncode : ∀ (t : Ty), RT t := by
  refine Holds.induct (P := Decodes) rt_u32 rt_u64 rt_i32 rt_bool rt_str rt_spaceSv rt_csvRules rt_unitEnum
    (fun _ => rfl) (fun t v j h hn => ?_) (fun hs h => ?_) (fun hn hmem hs hunit hkeys h => ?_)
  · rw [Decodes, decodeTy_opt _ _ hn, h]
    rfl
  · simp only [Decodes, decodeTy, decodeMap_presents h hs]
    rfl
  · rename_i tag vs vi fs vals E S O os
    simp only [Decodes, decodeTy, splitTag_cons tag vi.wire _ hkeys, decVariant_name _ hn hmem, decVariant, tagMatches,
      decide_true, if_true]
    by_cases hu : vi.unit = true
    · cases hunit hu
      cases h
      simp [hu]
    · simp only [hu, Bool.false_eq_true, if_false, decodeMap_presents h hs, mapOk]

theorem numericTag_wireEncode (absent : List String → Bool) (path : List String) (t : Ty) (v : DVal)
    (hwf : wfTy t = true) (hv : wt t v = true) : numericTag t (wireEncode absent path t v) = false := by
  refine Holds.induct (P := fun t _ j => numericTag t j = false) ?u32 ?u64 ?i32 ?bool ?str ?spaceSv ?csv ?unitEnum
    (fun _ => rfl) (fun _ _ _ _ _ => ?some) (fun _ _ => rfl) (fun _ _ _ _ hkeys _ => ?tagged) t v absent path hwf hv
  case some => simp [numericTag]
  case tagged => simpa [numericTag, jstr] using fun a b he heq => absurd heq (hkeys (a, b) he)
  all_goals
    intros
    intro _ _ _ _ _
    simp [numericTag]

/-- decidable well-formedness of a named schema: every named type unfolds (no cycles, nothing unsupported) into a
well-formed tree: distinct wire names per object (flattened members included), the tag name of an internally tagged
enum does not clash with a member, variant / enum keys are distinct, `Option` is not nested, an object has at most one
flatten field, a flatten field is not `default` and names a plain struct without flatten fields of its own, `default`
fields have a default, and every documented rule name is understood by `from_str`, contains no `,` and needs no escape. -/
def wfSchema (σ : List TypeDef) (rules : List (String × String)) : Bool :=
  σ.all fun td =>
    match resolve σ rules td.name with
    | some t => wfTy t
    | none => false

def WFSchema (σ : List TypeDef) (rules : List (String × String)) : Prop := wfSchema σ rules = true

instance (σ : List TypeDef) (rules : List (String × String)) : Decidable (WFSchema σ rules) := by
  unfold WFSchema; infer_instance

theorem wfTy_of_wfSchema {σ : List TypeDef} {rules : List (String × String)} (hσ : WFSchema σ rules) {name : String}
    (hname : name ∈ σ.map (·.name)) {t : Ty} (ht : resolve σ rules name = some t) : wfTy t = true := by
  obtain ⟨td, htd, rfl⟩ := List.mem_map.mp hname
  have h := List.all_eq_true.mp hσ td htd
  simpa only [ht] using h

/-- **C19 (round trip).**  For every well-formed schema, every named type `name` of it with type tree `t`, every value
`v` that is well-typed for `t` -- any strings, any integers in range, any list of tokens without white space for the
moves, any optional field `None` or `Some` -- and every choice `absent` of leaving out or writing `null` (`""` for an
empty move list) each `None` / empty field: the decoder maps the document back to `v`. -/
theorem decode_encode (σ : List TypeDef) (rules : List (String × String)) (hσ : WFSchema σ rules)
    (name : String) (hname : name ∈ σ.map (·.name)) (t : Ty) (ht : resolve σ rules name = some t)
    (v : DVal) (hv : wt t v = true) (absent : List String → Bool) :
    decode σ rules name (wireEncode absent [] t v) = .ok v := by
  have h := wfTy_of_wfSchema hσ hname ht
  simp only [decode, ht, decodeRoot, numericTag_wireEncode absent [] t v h hv, Bool.false_eq_true, if_false]
  exact decodeTy_wireEncode t v absent [] h hv

#print axioms decode_encode

/-- the schema generated from the Rust source is well-formed -/
theorem wf_generated : WFSchema schema csvRuleTable := by decide +kernel

#print axioms wf_generated

end Inkayaku.Props.C19
