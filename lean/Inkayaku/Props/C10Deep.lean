import Inkayaku.Proofs.SearchRepDeepHash
import Inkayaku.Props.C10Rep
import Inkayaku.Proofs.SearchRepDeepNode
/-!
# C10 below the root: `go depth d` after `position <b0> moves …` reports the value of the executable specification

Property C10 (quoted in `Props/C10Search.lean`).  `Props/C10Search.lean` proves the repetition cut of every node and the value of `go depth 1`; `Props/C10Rep.lean` proves that
`RepSpec.repSearch` is the exact path-dependent minimax `mm repGame` and `go_depth1_eq_repSpec`.  This file proves the value of
`go depth d` for every `d` under `RHyp`, and for `d = 2, 3` from hash hypotheses alone.  Helper files: `Proofs/SearchRepDeep{Inv,Node,Hash}.lean`.

1. `node_value` – EVERY node of EVERY iteration depth `D`: entered at ply `k` with board `p` after the boards `Lb` (game, then search
   line) in a state whose history holds `Lb` and whose table satisfies the LINE-DEPENDENT invariant `RTTOK` (an entry tells the truth
   about `mm repGame draft` of its node ON THE LINE ON WHICH IT WAS STORED), `search_negamax` satisfies the fail-soft contract w.r.t.
   `mm repGame (D − k) (rnode Lb p k)`, restores the board and keeps the invariant.  The repetition return is taken exactly when the
   specification node is a repetition node.
2. `go_depth_eq_repSpec` – `go depth d` for EVERY `d ≥ 1` after a game: the reported score is `scoreFromValue` of the value component of
   `repSearch d b0 ucis []` and the announced move attains it — under the explicit hypotheses `RHyp b0 T d` (`rhypB`: an executable sufficient condition), the clock
   budget, a legal move, and on the run: the virtual clock stands still (`nsPerNode = none`) and the `go` is not interrupted (its
   node counter stays below the poll period, or `pending = []`).  Besides the
   hash hypotheses of `C10Search.go_depth1_game` (non-zero hashes, no collision of a node with the positions of its line inside the
   window), taken over all nodes of the `d`-ply tree, `RHyp` contains the line-dependent `RHashInj b0 T d`: a node at which the search stores and a node
   at which it probes that have the same hash stand at the same ply, show the same position AND HAVE THE SAME VALUES `mm repGame draft`
   for every draft the table can hold there.  Sufficient and executable (`rhashInj_of_window`, `injB`): their lines have THE SAME
   KEYS INSIDE THE WINDOW of the repetition test (the last `halfmove` positions: `mm_rep_window` – older positions are never compared
   with anything again).
3. `rhashInj_le3`, `go_depth2_eq_repSpec`, `go_depth3_eq_repSpec` (and `go_depth_le3_eq_repSpec`) – for `d ≤ 3` that hypothesis is a
   THEOREM.  `go depth 2` (resp. 3) after a game reports `scoreFromValue (mm repGame d root)` and plays a move attaining it, under
   `DeepHyp`: no hash collision in the ≤ d-ply neighbourhood (`NoCollision`), non-zero hashes, no collision of a node with its line
   inside the window, no 16-bit wrap, material ≤ 64, clock budget; on the run `nsPerNode = none` and `pending = []`.  What the
   table of `Search.negamax` can hit:
   iteration 1 stores the root with draft 1; iteration 2 probes it with remaining 2 (no cut, only the move hint); ply-1 nodes are
   stored with draft 1 and probed with remaining 1 – a hit needs a sibling with the same position, which has the same line; ply-2
   nodes are probed with remaining 0, so ANY entry with their hash would be used – but the ply-1 nodes have the other side to move,
   the root differs by a vacated square (`key_cross02`), and ply-2 nodes are never stored.  At depth 3 ply-2 nodes ARE stored
   (draft 1) and two lines CAN reach one ply-2 position (`Ne4xd6 e7xd6` / `Ne4xf6 e7xf6` with black pawns on d6, e7, f6) – but the
   lines differ in the key of the ply-1 position only, which the node never looks at (distance 1: other side to move) and which
   its children never match (`C08Transp.transp13`: a ply-1 position does not recur at ply 3); ply-3 nodes probe with remaining 0,
   and no stored node has their position (`sameDraft_le3`).
4. For `d ≥ 4` `RHashInj` is a genuine restriction: it fails wherever two move orders transpose inside the window or a cycle returns
   to a stored position (`Example`: the king-and-queen shuffle at depth 4).  Often the value still agrees; `Props/C10DeepGhi.lean`
   shows a game on which at depth 5 it does NOT (`ghiWitness`) while the same position without history agrees: graph-history
   interaction – a precise reason why the exactness claim of the property cannot extend to arbitrary depth.  (At depth 4 the
   search model also deviates from `mm repGame` on some games, but there the position without history deviates as well – the
   draft effect `stored ≥ remaining` that limits C08 to depth 3.)

Not proved, and not provable here: the hash hypotheses themselves; they are hypotheses of every theorem that identifies positions
by a 64-bit key.
-/
namespace Inkayaku.C10Deep
open Inkayaku.Board Inkayaku.Eval Inkayaku.WF Inkayaku.BoardCongr Inkayaku.Minimax Inkayaku.SpecSearch Inkayaku.Search
open Inkayaku.SearchSim Inkayaku.History Inkayaku.SearchRep Inkayaku.SearchRepDeep
open Inkayaku.C06 (HashKey)
open Inkayaku.RepSpec (RPos Key key repGame repSearch isRepetition)
open Inkayaku.C10Rep (rootNode childNode histKeys)

/-- **a node of `search_negamax` in an iteration of depth `D` after a game** (any `D`).  `RNode b0 T k Lb p`: `p` is the board of a
node at ply `k` below the last position of the game `b0 :: T`, `Lb` the boards before it (oldest first); `RSOK`: table invariant
`RTTOK`, the history holds `Lb`, not stopped, no `searchmoves`; `NoIntr`: the node counter stays below the poll period, or no
message is waiting and no move time is set. -/
theorem node_value {b0 : Board} {T : List Board} {D : Nat} (H : RHyp b0 T D) (fuel : Nat) (s : St) (k : Nat) (Lb : List Board)
    (p : Board) (α β : Int) (isPv : Bool) (hash ph : UInt64) (hk : k ≤ D) (hnode : RNode b0 T k Lb p)
    (hb : vis s.board = vis p) (hinv : Inv fuel s.board) (hfuel : 66 + (D - k) ≤ fuel) (hsok : RSOK b0 T D Lb s)
    (hhash : hash = Zobrist.hash s.board) (hroot : k = 0 → genLegal s.board ≠ [])
    (hL : lossScore ≤ α) (hαβ : α < β) (hU : β ≤ -lossScore)
    (hN : NoIntr s (negamax fuel s k D α β isPv hash ph).2.negamaxNodes) :
    Ok (mm repGame (D - k) (rnode Lb p k)) (negamax fuel s k D α β isPv hash ph).1.value α β ∧
    vis (negamax fuel s k D α β isPv hash ph).2.board = vis s.board ∧
    RSOK b0 T D Lb (negamax fuel s k D α β isPv hash ph).2 :=
  let h := Sim.negamax_sim (rsim_laws H) (Nat.le_refl _) fuel s k Lb p α β isPv hash ph hk hnode hb hinv hfuel
    (rsok_iff.mp hsok) hhash hroot hL hαβ hU hN
  ⟨h.1, h.2.1, rsok_iff.mpr h.2.2.1⟩

/-- the repetition return of a node below the root is taken exactly when the specification node is a repetition node -/
theorem node_repetition_iff_spec {b0 : Board} {T : List Board} {D : Nat} (H : RHyp b0 T D) {k : Nat} {Lb : List Board} {p : Board}
    (hk1 : 1 ≤ k) (hk : k ≤ D) (hn : RNode b0 T k Lb p) {s : St} (hv : vis s.board = vis p)
    (hh : LineHist (plyClock b0) Lb s.history) :
    isRep (enter s (Zobrist.hash s.board)) k = isRepetition (rnode Lb p k) :=
  rep_iff H hk1 hk hn hv hh

#print axioms node_value
#print axioms node_repetition_iff_spec

/-- **`go depth d` after `position <b0> moves u1 … un` reports the value of the executable specification**, for every `d ≥ 1`.
`repSearch d b0 ucis []` succeeds on the last game position with value `v = mm repGame d (rootNode …)` (the exact minimax of the
game in which a node below the root whose position has occurred three times is worth `drawScore ± contempt`); the search model's
`info depth d` line carries `scoreFromValue v`; the announced move `m` is a legal move whose node has the exact value `−v` at
depth `d − 1`, and it heads the PV.  Hypotheses: `RHyp b0 T d` (see the header), the clock budget, a legal move, the virtual
clock stands still, no interruption (the node counter of the go stays below the poll period, or no message is waiting). -/
theorem go_depth_eq_repSpec {b0 : Board} {ucis : List String} {T : List Board} (s₀ : St) (d maxIter : Nat) (hd1 : 1 ≤ d)
    (hmi : d ≤ maxIter) (H : RHyp b0 T d) (hgame : gameBoards b0 ucis = some (b0 :: T))
    (hinv : Inv (T.length + fuelFor d) b0) (hlegal : genLegal (lastBoard b0 T) ≠ []) (hns : s₀.nsPerNode = none)
    (hN : (goCmd (setPosition s₀ b0 ucis) { depth := some d } maxIter).negamaxNodes < s₀.pollPeriod ∨ s₀.pending = []) :
    ∃ v bm, repSearch d b0 ucis [] = some (lastBoard b0 T, v, bm) ∧ v = mm repGame d (rootNode b0 T []) ∧
      ∃ (pv : List Move) (nodes : Nat) (t : Option Nat) (m : Move) (older : List Out),
        (goCmd (setPosition s₀ b0 ucis) { depth := some d } maxIter).out =
          .bestMove (some m) (pv[1]?) ::
          .info (some d) t nodes (some (scoreFromValue v (lastBoard b0 T))) (some pv) :: older ∧
        m ∈ genLegal (lastBoard b0 T) ∧ - mm repGame (d - 1) (childNode b0 T m) = v ∧ pv[0]? = some m := by
  obtain ⟨bm, hrs⟩ := C10Rep.repSearch_eq_mm (depth := d) (only := []) (C10Rep.playHistory_of_game hgame)
  obtain ⟨hist, mv, hSh, hsp⟩ := setPosition_game s₀ hgame hinv (by have := H.nowrap; omega)
  have hSpp : (setPosition s₀ b0 ucis).pollPeriod = s₀.pollPeriod := by rw [hsp]
  have hSpd : (setPosition s₀ b0 ucis).pending = s₀.pending := by rw [hsp]
  obtain ⟨pv, nodes, t, m, older, h1, h2, h3, h4, _⟩ := Sim.goCmd_sim (rsim_laws H) (RNode.root H.line) (setPosition s₀ b0 ucis)
    (by rw [hsp]) maxIter hd1 hmi (last_facts H.line hinv).1 hlegal
    (by
      apply LineHist.prefix (L' := [lastBoard b0 T])
      rw [snoc_lastBoard, hsp]
      exact hSh)
    (by rw [hsp]; exact hns) (by rw [hSpp, hSpd]; exact hN)
  -- the children of the root carry the line `game ++ [root]`, which is the game
  have hc : rnode ((b0 :: T).dropLast ++ [lastBoard b0 T]) (make (lastBoard b0 T) m) 1 = childNode b0 T m := by
    rw [snoc_lastBoard]; rfl
  exact ⟨_, bm, hrs, rfl, pv, nodes, t, m, older, h1, h2, by rw [← hc]; exact h3, h4⟩

#print axioms go_depth_eq_repSpec

/-- **for `D ≤ 3` the line-dependent injectivity is a theorem**: from the absence of hash collisions in the ≤ 3-ply neighbourhood
of the last game position (`NoCollision`: equal hash ⇒ equal placement, side to move, rights, e.p. file) -/
theorem rhashInj_le3 {b0 : Board} {T : List Board} {D : Nat} (hD : D ≤ 3) (h : DeepHyp b0 T D) : RHashInj b0 T D :=
  (rhyp_le3 hD h).inj

/-- `go depth d`, `d ≤ 3`, after a game: `go_depth_eq_repSpec` with `RHyp` derived from `DeepHyp` -/
theorem go_depth_le3_eq_repSpec {b0 : Board} {ucis : List String} {T : List Board} (s₀ : St) (d maxIter : Nat) (hd1 : 1 ≤ d)
    (hd3 : d ≤ 3) (hmi : d ≤ maxIter) (H : DeepHyp b0 T d) (hgame : gameBoards b0 ucis = some (b0 :: T))
    (hlegal : genLegal (lastBoard b0 T) ≠ []) (hns : s₀.nsPerNode = none)
    (hN : (goCmd (setPosition s₀ b0 ucis) { depth := some d } maxIter).negamaxNodes < s₀.pollPeriod ∨ s₀.pending = []) :
    ∃ v bm, repSearch d b0 ucis [] = some (lastBoard b0 T, v, bm) ∧ v = mm repGame d (rootNode b0 T []) ∧
      ∃ (pv : List Move) (nodes : Nat) (t : Option Nat) (m : Move) (older : List Out),
        (goCmd (setPosition s₀ b0 ucis) { depth := some d } maxIter).out =
          .bestMove (some m) (pv[1]?) ::
          .info (some d) t nodes (some (scoreFromValue v (lastBoard b0 T))) (some pv) :: older ∧
        m ∈ genLegal (lastBoard b0 T) ∧ - mm repGame (d - 1) (childNode b0 T m) = v ∧ pv[0]? = some m :=
  go_depth_eq_repSpec s₀ d maxIter hd1 hmi (rhyp_le3 hd3 H) hgame H.inv hlegal hns hN

/-- **`go depth 2` after `position <b0> moves u1 … un` reports `scoreFromValue (mm repGame 2 root)` and plays a move attaining it.**
Hypotheses `DeepHyp b0 T 2`: the game is a line of legal moves, clock budget `half-move clock + n + 202 ≤ 4095`, no 16-bit wrap of
the ply counter, no hash collision among the positions within two plies of the last game position (`NoCollision`), none of them
below the root hashes to zero, no collision between such a position and the game/search-line positions inside its repetition window
(`LineColl`), material ≤ 64.  On the run: the virtual clock stands still (`hns`) and no message is waiting (`hpd`), so the `go`
is not interrupted. -/
theorem go_depth2_eq_repSpec {b0 : Board} {ucis : List String} {T : List Board} (s₀ : St) (maxIter : Nat) (hmi : 2 ≤ maxIter)
    (H : DeepHyp b0 T 2) (hgame : gameBoards b0 ucis = some (b0 :: T)) (hlegal : genLegal (lastBoard b0 T) ≠ [])
    (hns : s₀.nsPerNode = none) (hpd : s₀.pending = []) :
    ∃ v bm, repSearch 2 b0 ucis [] = some (lastBoard b0 T, v, bm) ∧ v = mm repGame 2 (rootNode b0 T []) ∧
      ∃ (pv : List Move) (nodes : Nat) (t : Option Nat) (m : Move) (older : List Out),
        (goCmd (setPosition s₀ b0 ucis) { depth := some 2 } maxIter).out =
          .bestMove (some m) (pv[1]?) ::
          .info (some 2) t nodes (some (scoreFromValue v (lastBoard b0 T))) (some pv) :: older ∧
        m ∈ genLegal (lastBoard b0 T) ∧ - mm repGame 1 (childNode b0 T m) = v ∧ pv[0]? = some m :=
  go_depth_le3_eq_repSpec s₀ 2 maxIter (by omega) (by omega) hmi H hgame hlegal hns (Or.inr hpd)

/-- **`go depth 3` after a game**: the same with the three-ply neighbourhood -/
theorem go_depth3_eq_repSpec {b0 : Board} {ucis : List String} {T : List Board} (s₀ : St) (maxIter : Nat) (hmi : 3 ≤ maxIter)
    (H : DeepHyp b0 T 3) (hgame : gameBoards b0 ucis = some (b0 :: T)) (hlegal : genLegal (lastBoard b0 T) ≠ [])
    (hns : s₀.nsPerNode = none) (hpd : s₀.pending = []) :
    ∃ v bm, repSearch 3 b0 ucis [] = some (lastBoard b0 T, v, bm) ∧ v = mm repGame 3 (rootNode b0 T []) ∧
      ∃ (pv : List Move) (nodes : Nat) (t : Option Nat) (m : Move) (older : List Out),
        (goCmd (setPosition s₀ b0 ucis) { depth := some 3 } maxIter).out =
          .bestMove (some m) (pv[1]?) ::
          .info (some 3) t nodes (some (scoreFromValue v (lastBoard b0 T))) (some pv) :: older ∧
        m ∈ genLegal (lastBoard b0 T) ∧ - mm repGame 2 (childNode b0 T m) = v ∧ pv[0]? = some m :=
  go_depth_le3_eq_repSpec s₀ 3 maxIter (by omega) (by omega) hmi H hgame hlegal hns (Or.inr hpd)

#print axioms rhashInj_le3
#print axioms go_depth_le3_eq_repSpec
#print axioms go_depth2_eq_repSpec
#print axioms go_depth3_eq_repSpec

/-! ## non-vacuity

The king-and-queen shuffle of `C10Search.Example` (`7k/8/8/8/8/8/8/KQ6 w - - 0 1`, `Qb1-b3 Kh8-g7 Qb3-b1 Kg7-h8` once and then
`Qb1-b3 Kh8-g7 Qb3-b1`; Black to move; `Kg7-h8` completes a threefold).  `deepHypB` / `rhypB` are the executable conjunctions of
`DeepHyp` / `RHyp` (`deepHyp_of_check`, `rhyp_of_check`: soundness; the nodes of the two-ply tree are enumerated).  For depth 2
`DeepHyp` is evaluated IN THE KERNEL (in the form `deepHypOnceH`: one traversal, the hashes updated move by move) and the theorem is instantiated;
for depth 3 (and a position of the perpetual-check corpus in which the rule DECIDES the value) by the compiler (`#guard`),
together with the conclusion. -/
namespace Example
open Inkayaku.C10Search.Example (kq shuffle kqT kqLast boardOf tailOf lastInfo announced)
open Inkayaku.C10Rep.Example (perp agreesRep)

set_option maxRecDepth 100000 in
/-- the hypotheses of `go_depth2_eq_repSpec` hold for the shuffle (kernel evaluation) -/
theorem kq_deep2 : DeepHyp kq kqT 2 ∧ gameBoards kq shuffle = some (kq :: kqT) := deepHyp_of_onceH (by decide +kernel)

/-- `go depth 2` after the shuffle -/
example : ∃ v bm, repSearch 2 kq shuffle [] = some (kqLast, v, bm) ∧ v = mm repGame 2 (rootNode kq kqT []) ∧
    ∃ (pv : List Move) (nodes : Nat) (t : Option Nat) (m : Move) (older : List Out),
      (goCmd (setPosition initial kq shuffle) { depth := some 2 } 64).out =
        .bestMove (some m) (pv[1]?) :: .info (some 2) t nodes (some (scoreFromValue v kqLast)) (some pv) :: older ∧
      m ∈ genLegal kqLast ∧ - mm repGame 1 (childNode kq kqT m) = v ∧ pv[0]? = some m :=
  go_depth2_eq_repSpec initial 64 (by decide) kq_deep2.1 kq_deep2.2 (by decide +kernel) rfl rfl

/-- the derived hypothesis bundle of the general theorem, and with it `RHashInj kq kqT 2` -/
example : RHyp kq kqT 2 := rhyp_le2 (by decide) kq_deep2.1
example : RHashInj kq kqT 2 := rhashInj_le3 (by decide) kq_deep2.1

/-- hypotheses `RHyp b0 T d` hold (executable form) and `go depth d` of the search model reports the specification value and a
move attaining it -/
def agreesDeep (d : Nat) (b0 : Board) (ucis : List String) : Bool :=
  let T := tailOf b0 ucis
  let bn := lastBoard b0 T
  let s := goCmd (setPosition initial b0 ucis) { depth := some d }
  rhypB b0 ucis T d && !(genLegal bn).isEmpty &&
  match repSearch d b0 ucis [] with
  | some (b, v, _) =>
    lastInfo s.out == some (d, scoreFromValue v b) &&
    (match announced s.out with
     | some m => decide (m ∈ genLegal bn) && (- mm repGame (d - 1) (childNode b0 T m) == v)
     | none => false)
  | none => false

-- depth 2 and 3 on the shuffle and its prefixes: Black takes the repetition (`cp 50`) a queen down
#guard agreesDeep 2 kq shuffle && agreesDeep 3 kq shuffle
#guard (repSearch 2 kq shuffle []).map (fun r => (r.2.1, r.2.2.map Move.uci)) == some (50, some "g7h8")
#guard agreesDeep 2 kq (shuffle.take 6) && agreesDeep 3 kq (shuffle.take 5) && agreesDeep 2 kq []
-- the hypotheses `DeepHyp` of `go_depth2_eq_repSpec` / `go_depth3_eq_repSpec` in their own executable form
#guard deepHypB kq shuffle kqT 2 && deepHypB kq (shuffle.take 6) (tailOf kq (shuffle.take 6)) 2 && deepHypB kq shuffle kqT 3
-- `5Q2/7k/q7/8/1r6/8/2P4K/8 w - - 0 40` (corpus/perpetuals.txt): the third occurrence lies two plies below the root, the rule
-- decides the depth-2 value (`cp50`, without the rule `cp120`); one ply earlier it decides the depth-3 value (`cp50` / `cp-100`)
#guard agreesDeep 2 perp ["f8f7", "h7h8", "f7f8", "h8h7", "f8f7", "h7h8"]
#guard agreesDeep 3 perp ["f8f7", "h7h8", "f7f8", "h8h7", "f8f7"]
#guard RepSpec.handleRepSearch ["5Q2/7k/q7/8/1r6/8/2P4K/8_w_-_-_0_40", "3", "f8f7", "h7h8", "f7f8", "h8h7", "f8f7"] == "cp50 cp-100"
-- a transposition TWO plies below the root: `Ne4xd6+ e7xd6` and `Ne4xf6+ e7xf6` reach one position over lines with different keys;
-- the entry of that ply-2 node is line independent all the same (`rhashInj_le3`), the hypotheses of depth 3 hold, the values agree
def knightFork : Board := boardOf "4k3/4p3/3p1p2/8/4N3/8/8/4K3 w - - 0 1"
#guard (let A := (gameBoards knightFork ["e4d6", "e7d6"]).getD []
        let B := (gameBoards knightFork ["e4f6", "e7f6"]).getD []
        A.length == 3 && B.length == 3 && decide (vis (A.getLastD kq) = vis (B.getLastD kq)) &&
        A.dropLast.map key != B.dropLast.map key)
#guard deepHypB knightFork [] [] 3 && agreesDeep 3 knightFork [] && agreesDeep 3 knightFork ["e1d1", "e8d8", "d1e1", "d8e8"]
-- at depth 4 the hypothesis `RHashInj kq kqT 4` fails: `Kg7-f7 Qb1-b2 Kf7-e7` and `Kg7-f8 Qb1-b2 Kf8-e7` reach one position three
-- plies below the root over lines with different keys inside the window (the clock is 10: no capture, no pawn move) …
#guard (let A := (gameBoards kqLast ["g7f7", "b1b2", "f7e7"]).getD []
        let B := (gameBoards kqLast ["g7f8", "b1b2", "f8e7"]).getD []
        A.length == 4 && B.length == 4 && Zobrist.hash (A.getLastD kq) == Zobrist.hash (B.getLastD kq) &&
        decide (vis (A.getLastD kq) = vis (B.getLastD kq)) && (A.getLastD kq).halfmove == 10 &&
        A.dropLast.map key != B.dropLast.map key)
-- … although the value still agrees here (see `Props/C10DeepGhi.lean` for a game on which it does not)
#guard agreesRep 4 kq shuffle

end Example

end Inkayaku.C10Deep
