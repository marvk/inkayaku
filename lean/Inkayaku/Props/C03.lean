import Inkayaku.Proofs.MoveBits
import Inkayaku.Proofs.MakeUnmake
import Inkayaku.Proofs.GenOK
import Inkayaku.Proofs.BoardCongr
import Inkayaku.Model.Zobrist
/-!
# C03 — unmake restores the position exactly

"For every legal position and every move the generator can emit (legal or only pseudo-legal), making the move and
then unmaking it restores the identical chess position: placement, side to move, castling rights, en-passant target,
half-move clock, full-move number and both position hashes.  The same holds for whole lines made and then unmade in
reverse order."

* `field_roundtrip` — every getter of the packed move word returns what its setter stored when the value fits its
  field (masks/shifts of the current build, `Gen.BoardConsts`); in particular the 12-bit previous-half-move field
  holds every clock value `0..4095`.
* `unmake_make` — for every board and every move with `MoveOK` (no bound on either clock):
  `vis (unmake (make b m) m) = vis b`; `vis` is everything except the scratch occupancy word (`vis_eq_iff`).
* `unmake_make_line` — lines of any length.
* `hash_restored` — both Zobrist hashes are functions of `vis`, hence restored.
* `unmake_make_generated`, `unmake_make_generated_line` — the statement over "every move the generator can emit"
  on well-formed boards (`genPseudo_ok`).
-/
namespace Inkayaku.C03
open Inkayaku.Board Inkayaku.WF Inkayaku.MoveBits Inkayaku.MakeUnmake Inkayaku.GenOK

theorem vis_eq_iff (b c : Board) : vis b = vis c ↔
    b.white.pawns = c.white.pawns ∧ b.white.knights = c.white.knights ∧ b.white.bishops = c.white.bishops ∧
    b.white.rooks = c.white.rooks ∧ b.white.queens = c.white.queens ∧ b.white.kings = c.white.kings ∧
    b.black.pawns = c.black.pawns ∧ b.black.knights = c.black.knights ∧ b.black.bishops = c.black.bishops ∧
    b.black.rooks = c.black.rooks ∧ b.black.queens = c.black.queens ∧ b.black.kings = c.black.kings ∧
    b.white.ks = c.white.ks ∧ b.white.qs = c.white.qs ∧ b.black.ks = c.black.ks ∧ b.black.qs = c.black.qs ∧
    b.turn = c.turn ∧ b.ep = c.ep ∧ b.halfmove = c.halfmove ∧ b.fullmove = c.fullmove := by
  obtain ⟨⟨w0, w1, w2, w3, w4, w5, w6, w7, w8⟩, ⟨k0, k1, k2, k3, k4, k5, k6, k7, k8⟩, t, e, fm, hm⟩ := b
  obtain ⟨⟨w0', w1', w2', w3', w4', w5', w6', w7', w8'⟩, ⟨k0', k1', k2', k3', k4', k5', k6', k7', k8'⟩, t', e', fm', hm'⟩ := c
  simp only [vis, visSide, Board.mk.injEq, Side.mk.injEq, true_and]
  constructor
  · rintro ⟨⟨h1, h2, h3, h4, h5, h6, h7, h8⟩, ⟨g1, g2, g3, g4, g5, g6, g7, g8⟩, ht, he, hf, hh⟩
    exact ⟨h1, h2, h3, h4, h5, h6, g1, g2, g3, g4, g5, g6, h8, h7, g8, g7, ht, he, hh, hf⟩
  · rintro ⟨h1, h2, h3, h4, h5, h6, g1, g2, g3, g4, g5, g6, h8, h7, g8, g7, ht, he, hh, hf⟩
    exact ⟨⟨h1, h2, h3, h4, h5, h6, h7, h8⟩, ⟨g1, g2, g3, g4, g5, g6, g7, g8⟩, ht, he, hf, hh⟩

theorem field_roundtrip (f : MoveF) (h : FieldsFit f) : decode (encode f) = f := decode_encode h

theorem pack_injective (f g : MoveF) (hf : FieldsFit f) (hg : FieldsFit g) (h : encode f = encode g) : f = g :=
  encode_injective_on_fit hf hg h

theorem unmake_make (b : Board) (m : Move) (h : MoveOK b m.f) : vis (unmake (make b m) m) = vis b :=
  MakeUnmake.unmake_make h

def makeLine (b : Board) (ms : List Move) : Board := ms.foldl make b
def unmakeLine (b : Board) (ms : List Move) : Board := ms.foldr (fun m b => unmake b m) b

theorem makeLine_eq (b : Board) (ms : List Move) : makeLine b ms = makeAll b (ms.map Move.f) := by
  induction ms generalizing b with
  | nil => rfl
  | cons m ms ih => simp only [makeLine, makeAll, List.foldl_cons, List.map_cons] at ih ⊢; exact ih _

theorem unmakeLine_eq (b : Board) (ms : List Move) : unmakeLine b ms = unmakeAll b (ms.map Move.f) := by
  induction ms with
  | nil => rfl
  | cons m ms ih => simp only [unmakeLine, unmakeAll, List.foldr_cons, List.map_cons] at ih ⊢; rw [ih]; rfl

theorem unmake_make_line (b : Board) (ms : List Move) (h : LineOK b (ms.map Move.f)) :
    vis (unmakeLine (makeLine b ms) ms) = vis b := by
  rw [makeLine_eq, unmakeLine_eq]; exact unmakeAll_makeAll h

theorem hash_congr {b c : Board} (h : vis b = vis c) :
    Zobrist.hash b = Zobrist.hash c ∧ Zobrist.pawnHash b = Zobrist.pawnHash c :=
  ⟨BoardCongr.hash_congr h, BoardCongr.pawnHash_congr h⟩

/-- both position hashes (recomputed from the board) are restored -/
theorem hash_restored (b : Board) (m : Move) (h : MoveOK b m.f) :
    Zobrist.hash (unmake (make b m) m) = Zobrist.hash b ∧
    Zobrist.pawnHash (unmake (make b m) m) = Zobrist.pawnHash b :=
  hash_congr (unmake_make b m h)

theorem hash_restored_line (b : Board) (ms : List Move) (h : LineOK b (ms.map Move.f)) :
    Zobrist.hash (unmakeLine (makeLine b ms) ms) = Zobrist.hash b ∧
    Zobrist.pawnHash (unmakeLine (makeLine b ms) ms) = Zobrist.pawnHash b :=
  hash_congr (unmake_make_line b ms h)

theorem unmake_make_generated (b : Board) (hwf : wf b = true) (m : Move) (hm : m ∈ genPseudo b) :
    vis (unmake (make b m) m) = vis b ∧
    Zobrist.hash (unmake (make b m) m) = Zobrist.hash b ∧
    Zobrist.pawnHash (unmake (make b m) m) = Zobrist.pawnHash b :=
  have h := (genPseudo_ok hwf m hm).2
  ⟨unmake_make b m h, hash_restored b m h⟩

theorem unmake_make_generated_nq (b : Board) (hwf : wf b = true) (m : Move) (hm : m ∈ genNonQuiescent b) :
    vis (unmake (make b m) m) = vis b ∧
    Zobrist.hash (unmake (make b m) m) = Zobrist.hash b ∧
    Zobrist.pawnHash (unmake (make b m) m) = Zobrist.pawnHash b :=
  have h := (genNonQuiescent_ok hwf m hm).2
  ⟨unmake_make b m h, hash_restored b m h⟩

def GenLine : Board → List Move → Prop
  | _, [] => True
  | b, m :: ms => wf b = true ∧ m ∈ genPseudo b ∧ GenLine (make b m) ms

theorem genLine_ok {b : Board} {ms : List Move} (h : GenLine b ms) : LineOK b (ms.map Move.f) := by
  induction ms generalizing b with
  | nil => trivial
  | cons m ms ih => exact ⟨(genPseudo_ok h.1 m h.2.1).2, ih h.2.2⟩

theorem unmake_make_generated_line (b : Board) (ms : List Move) (h : GenLine b ms) :
    vis (unmakeLine (makeLine b ms) ms) = vis b ∧
    Zobrist.hash (unmakeLine (makeLine b ms) ms) = Zobrist.hash b ∧
    Zobrist.pawnHash (unmakeLine (makeLine b ms) ms) = Zobrist.pawnHash b :=
  ⟨unmake_make_line b ms (genLine_ok h), hash_restored_line b ms (genLine_ok h)⟩

/-! ## non-vacuity: the hypotheses hold for concrete positions and moves (squares: a8 = 0 … h1 = 63) -/

section Examples

def exStart : Board :=
  { white := { pawns := 0x00FF000000000000, knights := 0x4200000000000000, bishops := 0x2400000000000000,
               rooks := 0x8100000000000000, queens := 0x0800000000000000, kings := 0x1000000000000000,
               qs := true, ks := true }
    black := { pawns := 0xFF00, knights := 0x42, bishops := 0x24, rooks := 0x81, queens := 0x08, kings := 0x10,
               qs := true, ks := true }
    turn := 0, ep := 0, fullmove := 1, halfmove := 0 }

def exE2E4 : MoveF := { pieceMoved := PAWN, source := 52, target := 36, halfmoveReset := true, nextEp := 44 }
def exE7E5 : MoveF :=
  { pieceMoved := PAWN, source := 12, target := 28, halfmoveReset := true, prevEp := 44, nextEp := 20, side := 1 }

/-- `4k3/8/8/8/8/8/8/4K2R w K - 130 70`: the half-move clock does not fit 7 bits -/
def exClock130 : Board :=
  { white := { rooks := 0x8000000000000000, kings := 0x1000000000000000, ks := true }
    black := { kings := 0x10 }
    turn := 0, ep := 0, fullmove := 70, halfmove := 130 }

/-- h1h2 in `exClock130` (loses the king-side right) -/
def exH1H2 : MoveF := { pieceMoved := ROOK, source := 63, target := 55, selfLostKing := true, prevHalfmove := 130 }

/-- `r5k1/1P6/8/3pP3/8/8/8/R3K2R w KQ d6 0 40`: en passant, promotion (with and without capture) and both
castlings are available -/
def exAllKinds : Board :=
  { white := { pawns := 0x10000200, rooks := 0x8100000000000000, kings := 0x1000000000000000, qs := true, ks := true }
    black := { pawns := 0x8000000, rooks := 0x1, kings := 0x40 }
    turn := 0, ep := 19, fullmove := 40, halfmove := 0 }

-- `field_roundtrip`: a move with the largest clock value
example : FieldsFit { exH1H2 with prevHalfmove := 4095 } := by decide
example : (decode (encode { exH1H2 with prevHalfmove := 4095 })).prevHalfmove = 4095 := by decide
-- `unmake_make`: hypotheses hold (start position; clock 130), conclusion checked by evaluation too
set_option maxRecDepth 100000 in
example : MoveOK exStart exE2E4 ∧ FieldsFit exE2E4 := by decide
set_option maxRecDepth 100000 in
example : MoveOK exClock130 exH1H2 ∧ FieldsFit exH1H2 := by decide
set_option maxRecDepth 100000 in
example : (unmakeF (makeF exClock130 exH1H2) exH1H2).halfmove = 130 ∧ (makeF exClock130 exH1H2).halfmove = 131 := by
  decide
-- `unmake_make_line`
set_option maxRecDepth 100000 in
example : LineOK exStart [exE2E4, exE7E5] := by decide
-- `unmake_make_generated`: well-formed boards exist and the generator emits moves of every kind on them
set_option maxRecDepth 100000 in
example : wf exStart = true ∧ wf exClock130 = true ∧ wf exAllKinds = true := by decide +kernel
set_option maxRecDepth 100000 in
example : (genPseudo exStart).length = 20 ∧ (⟨encode exE2E4, 0⟩ : Move) ∈ genPseudo exStart := by decide +kernel
set_option maxRecDepth 100000 in
example : (⟨encode exH1H2, 0⟩ : Move) ∈ genPseudo exClock130 := by decide +kernel
set_option maxRecDepth 100000 in
example : (genPseudo exAllKinds).any (fun m => m.f.enPassant) = true ∧
    (genPseudo exAllKinds).any (fun m => m.f.castle && m.f.target == C1) = true ∧
    (genPseudo exAllKinds).any (fun m => m.f.castle && m.f.target == G1) = true ∧
    (genPseudo exAllKinds).any (fun m => m.f.promotion == QUEEN && m.f.pieceAttacked == ROOK) = true ∧
    (genPseudo exAllKinds).any (fun m => m.f.promotion == KNIGHT && m.f.pieceAttacked == NO_PIECE) = true := by
  decide +kernel
-- `unmake_make_generated_line`: a two-ply line through a position with an en-passant square
set_option maxRecDepth 100000 in
example : GenLine exStart [⟨encode exE2E4, 0⟩, ⟨encode exE7E5, 0⟩] := by
  unfold GenLine GenLine GenLine
  decide +kernel

end Examples

#print axioms vis_eq_iff
#print axioms field_roundtrip
#print axioms pack_injective
#print axioms unmake_make
#print axioms unmake_make_line
#print axioms hash_restored
#print axioms hash_restored_line
#print axioms unmake_make_generated
#print axioms unmake_make_generated_nq
#print axioms unmake_make_generated_line

end Inkayaku.C03
