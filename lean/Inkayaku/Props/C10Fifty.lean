import Inkayaku.Model.Eval
/-!
# C10: the fifty-move rule in the evaluator (the repetition rule: `Props/C10.lean`, `Props/C10Search.lean`)

`Gen.maxHalfMoves` is re-read from the current build on every run.
-/
namespace Inkayaku.C10
open Inkayaku.Board Inkayaku.Eval Inkayaku.Gen

theorem max_half_moves : maxHalfMoves = 100 := by decide

/-- a non-terminal position is never valued as a fifty-move draw before 100 plies without capture or pawn move -/
theorem fifty_only_after_100 (b : Board) (h : b.halfmove < 100) :
    evaluate b true = evaluateOngoing b := by
  unfold evaluate
  have : ¬ (b.halfmove ≥ maxHalfMoves) := by rw [max_half_moves]; omega
  simp [this]

/-- from 100 plies on a non-terminal position is valued as a draw -/
theorem fifty_draw_from_100 (b : Board) (h : 100 ≤ b.halfmove) : evaluate b true = drawScore := by
  unfold evaluate
  have : b.halfmove ≥ maxHalfMoves := by rw [max_half_moves]; omega
  simp [this]

/-- a terminal position (no legal move) is never valued by the fifty-move rule: mate stays mate -/
theorem terminal_ignores_clock (b : Board) (hm : Nat) :
    evaluate { b with halfmove := hm } false = evaluate b false := by
  unfold evaluate isCurrentInCheck inCheck
  simp

example : evaluate { (default : Board) with halfmove := 99 } true = evaluateOngoing { (default : Board) with halfmove := 99 } :=
  fifty_only_after_100 _ (by decide)

#print axioms max_half_moves
#print axioms fifty_only_after_100
#print axioms fifty_draw_from_100
#print axioms terminal_ignores_clock

end Inkayaku.C10
