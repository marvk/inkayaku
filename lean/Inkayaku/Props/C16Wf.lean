import Inkayaku.Model.EngineOut
import Inkayaku.Proofs.SearchTrace
import Inkayaku.Proofs.MoveBits
import Inkayaku.Props.C16Console
/-!
# C16 (`engine_out_wf`) — the values the search hands to the printer are well formed, hence every line is UCI

`Props/C16Console.lean` proves `WFMsg m → accepts (render m).toList = true`; here: every message the search thread emits
during one `go` satisfies `WFMsg`, for every state (any board, table, pending messages, clock).  The only hypothesis
left is on the run dependent fields `aux` (`hash_full`, `nps`, debug string): the debug string, if switched on, has no line
break (`AuxOk`; it is made of `Display` texts of `f64` values, `auxOk_of_f64`).  Two facts carry the proof:
squares are read from the move word through 6-bit masks (`moveOk_uciOf`), and the PV variable of `best_move` is `none`
until an iteration completes with a best move, which then heads the PV (`goCmd_pvNonempty`); flag-poll infos carry none.
-/
namespace Inkayaku.C16Wf
open Inkayaku.Board Inkayaku.Search Inkayaku.EngineOut Inkayaku.C16Console
open Inkayaku.Console (TxMsg Info render)
open Inkayaku.UciOut (accepts isLineBreak)
open Inkayaku.Uci (UciMove)

/-- the `UciTx` call of the search thread for one item of the output stream; `aux` = the runtime dependent fields
(`hash_full`, `nps`, debug string), default: debug off -/
def ofOut (o : Out) (aux : Aux := {}) : TxMsg := toTx aux o

/-- which `Info` fields are `Some`: iteration info -/
example (d t n : Nat) (sc : Eval.Score) (l : List Move) (aux : Aux) :
    ofOut (.info (some d) (some t) n (some sc) (some l)) aux =
      .info { depth := some d, time := some t, nodes := some n, pv := some (l.map uciOf), score := some (scoreOf sc),
              hashfull := some aux.hashfull, nps := some aux.nps, string := aux.debug.map debugText } := rfl

/-- … flag-poll info: `Info { time, ..generate_info() }` -/
example (t n : Nat) (aux : Aux) :
    ofOut (.info none (some t) n none none) aux =
      .info { time := some t, nodes := some n, hashfull := some aux.hashfull, nps := some aux.nps } := rfl

example (b p : Option Move) (aux : Aux) : ofOut (.bestMove b p) aux = .bestMove (b.map uciOf) (p.map uciOf) := rfl

/-- `move_into_uci_move` yields squares, whatever the 64-bit word is -/
theorem moveOk_uciOf (m : Move) : MoveOk (uciOf m) := ⟨MoveBits.source_lt m, MoveBits.target_lt m⟩

theorem moveOptOk_uciOf (o : Option Move) : MoveOptOk (o.map uciOf) := by
  cases o with
  | none => trivial
  | some m => exact moveOk_uciOf m

def RatesOk (r : DebugRates) : Prop :=
  ∀ t ∈ [r.tphitrate, r.nrate, r.qrate, r.avgqdepth, r.qstartedrate, r.qtphitrate], ∀ c ∈ t, isLineBreak c = false

/-- side condition on the runtime dependent fields of one message: if the debug switch is on, the number texts contain
no line break -/
def AuxOk (a : Aux) : Prop := ∀ r, a.debug = some r → RatesOk r

instance (r : DebugRates) : Decidable (RatesOk r) := by unfold RatesOk; infer_instance

instance (a : Aux) : Decidable (AuxOk a) := by
  unfold AuxOk
  cases h : a.debug with
  | none => exact isTrue (fun r hr => by cases hr)
  | some r => exact decidable_of_iff (RatesOk r) ⟨fun hr r' e => by cases e; exact hr, fun hr => hr r rfl⟩

theorem auxOk_nodebug (h n : Nat) : AuxOk { hashfull := h, nps := n } := fun r hr => by cases hr

theorem f64Char_noBreak {c : Char} (h : isF64Char c = true) : isLineBreak c = false := by
  simp only [isLineBreak, Bool.or_eq_false_iff, decide_eq_false_iff_not]
  constructor <;> (intro e; subst e; revert h; decide)

/-- what the engine actually prints: `Display` texts of `f64` values -/
theorem auxOk_of_f64 (a : Aux)
    (h : ∀ r, a.debug = some r →
      ∀ t ∈ [r.tphitrate, r.nrate, r.qrate, r.avgqdepth, r.qstartedrate, r.qtphitrate], t.all isF64Char = true) :
    AuxOk a := by
  intro r hr t ht c hc
  exact f64Char_noBreak (List.all_eq_true.mp (h r hr t ht) c hc)

theorem debugText_noBreak {r : DebugRates} (h : RatesOk r) : ∀ c ∈ debugText r, isLineBreak c = false := by
  have lit : ∀ {l : List Char}, Plain l → All (fun c => isLineBreak c = false) l := fun hl => Plain.all tame_noBreak hl
  have f1 : All (fun c => isLineBreak c = false) r.tphitrate := h _ (by simp)
  have f2 : All (fun c => isLineBreak c = false) r.nrate := h _ (by simp)
  have f3 : All (fun c => isLineBreak c = false) r.qrate := h _ (by simp)
  have f4 : All (fun c => isLineBreak c = false) r.avgqdepth := h _ (by simp)
  have f5 : All (fun c => isLineBreak c = false) r.qstartedrate := h _ (by simp)
  have f6 : All (fun c => isLineBreak c = false) r.qtphitrate := h _ (by simp)
  unfold debugText
  exact (lit (by decide)).append (f1.append ((lit (by decide)).append (f2.append ((lit (by decide)).append
    (f3.append ((lit (by decide)).append (f4.append ((lit (by decide)).append (f5.append ((lit (by decide)).append
    f6))))))))))

def PvNonempty : Out → Prop
  | .info _ _ _ _ (some l) => l ≠ []
  | _ => True

instance (o : Out) : Decidable (PvNonempty o) := by
  cases o with
  | info d t n sc pv => cases pv <;> unfold PvNonempty <;> infer_instance
  | bestMove b p => exact isTrue trivial

theorem wf_ofOut {o : Out} (h : PvNonempty o) {aux : Aux} (haux : AuxOk aux) : WFMsg (ofOut o aux) := by
  cases o with
  | bestMove b p => exact ⟨moveOptOk_uciOf b, moveOptOk_uciOf p⟩
  | info d t n sc pv =>
    show WFInfo _
    refine ⟨?_, trivial, trivial, trivial, ?_⟩
    · show MovesOk (pv.map (·.map uciOf))
      cases pv with
      | none => trivial
      | some l =>
        refine ⟨?_, ?_⟩
        · have hl : l ≠ [] := h
          simpa using hl
        · intro m hm
          obtain ⟨x, -, rfl⟩ := List.mem_map.mp hm
          exact moveOk_uciOf x
    · intro s hs
      cases d with
      | none => cases hs
      | some d =>
        have hs' : aux.debug.map debugText = some s := hs
        cases hdbg : aux.debug with
        | none => rw [hdbg] at hs'; cases hs'
        | some r =>
          rw [hdbg] at hs'
          cases hs'
          exact debugText_noBreak (haux r hdbg)

theorem rootSearch_pv_ne {r : VM × St} (ha : ¬ iterAborted r = true) : r.1.pv ≠ [] := by
  unfold iterAborted at ha
  cases hm : r.1.mv with
  | none => simp [hm] at ha
  | some m =>
    obtain ⟨rest, hr⟩ := VM.pv_of_mv hm
    rw [hr]; simp

theorem goCmd_pvNonempty (s : St) (g : GoParams) (maxIter : Nat) :
    ∃ news, (goCmd s g maxIter).out = news ++ s.out ∧ news ≠ [] ∧ ∀ o ∈ news, PvNonempty o := by
  obtain ⟨news, hn, hok⟩ := goCmd_news (OK := PvNonempty) (Q := fun _ => True) (I := fun _ _ _ => True)
    (fun _ _ _ _ => ⟨trivial, fun _ _ _ => trivial⟩)
    (fun r _ ha _ _ _ => rootSearch_pv_ne (by rw [ha]; exact Bool.false_ne_true)) (fun _ _ _ => trivial) s g maxIter trivial
  exact ⟨_ :: news, hn, List.cons_ne_nil _ _, fun o ho => (List.mem_cons.mp ho).elim (fun e => e ▸ trivial) (hok o)⟩

theorem goCmd_new_pvNonempty (s : St) (g : GoParams) (maxIter : Nat) {o : Out} (ho : o ∈ (goCmd s g maxIter).out)
    (hnew : o ∉ s.out) : PvNonempty o := by
  obtain ⟨news, hn, -, hok⟩ := goCmd_pvNonempty s g maxIter
  rw [hn] at ho
  exact (List.mem_append.mp ho).elim (hok o) (fun h => absurd h hnew)

/-- **C16 `engine_out_wf`, segment form.**  For every state, all go parameters and every iteration bound, the output of
`goCmd` is the old output with a non-empty segment `news` put in front, and every message of `news` is handed to the
printer as a well-formed value — whatever the runtime dependent fields are (debug text without line break). -/
theorem engine_out_news (s : St) (g : GoParams) (maxIter : Nat) :
    ∃ news, (goCmd s g maxIter).out = news ++ s.out ∧ news ≠ [] ∧
      ∀ o ∈ news, ∀ aux, AuxOk aux → WFMsg (ofOut o aux) := by
  obtain ⟨news, hn, hne, hok⟩ := goCmd_pvNonempty s g maxIter
  exact ⟨news, hn, hne, fun o ho aux haux => wf_ofOut (hok o ho) haux⟩

/-- **C16 `engine_out_wf`.**  For every state `s`, go parameters `g` and `maxIter`, every message `o` that
`Search.goCmd s g maxIter` adds to `s.out` satisfies `WFMsg (ofOut o aux)`: squares are `< 64`, no info carries
`pv = some []`, the free text has no line break.  No hypothesis on `s`; `AuxOk` is about the debug text only. -/
theorem engine_out_wf (s : St) (g : GoParams) (maxIter : Nat) (o : Out) (ho : o ∈ (goCmd s g maxIter).out)
    (hnew : o ∉ s.out) (aux : Aux) (haux : AuxOk aux) : WFMsg (ofOut o aux) :=
  wf_ofOut (goCmd_new_pvNonempty s g maxIter ho hnew) haux

/-- … with the default runtime fields (debug off): no side condition at all -/
theorem engine_out_wf_default (s : St) (g : GoParams) (maxIter : Nat) (o : Out) (ho : o ∈ (goCmd s g maxIter).out)
    (hnew : o ∉ s.out) : WFMsg (ofOut o) :=
  engine_out_wf s g maxIter o ho hnew {} (auxOk_nodebug _ _)

/-- in particular: no info of a `go` carries the empty principal variation -/
theorem engine_pv_nonempty (s : St) (g : GoParams) (maxIter : Nat) (d t : Option Nat) (n : Nat)
    (sc : Option Eval.Score) (l : List Move) (ho : Out.info d t n sc (some l) ∈ (goCmd s g maxIter).out)
    (hnew : Out.info d t n sc (some l) ∉ s.out) : l ≠ [] :=
  goCmd_new_pvNonempty s g maxIter ho hnew

/-- … and all squares of all moves of a new message are squares -/
theorem engine_moves_ok (s : St) (g : GoParams) (maxIter : Nat) (o : Out) (ho : o ∈ (goCmd s g maxIter).out)
    (hnew : o ∉ s.out) (aux : Aux) (haux : AuxOk aux) : ∀ mv ∈ movesOf (ofOut o aux), mv.source < 64 ∧ mv.target < 64 :=
  wf_moves (engine_out_wf s g maxIter o ho hnew aux haux)

/-- **C16 `engine_lines_accepted`.**  Every line printed for a message emitted by `goCmd` is a line of the UCI
engine-to-GUI grammar. -/
theorem engine_lines_accepted (s : St) (g : GoParams) (maxIter : Nat) (o : Out) (ho : o ∈ (goCmd s g maxIter).out)
    (hnew : o ∉ s.out) (aux : Aux) (haux : AuxOk aux) : accepts (render (ofOut o aux)).toList = true :=
  render_accepts _ (engine_out_wf s g maxIter o ho hnew aux haux)

theorem engine_lines_accepted_default (s : St) (g : GoParams) (maxIter : Nat) (o : Out)
    (ho : o ∈ (goCmd s g maxIter).out) (hnew : o ∉ s.out) : accepts (render (ofOut o)).toList = true :=
  render_accepts _ (engine_out_wf_default s g maxIter o ho hnew)

/-- one `tx` call, one line of stdout -/
theorem engine_lines_single (s : St) (g : GoParams) (maxIter : Nat) (o : Out) (ho : o ∈ (goCmd s g maxIter).out)
    (hnew : o ∉ s.out) (aux : Aux) (haux : AuxOk aux) : '\n' ∉ (render (ofOut o aux)).toList := by
  have hwf := engine_out_wf s g maxIter o ho hnew aux haux
  refine render_single_line _ (wf_moves hwf) ?_
  intro t ht hc
  have := wf_texts hwf t ht '\n' hc
  revert this; decide

/-- the stdout of the search thread for one `go` (`EngineOut.searchLines`, oldest first), for any assignment of the
runtime dependent fields to the messages: the output is `news ++ s.out` and all lines printed for `news` are UCI -/
theorem engine_searchLines_accepted (s : St) (g : GoParams) (maxIter : Nat) (aux : Out → Aux) (haux : ∀ o, AuxOk (aux o)) :
    ∃ news, (goCmd s g maxIter).out = news ++ s.out ∧ news ≠ [] ∧
      ∀ line ∈ searchLines aux news, accepts line.toList = true := by
  obtain ⟨news, hn, hne, hok⟩ := engine_out_news s g maxIter
  refine ⟨news, hn, hne, ?_⟩
  intro line hl
  unfold searchLines at hl
  obtain ⟨o, ho, rfl⟩ := List.mem_map.mp hl
  exact render_accepts _ (hok o (List.mem_reverse.mp ho) (aux o) (haux o))

#print axioms engine_out_news
#print axioms engine_out_wf
#print axioms engine_out_wf_default
#print axioms engine_pv_nonempty
#print axioms engine_moves_ok
#print axioms engine_lines_accepted
#print axioms engine_lines_accepted_default
#print axioms engine_lines_single
#print axioms engine_searchLines_accepted

/-! ## non-vacuity -/

namespace Example

def boardOf (fen : String) : Board :=
  match FenBoard.fromFenString fen with
  | .ok b => b
  | .error _ => FenBoard.startBoard

def kr : Board := boardOf "k7/8/2K5/8/8/8/8/7R w - - 0 1"

/-- debug on, with the texts the engine prints at node count 0 -/
def auxDebug : Aux :=
  { hashfull := 1, nps := 392583,
    debug := some ⟨"NaN".toList, "1".toList, "0".toList, "NaN".toList, "0.25".toList, "inf".toList⟩ }

example : AuxOk auxDebug := by decide
example : AuxOk auxDebug := auxOk_of_f64 _ (by decide)

def linesOf (s : St) (g : GoParams) (aux : Aux := {}) : List String :=
  (goCmd s g).out.reverse.map fun o => render (ofOut o aux)

def allOk (s : St) (g : GoParams) (aux : Aux := {}) : Bool :=
  (goCmd s g).out.all fun o => decide (WFMsg (ofOut o aux)) && accepts (render (ofOut o aux)).toList

#guard linesOf (setPosition initial kr []) { depth := some 2 } ==
  ["info depth 1 time 0 nodes 22 pv c6d5 score cp 590 hashfull 0 nps 0",
   "info depth 2 time 0 nodes 67 pv c6d5 a8b8 score cp 570 hashfull 0 nps 0",
   "bestmove c6d5 ponder a8b8"]
#guard allOk (setPosition initial kr []) { depth := some 3 }
#guard allOk (setPosition initial kr []) { depth := some 3 } auxDebug
-- flag polls in the middle of the search (poll period 7): periodic infos `info time … nodes … hashfull … nps …`
#guard allOk { setPosition initial kr [] with pollPeriod := 7 } { depth := some 3 }
#guard (goCmd { setPosition initial kr [] with pollPeriod := 7 } { depth := some 3 }).out.length > 10
-- a `stop` arrives during iteration 2 (first poll at node 30): the aborted iteration re-reports the PV of iteration 1
#guard linesOf { setPosition initial kr [] with pollPeriod := 30, pending := [.stop] } { depth := some 3 } ==
  ["info depth 1 time 0 nodes 22 pv c6d5 score cp 590 hashfull 0 nps 0", "info time 0 nodes 30 hashfull 0 nps 0",
   "info depth 1 time 0 nodes 31 pv c6d5 score cp 590 hashfull 0 nps 0", "bestmove c6d5"]
#guard allOk { setPosition initial kr [] with pollPeriod := 30, pending := [.stop] } { depth := some 3 } auxDebug
-- the very first iteration is aborted: a periodic info, `info depth 0 …` without PV, `bestmove 0000`
#guard linesOf { setPosition initial kr [] with pollPeriod := 1, pending := [.stop] } { depth := some 3 } ==
  ["info time 0 nodes 1 hashfull 0 nps 0", "info depth 0 time 0 nodes 2 hashfull 0 nps 0", "bestmove 0000"]
#guard allOk { setPosition initial kr [] with pollPeriod := 1, pending := [.stop] } { depth := some 3 }
-- no legal move (stalemate, mate): no PV, `bestmove 0000`
#guard allOk (setPosition initial (boardOf "k7/2Q5/2K5/8/8/8/8/8 b - - 0 1") []) { depth := some 2 }
#guard allOk (setPosition initial (boardOf "k6R/8/1K6/8/8/8/8/8 b - - 0 1") []) { depth := some 2 }
#guard linesOf (setPosition initial (boardOf "k6R/8/1K6/8/8/8/8/8 b - - 0 1") []) { depth := some 2 } ==
  ["info depth 0 time 0 nodes 1 hashfull 0 nps 0", "bestmove 0000"]
-- promotions, captures, en passant, castling; full board; moves played before the search; `searchmoves`
#guard allOk (setPosition initial (boardOf "r3k3/1P6/8/3pP3/8/8/8/4K2R w Kq d6 0 2") []) { depth := some 2 } auxDebug
#guard allOk (setPosition initial FenBoard.startBoard ["e2e4", "e7e5"]) { depth := some 2 }
#guard allOk (setPosition initial FenBoard.startBoard []) { depth := some 2, searchMoves := ["a2a3"] }
-- a time budget instead of a depth (virtual clock 1 ms per node)
#guard allOk { setPosition initial kr [] with nsPerNode := some 1000000 } { wtime := some 6000, btime := some 6000 }

/-- the hypotheses of `engine_out_wf` are satisfiable, and the conclusion is what the evaluator computes: the newest
message of a concrete `go` is new, well formed, and printed as an accepted line -/
example : ∃ o, o ∈ (goCmd (setPosition initial kr []) { depth := some 1 }).out ∧
    o ∉ (setPosition initial kr []).out ∧ WFMsg (ofOut o auxDebug) ∧ accepts (render (ofOut o auxDebug)).toList = true := by
  obtain ⟨news, hn, hne, hok⟩ := engine_out_news (setPosition initial kr []) { depth := some 1 } 64
  cases news with
  | nil => exact absurd rfl hne
  | cons o rest =>
    have hold : (setPosition initial kr []).out = [] := by
      unfold setPosition
      simp only
      split <;> rfl
    refine ⟨o, by rw [hn]; simp, by rw [hold]; simp, hok o (by simp) _ (by decide), ?_⟩
    exact render_accepts _ (hok o (by simp) _ (by decide))

/-- the side condition `PvNonempty` is what the printer needs: the same message with `some []` is rejected -/
example : ¬ WFMsg (ofOut (.info (some 1) (some 0) 16 (some (.cp 3)) (some []))) := by decide
#guard !accepts (render (ofOut (.info (some 1) (some 0) 16 (some (.cp 3)) (some [])))).toList
-- `AuxOk` is what the printer needs: a debug text with a line break makes two lines
example : ¬ AuxOk { debug := some ⟨"1\nquit".toList, [], [], [], [], []⟩ } := by decide
#guard !accepts (render (ofOut (.info (some 1) (some 0) 16 none none)
  { debug := some ⟨"1\nquit".toList, [], [], [], [], []⟩ })).toList

end Example

end Inkayaku.C16Wf
