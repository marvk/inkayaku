import Inkayaku.Model.Lichess
import Inkayaku.Spec.LichessDoc
import Inkayaku.Gen.LichessSchema
/-!
# C19, names: the wire names of the generated schema are the documented ones
-/
namespace Inkayaku.Props.C19
open Inkayaku.Json Inkayaku.Lichess
open Inkayaku.Gen.Lichess (TypeDef TyRef Field Variant Prim Custom schema csvRuleTable)
namespace Doc
export Inkayaku.LichessDoc (stateTypes gameFull gameState chatLine opponentGone variantFull gameFullPerf gameFullPlayer
  gameFullClock eventTypes gameEvent challengeEvent challengeOtherEvent gameEventInfo gameEventStatus gameEventVariant
  gameEventOpponent compat challengeInfo challengeUser challengePerf timeControlTypes timeControlClock
  timeControlCorrespondence timeControlUnlimited statusKeys variantKeys speedKeys sourceKeys perfKeys colorKeys
  colorChoiceKeys roomKeys challengeStatusKeys directionKeys declineReasonKeys ruleKeys)
end Doc

/-- wire names a field contributes to its object: its own, or (flatten) those of the struct it names -/
def fieldWires (σ : List TypeDef) (f : Field) : List String :=
  if f.flatten then
    match f.ty with
    | .named n =>
      match findType σ n with
      | some (.struct _ fs) => fs.map (·.wire)
      | _ => ["<flatten of a non-struct>"]
    | _ => ["<flatten of a non-struct>"]
  else [f.wire]

def structWires (σ : List TypeDef) (name : String) : Option (List String) :=
  match findType σ name with
  | some (.struct _ fs) => some (fs.flatMap (fieldWires σ))
  | _ => none

/-- member names of one variant of an internally tagged enum on the wire (tag first) -/
def variantWires (σ : List TypeDef) (name variant : String) : Option (List String) :=
  match findType σ name with
  | some (.tagged _ tag vs) =>
    match vs.find? (·.rust == variant) with
    | some v => some (tag :: v.fields.flatMap (fieldWires σ))
    | none => none
  | _ => none

def enumWires (σ : List TypeDef) (name : String) : Option (List String) :=
  match findType σ name with
  | some (.unitEnum _ vs) => some (vs.map (·.2))
  | some (.tagged _ _ vs) => some (vs.map (·.wire))
  | _ => none

/-- equal as sets and of the same length: if one has no repetition, neither has the other -/
def sameNames (a b : List String) : Bool :=
  a.length == b.length && a.all (b.contains ·) && b.all (a.contains ·)

/-- (what, names in the generated schema, documented names) -/
def nameTable : List (String × Option (List String) × List String) := [
  ("state stream: type values", enumWires schema "BotGameState", Doc.stateTypes),
  ("gameFull", variantWires schema "BotGameState" "GameFull", Doc.gameFull),
  ("gameState", variantWires schema "BotGameState" "GameState", Doc.gameState),
  ("gameFull.state", (structWires schema "GameStateHolder").map ("type" :: ·), Doc.gameState),
  ("chatLine", variantWires schema "BotGameState" "ChatLine", Doc.chatLine),
  ("opponentGone", variantWires schema "BotGameState" "OpponentGone", Doc.opponentGone),
  ("gameFull.variant", structWires schema "VariantFull", Doc.variantFull),
  ("gameFull.perf", structWires schema "Perf", Doc.gameFullPerf),
  ("gameFull.white/black", structWires schema "Player", Doc.gameFullPlayer),
  ("gameFull.clock", structWires schema "Clock", Doc.gameFullClock),
  ("event stream: type values", enumWires schema "BotEvent", Doc.eventTypes),
  ("gameStart", variantWires schema "BotEvent" "GameStart", Doc.gameEvent),
  ("gameFinish", variantWires schema "BotEvent" "GameFinish", Doc.gameEvent),
  ("challenge", variantWires schema "BotEvent" "Challenge", Doc.challengeEvent),
  ("challengeCanceled", variantWires schema "BotEvent" "ChallengeCanceled", Doc.challengeOtherEvent),
  ("challengeDeclined", variantWires schema "BotEvent" "ChallengeDeclined", Doc.challengeOtherEvent),
  ("game", structWires schema "GameEventInfo", Doc.gameEventInfo),
  ("game.status", structWires schema "GameEventStatus", Doc.gameEventStatus),
  ("game.variant", structWires schema "GameEventVariant", Doc.gameEventVariant),
  ("game.opponent", structWires schema "GameEventOpponent", Doc.gameEventOpponent),
  ("compat", structWires schema "Compat", Doc.compat),
  ("challenge", structWires schema "ChallengeEventInfo", Doc.challengeInfo),
  ("challenge.challenger/destUser", structWires schema "Challenger", Doc.challengeUser),
  ("challenge.perf", structWires schema "ChallengeEventPerf", Doc.challengePerf),
  ("challenge.timeControl: type values", enumWires schema "ChallengeEventTimeControl", Doc.timeControlTypes),
  ("timeControl clock", variantWires schema "ChallengeEventTimeControl" "Clock", Doc.timeControlClock),
  ("timeControl correspondence", variantWires schema "ChallengeEventTimeControl" "Correspondence", Doc.timeControlCorrespondence),
  ("timeControl unlimited", variantWires schema "ChallengeEventTimeControl" "Unlimited", Doc.timeControlUnlimited),
  ("status keys", enumWires schema "GameStatusKey", Doc.statusKeys),
  ("variant keys", enumWires schema "VariantKey", Doc.variantKeys),
  ("speed keys", enumWires schema "SpeedKey", Doc.speedKeys),
  ("speed keys (game event)", enumWires schema "GameEventSpeedKey", Doc.speedKeys),
  ("source keys", enumWires schema "GameEventSource", Doc.sourceKeys),
  ("colour keys", enumWires schema "Color", Doc.colorKeys),
  ("colour choice keys", enumWires schema "ColorChoice", Doc.colorChoiceKeys),
  ("room keys", enumWires schema "Room", Doc.roomKeys),
  ("challenge status keys", enumWires schema "ChallengeEventStatusKey", Doc.challengeStatusKeys),
  ("direction keys", enumWires schema "ChallengeEventDirection", Doc.directionKeys),
  ("decline reason keys", enumWires schema "ChallengeEventDeclineReason", Doc.declineReasonKeys),
  ("rule keys", enumWires schema "ChallengeEventRule", Doc.ruleKeys) ]

def nameMismatches : List String :=
  (nameTable.filter fun row => match row.2.1 with
    | some names => !sameNames names row.2.2
    | none => true).map (·.1)

/-- every type of the schema is compared (PerfKey: see `perf_keys_documented`) -/
def comparedTypes : List String :=
  ["BotGameState", "GameStateHolder", "VariantFull", "Perf", "Player", "Clock", "BotEvent", "GameEventInfo",
   "GameEventStatus", "GameEventVariant", "GameEventOpponent", "Compat", "ChallengeEventInfo", "Challenger",
   "ChallengeEventPerf", "ChallengeEventTimeControl", "GameStatusKey", "VariantKey", "SpeedKey", "GameEventSpeedKey",
   "GameEventSource", "Color", "ColorChoice", "Room", "ChallengeEventStatusKey", "ChallengeEventDirection",
   "ChallengeEventDeclineReason", "ChallengeEventRule", "PerfKey"]

/-- **C19 (names).**  For every struct, every variant of the two internally tagged message enums and every
enumeration of the generated schema, the set of wire names equals the documented one -- in particular
`claimWinInSeconds`, `createdAt`, `initialFen`, `daysPerTurn`, `tournamentId`, `fullId`, `lastMove`, `hasMoved`, ... -/
theorem schema_names_documented :
    nameMismatches = [] ∧ (schema.map (·.name)).all (comparedTypes.contains ·) = true := by
  decide +kernel

#print axioms schema_names_documented

example : variantWires schema "BotGameState" "OpponentGone" = some ["type", "gone", "claimWinInSeconds"] := by decide +kernel

/-- every documented `game.perf` key is accepted by the Rust enum `PerfKey` (`horde` included: without it a `gameStart`
of a Horde game is rejected); the Rust enum additionally knows `standard` and `puzzle`, which never arrive — accepting
more than documented does not break decoding. -/
theorem perf_keys_documented :
    (∀ names, enumWires schema "PerfKey" = some names →
      (Doc.perfKeys.filter (!names.contains ·)) = [] ∧ (names.filter (!Doc.perfKeys.contains ·)) = ["standard", "puzzle"]) := by
  decide +kernel

#print axioms perf_keys_documented

end Inkayaku.Props.C19
