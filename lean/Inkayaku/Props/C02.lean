import Inkayaku.Proofs.Successor
import Inkayaku.Model.FenBoard
/-!
# C02 — `make` computes the successor position of the rules

The property: "For every legal position and every legal move, the position after the move — piece placement, side to
move, castling rights, en-passant target, half-move clock and full-move number, as rendered in FEN — equals the
successor defined by the rules of chess.  This includes castling rook relocation, en-passant pawn removal, promotion,
loss of castling rights when a king or rook moves or a rook is captured on its home square, and clock reset on pawn
moves and captures."

* code: `Board.make` (model of `Bitboard::make`, all side effects precomputed by `make_move` at generation time);
* rules: `Spec.apply` on the mailbox position (`Spec/Chess.lean`), rendered by `Spec.fen`;
* link: `Abs.abs : Board → Spec.Pos`, `Abs.absMove : MoveF → Spec.SMove`;
* "legal position" = `WF.wf`; the theorems hold for every GENERATED move (`genPseudo`, a superset of the legal moves
  `genLegal`), for every half-move clock `wf` admits (≤ 4095, the 12-bit undo field) and every full-move number.

Proofs: `Proofs/GenFacts.lean` (what the generator guarantees) and `Proofs/Successor.lean` (field-by-field comparison).
-/
namespace Inkayaku.C02
open Inkayaku.Board Inkayaku.Abs

/-- **C02.**  Well-formed position, generated move: the abstracted position after `make` IS the Spec's successor –
all 64 squares, side to move, the four castling rights, the e.p. target, both clocks. -/
theorem make_eq_apply {b : Board} (hwf : WF.wf b = true) {m : Move} (hm : m ∈ genPseudo b) :
    abs (make b m) = Spec.apply (abs b) (absMove m.f) :=
  Successor.abs_makeF_eq (GenFacts.env_of_wf hwf) (GenFacts.genPseudo_facts hwf m hm).named

/-- … hence the same FEN text -/
theorem fen_make {b : Board} (hwf : WF.wf b = true) {m : Move} (hm : m ∈ genPseudo b) :
    Spec.fen (abs (make b m)) = Spec.fen (Spec.apply (abs b) (absMove m.f)) :=
  congrArg Spec.fen (make_eq_apply hwf hm)

/-- the statement of the property: legal position, legal move -/
theorem make_eq_apply_legal {b : Board} (hwf : WF.wf b = true) {m : Move} (hm : m ∈ genLegal b) :
    abs (make b m) = Spec.apply (abs b) (absMove m.f) :=
  make_eq_apply hwf (List.mem_filter.mp hm).1

theorem fen_make_legal {b : Board} (hwf : WF.wf b = true) {m : Move} (hm : m ∈ genLegal b) :
    Spec.fen (abs (make b m)) = Spec.fen (Spec.apply (abs b) (absMove m.f)) :=
  congrArg Spec.fen (make_eq_apply_legal hwf hm)

theorem make_eq_apply_meta {b : Board} (hwf : WF.wf b = true) {m : Move} (hm : m ∈ genPseudo b) :
    Successor.MetaEq (abs (make b m)) (Spec.apply (abs b) (absMove m.f)) :=
  Successor.make_eq_apply_meta hwf hm

#print axioms make_eq_apply
#print axioms fen_make
#print axioms make_eq_apply_legal
#print axioms fen_make_legal
#print axioms make_eq_apply_meta

/-- **castling relocates the rook**: the four squares are those of the rules (`Spec.castleSquares`); before the move
king and rook stand on their home squares, afterwards both are empty, the king stands on its target and the rook on
the square the king crossed -/
theorem castle_relocates_rook {b : Board} (hwf : WF.wf b = true) {m : Move} (hm : m ∈ genPseudo b)
    (hc : m.f.castle = true) :
    ∃ rs rt, Spec.castleSquares b.whiteTurn (Spec.fileOf m.f.target == 6) = (m.f.source, m.f.target, rs, rt) ∧
      castleRook m.f.target = some (rs, rt) ∧
      (abs b).at m.f.source = some ⟨b.whiteTurn, .king⟩ ∧ (abs b).at rs = some ⟨b.whiteTurn, .rook⟩ ∧
      (abs (make b m)).at m.f.source = none ∧ (abs (make b m)).at rs = none ∧
      (abs (make b m)).at m.f.target = some ⟨b.whiteTurn, .king⟩ ∧
      (abs (make b m)).at rt = some ⟨b.whiteTurn, .rook⟩ := by
  open Inkayaku.Successor Inkayaku.GenFacts Inkayaku.Attack Inkayaku.MakeUnmake in
  have hE := GenFacts.env_of_wf hwf
  have n := (GenFacts.genPseudo_facts hwf m hm).named
  unfold make
  obtain ⟨rs, rt, hr, hsq, hrs, hrt, d1, d2, d3, d4, d5, d6, hrook, -, -, hpk⟩ := castle_squares n hc
  have hsrcAt := at_src hE n
  obtain ⟨-, hee, hpr, -⟩ := n.castle hc
  have hPrs := passive_empty_of_active hE hrs (get_le_full b.active (p := 4) (by decide) (by decide) hrook)
  refine ⟨rs, rt, hsq, hr, by rw [hpk] at hsrcAt; exact hsrcAt, ?_, ?_, ?_, ?_, ?_⟩
  · rw [at_cell b hrs, hE.act.code (k := 4) (by decide) (by decide) hrook, hPrs]
    exact cell_mover (m := 4) _ (by decide)
  · rw [at_make hE n n.source_lt]
    simp only [hc, hee, rookSq_of hr, d1, d2, d3, Bool.false_eq_true, false_and, true_and, ↓reduceIte]
  · rw [at_make hE n hrs]
    simp only [hc, rookSq_of hr, d6, true_and, ↓reduceIte]
  · rw [at_make hE n n.target_lt]
    simp only [hc, hee, hpr, hpk, rookSq_of hr, d4, d5, Bool.false_eq_true, false_and, true_and, ↓reduceIte]
    rfl
  · rw [at_make hE n hrt]
    simp only [hc, rookSq_of hr, true_and, ↓reduceIte]

/-- **en passant removes the pawn**: the target is the position's e.p. square and is empty; the victim `v`, an enemy
pawn, stands on the mover's rank and the target's file (`target ± 8`); afterwards `v` is empty, the capturing pawn
stands on the target, the source is empty -/
theorem en_passant_removes_pawn {b : Board} (hwf : WF.wf b = true) {m : Move} (hm : m ∈ genPseudo b)
    (he : m.f.enPassant = true) :
    ∃ v, v = (if b.whiteTurn then m.f.target + 8 else m.f.target - 8) ∧ v < 64 ∧ v / 8 = m.f.source / 8 ∧
      v % 8 = m.f.target % 8 ∧ v ≠ m.f.target ∧ (abs b).ep = some m.f.target ∧
      (abs b).at m.f.source = some ⟨b.whiteTurn, .pawn⟩ ∧ (abs b).at v = some ⟨!b.whiteTurn, .pawn⟩ ∧
      (abs b).at m.f.target = none ∧
      (abs (make b m)).at v = none ∧ (abs (make b m)).at m.f.target = some ⟨b.whiteTurn, .pawn⟩ ∧
      (abs (make b m)).at m.f.source = none := by
  open Inkayaku.Successor Inkayaku.GenFacts Inkayaku.Attack Inkayaku.MakeUnmake in
  have hE := GenFacts.env_of_wf hwf
  have n := (GenFacts.genPseudo_facts hwf m hm).named
  unfold make
  obtain ⟨v, hv, -, -, v64, vrow, vfile, vt, vs, hpawn⟩ := victim n he
  have hsrcAt := at_src hE n
  have ht := n.target_lt
  obtain ⟨hpp, hc, hpr, -, hbe, hb0, hempty, hfl, -⟩ := n.ep he
  have hne := n.source_ne_target
  have hAv : b.active.pieceAt v = 0 :=
    active_empty_of_passive hE v64 (get_le_full b.passive (p := 1) (by decide) (by decide) hpawn)
  have hPv : b.passive.pieceAt v = 1 := hE.pas.code (k := 1) (by decide) (by decide) hpawn
  refine ⟨v, hv.symm, v64, vrow, vfile, vt, ?_, by rw [hpp] at hsrcAt; exact hsrcAt, ?_, ?_, ?_, ?_, ?_⟩
  · show (if (b.ep == 0) = true then none else some b.ep : Option Nat) = some m.f.target
    have : (b.ep == 0) = false := by simpa using hb0
    rw [this, hbe]; rfl
  · rw [at_cell b v64, hAv, hPv]; exact cell_other (o := 1) _ (by decide)
  · rw [at_cell b ht, code_of_free ht (occ_false hempty).1, code_of_free ht (occ_false hempty).2]
    exact cell_none _
  · rw [at_make hE n v64]
    simp only [hc, he, hv, Bool.false_eq_true, false_and, and_self, ↓reduceIte]
  · rw [at_make hE n n.target_lt]
    simp only [hc, he, hv, hpr, hpp, Ne.symm vt, Bool.false_eq_true, false_and, true_and, ↓reduceIte]
    rfl
  · rw [at_make hE n n.source_lt]
    simp only [hc, he, hv, hne, Ne.symm vs, Bool.false_eq_true, false_and, true_and, ↓reduceIte]

/-- **promotion replaces the pawn** (with or without capture): a pawn of the mover stands on the source, the target is
on the last rank, the promotion piece is knight..queen; afterwards the source is empty and the chosen piece, in the
mover's colour, stands on the target -/
theorem promotion_replaces_pawn {b : Board} (hwf : WF.wf b = true) {m : Move} (hm : m ∈ genPseudo b)
    (hp : m.f.promotion ≠ 0) :
    2 ≤ m.f.promotion ∧ m.f.promotion ≤ 5 ∧ (if b.whiteTurn then m.f.target < 8 else 56 ≤ m.f.target) ∧
    (abs b).at m.f.source = some ⟨b.whiteTurn, .pawn⟩ ∧
    (abs (make b m)).at m.f.source = none ∧
    (abs (make b m)).at m.f.target = some ⟨b.whiteTurn, kindOf m.f.promotion⟩ := by
  open Inkayaku.Successor Inkayaku.GenFacts Inkayaku.Attack Inkayaku.MakeUnmake in
  have hE := GenFacts.env_of_wf hwf
  have n := (GenFacts.genPseudo_facts hwf m hm).named
  unfold make
  have hsrcAt := at_src hE n
  have htgt := n.target_free
  obtain ⟨hpp, h2, h5⟩ := n.promo hp
  obtain ⟨hc, hlast, -, -⟩ := n.pawn hpp
  have hee : m.f.enPassant = false := by
    cases h : m.f.enPassant
    · rfl
    · exact absurd (n.ep h).2.2.1 hp
  have hne := n.source_ne_target
  refine ⟨h2, h5, hlast.mp hp, by rw [hpp] at hsrcAt; exact hsrcAt, ?_, ?_⟩
  · rw [at_make hE n n.source_lt]
    simp only [hc, hee, hne, Bool.false_eq_true, false_and, ↓reduceIte]
  · rw [at_make hE n n.target_lt]
    simp only [hc, hee, hp, Bool.false_eq_true, false_and, ↓reduceIte]

theorem lost_iff_aux {r r' : Bool} {s t kh rh : Nat}
    (h : r' = (r && !(s == kh || t == kh) && !(s == rh || t == rh))) :
    ((r = true ∧ r' = false) ↔ (r = true ∧ (s = kh ∨ t = kh ∨ s = rh ∨ t = rh))) ∧ (r' = true → r = true) := by
  subst h
  cases r
  · simp
  · by_cases a : s = kh <;> by_cases c : t = kh <;> by_cases d : s = rh <;> by_cases e : t = rh <;> simp [a, c, d, e]

/-- **castling rights**: a right that is held is lost exactly when the home square of its king or of its rook is the
source or the target of the move (king move, rook move, rook captured at home); no right is ever gained.
Squares: e1 = 60, h1 = 63, a1 = 56, e8 = 4, h8 = 7, a8 = 0. -/
theorem rights_lost_iff {b : Board} (hwf : WF.wf b = true) {m : Move} (hm : m ∈ genPseudo b) :
    (((abs b).wk = true ∧ (abs (make b m)).wk = false) ↔
      ((abs b).wk = true ∧ (m.f.source = 60 ∨ m.f.target = 60 ∨ m.f.source = 63 ∨ m.f.target = 63))) ∧
    (((abs b).wq = true ∧ (abs (make b m)).wq = false) ↔
      ((abs b).wq = true ∧ (m.f.source = 60 ∨ m.f.target = 60 ∨ m.f.source = 56 ∨ m.f.target = 56))) ∧
    (((abs b).bk = true ∧ (abs (make b m)).bk = false) ↔
      ((abs b).bk = true ∧ (m.f.source = 4 ∨ m.f.target = 4 ∨ m.f.source = 7 ∨ m.f.target = 7))) ∧
    (((abs b).bq = true ∧ (abs (make b m)).bq = false) ↔
      ((abs b).bq = true ∧ (m.f.source = 4 ∨ m.f.target = 4 ∨ m.f.source = 0 ∨ m.f.target = 0))) ∧
    ((abs (make b m)).wk = true → (abs b).wk = true) ∧ ((abs (make b m)).wq = true → (abs b).wq = true) ∧
    ((abs (make b m)).bk = true → (abs b).bk = true) ∧ ((abs (make b m)).bq = true → (abs b).bq = true) := by
  obtain ⟨r1, r2, r3, r4⟩ := Successor.rights_eq (GenFacts.env_of_wf hwf) (GenFacts.genPseudo_facts hwf m hm).named
  exact ⟨(lost_iff_aux r1).1, (lost_iff_aux r2).1, (lost_iff_aux r3).1, (lost_iff_aux r4).1,
    (lost_iff_aux r1).2, (lost_iff_aux r2).2, (lost_iff_aux r3).2, (lost_iff_aux r4).2⟩

/-- **half-move clock**, for every clock value `wf` admits (up to 4095, far above 100): reset to 0 exactly when the
piece on the source is a pawn or the move captures (e.p. included), otherwise incremented by one -/
theorem clock_reset_iff {b : Board} (hwf : WF.wf b = true) {m : Move} (hm : m ∈ genPseudo b) :
    (abs b).at m.f.source = some ⟨b.whiteTurn, kindOf m.f.pieceMoved⟩ ∧
    (make b m).halfmove =
      (if m.f.pieceMoved = PAWN ∨ Spec.isCapture (abs b) (absMove m.f) = true then 0 else b.halfmove + 1) ∧
    ((make b m).halfmove = 0 ↔ (m.f.pieceMoved = PAWN ∨ Spec.isCapture (abs b) (absMove m.f) = true)) := by
  have he := GenFacts.env_of_wf hwf
  have hf := (GenFacts.genPseudo_facts hwf m hm).named
  have h : (makeF b m.f).halfmove =
      (if m.f.pieceMoved = PAWN ∨ Spec.isCapture (abs b) (absMove m.f) = true then 0 else b.halfmove + 1) := by
    rw [Successor.isCapture_eq he hf]
    show (if m.f.halfmoveReset = true then 0 else b.halfmove + 1) = _
    rw [hf.halfmoveReset]
    by_cases h1 : m.f.pieceMoved = PAWN
    · simp [h1]
    · have : (m.f.pieceMoved == PAWN) = false := by simpa using h1
      cases h2 : (m.f.pieceAttacked != NO_PIECE) <;> simp [h1, this]
  refine ⟨Successor.at_src he hf, h, ?_⟩
  show (makeF b m.f).halfmove = 0 ↔ _
  rw [h]
  split
  · next hc => exact ⟨fun _ => hc, fun _ => rfl⟩
  · next hc => exact ⟨fun h0 => by omega, fun h1 => absurd h1 hc⟩

/-- **full-move number**: incremented after Black's move, unchanged after White's -/
theorem fullmove_increments_after_black {b : Board} (hwf : WF.wf b = true) {m : Move} (_hm : m ∈ genPseudo b) :
    (make b m).fullmove = (if b.turn = 1 then b.fullmove + 1 else b.fullmove) ∧
    (make b m).turn = 1 - b.turn ∧ b.turn ≤ 1 := by
  have hturn := (GenFacts.env_of_wf hwf).w.basic.turn
  refine ⟨?_, rfl, hturn⟩
  show b.fullmove + b.turn = _
  have : b.turn = 0 ∨ b.turn = 1 := by omega
  rcases this with h | h <;> rw [h] <;> rfl

#print axioms castle_relocates_rook
#print axioms en_passant_removes_pawn
#print axioms promotion_replaces_pawn
#print axioms rights_lost_iff
#print axioms clock_reset_iff
#print axioms fullmove_increments_after_black

/-! ## Non-vacuity and sanity on concrete positions (kernel-evaluated, through `FenBoard.fromFenString`) -/

def bd (s : String) : Board :=
  match FenBoard.fromFenString s with
  | .ok b => b
  | .error _ => default

/-- the LEGAL move with UCI text `u` exists, has the flag `flag`, the FEN after `make` is `after`, and – evaluated
independently of the theorems – the abstracted successor equals `Spec.apply` -/
def check (fen u after : String) (flag : MoveF → Bool) : Bool :=
  match (genLegal (bd fen)).find? (fun m => m.uci == u) with
  | some m =>
    flag m.f && Spec.fen (abs (make (bd fen) m)) == after
      && decide (abs (make (bd fen) m) = Spec.apply (abs (bd fen)) (absMove m.f))
  | none => false

/-- one position with: a castling move, an e.p. capture, a capture-promotion that takes the a8 rook on its home square
while Black still holds the queen-side right, king/rook moves that lose White's right -/
def mixed := "r3k3/1P6/8/3pP3/8/8/8/4K2R w Kq d6 0 2"
/-- all four rights, half-move clock far above 100, large full-move number -/
def lateW := "r3k2r/8/8/8/8/8/8/R3K2R w KQkq - 150 200"
def lateB := "r3k2r/8/8/8/8/8/8/R3K2R b KQkq - 4000 200"
/-- Black: e.p. capture and promotion towards rank 1 -/
def blackEp := "4k3/8/8/8/3pP3/8/1p6/R3K3 b Q e3 0 7"

/-- Everything evaluated on `mixed`, in one kernel run (the conjuncts share the parsed board and its move list). -/
theorem mixed_facts :
    WF.wf (bd mixed) = true ∧ (genLegal (bd mixed)).length = 25 ∧
    (∃ m ∈ genLegal (bd mixed), m.f.castle = true) ∧
    (∃ m ∈ genLegal (bd mixed), m.f.enPassant = true) ∧
    (∃ m ∈ genLegal (bd mixed), m.f.promotion ≠ 0 ∧ m.f.pieceAttacked ≠ 0) ∧
    check mixed "e1g1" "r3k3/1P6/8/3pP3/8/8/8/5RK1 b q - 1 2" (fun f => f.castle) = true ∧
    check mixed "e5d6" "r3k3/1P6/3P4/8/8/8/8/4K2R b Kq - 0 2" (fun f => f.enPassant) = true ∧
    check mixed "b7a8q" "Q3k3/8/8/3pP3/8/8/8/4K2R b K - 0 2"
      (fun f => f.promotion == QUEEN && f.pieceAttacked == ROOK && f.oppLostQueen) = true ∧
    check mixed "b7b8r" "rR2k3/8/8/3pP3/8/8/8/4K2R b Kq - 0 2" (fun f => f.promotion == ROOK) = true := by
  decide +kernel

theorem lateW_facts :
    WF.wf (bd lateW) = true ∧
    check lateW "h1g1" "r3k2r/8/8/8/8/8/8/R3K1R1 b Qkq - 151 200" (fun f => f.selfLostKing) = true ∧
    check lateW "e1d1" "r3k2r/8/8/8/8/8/8/R2K3R b kq - 151 200" (fun f => f.selfLostKing && f.selfLostQueen) = true ∧
    check lateW "a1a8" "R3k2r/8/8/8/8/8/8/4K2R b Kk - 0 200"
      (fun f => f.selfLostQueen && f.oppLostQueen && f.halfmoveReset) = true := by
  decide +kernel

theorem lateB_facts :
    WF.wf (bd lateB) = true ∧ (bd lateB).turn = 1 ∧ (bd lateB).fullmove = 200 ∧
    check lateB "e8c8" "2kr3r/8/8/8/8/8/8/R3K2R w KQ - 4001 201" (fun f => f.castle) = true ∧
    check lateB "h8h1" "r3k3/8/8/8/8/8/8/R3K2r w Qq - 0 201" (fun f => f.oppLostKing && f.selfLostKing) = true := by
  decide +kernel

theorem blackEp_facts :
    WF.wf (bd blackEp) = true ∧ (genLegal (bd blackEp)).length = 15 ∧
    check blackEp "d4e3" "4k3/8/8/8/8/4p3/1p6/R3K3 w Q - 0 8" (fun f => f.enPassant) = true ∧
    check blackEp "b2a1q" "4k3/8/8/8/3pP3/8/8/q3K3 w - - 0 8"
      (fun f => f.promotion == QUEEN && f.oppLostQueen) = true := by
  decide +kernel

theorem mixed_wf : WF.wf (bd mixed) = true := mixed_facts.1
theorem lateW_wf : WF.wf (bd lateW) = true := lateW_facts.1
theorem lateB_wf : WF.wf (bd lateB) = true := lateB_facts.1
theorem blackEp_wf : WF.wf (bd blackEp) = true := blackEp_facts.1
example : (genLegal (bd mixed)).length = 25 ∧ (genLegal (bd blackEp)).length = 15 :=
  ⟨mixed_facts.2.1, blackEp_facts.2.1⟩

-- a castling move: the rook goes h1 → f1, White's right is gone
example : check mixed "e1g1" "r3k3/1P6/8/3pP3/8/8/8/5RK1 b q - 1 2" (fun f => f.castle) = true :=
  mixed_facts.2.2.2.2.2.1
-- an en-passant capture: the d5 pawn disappears, clock reset
example : check mixed "e5d6" "r3k3/1P6/3P4/8/8/8/8/4K2R b Kq - 0 2" (fun f => f.enPassant) = true :=
  mixed_facts.2.2.2.2.2.2.1
-- a capture-promotion; the rook is captured on its home square a8 with the right `q` still held: the right is lost
example : check mixed "b7a8q" "Q3k3/8/8/3pP3/8/8/8/4K2R b K - 0 2"
    (fun f => f.promotion == QUEEN && f.pieceAttacked == ROOK && f.oppLostQueen) = true :=
  mixed_facts.2.2.2.2.2.2.2.1
-- a quiet promotion keeps Black's right
example : check mixed "b7b8r" "rR2k3/8/8/3pP3/8/8/8/4K2R b Kq - 0 2" (fun f => f.promotion == ROOK) = true :=
  mixed_facts.2.2.2.2.2.2.2.2
-- rook and king moves lose rights; the half-move clock just counts on beyond 100; the full-move number is unchanged
-- after White's move and incremented after Black's
example : check lateW "h1g1" "r3k2r/8/8/8/8/8/8/R3K1R1 b Qkq - 151 200" (fun f => f.selfLostKing) = true :=
  lateW_facts.2.1
example : check lateW "e1d1" "r3k2r/8/8/8/8/8/8/R2K3R b kq - 151 200" (fun f => f.selfLostKing && f.selfLostQueen) = true :=
  lateW_facts.2.2.1
example : check lateW "a1a8" "R3k2r/8/8/8/8/8/8/4K2R b Kk - 0 200"
    (fun f => f.selfLostQueen && f.oppLostQueen && f.halfmoveReset) = true :=
  lateW_facts.2.2.2
example : check lateB "e8c8" "2kr3r/8/8/8/8/8/8/R3K2R w KQ - 4001 201" (fun f => f.castle) = true :=
  lateB_facts.2.2.2.1
example : check lateB "h8h1" "r3k3/8/8/8/8/8/8/R3K2r w Qq - 0 201" (fun f => f.oppLostKing && f.selfLostKing) = true :=
  lateB_facts.2.2.2.2
-- Black: e.p. capture d4xe3 removes the e4 pawn; capture-promotion b2xa1 takes the rook at home, White loses `Q`
example : check blackEp "d4e3" "4k3/8/8/8/8/4p3/1p6/R3K3 w Q - 0 8" (fun f => f.enPassant) = true :=
  blackEp_facts.2.2.1
example : check blackEp "b2a1q" "4k3/8/8/8/3pP3/8/8/q3K3 w - - 0 8"
    (fun f => f.promotion == QUEEN && f.oppLostQueen) = true :=
  blackEp_facts.2.2.2

-- the hypotheses of the theorems are satisfiable, for each special case
example : ∃ m ∈ genLegal (bd mixed), m.f.castle = true := mixed_facts.2.2.1
example : ∃ m ∈ genLegal (bd mixed), m.f.enPassant = true := mixed_facts.2.2.2.1
example : ∃ m ∈ genLegal (bd mixed), m.f.promotion ≠ 0 ∧ m.f.pieceAttacked ≠ 0 := mixed_facts.2.2.2.2.1

example (m : Move) (hm : m ∈ genLegal (bd mixed)) :
    Spec.fen (abs (make (bd mixed) m)) = Spec.fen (Spec.apply (abs (bd mixed)) (absMove m.f)) :=
  fen_make_legal mixed_wf hm
example (m : Move) (hm : m ∈ genLegal (bd lateB)) :
    abs (make (bd lateB) m) = Spec.apply (abs (bd lateB)) (absMove m.f) ∧ (make (bd lateB) m).fullmove = 201 := by
  refine ⟨make_eq_apply_legal lateB_wf hm, ?_⟩
  rw [(fullmove_increments_after_black lateB_wf (List.mem_filter.mp hm).1).1, lateB_facts.2.1, lateB_facts.2.2.1]
  rfl

end Inkayaku.C02
