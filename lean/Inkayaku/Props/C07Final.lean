import Inkayaku.Props.C07
/-!
# C07 (completion) — a position with a legal move is never answered with the null move

This file discharges the two hypotheses of `C07.depth1_completes_partial`:

(a) `(genPseudo s.board).length < s.pollPeriod`: EVERY board (well-formed or not) has at most 41 218 pseudo-legal
    moves (`genPseudo_length_le`, a crude count of the generator loops: 64 sources × 64 targets per pass), which is
    below the engine's poll period 100 000.  The theorems below ask for `41218 < s.pollPeriod`.
(b) `ChildBelowWin`: every depth-1 child value is `< winScore` (`Search.childBelowWin_of_wf`; `horizonBelowWin_of_wf` states
    it with the circumstances of iteration 1 as premises): a time-out returns 0, static evaluations are
    within ±176 000 (`SpecSearch.evaluateOngoing_bound`, every board), the repetition value is −50, the fail-hard
    quiescence search returns at most `max α 176000` (`Search.quiescence_ub`; no adequacy of the quiescence fuel is
    needed), and a mate score `lossScore + fullmove` is below `winScore = 2^24` iff `fullmove < 2^25`.

Remaining side conditions of `depth1_completes` / `go_answers_legal_move` (all about the position held):
* `Inv (fuelFor 1) s.board` resp. `Inv (goBudget maxIter) s.board`: well-formed, and the clocks leave room for the
  deepest line (`halfmove + k ≤ 4095`, `fullmove + k < 2^31`; `k = 201` resp. `maxIter + 201`);
* `s.board.fullmove < 33554431 = 2^25 - 1`.  This one is NECESSARY, not an artefact: from full-move number `2^25` on,
  a root move that mates is valued `-(lossScore + fullmove) ≤ lossScore`, never beats the initial `bestValue`, and a
  position whose only legal moves are such moves is answered with the null move.  (FEN full-move numbers of real
  games are < 10^4.)
* `41218 < s.pollPeriod` (engine: 100 000; the verification hook may lower it, then the theorem does not apply),
  `1 ≤ maxIter`, `s.out = []` (only so that the bestmove is the head of the whole output).
-/
namespace Inkayaku.C07
open Inkayaku.Search Inkayaku.Board Inkayaku.WF

/-- (a) the pseudo-legal move list of ANY board is shorter than the engine's poll period (no `wf` needed) -/
theorem genPseudo_length_le (b : Board) : (genPseudo b).length ≤ 41218 := GenLength.genPseudo_length_le b

theorem genPseudo_length_lt (b : Board) : (genPseudo b).length < 100000 := GenLength.genPseudo_length_lt b

/-- the same stated for well-formed boards (the hypothesis `wf` is not used) -/
theorem genPseudo_length_lt_of_wf {b : Board} (_ : wf b = true) : (genPseudo b).length < 100000 :=
  GenLength.genPseudo_length_lt b

/-- (b) value range of the quiescence search the engine runs (fail-hard), for every state, window and fuel ≥ 2 -/
theorem quiescence_value_le (fuel : Nat) (s : St) (α β : Int) :
    (quiescence (fuel + 2) s α β).1.value ≤ max α 176000 := quiescence_ub fuel s α β

/-- (b) **the value-range invariant holds**: in a well-formed position with `fullmove < 2^25 - 1` every depth-1 child
search started between two polls with an empty table and window `[lossScore, β]`, `β ≤ winScore`, returns a value
`< winScore` -/
theorem horizonBelowWin_of_wf {b : Board} (hwf : wf b = true) (hfm : b.fullmove < 33554431) :
    HorizonBelowWin b (fuelFor 1 - 1) := Search.horizonBelowWin_of_wf hwf hfm

theorem horizonBelowWin_of_inv (s : St) (hinv : Inv (fuelFor 1) s.board) (hfm : s.board.fullmove < 33554431) :
    HorizonBelowWin s.board (fuelFor 1 - 1) := Search.horizonBelowWin_of_wf hinv.wf hfm

/-- **`depth1_completes`: a position with a legal move never gets the null move**, under ANY limit (depth, movetime,
clock times, zero increment, `go infinite` with a `stop` already waiting), because the first iteration cannot be
interrupted (no node of it polls the flags or the clock) and its result is kept -/
theorem depth1_completes (s : St) (g : GoParams) (maxIter : Nat) (hwf : Inv (fuelFor 1) s.board)
    (hfm : s.board.fullmove < 33554431) (hiter : 1 ≤ maxIter)
    (hpoll : 41218 < s.pollPeriod)                                   -- the engine polls every 100 000 nodes
    (hlegal : ∃ m, LegalRoot s.board g.searchMoves m) (h0 : s.out = []) :
    ∃ m ponder infos, (goCmd s g maxIter).out = .bestMove (some m) ponder :: infos :=
  depth1_completes_partial s g maxIter hwf hiter
    (Nat.lt_of_le_of_lt (GenLength.genPseudo_length_le s.board) hpoll) hlegal
    (Search.childBelowWin_of_wf hwf.wf hfm) h0

/-- the engine's own poll period -/
theorem depth1_completes_engine (s : St) (g : GoParams) (maxIter : Nat) (hwf : Inv (fuelFor 1) s.board)
    (hfm : s.board.fullmove < 33554431) (hiter : 1 ≤ maxIter) (hpoll : s.pollPeriod = 100000)
    (hlegal : ∃ m, LegalRoot s.board g.searchMoves m) (h0 : s.out = []) :
    ∃ m ponder infos, (goCmd s g maxIter).out = .bestMove (some m) ponder :: infos :=
  depth1_completes s g maxIter hwf hfm hiter (by rw [hpoll]; decide) hlegal h0

/-- **C07**, whatever was emitted before: asked to search a position that has a legal move (among `searchmoves` when
given), under any limits `g`, from any state `s` (pending messages, clock, flags, table, previous PV), the engine puts in
front of the earlier output infos only and then exactly one bestmove; it is not the null move; it is a legal move of the
position held and one of `searchmoves` when given. -/
theorem go_answers_legal_move_append (s : St) (g : GoParams) (maxIter : Nat) (hwf : Inv (goBudget maxIter) s.board)
    (hfm : s.board.fullmove < 33554431) (hiter : 1 ≤ maxIter) (hpoll : 41218 < s.pollPeriod)
    (hlegal : ∃ m, LegalRoot s.board g.searchMoves m) :
    ∃ m ponder infos, (goCmd s g maxIter).out = .bestMove (some m) ponder :: (infos ++ s.out) ∧ bestMoves infos = [] ∧
      LegalRoot s.board g.searchMoves m := by
  have hwf1 : Inv (fuelFor 1) s.board := Inv_mono (by unfold fuelFor goBudget; omega) hwf
  have hne := Search.depth1_completes boardLaws s g maxIter hwf1 hfm hiter hpoll hlegal
  obtain ⟨m, hm⟩ := Option.ne_none_iff_exists'.mp hne
  obtain ⟨_, ponder, news, h, hb, rfl, -⟩ := goCmd_answer s g maxIter
  rw [hm] at h
  exact ⟨m, ponder, news, h, hb, go_bestmove_legal boardLaws s g maxIter hwf m hm⟩

/-- **C07** for a search that starts with an empty output -/
theorem go_answers_legal_move (s : St) (g : GoParams) (maxIter : Nat) (hwf : Inv (goBudget maxIter) s.board)
    (hfm : s.board.fullmove < 33554431) (hiter : 1 ≤ maxIter) (hpoll : 41218 < s.pollPeriod)
    (hlegal : ∃ m, LegalRoot s.board g.searchMoves m) (h0 : s.out = []) :
    ∃ m ponder infos, (goCmd s g maxIter).out = .bestMove (some m) ponder :: infos ∧ bestMoves infos = [] ∧
      m ∈ genPseudo s.board ∧ isValid (make s.board m) = true ∧ (g.searchMoves ≠ [] → m.uci ∈ g.searchMoves) := by
  obtain ⟨m, ponder, infos, h, hb, hl⟩ := go_answers_legal_move_append s g maxIter hwf hfm hiter hpoll hlegal
  rw [h0, List.append_nil] at h
  exact ⟨m, ponder, infos, h, hb, hl⟩

#print axioms genPseudo_length_le
#print axioms genPseudo_length_lt
#print axioms quiescence_value_le
#print axioms horizonBelowWin_of_wf
#print axioms depth1_completes
#print axioms depth1_completes_engine
#print axioms go_answers_legal_move
#print axioms go_answers_legal_move_append

/-! ## non-vacuity: the start position, near-zero limits -/

/- all hypotheses of `go_answers_legal_move` hold for the initial state, for every `g` without `searchmoves` -/
example : Inv (goBudget 8) Search.initial.board := initial_inv (by decide)
example : Search.initial.board.fullmove < 33554431 := by rw [initial_fullmove]; decide
example : 41218 < Search.initial.pollPeriod := by decide
example : Search.initial.pollPeriod = 100000 := rfl
example : Search.initial.out = [] := rfl

/-- `e2e4` is a legal root move of the start position (so `hlegal` holds for every `g` with `searchMoves = []`) -/
def startHasLegal : Bool :=
  (genPseudo Search.initial.board).any fun m => isValid (make Search.initial.board m) && m.uci == "e2e4"
#guard startHasLegal

theorem start_has_legal : ∃ m, LegalRoot Search.initial.board [] m := by
  have h : ((genPseudo Search.initial.board).any fun m => isValid (make Search.initial.board m)) = true := by
    decide +kernel
  obtain ⟨m, hm, hv⟩ := List.any_eq_true.mp h
  exact ⟨m, hm, hv, fun hne => absurd rfl hne⟩

example : ∃ m, LegalRoot Search.initial.board ({ moveTime := some 0 } : GoParams).searchMoves m := start_has_legal

example : ∃ m ponder infos, (goCmd Search.initial { moveTime := some 0 } 8).out = .bestMove (some m) ponder :: infos ∧
    bestMoves infos = [] ∧ m ∈ genPseudo Search.initial.board ∧ isValid (make Search.initial.board m) = true ∧
    (({ moveTime := some 0 } : GoParams).searchMoves ≠ [] → m.uci ∈ ({ moveTime := some 0 } : GoParams).searchMoves) :=
  go_answers_legal_move Search.initial { moveTime := some 0 } 8 (initial_inv (by decide))
    (by rw [initial_fullmove]; decide) (by decide) (by decide) start_has_legal rfl

def answersLegal (b : Board) (st : St) : Bool :=
  (bestMoves st.out).length == 1 &&
  match st.out with
  | .bestMove (some m) _ :: _ => (genPseudo b).contains m && isValid (make b m)
  | _ => false

/-- `go movetime 0`: time is up before the search starts; a slow machine (1 ms per node) -/
def dMovetime0 : St := goCmd { Search.initial with nsPerNode := some 1000000 } { moveTime := some 0 } 8
#guard answersLegal Search.initial.board dMovetime0

/-- `go wtime 1 btime 1 winc 0 binc 0`: one millisecond on the clock, zero increment, slow machine -/
def dClock1 : St := goCmd { Search.initial with nsPerNode := some 1000000 }
  { wtime := some 1, btime := some 1, winc := some 0, binc := some 0 } 8
#guard answersLegal Search.initial.board dClock1

/-- `go wtime 1 btime 1` without increments -/
def dClock1NoInc : St := goCmd { Search.initial with nsPerNode := some 1000000 } { wtime := some 1, btime := some 1 } 8
#guard answersLegal Search.initial.board dClock1NoInc

/-- `go depth 2` with `stop` and `quit` already waiting in the channel -/
def dStopWaiting : St := goCmd { Search.initial with pending := [.stop, .quit] } { depth := some 2 } 8
#guard answersLegal Search.initial.board dStopWaiting

/- the two discharged hypotheses, evaluated on the start position: 20 ≤ 41218 pseudo-legal moves; all 20 child
   values are far below `winScore` -/
#guard (genPseudo Search.initial.board).length ≤ 41218
#guard childValuesBelowWin Search.initial.board

/-- the quiescence bound on a position with captures (after 1. e4 d5): value within ±176000 for the full window -/
def qAfterE4D5 : Int :=
  match San.findUci Search.initial.board "e2e4" with
  | (.ok m1, b1) =>
    let b2 := make b1 m1
    match San.findUci b2 "d7d5" with
    | (.ok m2, b3) => (quiescence 199 { Search.initial with board := make b3 m2 } Eval.lossScore Gen.winScore).1.value
    | _ => Gen.winScore
  | _ => Gen.winScore
#guard qAfterE4D5 ≤ 176000 && -176000 ≤ qAfterE4D5

end Inkayaku.C07
