import Inkayaku.Props.C17
import Inkayaku.Props.C14
import Inkayaku.Proofs.WfStepProof
import Inkayaku.Proofs.CharRange
import Inkayaku.Proofs.StartBoard
/-!
# C17 (clause "Replaying the yielded SAN moves on a board reproduces the game")

`C17.c17`: the reader yields the SAN tokens of a well-formed database verbatim.  `C14.san_roundtrip`: the SAN text the
model writes for a legal move is parsed back to exactly that move.  `pgn_replay` composes them along whole games, read
through the buffered reader; the layout side condition `PgnLayout.WFSan` on the tokens is proved of the texts the model
writes (`wfSan_of_sanLine`), not assumed.

Strings and bytes: the Rust reader builds its `String`s by `push(byte as char)`, so a yielded token is `dec bytes`
(code point U+00XX for byte XX, as in `Model/Pgn.lean`); a SAN text (ASCII) is written to the file as `enc s`.

The budget: `Search.Inv k b` = well-formed with room for `k` plies in both clocks (`halfmove + k ≤ 4095`,
`fullmove + k < 2^31`; the 12-bit undo field of the packed move).  From the start position this admits every line of
at most 4095 plies; the statement is not claimed for longer lines (they can leave the well-formed boards of the
model: `WF.wf` contains `halfmove ≤ 4095`).
-/
namespace Inkayaku.C17Replay
open Inkayaku.Board Inkayaku.San Inkayaku.WF Inkayaku.Pgn Inkayaku.PgnLayout
open Inkayaku.Spec.SanGrammar (isSanChar isPieceLetter isCheckMark isAnnot)
open Inkayaku.FenBoard (startBoard)
open Inkayaku.C03 (makeLine)

/-- every move is a legal move (`generate_legal_moves`) of the position reached -/
def LegalLineB : Board → List Board.Move → Prop
  | _, [] => True
  | b, m :: ms => m ∈ genLegal b ∧ LegalLineB (make b m) ms

instance : (b : Board) → (ms : List Board.Move) → Decidable (LegalLineB b ms)
  | _, [] => isTrue trivial
  | b, m :: ms =>
    have := instDecidableLegalLineB (make b m) ms
    inferInstanceAs (Decidable (m ∈ genLegal b ∧ LegalLineB (make b m) ms))

/-- SAN of each move of a line, written by the model's `uci_to_pgn` in the position reached -/
def sanLine : Board → List Board.Move → Option (List String)
  | _, [] => some []
  | b, m :: ms =>
    match (uciToSan b m.uci).1, sanLine (make b m) ms with
    | .ok s, some rest => some (s :: rest)
    | _, _ => none

/-- read each token with `pgn_to_bb` and make the move; `none` as soon as a token is rejected -/
def replay : Board → List String → Option Board
  | b, [] => some b
  | b, s :: rest =>
    match sanToMove b s with
    | some m => replay (make b m) rest
    | none => none

theorem inv_step {k : Nat} {b : Board} {m : Board.Move} (hinv : Search.Inv (k + 1) b) (hm : m ∈ genLegal b) :
    Search.Inv k (make b m) :=
  Search.boardLaws.make_inv k b m hinv (Or.inl (SanProofs.mem_genPseudo_of_legal hm))
    (SanProofs.legal_of_mem_genLegal hm)

/-- The one induction along a legal line within the budget: every move has a SAN text, the text is read back as
exactly that move (`C14.san_roundtrip`), so replaying the texts walks the same boards. -/
theorem sanLine_spec {b : Board} {ms : List Board.Move} (hinv : Search.Inv ms.length b) (hl : LegalLineB b ms) :
    ∃ sans, sanLine b ms = some sans ∧ sans.length = ms.length ∧ replay b sans = some (makeLine b ms) ∧
      ∀ s ∈ sans, ∃ b' m, sanToMove b' s = some m := by
  induction ms generalizing b with
  | nil => exact ⟨[], rfl, rfl, rfl, fun s h => nomatch h⟩
  | cons m ms ih =>
    obtain ⟨hm, hl'⟩ := hl
    obtain ⟨s, hs⟩ := C14.uciToSan_legal_ok (C14.uciNodup_of_wf hinv.1) hm
    obtain ⟨rest, hr, hlen, hrep, hp⟩ := ih (inv_step hinv hm) hl'
    have hrt : sanToMove b s = some m := C14.san_roundtrip hinv.1 (C14.uciNodup_of_wf hinv.1) hm hs
    refine ⟨s :: rest, by simp [sanLine, hs, hr], by simp [hlen], ?_, ?_⟩
    · show (match sanToMove b s with | some m => replay (make b m) rest | none => none) = _
      rw [hrt]; exact hrep
    · intro x hx
      rcases List.mem_cons.mp hx with rfl | hx
      · exact ⟨b, m, hrt⟩
      · exact hp x hx

/-- **replaying the SAN texts of a legal line reproduces the line**: every token is accepted, the move found is the
move played, and the final board is `makeLine b ms` itself -/
theorem replay_sanLine {b : Board} {ms : List Board.Move} {sans : List String} (hinv : Search.Inv ms.length b)
    (hl : LegalLineB b ms) (hs : sanLine b ms = some sans) : replay b sans = some (makeLine b ms) := by
  obtain ⟨_, h1, -, h3, -⟩ := sanLine_spec hinv hl
  cases hs.symm.trans h1; exact h3

/-- the hypotheses spelt out; the final board has the visible position of the line's end -/
theorem replay_sanLine_vis {b : Board} {ms : List Board.Move} {sans : List String} (hwf : wf b = true)
    (hhm : b.halfmove + ms.length ≤ 4095) (hfm : b.fullmove + ms.length < 2147483648)
    (hl : LegalLineB b ms) (hs : sanLine b ms = some sans) :
    ∃ b', replay b sans = some b' ∧ vis b' = vis (makeLine b ms) :=
  ⟨_, replay_sanLine ⟨hwf, hhm, hfm⟩ hl hs, rfl⟩

theorem sanLine_some {b : Board} {ms : List Board.Move} (hinv : Search.Inv ms.length b) (hl : LegalLineB b ms) :
    ∃ sans, sanLine b ms = some sans ∧ sans.length = ms.length :=
  (sanLine_spec hinv hl).imp fun _ h => ⟨h.1, h.2.1⟩

/-- the bytes of an ASCII text in the file -/
def enc (s : String) : List UInt8 := s.toList.map (fun c => UInt8.ofNat c.toNat)

/-- the reader's `String`: `push(byte as char)` -/
def dec (bs : List UInt8) : String := String.ofList (bs.map (fun b => Char.ofNat b.toNat))

def sanChars : List Char := "BNRQKabcdefgh12345678x=O-+#!?".toList

theorem sanChar_mem {c : Char} (h : isSanChar c = true) : c ∈ sanChars := by
  simp only [isSanChar, isPieceLetter, SanProofs.isFile_iff, SanProofs.isRank_iff, isCheckMark, isAnnot, Bool.or_eq_true,
    beq_iff_eq] at h
  rcases h with (((((((h | h) | h) | h) | h) | h) | h) | h) | h
  · rcases h with (((h | h) | h) | h) | h <;> (subst h; decide)
  · exact CharRange.mem_of_toNat_range 97 8 _ (by decide) h.1 (Nat.lt_succ_of_le h.2)
  · exact CharRange.mem_of_toNat_range 49 8 _ (by decide) h.1 (Nat.lt_succ_of_le h.2)
  all_goals (first | (subst h; decide) | (rcases h with h | h <;> (subst h; decide)))

def isSanByte (b : UInt8) : Bool := (sanChars.map (fun c => UInt8.ofNat c.toNat)).contains b

theorem sanChars_byte : ∀ c ∈ sanChars, c.toNat < 256 := by decide

theorem sanChars_ok : ∀ c ∈ sanChars, isSanByte (UInt8.ofNat c.toNat) = true ∧
    Char.ofNat (UInt8.ofNat c.toNat).toNat = c :=
  fun c hc => ⟨List.contains_iff_mem.mpr (List.mem_map_of_mem hc), CharRange.ofNat_byte_toNat (sanChars_byte c hc)⟩

theorem parsed_text {b : Board} {s : String} {m : Board.Move} (h : sanToMove b s = some m) :
    (∀ c ∈ s.toList, c ∈ sanChars) ∧ 2 ≤ s.toList.length := by
  obtain ⟨caps, hc, -⟩ := (C14.sanToMove_some_iff b s m).mp h
  constructor
  · intro c hcm
    apply sanChar_mem
    cases hsc : isSanChar c with
    | true => rfl
    | false => rw [C14.sanCaptures_illegal_char hcm hsc] at hc; cases hc
  · cases Nat.lt_or_ge s.toList.length 2 with
    | inl hlt => rw [C14.sanCaptures_short hlt] at hc; cases hc
    | inr hge => exact hge

theorem dec_enc {s : String} (h : ∀ c ∈ s.toList, c ∈ sanChars) : dec (enc s) = s := by
  unfold dec enc
  rw [List.map_map]
  have : s.toList.map ((fun b : UInt8 => Char.ofNat b.toNat) ∘ (fun c : Char => UInt8.ofNat c.toNat)) = s.toList := by
    rw [List.map_congr_left (g := id)]
    · simp
    · intro c hc; exact (sanChars_ok c (h c hc)).2
  rw [this, String.ofList_toList]

/-- a non-empty token of SAN bytes has no space, line break, `.`; is not a result
token (`1-0`, `0-1`, `1/2-1/2`, `*` contain `0`, `/` or `*`) and does not start with `{` or `;` -/
theorem wfSan_of_bytes {bs : List UInt8} (hne : bs ≠ []) (ha : ∀ b ∈ bs, isSanByte b = true) : WFSan bs := by
  have no : ∀ x : UInt8, isSanByte x = false → x ∉ bs := fun x hx hm => by rw [ha x hm] at hx; cases hx
  have nohead : ∀ x : UInt8, isSanByte x = false → bs.head? ≠ some x := fun x hx hh => no x hx (List.mem_of_mem_head? hh)
  refine ⟨hne, no 32 (by decide), no 10 (by decide), no 46 (by decide), ?_, nohead 123 (by decide), nohead 59 (by decide)⟩
  intro hr
  simp only [resultTokens, Result.token, List.mem_cons, List.not_mem_nil, or_false] at hr
  rcases hr with rfl | rfl | rfl | rfl
  · exact no 48 (by decide) (by simp)
  · exact no 48 (by decide) (by simp)
  · exact no 47 (by decide) (by simp)
  · exact no 42 (by decide) (by simp)

theorem wfSan_of_parsed {b : Board} {s : String} {m : Board.Move} (h : sanToMove b s = some m) : WFSan (enc s) := by
  obtain ⟨hc, hlen⟩ := parsed_text h
  apply wfSan_of_bytes
  · intro e
    have : (enc s).length = s.toList.length := by simp [enc]
    rw [e] at this; simp at this; omega
  · intro x hx
    obtain ⟨c, hcm, rfl⟩ := List.mem_map.mp hx
    exact (sanChars_ok c (hc c hcm)).1

theorem wfSan_of_sanLine {b : Board} {ms : List Board.Move} {sans : List String} (hinv : Search.Inv ms.length b)
    (hl : LegalLineB b ms) (hs : sanLine b ms = some sans) : ∀ s ∈ sans, WFSan (enc s) ∧ dec (enc s) = s := by
  intro s hsm
  obtain ⟨_, h1, -, -, h4⟩ := sanLine_spec hinv hl
  cases hs.symm.trans h1
  obtain ⟨b', m, hp⟩ := h4 s hsm
  exact ⟨wfSan_of_parsed hp, dec_enc (parsed_text hp).1⟩

/-- `WFGame` without the condition on the SAN tokens -/
def LayoutGame (g : Game) : Prop :=
  g.tags ≠ [] ∧ (∀ t ∈ g.tags, 32 ∉ t.1 ∧ 34 ∉ t.2) ∧ (g.tags.map (·.1)).Nodup ∧
    ∀ m ∈ g.moves, 125 ∉ m.comment.getD []

instance (g : Game) : Decidable (LayoutGame g) := by unfold LayoutGame; infer_instance

/-- `WFGames` without the condition on the SAN tokens -/
def LayoutOk : List Game → Prop
  | [] => True
  | [g] => LayoutGame g
  | g :: g' :: gs => LayoutGame g ∧ 1 ≤ g.trailing ∧ LayoutOk (g' :: gs)

instance : (gs : List Game) → Decidable (LayoutOk gs)
  | [] => isTrue trivial
  | [g] => inferInstanceAs (Decidable (LayoutGame g))
  | g :: g' :: gs =>
    have := instDecidableLayoutOk (g' :: gs)
    inferInstanceAs (Decidable (LayoutGame g ∧ 1 ≤ g.trailing ∧ LayoutOk (g' :: gs)))

theorem wfGame_of_layout {g : Game} (h : LayoutGame g) (hs : ∀ m ∈ g.moves, WFSan m.san) : WFGame g :=
  ⟨h.1, h.2.1, h.2.2.1, fun m hm => ⟨hs m hm, h.2.2.2 m hm⟩⟩

theorem wfGames_of_layout : ∀ (gs : List Game), LayoutOk gs → (∀ g ∈ gs, ∀ m ∈ g.moves, WFSan m.san) → WFGames gs
  | [], _, _ => trivial
  | [g], h, hs => wfGame_of_layout h (hs g (by simp))
  | g :: g' :: gs, h, hs =>
    ⟨wfGame_of_layout h.1 (hs g (by simp)), h.2.1,
      wfGames_of_layout (g' :: gs) h.2.2 (fun x hx => hs x (List.mem_cons_of_mem _ hx))⟩

/-- what the consumer does with one yielded item: replay its tokens from the start position -/
def replayItem : Item → Option Board
  | .game g => replay startBoard (g.moves.map (fun m => dec m.mv))
  | .err _ => none

theorem game_replay {g : Game} {ms : List Board.Move} (hlen : ms.length ≤ 4095) (hl : LegalLineB startBoard ms)
    (hs : (sanLine startBoard ms).map (·.map enc) = some (g.moves.map (·.san))) :
    (∀ m ∈ g.moves, WFSan m.san) ∧ replayItem (.game (C17.toRaw g)) = some (makeLine startBoard ms) := by
  have hinv := Search.startBoard_inv hlen
  obtain ⟨sans, h1, -⟩ := sanLine_some hinv hl
  have hok := wfSan_of_sanLine hinv hl h1
  rw [h1] at hs
  have hsan : g.moves.map (·.san) = sans.map enc := (Option.some.inj hs).symm
  constructor
  · intro m hm
    have : m.san ∈ sans.map enc := hsan ▸ List.mem_map.mpr ⟨m, hm, rfl⟩
    obtain ⟨s, hsm, e⟩ := List.mem_map.mp this
    exact e ▸ (hok s hsm).1
  · show replay startBoard ((g.moves.map C17.toRawMove).map (fun m => dec m.mv)) = _
    have : (g.moves.map C17.toRawMove).map (fun m => dec m.mv) = (g.moves.map (·.san)).map dec := by
      rw [List.map_map, List.map_map]; rfl
    have hdec : sans.map (dec ∘ enc) = sans.map id := List.map_congr_left fun s hsm => (hok s hsm).2
    rw [this, hsan, List.map_map, hdec, List.map_id]
    exact replay_sanLine hinv hl h1

/-- **C17, replay, end to end.**  `gl` pairs each game of a PGN database with the line of moves it records.  If the
layout is well formed (`LayoutOk`: tags, comments, blank lines — nothing about the SAN tokens), every line is a legal
line from the start position of at most 4095 plies, and the SAN tokens of each game are the texts the model writes for
its line, then for every chunk size ≥ 1 and every fragmentation of the underlying reads the buffered reader yields one
item per game, and replaying the tokens of item `i` ends in exactly the final board of line `i`. -/
theorem pgn_replay (gl : List (Game × List Board.Move)) (hlay : LayoutOk (gl.map (·.1)))
    (hgl : ∀ p ∈ gl, p.2.length ≤ 4095 ∧ LegalLineB startBoard p.2 ∧
      (sanLine startBoard p.2).map (·.map enc) = some (p.1.moves.map (·.san)))
    (chunk : Nat) (sched : Nat → Nat) (hchunk : 1 ≤ chunk) (hsched : ∀ k, 1 ≤ sched k) :
    (readAllBuffered chunk sched (render (gl.map (·.1)))).map replayItem
      = gl.map (fun p => some (makeLine startBoard p.2)) := by
  have hper := fun p hp => game_replay (hgl p hp).1 (hgl p hp).2.1 (hgl p hp).2.2
  have hwf : WFGames (gl.map (·.1)) := by
    apply wfGames_of_layout _ hlay
    intro g hg
    obtain ⟨p, hp, rfl⟩ := List.mem_map.mp hg
    exact (hper p hp).1
  rw [C17.c17 _ hwf chunk sched hchunk hsched, List.map_map, List.map_map]
  exact List.map_congr_left fun p hp => (hper p hp).2

#print axioms replay_sanLine
#print axioms replay_sanLine_vis
#print axioms sanLine_some
#print axioms wfSan_of_sanLine
#print axioms pgn_replay

/-! ## non-vacuity: a game in which both sides castle, as a two-game Lichess-style database -/

section Examples

/-- the legal moves with the given UCI texts, played one after the other -/
def lineOfUcis : Board → List String → Option (List Board.Move)
  | _, [] => some []
  | b, u :: us =>
    match (genLegal b).find? (fun m => m.uci == u) with
    | some m => (lineOfUcis (make b m) us).map (m :: ·)
    | none => none

/-- 1. e4 e5 2. Nf3 Nc6 3. Bc4 Bc5 4. O-O Nf6 5. d3 O-O -/
def demoLine : List Board.Move :=
  (lineOfUcis startBoard ["e2e4", "e7e5", "g1f3", "b8c6", "f1c4", "f8c5", "e1g1", "g8f6", "d2d3", "e8g8"]).getD []

def demoSans : List String := ["e4", "e5", "Nf3", "Nc6", "Bc4", "Bc5", "O-O", "Nf6", "d3", "O-O"]

/-- 1. d4 d5 2. c4 dxc4 3. Qa4+ (a pawn capture and a check) -/
def demoLine2 : List Board.Move :=
  (lineOfUcis startBoard ["d2d4", "d7d5", "c2c4", "d5c4", "d1a4"]).getD []

def demoSans2 : List String := ["d4", "d5", "c4", "dxc4", "Qa4+"]

/-- the chess part of the hypotheses, evaluated by the kernel once per line -/
theorem demo_facts : demoLine.length = 10 ∧ LegalLineB startBoard demoLine ∧
    sanLine startBoard demoLine = some demoSans := by decide +kernel
theorem demo_facts2 : demoLine2.length = 5 ∧ LegalLineB startBoard demoLine2 ∧
    sanLine startBoard demoLine2 = some demoSans2 := by decide +kernel

-- from here on the lines are opaque to the elaborator (the kernel still evaluates them where asked to)
attribute [irreducible] demoLine demoLine2

/-- the hypotheses of `replay_sanLine` hold, its conclusion for the castling game -/
example : replay startBoard demoSans = some (makeLine startBoard demoLine) :=
  replay_sanLine (Search.startBoard_inv (Nat.le_trans (Nat.le_of_eq demo_facts.1) (by decide))) demo_facts.2.1 demo_facts.2.2
/-- a token that is not legal in the position reached stops the replay -/
example : replay startBoard ["e4", "e5", "O-O"] = none := by decide +kernel

def B (s : String) : List UInt8 := s.toUTF8.data.toList

/-- Lichess numbering with a clock comment after White's first move, result `1/2-1/2`, two blank lines -/
def demoGame : Game :=
  { tags := [(B "Event", B "Casual game"), (B "Result", B "1/2-1/2")],
    moves := Numbering.lichess.apply
      ((demoSans.map enc).zip ([some (B " [%clk 0:05:00] ")] ++ List.replicate 9 none)),
    result := .draw, trailing := 3 }

/-- plain numbering, no comments, last game of the file without final line break -/
def demoGame2 : Game :=
  { tags := [(B "Event", B "?")],
    moves := Numbering.white.apply ((demoSans2.map enc).zip (List.replicate 5 none)),
    result := .unknown, trailing := 0 }

#guard String.fromUTF8! (ByteArray.mk (render [demoGame, demoGame2]).toArray) ==
  "[Event \"Casual game\"]\n[Result \"1/2-1/2\"]\n\n1. e4 { [%clk 0:05:00] } 1... e5 2. Nf3 Nc6 3. Bc4 Bc5 4. O-O Nf6 5. d3 O-O 1/2-1/2\n\n\n[Event \"?\"]\n\n1. d4 d5 2. c4 dxc4 3. Qa4+ *"

/-- the hypotheses of `pgn_replay` hold for this database (layout and token texts by kernel evaluation, the chess
part from `demo_facts`) … -/
theorem demo_hyps : LayoutOk ([(demoGame, demoLine), (demoGame2, demoLine2)].map (·.1)) ∧
    ∀ p ∈ [(demoGame, demoLine), (demoGame2, demoLine2)], p.2.length ≤ 4095 ∧ LegalLineB startBoard p.2 ∧
      (sanLine startBoard p.2).map (·.map enc) = some (p.1.moves.map (·.san)) := by
  refine ⟨by decide +kernel, ?_⟩
  intro p hp
  simp only [List.mem_cons, List.not_mem_nil, or_false] at hp
  rcases hp with rfl | rfl
  · show demoLine.length ≤ 4095 ∧ LegalLineB startBoard demoLine ∧
      (sanLine startBoard demoLine).map (·.map enc) = some (demoGame.moves.map (·.san))
    rw [demo_facts.1, demo_facts.2.2]
    exact ⟨by decide, demo_facts.2.1, by decide +kernel⟩
  · show demoLine2.length ≤ 4095 ∧ LegalLineB startBoard demoLine2 ∧
      (sanLine startBoard demoLine2).map (·.map enc) = some (demoGame2.moves.map (·.san))
    rw [demo_facts2.1, demo_facts2.2.2]
    exact ⟨by decide, demo_facts2.2.1, by decide +kernel⟩

/-- … so with every chunk size and every fragmentation the reader yields two games whose replay ends in the final
positions of the two lines (both sides have castled in the first one) -/
example (chunk : Nat) (sched : Nat → Nat) (hchunk : 1 ≤ chunk) (hsched : ∀ k, 1 ≤ sched k) :
    (readAllBuffered chunk sched (render [demoGame, demoGame2])).map replayItem
      = [some (makeLine startBoard demoLine), some (makeLine startBoard demoLine2)] :=
  pgn_replay [(demoGame, demoLine), (demoGame2, demoLine2)] demo_hyps.1 demo_hyps.2 chunk sched hchunk hsched

-- the same, by plain evaluation of the model for one chunk size (3 bytes, reads of 1 and 2 bytes alternating)
#guard ((readAllBuffered 3 (fun k => 1 + k % 2) (render [demoGame, demoGame2])).map replayItem).map
      (·.bind FenBoard.printFen)
    == [some "r1bq1rk1/pppp1ppp/2n2n2/2b1p3/2B1P3/3P1N2/PPP2PPP/RNBQ1RK1 w - - 1 6",
        some "rnbqkbnr/ppp1pppp/8/8/Q1pP4/8/PP2PPPP/RNB1KBNR b KQkq - 1 3"]

end Examples

end Inkayaku.C17Replay
