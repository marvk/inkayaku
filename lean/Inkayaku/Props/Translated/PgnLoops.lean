import Inkayaku.Props.Translated.PgnBytes
/-! The loops of the PGN reader (generated module `Pgn`, monadic mode; every Rust loop
is a definition `….loop_1 rd fuel k state` by recursion on the counter `k`) against the fuel-indexed model loops of `Model/Pgn.lean`:
`skip_blank_lines`, `skip_blank_lines_and_spaces`, `skip_spaces`, `skip_to_next_line`, `read_until`, `read_token`.
All statements are `SimT` (`PgnBuffer.lean`): whenever the translated method returns, the model program ends in the corresponding
state with the related result, and it does return while the counter exceeds the number of bytes to come.  (When the counter runs out
the translation is `none`, the model answers `Err(closed)`; `C17.fuel_adequate`: the model's fuel `input.length + 1` never runs out.) -/

set_option linter.unusedSectionVars false

namespace Inkayaku.Translated
open Inkayaku.Pgn Inkayaku.C17

/-- result of a loop definition against the result of the model loop: `Ctl.next s` (loop ended) / `Ctl.ret (Ok r)` (the function returned
from inside the loop) against `Ok b`; `Ctl.ret (Err e)` against `Err` of the same kind -/
def relCtl {ρ σ β : Type} (rn : σ → β → Prop) (rr : ρ → β → Prop) : Rs.Ctl (Except Rs.PgnRawParserError ρ) σ → Except Err β → Prop
  | .next s, .ok b => rn s b
  | .ret (.ok r), .ok b => rr r b
  | .ret (.error e), .error e' => pgnErrKind e = e'
  | _, _ => False

/-- the code points of a Rust `String` built by `push(byte as char)` -/
def strOf (l : List UInt8) : List Char := l.map (fun b => Char.ofNat b.toNat)

theorem strOf_append (a b : List UInt8) : strOf (a ++ b) = strOf a ++ strOf b := by simp [strOf]

theorem char_of_byteI (b : UInt8) : Char.ofNat (Int.toNat (byteI b)) = Char.ofNat b.toNat := by
  simp [byteI]

section
variable {E : Type} (rd : Reader → List Int → Except E Int × Reader × List Int) (hrd : ReadModel rd)
include hrd

omit hrd in
theorem pbind_ret {α : Type} (p : Prog α) : Prog.bind p Prog.ret = p := by
  induction p with
  | ret a => rfl
  | step inc k ih => simp only [Prog.bind]; congr 1; funext b; exact ih b

omit hrd in
/-- the wrapper of a loop: `match (← loop) with | Ctl.ret r => return r | Ctl.next st => ..` followed by the function's last
expression, which `f` maps `Ctl.next st` to -/
theorem simT_loop_wrap {ρ σ β : Type} {k : Nat} {m : Rs.RsM (Rs.PgnRawParser Reader) (Rs.Ctl (Except Rs.PgnRawParserError ρ) σ)}
    {p : M β} {rn : σ → β → Prop} {rr r' : ρ → β → Prop}
    {f : Rs.Ctl (Except Rs.PgnRawParserError ρ) σ → Rs.RsM (Rs.PgnRawParser Reader) (Except Rs.PgnRawParserError ρ)}
    (h : SimT k m p (relCtl rn rr)) (hret : ∀ r, f (.ret r) = pure r) (hrr : ∀ a b, rr a b → r' a b)
    (hnext : ∀ st b, rn st b → ∃ v, f (.next st) = pure (.ok v) ∧ r' v b) : SimT k (m >>= f) p (relRes r') := by
  rw [← pbind_ret p]
  refine simT_bind h (fun c out hc => ?_)
  match c, out, hc with
  | .next st, .ok b, hc =>
    obtain ⟨v, hf, hv⟩ := hnext st b hc
    rw [hf]; exact simT_pure hv
  | .ret (.ok r), .ok b, hc => rw [hret]; exact simT_pure (hrr r b hc)
  | .ret (.error e), .error e', hc => rw [hret]; exact simT_pure hc

/-- `loop { if self.peek_byte()? != c { break }; self.skip_byte()?; }`: `skip_spaces` (`c` = b' ') and `skip_blank_lines` (b'\n') -/
theorem skip_while_simT (c : UInt8) {L : Nat → Rs.RsM (Rs.PgnRawParser Reader) (Rs.Ctl (Except Rs.PgnRawParserError Unit) Unit)}
    {P : Nat → M Unit} (hL0 : L 0 = Rs.RsM.panic)
    (hL : ∀ k, L (k + 1) = do
      let t1 ← match (← Rs.PgnRawParser.peek_byte rd) with
        | Except.ok v => pure v
        | Except.error e => return (Rs.Ctl.ret (Except.error e))
      if (t1 == byteI c) = false then return (Rs.Ctl.next ())
      match (← Rs.PgnRawParser.skip_byte rd) with
      | Except.ok _ => L k
      | Except.error e => return (Rs.Ctl.ret (Except.error e)))
    (hP : ∀ k, P (k + 1) = (peekByte >>=ₑ fun b => if b = c then skipByte >>ₑ P k else M.pure ())) :
    ∀ k, SimT k (L k) (P k) (relCtl (fun _ _ => True) (fun _ _ => False)) := by
  intro k
  induction k with
  | zero => rw [hL0]; exact simT_zero
  | succ k ih =>
    rw [hL, hP]
    refine simT_peek rd hrd (fun e => ⟨_, rfl, rfl⟩) (fun b => ?_)
    dsimp only []
    exact simT_pure_bind (simT_ite_false (byteI_beq b c) (fun _ => simT_skip rd hrd (fun e => ⟨_, rfl, rfl⟩) ih) (fun _ => simT_pure trivial))

theorem rs_skip_blank_lines_loopT (fuel : Nat) : ∀ k, SimT k (Rs.PgnRawParser.skip_blank_lines.loop_1 rd fuel k) (skipBlankLines k)
    (relCtl (fun _ _ => True) (fun _ _ => False)) :=
  skip_while_simT rd hrd NL (by rw [Rs.PgnRawParser.skip_blank_lines.loop_1]) (fun k => by rw [Rs.PgnRawParser.skip_blank_lines.loop_1]; rfl)
    (fun k => by rw [skipBlankLines])

theorem rs_skip_spaces_loopT (fuel : Nat) : ∀ k, SimT k (Rs.PgnRawParser.skip_spaces.loop_1 rd fuel k) (skipSpaces k)
    (relCtl (fun _ _ => True) (fun _ _ => False)) :=
  skip_while_simT rd hrd SP (by rw [Rs.PgnRawParser.skip_spaces.loop_1]) (fun k => by rw [Rs.PgnRawParser.skip_spaces.loop_1]; rfl)
    (fun k => by rw [skipSpaces])

theorem rs_skip_to_next_line_loopT (fuel : Nat) : ∀ k, SimT k (Rs.PgnRawParser.skip_to_next_line.loop_1 rd fuel k) (skipToNextLine k)
    (relCtl (fun _ _ => True) (fun _ _ => False)) := by
  intro k
  induction k with
  | zero => rw [Rs.PgnRawParser.skip_to_next_line.loop_1]; exact simT_zero
  | succ k ih =>
    rw [Rs.PgnRawParser.skip_to_next_line.loop_1]
    unfold skipToNextLine
    refine simT_pop rd hrd (fun e => ⟨_, rfl, rfl⟩) (fun b => ?_)
    dsimp only []
    exact simT_pure_bind (simT_ite_false (byteI_bne b NL) (fun _ => ih) (fun _ => simT_pure trivial))

theorem rs_skip_blank_lines_and_spaces_loopT (fuel : Nat) : ∀ k, SimT k (Rs.PgnRawParser.skip_blank_lines_and_spaces.loop_1 rd fuel k)
    (skipBlankLinesAndSpaces k) (relCtl (fun _ _ => True) (fun _ _ => False)) := by
  intro k
  induction k with
  | zero => rw [Rs.PgnRawParser.skip_blank_lines_and_spaces.loop_1]; exact simT_zero
  | succ k ih =>
    -- the continuation after the (short-circuit) loop condition
    have jp : SimT (k + 1) (Rs.PgnRawParser.skip_byte rd >>= fun x => match x with
          | Except.ok _ => Rs.PgnRawParser.skip_blank_lines_and_spaces.loop_1 rd fuel k
          | Except.error e => pure (Rs.Ctl.ret (Except.error e)))
        (M.bind skipByte (fun _ => skipBlankLinesAndSpaces k)) (relCtl (fun _ _ => True) (fun _ _ => False)) :=
      simT_skip rd hrd (fun e => ⟨_, rfl, rfl⟩) ih
    rw [Rs.PgnRawParser.skip_blank_lines_and_spaces.loop_1]
    unfold skipBlankLinesAndSpaces
    refine simT_peek rd hrd (fun e => ⟨_, rfl, rfl⟩) (fun b => ?_)
    dsimp only []
    refine simT_pure_bind ?_
    refine simT_ite (byteI_beq b NL) (fun _ => simT_pure_bind jp) (fun _ => ?_)
    refine simT_peek rd hrd (fun e => ⟨_, rfl, rfl⟩) (fun b2 => ?_)
    dsimp only []
    exact simT_pure_bind (simT_pure_bind (simT_ite_false (byteI_beq b2 SP) (fun _ => jp) (fun _ => simT_pure trivial)))

theorem rs_skip_blank_lines_simT (fuel : Nat) :
    SimT fuel (Rs.PgnRawParser.skip_blank_lines rd fuel) (skipBlankLines fuel) (relRes (fun _ _ => True)) := by
  unfold Rs.PgnRawParser.skip_blank_lines
  exact simT_loop_wrap (rs_skip_blank_lines_loopT rd hrd fuel fuel) (fun _ => rfl) (fun _ _ h => absurd h id) (fun _ _ _ => ⟨(), rfl, trivial⟩)

theorem rs_skip_spaces_simT (fuel : Nat) :
    SimT fuel (Rs.PgnRawParser.skip_spaces rd fuel) (skipSpaces fuel) (relRes (fun _ _ => True)) := by
  unfold Rs.PgnRawParser.skip_spaces
  exact simT_loop_wrap (rs_skip_spaces_loopT rd hrd fuel fuel) (fun _ => rfl) (fun _ _ h => absurd h id) (fun _ _ _ => ⟨(), rfl, trivial⟩)

theorem rs_skip_to_next_line_simT (fuel : Nat) :
    SimT fuel (Rs.PgnRawParser.skip_to_next_line rd fuel) (skipToNextLine fuel) (relRes (fun _ _ => True)) := by
  unfold Rs.PgnRawParser.skip_to_next_line
  exact simT_loop_wrap (rs_skip_to_next_line_loopT rd hrd fuel fuel) (fun _ => rfl) (fun _ _ h => absurd h id) (fun _ _ _ => ⟨(), rfl, trivial⟩)

/-- the loop condition peeks twice -/
theorem rs_skip_blank_lines_and_spaces_simT (fuel : Nat) :
    SimT fuel (Rs.PgnRawParser.skip_blank_lines_and_spaces rd fuel) (skipBlankLinesAndSpaces fuel) (relRes (fun _ _ => True)) := by
  unfold Rs.PgnRawParser.skip_blank_lines_and_spaces
  exact simT_loop_wrap (rs_skip_blank_lines_and_spaces_loopT rd hrd fuel fuel) (fun _ => rfl) (fun _ _ h => absurd h id) (fun _ _ _ => ⟨(), rfl, trivial⟩)

theorem rs_skip_blank_lines_loop (fuel : Nat) : ∀ k, Sim (Rs.PgnRawParser.skip_blank_lines.loop_1 rd fuel k) (skipBlankLines k)
    (relCtl (fun _ _ => True) (fun _ _ => False)) := fun k => (rs_skip_blank_lines_loopT rd hrd fuel k).1
theorem rs_skip_spaces_loop (fuel : Nat) : ∀ k, Sim (Rs.PgnRawParser.skip_spaces.loop_1 rd fuel k) (skipSpaces k)
    (relCtl (fun _ _ => True) (fun _ _ => False)) := fun k => (rs_skip_spaces_loopT rd hrd fuel k).1
theorem rs_skip_to_next_line_loop (fuel : Nat) : ∀ k, Sim (Rs.PgnRawParser.skip_to_next_line.loop_1 rd fuel k) (skipToNextLine k)
    (relCtl (fun _ _ => True) (fun _ _ => False)) := fun k => (rs_skip_to_next_line_loopT rd hrd fuel k).1
theorem rs_skip_blank_lines_and_spaces_loop (fuel : Nat) : ∀ k, Sim (Rs.PgnRawParser.skip_blank_lines_and_spaces.loop_1 rd fuel k)
    (skipBlankLinesAndSpaces k) (relCtl (fun _ _ => True) (fun _ _ => False)) :=
  fun k => (rs_skip_blank_lines_and_spaces_loopT rd hrd fuel k).1

theorem rs_skip_blank_lines_sim (fuel : Nat) : Sim (Rs.PgnRawParser.skip_blank_lines rd fuel) (skipBlankLines fuel) (relRes (fun _ _ => True)) :=
  (rs_skip_blank_lines_simT rd hrd fuel).1
theorem rs_skip_spaces_sim (fuel : Nat) : Sim (Rs.PgnRawParser.skip_spaces rd fuel) (skipSpaces fuel) (relRes (fun _ _ => True)) :=
  (rs_skip_spaces_simT rd hrd fuel).1
theorem rs_skip_to_next_line_sim (fuel : Nat) : Sim (Rs.PgnRawParser.skip_to_next_line rd fuel) (skipToNextLine fuel) (relRes (fun _ _ => True)) :=
  (rs_skip_to_next_line_simT rd hrd fuel).1
theorem rs_skip_blank_lines_and_spaces_sim (fuel : Nat) :
    Sim (Rs.PgnRawParser.skip_blank_lines_and_spaces rd fuel) (skipBlankLinesAndSpaces fuel) (relRes (fun _ _ => True)) :=
  (rs_skip_blank_lines_and_spaces_simT rd hrd fuel).1

theorem rs_read_until_loopT (fuel : Nat) (byte : UInt8) : ∀ k (result : List UInt8) (cur : UInt8),
    SimT k (Rs.PgnRawParser.read_until.loop_1 rd fuel (byteI byte) k (strOf result) (byteI cur)) (readUntilLoop byte k result cur)
      (relCtl (fun st out => st.1 = strOf out) (fun _ _ => False)) := by
  intro k
  induction k with
  | zero => intro result cur; rw [Rs.PgnRawParser.read_until.loop_1]; exact simT_zero
  | succ k ih =>
    intro result cur
    rw [Rs.PgnRawParser.read_until.loop_1]
    unfold readUntilLoop
    refine simT_ite_false (byteI_bne cur byte) (fun _ => ?_) (fun _ => simT_pure rfl)
    dsimp only []
    refine simT_skip rd hrd (fun e => ⟨_, rfl, rfl⟩) ?_
    dsimp only []
    refine simT_peek rd hrd (fun e => ⟨_, rfl, rfl⟩) (fun nxt => ?_)
    dsimp only []
    refine simT_pure_bind ?_
    have := ih (result ++ [cur]) nxt
    rw [strOf_append] at this
    rw [char_of_byteI]
    exact this

theorem rs_read_until_loop (fuel : Nat) (byte : UInt8) : ∀ k (result : List UInt8) (cur : UInt8),
    Sim (Rs.PgnRawParser.read_until.loop_1 rd fuel (byteI byte) k (strOf result) (byteI cur)) (readUntilLoop byte k result cur)
      (relCtl (fun st out => st.1 = strOf out) (fun _ _ => False)) := fun k result cur => (rs_read_until_loopT rd hrd fuel byte k result cur).1

theorem rs_read_until_simT (fuel : Nat) (byte : UInt8) :
    SimT fuel (Rs.PgnRawParser.read_until rd fuel (byteI byte)) (readUntil fuel byte) (relRes (fun r out => r = strOf out)) := by
  unfold Rs.PgnRawParser.read_until readUntil
  dsimp only []
  refine simT_peek rd hrd (fun e => ⟨_, rfl, rfl⟩) (fun cur => ?_)
  dsimp only []
  refine simT_pure_bind ?_
  exact simT_loop_wrap (rs_read_until_loopT rd hrd fuel byte fuel [] cur) (fun _ => rfl) (fun _ _ h => absurd h id)
    (fun st _ h => ⟨st.1, rfl, h⟩)

theorem rs_read_until_sim (fuel : Nat) (byte : UInt8) :
    Sim (Rs.PgnRawParser.read_until rd fuel (byteI byte)) (readUntil fuel byte) (relRes (fun r out => r = strOf out)) :=
  (rs_read_until_simT rd hrd fuel byte).1

/-- the one loop whose body is the raw triple `ensure_buffer()` / `current_buffer[current_byte]` / `increment_byte()`: a `Prog.step`
of the model whose `inc` depends on the byte -/
theorem rs_read_token_loopT (fuel : Nat) : ∀ k (result : List UInt8),
    SimT k (Rs.PgnRawParser.read_token.loop_1 rd fuel k (strOf result)) (readTokenLoop k result)
      (fun c out => c = Rs.Ctl.next (strOf out)) := by
  intro k
  induction k with
  | zero => intro result; rw [Rs.PgnRawParser.read_token.loop_1]; exact simT_zero
  | succ k ih =>
    intro result
    rw [Rs.PgnRawParser.read_token.loop_1]
    unfold readTokenLoop
    refine simT_step rd hrd (Nat.le_refl _) (simT_pure rfl) (fun b s1 g1 g2 h3 h4 => ?_)
    rw [if_neg (show ¬ true = false by decide), idx_bind h3]
    dsimp only []
    rw [show (32 : Int) = byteI SP from rfl, show (10 : Int) = byteI NL from rfl, byteI_beq, byteI_beq]
    by_cases hbl : (decide (b = SP) || decide (b = NL)) = true
    · simp only [hbl, Bool.not_true, Bool.false_eq_true, if_false, if_true]
      exact SimT.at (simT_pure rfl) g1
    · rw [Bool.not_eq_true] at hbl
      simp only [hbl, Bool.not_false, Bool.false_eq_true, if_false, if_true]
      rw [bind_some h4, char_of_byteI]
      have := ih (result ++ [b])
      rw [strOf_append] at this
      exact SimT.at this g2

theorem rs_read_token_loop (fuel : Nat) : ∀ k (result : List UInt8),
    Sim (Rs.PgnRawParser.read_token.loop_1 rd fuel k (strOf result)) (readTokenLoop k result)
      (fun c out => c = Rs.Ctl.next (strOf out)) := fun k result => (rs_read_token_loopT rd hrd fuel k result).1

theorem rs_read_token_simT (fuel : Nat) :
    SimT fuel (Rs.PgnRawParser.read_token rd fuel) (readToken fuel) (fun r out => ∃ o, out = .ok o ∧ r = strOf o) := by
  unfold Rs.PgnRawParser.read_token readToken
  dsimp only []
  refine simT_bind (rs_read_token_loopT rd hrd fuel fuel []) (fun c out hc => ?_)
  subst hc
  dsimp only []
  exact simT_pure ⟨_, rfl, rfl⟩

/-- **`read_token` = `readToken`** (`while self.ensure_buffer() { .. break .. }`: reads up to a blank or the end of the input) -/
theorem rs_read_token_sim (fuel : Nat) :
    Sim (Rs.PgnRawParser.read_token rd fuel) (readToken fuel) (fun r out => ∃ o, out = .ok o ∧ r = strOf o) :=
  (rs_read_token_simT rd hrd fuel).1

#print axioms rs_skip_blank_lines_sim
#print axioms rs_skip_blank_lines_and_spaces_sim
#print axioms rs_skip_spaces_sim
#print axioms rs_skip_to_next_line_sim
#print axioms rs_read_until_sim
#print axioms rs_read_token_sim

end
end Inkayaku.Translated
