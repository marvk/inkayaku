import Inkayaku.Model.FenSyntax
import Inkayaku.Gen.Rs.FenFromStr
import Inkayaku.Props.Translated.Fen
import Inkayaku.Props.Translated.FenDecode
/-! `Fen::from_str` without the regex: `Fen::validate_ranks`, `impl FromStr for Fen` (core/src/fen.rs) = `FenSyntax.parseChars` (Model/FenSyntax.lean)

Generated module `FenFromStr`.  The regex match `Fen::parse` (`FEN_REGEX.captures`), `Captures::get` and `Match::range` are OPAQUE
function parameters; what they are assumed to deliver is `RegexModel` below — the hand translation `FenSyntax.regexGroups` of the
regex (trusted base of C12): the match fails exactly when `regexGroups` is `none`, and otherwise the groups 1–4 (and 5, 6 if present) are
BYTE ranges of the text that slice to the fields.  Everything else of `from_str` is translated: the alias `"startpos"`, the rank
validation (`validate_ranks` = lazy `map(validate_rank).find(is_err)`), the two clock checks `parse::<u32>().is_err()`,
and the construction of the `Fen` value (text + ranges; the defaults of a four-field FEN are supplied by the getters).

`rs_fen_from_str_eq`: under `RegexModel`, for every text `s` other than the alias, the translated `from_str` does not panic and
returns an error of the kind the model `parseChars s` reports, or a `Fen` value whose getters yield exactly the fields of the model
(`FenView`, the hypothesis of `rs_fen_decode_eq`). -/

namespace Inkayaku.Translated
open Inkayaku.Board Inkayaku.FenSyntax

/-- the result of the Rust `validate_ranks` for a model verdict: the error of the FIRST offending rank -/
def ranksResult (p : List Char) : Except Rs.FenParseError Unit :=
  match (splitOnChar '/' p).find? (fun r => (validateRank r).isSome) with
  | some r => rankResult r
  | none => .ok ()

/-- the kind of a Rust error (the model's `FenErr` has no payloads) -/
def errKind : Rs.FenParseError → FenErr
  | .ConcurrentNumbers _ => .concurrent
  | .IllegalNumberOfGroups _ => .capture
  | .InvalidCapture _ => .capture
  | .RankWithInvalidPieceCount _ _ => .count

def VerdictIs (res : Except Rs.FenParseError Unit) : Option FenErr → Prop
  | none => res = .ok ()
  | some e => ∃ err, res = .error err ∧ errKind err = e

theorem rankResult_agrees (r : List Char) : VerdictIs (rankResult r) (validateRank r) := by
  unfold rankResult
  cases h : validateRank r with
  | none => rfl
  | some e =>
    cases e with
    | capture => simp [validateRank] at h; split at h <;> simp_all
    | count => exact ⟨_, rfl, rfl⟩
    | concurrent => exact ⟨_, rfl, rfl⟩

theorem rankResult_isErr (r : List Char) : Rs.resIsErr (rankResult r) = (validateRank r).isSome := by
  have := rankResult_agrees r
  cases hv : validateRank r with
  | none =>
    rw [hv] at this
    rw [show rankResult r = .ok () from this]
    rfl
  | some e =>
    rw [hv] at this
    obtain ⟨err, h, _⟩ := this
    rw [h]
    rfl

theorem rs_map_find (fuel : Nat) : ∀ (rs : List (List Char)),
    (∀ r ∈ rs, (∀ c ∈ r, c.toNat < 128) ∧ r.length ≤ fuel ∧ r.length ≤ 400000000) →
    Rs.iterMapFind (fun x => Rs.Fen.validate_rank x fuel) Rs.resIsErr rs =
      some ((rs.find? (fun r => (validateRank r).isSome)).map rankResult)
  | [], _ => rfl
  | r :: rs, h => by
    have hr := h r (by simp)
    rw [Rs.iterMapFind, rs_validate_rank_fuel r hr.1 hr.2.2 fuel hr.2.1]
    simp only [Option.bind_some, rankResult_isErr, List.find?_cons]
    cases hv : (validateRank r).isSome with
    | true => simp
    | false =>
      simp only [Bool.false_eq_true, if_false]
      exact rs_map_find fuel rs (fun x hx => h x (List.mem_cons_of_mem _ hx))

theorem rs_validate_ranks_eq (p : List Char) (fuel : Nat)
    (h : ∀ r ∈ splitOnChar '/' p, (∀ c ∈ r, c.toNat < 128) ∧ r.length ≤ fuel ∧ r.length ≤ 400000000) :
    Rs.Fen.validate_ranks p fuel = some (ranksResult p) := by
  unfold Rs.Fen.validate_ranks ranksResult
  rw [strSplit_eq, rs_map_find fuel _ h]
  simp only [Option.bind_eq_bind, Option.bind_some, Option.pure_def]
  cases (splitOnChar '/' p).find? (fun r => (validateRank r).isSome) <;> rfl

theorem ranksResult_agrees (p : List Char) : VerdictIs (ranksResult p) (validateRanks p) := by
  unfold ranksResult validateRanks
  induction splitOnChar '/' p with
  | nil => rfl
  | cons r rs ih =>
    have := rankResult_agrees r
    rw [List.find?_cons, List.findSome?_cons]
    cases hv : validateRank r with
    | none => exact ih
    | some e => rwa [hv] at this

def groupIs {C M : Type} (get : C → Int → Option M) (range : M → Int × Int) (s : List Char) (caps : C) (i : Int) (x : List Char) : Prop :=
  ∃ m, get caps i = some m ∧ Rs.strSlice s (range m).1 (range m).2 = some x

/-- MAPPING ASSUMPTION for the opaque regex match (`Fen::parse` = `FEN_REGEX.captures`, `Captures::get`, `Match::range`): it behaves
like the hand translation `regexGroups` of the regex — no match exactly when `regexGroups` is `none` (the error carries the text),
otherwise groups 1–4 are present, groups 5 and 6 are present iff the text has clocks, and every group is a byte range of the text
slicing to the field. -/
structure RegexModel {C M : Type} (parse : List Char → Except Rs.FenParseError C) (get : C → Int → Option M)
    (range : M → Int × Int) : Prop where
  reject : ∀ s, regexGroups s = none → parse s = .error (.InvalidCapture s)
  accept : ∀ s p c k e cl, regexGroups s = some (p, c, k, e, cl) → ∃ caps, parse s = .ok caps ∧
    groupIs get range s caps 1 p ∧ groupIs get range s caps 2 [c] ∧ groupIs get range s caps 3 k ∧ groupIs get range s caps 4 e ∧
    (match cl with
     | none => get caps 5 = none ∧ get caps 6 = none
     | some (h, f) => groupIs get range s caps 5 h ∧ groupIs get range s caps 6 f)

theorem rs_fen_from_str_startpos {C M : Type} (parse : List Char → Except Rs.FenParseError C) (get : C → Int → Option M)
    (range : M → Int × Int) (dflt : Rs.Fen) (fuel : Nat) :
    Rs.Fen.from_str "startpos".toList dflt parse get range fuel = some (.ok dflt) := by
  unfold Rs.Fen.from_str
  rw [if_pos (by decide)]
  rfl

/-- **`Fen::from_str` (translated) = the model `parseChars`** for every text other than the alias `startpos`, the regex match
being the opaque `parse` / `get` / `range` assumed to behave like `regexGroups` (`RegexModel`). -/
theorem rs_fen_from_str_eq {C M : Type} (parse : List Char → Except Rs.FenParseError C) (get : C → Int → Option M)
    (range : M → Int × Int) (hm : RegexModel parse get range) (dflt : Rs.Fen) (s : List Char) (hs : s ≠ "startpos".toList)
    (fuel : Nat) (hfuel : 8 ≤ fuel) :
    ∃ r, Rs.Fen.from_str s dflt parse get range fuel = some r ∧
      (match parseChars s with
       | .error e => ∃ err, r = .error err ∧ errKind err = e
       | .ok f => ∃ fen, r = .ok fen ∧ fen.fen = s ∧ FenView fen f) := by
  unfold Rs.Fen.from_str
  rw [if_neg (show ¬ s = ['s', 't', 'a', 'r', 't', 'p', 'o', 's'] from hs)]
  simp only []
  unfold parseChars
  cases hg : regexGroups s with
  | none =>
    rw [hm.reject s hg]
    exact ⟨_, rfl, _, rfl, rfl⟩
  | some g =>
    obtain ⟨p, c, k, e, cl⟩ := g
    obtain ⟨caps, hparse, ⟨m1, e1, s1⟩, ⟨m2, e2, s2⟩, ⟨m3, e3, s3⟩, ⟨m4, e4, s4⟩, g56⟩ := hm.accept s p c k e cl hg
    obtain ⟨hshape, -, -, -, hcl⟩ := FenRoundtrip.regexGroups_some hg
    have hranks : ∀ r ∈ splitOnChar '/' p, (∀ c ∈ r, c.toNat < 128) ∧ r.length ≤ fuel ∧ r.length ≤ 400000000 := fun r hr => by
      obtain ⟨hascii, h8⟩ := (shape_ranks hshape).2 r hr
      exact ⟨hascii, by omega, by omega⟩
    simp only [hparse, e1, Rs.optMapM, s1, Option.map_some, Option.bind_eq_bind, Option.bind_some, rs_validate_ranks_eq p fuel hranks]
    have hag := ranksResult_agrees p
    cases hvr : validateRanks p with
    | some e' =>
      rw [hvr] at hag
      obtain ⟨err, he1, he2⟩ := hag
      rw [he1]
      exact ⟨_, rfl, err, rfl, he2⟩
    | none =>
      rw [hvr] at hag
      rw [show ranksResult p = .ok () from hag]
      cases cl with
      | none =>
        simp only [Rs.Fen.from_str.for_1, g56.1, g56.2, Option.map_none, Option.pure_def, Option.bind_some, e2, e3, e4, Option.map_some]
        exact ⟨_, rfl, _, rfl, rfl, ⟨s1, s2, s3, s4, ⟨['0'], rfl, by decide, rfl⟩, ⟨['1'], rfl, by decide, rfl⟩⟩⟩
      | some hf =>
        obtain ⟨hh, ff⟩ := hf
        obtain ⟨⟨m5, e5, s5⟩, ⟨m6, e6, s6⟩⟩ := g56
        obtain ⟨-, hne, hall, fne, fall⟩ := hcl
        simp only [Rs.Fen.from_str.for_1, e5, e6, s5, s6, Option.bind_eq_bind, Option.bind_some, parseU32_digits hh hne hall,
          parseU32_digits ff fne fall, Option.pure_def, e2, e3, e4, Option.map_some]
        cases hc5 : clockOk hh with
        | false => exact ⟨_, rfl, _, rfl, rfl⟩
        | true =>
          cases hc6 : clockOk ff with
          | false => exact ⟨_, rfl, _, rfl, rfl⟩
          | true => exact ⟨_, rfl, _, rfl, rfl, ⟨s1, s2, s3, s4, ⟨hh, s5, hc5, rfl⟩, ⟨ff, s6, hc6, rfl⟩⟩⟩

#print axioms rs_validate_ranks_eq
#print axioms rs_validate_rank_fuel
#print axioms rs_fen_from_str_eq
#print axioms rs_fen_from_str_startpos

/-! non-vacuity: `from_str` run on concrete texts with a toy regex oracle (`C` = the list of group ranges, `M` = a range) -/
def toyGet (caps : List (Option (Int × Int))) (i : Int) : Option (Int × Int) := (caps[i.toNat]?).getD none
def toyParse (s : List Char) : Except Rs.FenParseError (List (Option (Int × Int))) :=
  if s = exFen.fen then .ok [some (0, 56), some (0, 26), some (27, 28), some (29, 31), some (32, 34), some (35, 45), some (46, 56)]
  else if s = exFen4.fen then .ok [some (0, 25), some (0, 19), some (20, 21), some (22, 23), some (24, 25), none, none]
  else if s = "8/8/8/8/8/8/8/44 w - - 0 1".toList then .ok [some (0, 26), some (0, 16), some (17, 18), some (19, 20), some (21, 22), some (23, 24), some (25, 26)]
  else if s = "8/8/8/8/8/8/8/8 w - - 0 4294967296".toList then .ok [some (0, 34), some (0, 15), some (16, 17), some (18, 19), some (20, 21), some (22, 23), some (24, 34)]
  else .error (.InvalidCapture s)

example : Rs.Fen.from_str exFen.fen exFen4 toyParse toyGet id 8 = some (.ok exFen) := by rfl
example : Rs.Fen.from_str exFen4.fen exFen toyParse toyGet id 8 = some (.ok exFen4) := by rfl
example : Rs.Fen.from_str "8/8/8/8/8/8/8/44 w - - 0 1".toList exFen toyParse toyGet id 8 = some (.error (.ConcurrentNumbers ['4', '4'])) := by
  rfl
/-- the clock check `parse::<u32>().is_err()`: a clock beyond `u32` is an `InvalidCapture`, not a later panic of the decoder -/
example : Rs.Fen.from_str "8/8/8/8/8/8/8/8 w - - 0 4294967296".toList exFen toyParse toyGet id 8
    = some (.error (.InvalidCapture "8/8/8/8/8/8/8/8 w - - 0 4294967296".toList)) := by rfl
example : Rs.Fen.from_str "x".toList exFen toyParse toyGet id 8 = some (.error (.InvalidCapture ['x'])) := by rfl

end Inkayaku.Translated
