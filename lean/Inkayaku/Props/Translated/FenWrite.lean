import Inkayaku.Model.FenBoard
import Inkayaku.Gen.Rs.FenWrite
import Inkayaku.Props.Translated.PlayerState
import Inkayaku.Props.Translated.FenFromStr
import Inkayaku.Props.Translated.Square
/-! The FEN writer `From<&Bitboard> for Fen` (board/src/board.rs).

Generated module `FenWrite`: `PlayerState.find_piece_struct_by_square_mask`, `Bitboard.get_colored_piece`, `square_to_string`,
`Fen.from` (two nested range loops `Fen.from.for_1` / `.for_2`: empty-run counting, piece letters; side, castling letters in `KQkq`
order, e.p. square text, clocks via `uintToString`; the final `result.parse().unwrap()` is the translated `Fen.from_str`).
The constants of `inkayaku_core::constants` (`Square::VALUES`, `Piece::VALUES`, `ColoredPiece::VALUES`) are OPAQUE: `PieceTables`
states what the opaque accessors are assumed to return (the piece letters of `ColoredPiece`).

`rs_get_colored_piece_eq`: the piece letter the writer pushes for a square = the model's `coloredPiece` (including the
`panic!()` arm for a square occupied by both colours).  The loop invariants `rs_for_2` (files of a rank: accumulator + pending empty
run of the Rust after the loop = what the model's `printRank`, a recursion without accumulator, renders) and `rs_for_1` (ranks,
`printRanks`); and `rs_fen_write_eq`, under the mapping assumptions `RegexModel` (regex of `Fen::from_str`), `PieceTables` and `SquareTables`
(opaque constants of `inkayaku_core`).  The composition with the translated reader is `rs_fen_roundtrip` in `FenRoundtrip.lean`. -/

namespace Inkayaku.Translated
open Inkayaku.Board Inkayaku.FenSyntax Inkayaku.FenBoard

/-- MAPPING ASSUMPTION for the opaque piece constants: `Piece::from_index(k)` is `Some` exactly for `1 ≤ k ≤ 6`, and the FEN letter
of `to_white()` / `to_black()` of that piece is the upper / lower case letter of the kind -/
structure PieceTables {P CP : Type} (fromIndex : Int → Option P) (toWhite toBlack : P → CP) (fen : CP → Char) : Prop where
  none0 : fromIndex 0 = none
  some : ∀ k : Nat, 1 ≤ k → k ≤ 6 → ∃ pc, fromIndex (k : Int) = some pc ∧ fen (toWhite pc) = pieceFenChar k true
    ∧ fen (toBlack pc) = pieceFenChar k false

theorem rs_find_piece {P : Type} (fromIndex : Int → Option P) (s : Side) (m : UInt64) :
    Rs.PlayerState.find_piece_struct_by_square_mask (toRsSide s).occupancy m fromIndex = some (fromIndex ((s.pieceAtMask m : Nat) : Int)) := by
  have h : s.pieceAtMask m < 18446744073709551616 := Nat.lt_of_le_of_lt (pieceAtMask_le s m) (by decide)
  unfold Rs.PlayerState.find_piece_struct_by_square_mask
  simp only [rs_eval, h]

/-- **`Bitboard::get_colored_piece` (translated) = the model's `coloredPiece`**: `none` (panic) iff both colours occupy the square,
otherwise the piece whose FEN letter is the model's -/
theorem rs_get_colored_piece_eq {S P CP : Type} (mask : S → UInt64) (fromIndex : Int → Option P) (toWhite toBlack : P → CP)
    (fen : CP → Char) (ht : PieceTables fromIndex toWhite toBlack fen) (b : Board) (q : S) (sq : Nat) (hq : mask q = bitU sq) :
    (Rs.Bitboard.get_colored_piece (toRsSide b.white) (toRsSide b.black) q mask fromIndex toWhite toBlack).map (fun o => o.map fen)
      = coloredPiece b sq := by
  unfold Rs.Bitboard.get_colored_piece coloredPiece
  rw [rs_find_piece, rs_find_piece, hq]
  simp only [Option.bind_eq_bind, Option.bind_some]
  simp only [Side.pieceAt]
  have hw := pieceAtMask_le b.white (bitU sq)
  have hb := pieceAtMask_le b.black (bitU sq)
  have z : ((0 : Nat) : Int) = 0 := rfl
  by_cases hw0 : b.white.pieceAtMask (bitU sq) = 0 <;> by_cases hb0 : b.black.pieceAtMask (bitU sq) = 0
  · simp [hw0, hb0, z, ht.none0]
  · obtain ⟨pc, h1, _, h3⟩ := ht.some _ (by omega) hb
    simp [hw0, z, ht.none0, h1, h3, hb0]
  · obtain ⟨pc, h1, h2, _⟩ := ht.some _ (by omega) hw
    simp [hb0, z, ht.none0, h1, h2, hw0]
  · obtain ⟨pw, h1, _, _⟩ := ht.some _ (by omega) hw
    obtain ⟨pb, h2, _, _⟩ := ht.some _ (by omega) hb
    simp [h1, h2, hw0, hb0]

#print axioms rs_get_colored_piece_eq

/-- non-vacuity of `PieceTables`: pieces as their kind, coloured pieces as their FEN letter -/
example : PieceTables (P := Nat) (CP := Char) (fun i => if 1 ≤ i ∧ i ≤ 6 then some i.toNat else none)
    (fun k => pieceFenChar k true) (fun k => pieceFenChar k false) id :=
  ⟨by decide, fun k h1 h6 => ⟨k, by simp; omega, rfl, rfl⟩⟩

/-- MAPPING ASSUMPTION for the opaque `Square` constants: `Square::from_index(i)` is `Some` for `i < 64`, its `mask` is the
one-bit mask of the index and its `fen()` text is the model's `squareString` -/
structure SquareTables {S : Type} (fromIndex : Int → Option S) (mask : S → UInt64) (fen : S → List Char) : Prop where
  some : ∀ i : Nat, i < 64 → ∃ q, fromIndex (i : Int) = some q ∧ mask q = bitU i ∧ fen q = (squareString i).toList

/-- `if consecutive_empty > 0 { result.push(from_digit(consecutive_empty, 10).unwrap()) }`: the pending run of empty squares is
written out as the model writes it (in the files loop before a piece letter, in the ranks loop at the end of a rank); the left side
is the form `rs_eval` brings the statement to -/
theorem rs_flush (result : List Char) (e : Nat) (h : e ≤ 9) :
    (if 0 < e then (Rs.fromDigit10 (e : Int)).bind fun c => some (result ++ [c]) else some result)
      = some (result ++ (if e > 0 then natToChars e else [])) := by
  obtain ⟨hd1, hd2⟩ := fromDigit10_nat e h
  by_cases he0 : 0 < e
  · simp only [he0, hd1, hd2, if_true, Option.bind_some]
  · simp only [he0, if_false, List.append_nil]

section loops
variable {S P CP : Type} (fromIndex : Int → Option S) (mask : S → UInt64) (sqfen : S → List Char)
  (pfromIndex : Int → Option P) (toWhite toBlack : P → CP) (fen : CP → Char)

/-- the inner loop (files of one rank): the accumulator and the pending empty-run of the Rust after the loop, against the model's
`printRank` (which renders the pending run at the end) -/
theorem rs_for_2 (hs : SquareTables fromIndex mask sqfen) (ht : PieceTables pfromIndex toWhite toBlack fen) (b : Board)
    (rank : Nat) (hr : rank < 8) :
    ∀ (n file empty : Nat) (result s : List Char) (fuel : Nat), file + n = 8 → empty ≤ file → n + 1 ≤ fuel →
      printRank b rank n file empty = some s →
      ∃ (r : List Char) (e : Nat), Rs.Fen.from.for_2 (toRsSide b.white) (toRsSide b.black) fromIndex mask pfromIndex toWhite toBlack fen
          (rank : Int) 8 fuel (file : Int) result (empty : Int) = some ((8 : Int), r, (e : Int)) ∧ e ≤ 8 ∧
        result ++ s = r ++ (if e > 0 then natToChars e else []) := by
  intro n
  induction n with
  | zero =>
    intro file empty result s fuel hfn he hfuel hp
    obtain ⟨fuel, rfl⟩ : ∃ k, fuel = k + 1 := ⟨fuel - 1, by omega⟩
    have hf : file = 8 := by omega
    subst hf
    rw [Rs.Fen.from.for_2, if_neg (by omega)]
    simp only [printRank, Option.some.injEq] at hp
    subst hp
    exact ⟨result, empty, rfl, he, rfl⟩
  | succ n ih =>
    intro file empty result s fuel hfn he hfuel hp
    obtain ⟨fuel, rfl⟩ : ∃ k, fuel = k + 1 := ⟨fuel - 1, by omega⟩
    rw [Rs.Fen.from.for_2, if_pos (by omega), rs_from_indices, if_pos ⟨by omega, hr⟩, Nat.mul_comm rank]
    obtain ⟨q, hq1, hq2, _⟩ := hs.some (file + 8 * rank) (by omega)
    have hcp := rs_get_colored_piece_eq mask pfromIndex toWhite toBlack fen ht b q _ hq2
    rw [printRank] at hp
    simp only [Option.bind_eq_bind, Option.bind_some, hq1]
    cases hg : Rs.Bitboard.get_colored_piece (toRsSide b.white) (toRsSide b.black) q mask pfromIndex toWhite toBlack with
    | none => rw [hg] at hcp; rw [← hcp] at hp; cases hp
    | some o =>
      rw [hg] at hcp
      rw [← hcp] at hp
      cases o with
      | none =>
        simp only [Option.map_some, Option.map_none] at hp
        simp only [rs_eval, show empty + 1 < 4294967296 by omega]
        exact ih (file + 1) (empty + 1) result s fuel (by omega) (by omega) (by omega) hp
      | some pc =>
        simp only [Option.map_some] at hp
        cases hrest : printRank b rank n (file + 1) 0 with
        | none => rw [hrest] at hp; cases hp
        | some rest =>
          rw [hrest] at hp
          simp only [Option.some.injEq] at hp
          subst hp
          simp only [rs_eval, rs_flush result empty (by omega)]
          obtain ⟨r, e, h1, h2, h3⟩ := ih (file + 1) 0 (result ++ (if empty > 0 then natToChars empty else []) ++ [fen pc]) rest fuel
            (by omega) (by omega) (by omega) hrest
          refine ⟨r, e, by simpa only [Int.natCast_zero] using h1, h2, ?_⟩
          rw [← h3]; simp only [List.append_assoc, List.cons_append, List.nil_append]

theorem rs_for_1 (hs : SquareTables fromIndex mask sqfen) (ht : PieceTables pfromIndex toWhite toBlack fen) (b : Board) :
    ∀ (n rank : Nat) (result s : List Char) (fuel : Nat), rank + n = 8 → n + 9 ≤ fuel →
      printRanks b n rank = some s →
      Rs.Fen.from.for_1 (toRsSide b.white) (toRsSide b.black) fromIndex mask pfromIndex toWhite toBlack fen 8 fuel (rank : Int) result
        = some ((8 : Int), result ++ s) := by
  intro n
  induction n with
  | zero =>
    intro rank result s fuel hrn hfuel hp
    obtain ⟨fuel, rfl⟩ : ∃ k, fuel = k + 1 := ⟨fuel - 1, by omega⟩
    have hf : rank = 8 := by omega
    subst hf
    rw [Rs.Fen.from.for_1, if_neg (by omega)]
    simp only [printRanks, Option.some.injEq] at hp
    subst hp
    simp only [List.append_nil]; rfl
  | succ n ih =>
    intro rank result s fuel hrn hfuel hp
    obtain ⟨fuel, rfl⟩ : ∃ k, fuel = k + 1 := ⟨fuel - 1, by omega⟩
    rw [printRanks] at hp
    cases h1 : printRank b rank 8 0 0 with
    | none => rw [h1] at hp; cases hp
    | some r1 =>
      cases h2 : printRanks b n (rank + 1) with
      | none => rw [h1, h2] at hp; cases hp
      | some rest =>
        rw [h1, h2] at hp
        simp only [Option.some.injEq] at hp
        subst hp
        obtain ⟨r, e, g1, g2, g3⟩ := rs_for_2 fromIndex mask sqfen pfromIndex toWhite toBlack fen hs ht b rank (by omega) 8 0 0 result r1 fuel
          (by omega) (by omega) (by omega) h1
        rw [Rs.Fen.from.for_1, if_pos (by omega)]
        simp only [Int.natCast_zero] at g1
        simp only [Option.bind_eq_bind, g1, Option.bind_some]
        simp only [rs_eval, rs_flush r e (by omega), ← g3]
        have := ih (rank + 1) (result ++ r1 ++ (if rank < 7 then ['/'] else [])) rest fuel (by omega) (by omega) h2
        by_cases h7 : rank < 7
        all_goals
          simp only [rs_eval, h7, List.append_nil] at this ⊢
          rw [this]
          simp only [List.append_assoc]

end loops

theorem castle_letters (wk wq bk bq : Bool) :
    (([('K', wk), ('Q', wq), ('k', bk), ('q', bq)] : List (Char × Bool)).filter (fun t => t.2)).map (fun t => t.1)
      = (if wk then ['K'] else []) ++ (if wq then ['Q'] else []) ++ (if bk then ['k'] else []) ++ (if bq then ['q'] else []) := by
  cases wk <;> cases wq <;> cases bk <;> cases bq <;> rfl

theorem castle_rs (w bl : Side) :
    (([('K', (toRsSide w).king_side_castle), ('Q', (toRsSide w).queen_side_castle), ('k', (toRsSide bl).king_side_castle),
        ('q', (toRsSide bl).queen_side_castle)] : List (Char × Bool)).filter (fun t => t.2)).map (fun t => t.1)
      = (if w.ks then ['K'] else []) ++ (if w.qs then ['Q'] else []) ++ (if bl.ks then ['k'] else []) ++ (if bl.qs then ['q'] else []) :=
  castle_letters _ _ _ _

theorem rs_square_to_string {S : Type} (fromIndex : Int → Option S) (mask : S → UInt64) (sqfen : S → List Char)
    (hs : SquareTables fromIndex mask sqfen) (ep : Nat) (h : ep < 64) :
    Rs.square_to_string (ep : Int) fromIndex sqfen = some (squareString ep).toList := by
  unfold Rs.square_to_string
  obtain ⟨q, h1, _, h3⟩ := hs.some ep h
  rw [Rs.cast_usize (by omega) (by omega), h1]
  simp only [Option.pure_def, h3]

/-- **the FEN writer `From<&Bitboard> for Fen` (translated) = the model printer `printFen`**: whenever the model prints `s`
(i.e. no square is occupied by both colours and the text passes the grammar again), the translated writer does not panic and returns
a `Fen` value whose text is `s` (and whose fields are those the model parser reads off `s`). -/
theorem rs_fen_write_eq {S P CP C M : Type} (fromIndex : Int → Option S) (mask : S → UInt64) (sqfen : S → List Char)
    (pfromIndex : Int → Option P) (toWhite toBlack : P → CP) (fen : CP → Char)
    (parse : List Char → Except Rs.FenParseError C) (get : C → Int → Option M) (range : M → Int × Int)
    (hs : SquareTables fromIndex mask sqfen) (ht : PieceTables pfromIndex toWhite toBlack fen) (hm : RegexModel parse get range)
    (dflt : Rs.Fen) (fuel : Nat) (hfuel : 17 ≤ fuel) (b : Board) (hep : b.ep < 64) (s : String) (hp : printFen b = some s) :
    ∃ fn f, Rs.Fen.from (toRsSide b.white) (toRsSide b.black) (b.turn : Int) (b.ep : Int) (b.fullmove : Int) (b.halfmove : Int)
        fromIndex mask pfromIndex toWhite toBlack fen fromIndex sqfen dflt parse get range fuel = some fn
      ∧ fn.fen = s.toList ∧ parseChars s.toList = .ok f ∧ FenView fn f := by
  unfold printFen at hp
  cases h1 : printRanks b 8 0 with
  | none => rw [h1] at hp; cases hp
  | some placement =>
    rw [h1] at hp
    simp only [] at hp
    split at hp
    · rename_i f hf
      simp only [Option.some.injEq] at hp
      subst hp
      rw [String.toList_ofList]
      obtain ⟨r, e1, e2⟩ := rs_fen_from_str_eq parse get range hm dflt _ (parseChars_ok_ne_startpos hf) fuel (by omega)
      rw [hf] at e2
      obtain ⟨fn, rfl, e3, e4⟩ := e2
      refine ⟨fn, f, ?_, e3, hf, e4⟩
      unfold Rs.Fen.from
      have l1 := rs_for_1 fromIndex mask sqfen pfromIndex toWhite toBlack fen hs ht b 8 0 [] placement fuel (by omega) (by omega) h1
      simp only [Int.natCast_zero, List.nil_append] at l1
      simp only [Option.bind_eq_bind, l1, Option.bind_some, rs_is_white_turn_eq, Option.pure_def, castle_rs]
      have hturn : (if (b.turn == 0) = true then some 'w' else some 'b') = some (if b.whiteTurn then 'w' else 'b') := by
        unfold Board.whiteTurn; cases (b.turn == 0) <;> rfl
      rw [hturn]
      simp only [Option.bind_some]
      generalize ((((if b.white.ks = true then ['K'] else []) ++ if b.white.qs = true then ['Q'] else []) ++
        if b.black.ks = true then ['k'] else []) ++ if b.black.qs = true then ['q'] else []) = castle at hf e1 e3 ⊢
      have hepe : ∀ res : List Char, (if (b.ep : Int) = Rs.NO_SQUARE then some (res ++ [Char.ofNat 32] ++ ['-'])
          else (Rs.square_to_string (b.ep : Int) fromIndex sqfen).bind fun p6 => some (res ++ [Char.ofNat 32] ++ p6))
          = some (res ++ [' '] ++ (if (b.ep == 0) = true then ['-'] else (squareString b.ep).toList)) := by
        intro res
        rw [rs_square_to_string fromIndex mask sqfen hs b.ep hep]
        unfold Rs.NO_SQUARE
        by_cases h0 : b.ep = 0
        · rw [if_pos (by omega), h0]; rfl
        · rw [if_neg (by omega), if_neg (by simpa using h0)]; rfl
      have hc : ∀ res : List Char, (if castle.isEmpty = true then some (res ++ ['-']) else some (res ++ castle))
          = some (res ++ (if castle.isEmpty = true then ['-'] else castle)) := by
        intro res; split <;> rfl
      rw [hc, Option.bind_some, hepe, Option.bind_some, rs_uintToString, rs_uintToString]
      have ht : placement ++ [Char.ofNat 32] ++ [if b.whiteTurn = true then 'w' else 'b'] ++ [Char.ofNat 32] ++
            (if castle.isEmpty = true then ['-'] else castle) ++ [' '] ++
            (if (b.ep == 0) = true then ['-'] else (squareString b.ep).toList) ++ [Char.ofNat 32] ++ natToChars b.halfmove ++ [Char.ofNat 32] ++
            natToChars b.fullmove
          = (((placement ++ [' ', if b.whiteTurn = true then 'w' else 'b', ' '] ++ if castle.isEmpty = true then ['-'] else castle) ++
                  [' '] ++ if (b.ep == 0) = true then ['-'] else (squareString b.ep).toList) ++ [' '] ++ natToChars b.halfmove ++ [' '] ++
            natToChars b.fullmove) := by
        simp only [List.append_assoc, List.cons_append, List.nil_append]
      rw [ht, e1]; rfl
    · cases hp

#print axioms rs_for_2
#print axioms rs_for_1
#print axioms rs_fen_write_eq

/-- non-vacuity of `SquareTables`: squares as their index -/
example : SquareTables (S := Nat) (fun i => if 0 ≤ i ∧ i < 64 then some i.toNat else none) bitU (fun i => (squareString i).toList) :=
  ⟨fun i h => ⟨i, by simp; omega, rfl, rfl⟩⟩

end Inkayaku.Translated
