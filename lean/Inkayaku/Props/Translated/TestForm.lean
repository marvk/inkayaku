import Inkayaku.Props.Translated.TestAttr

namespace Inkayaku.Translated

@[rs_test] theorem ite_ne0 (x : UInt64) {α : Sort _} (a b : α) :
    (if x ≠ 0 then a else b) = if (x != 0) = true then a else b := by
  by_cases h : x = 0 <;> simp [h]

@[rs_test] theorem ite_eq0 (x : UInt64) {α : Sort _} (a b : α) :
    (if x = 0 then a else b) = if (x == 0) = true then a else b := by
  by_cases h : x = 0 <;> simp [h]

@[rs_test] theorem ne_zero_iff (x : UInt64) : (decide (x ≠ (0 : UInt64))) = (x != 0) := by
  by_cases h : x = 0 <;> simp [h]

theorem decide_eq0 (x : UInt64) : decide (x = 0) = (x == 0) := by
  by_cases h : x = 0 <;> simp [h]

@[rs_test] theorem decide_natCast_eq (t n : Nat) : decide ((t : Int) = (n : Int)) = (t == n) := by
  by_cases h : t = n
  · subst h; simp
  · have : ¬ ((t : Int) = (n : Int)) := by omega
    simp [h, this]

@[rs_test] theorem ite_natCast_eq (c n : Nat) {α : Sort _} (a b : α) :
    (if (c : Int) = (n : Int) then a else b) = if (c == n) = true then a else b := by
  rw [← decide_natCast_eq]
  by_cases h : (c : Int) = (n : Int) <;> simp [h]

end Inkayaku.Translated
