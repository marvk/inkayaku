import Inkayaku.Model.Board
import Inkayaku.Gen.Rs.MoveCtor
import Inkayaku.Props.Translated.MoveBits
import Inkayaku.Props.Translated.PlayerState
/-! The move constructor of the generator: `Bitboard::make_move`, `Bitboard::mvv_lva`, `PIECE_VALUES`,
`PlayerState::{get_piece_const_by_square_shift, get_piece_const_by_square_mask}` (board/src/board.rs; generated module `MoveCtor`)
= `Board.mkMove`, `mvvLva`, `pieceValues`, `Side.pieceAt`, `Side.pieceAtMask` (Model/Board.lean)

`make_move` computes, at GENERATION time, all side effects of a move (captured piece, lost castling rights of both sides,
half-move reset, previous clock / e.p. square, the e.p. victim square) and packs them with the setters of `impl Move`; it
pushes the move onto `result: &mut Vec<Move>` unless the capture/promotion-only generator asked for it and it is quiet.

Translation: `result` is an in/out parameter, a `List (UInt64 × Int)` of PACKED moves (`(bits, mvvlva)`; `Move` is a
flattened struct in bit-manipulating functions); the local `mv` is the pair of variables `mv_bits`, `mv_mvvlva`.

`rs_make_move_ctor_eq`: for piece codes ≤ 6 the translated function never panics and appends exactly the model's move
(`mkMove`), provided the square looked up for the captured piece is on the board (`hatt`) and — black to move, e.p. — the
`u32` subtraction `target - 8` does not underflow (`hep`); these are the exact panic conditions.
-/

namespace Inkayaku.Translated
open Inkayaku.Board Inkayaku.Gen Inkayaku.MoveBits

/-- the packed form of a move in the translated generator: the fields of `struct Move` in declaration order -/
def encMove (m : Board.Move) : UInt64 × Int := (m.bits, m.mvvlva)

theorem rs_mvv_lva (piece attacked : Nat) (hp : piece ≤ 6) (ha : attacked ≤ 6) :
    Rs.Bitboard.mvv_lva piece.toUInt64 attacked.toUInt64 = some (mvvLva piece attacked) := by
  have : piece = 0 ∨ piece = 1 ∨ piece = 2 ∨ piece = 3 ∨ piece = 4 ∨ piece = 5 ∨ piece = 6 := by omega
  have : attacked = 0 ∨ attacked = 1 ∨ attacked = 2 ∨ attacked = 3 ∨ attacked = 4 ∨ attacked = 5 ∨ attacked = 6 := by omega
  rcases ‹piece = 0 ∨ _› with h | h | h | h | h | h | h <;> subst h <;>
  rcases ‹attacked = 0 ∨ _› with h | h | h | h | h | h | h <;> subst h <;> decide

theorem flagBits_eq_zero (c : Bool) : (flagBits c enPassantAttackTrueMask = (0 : UInt64)) ↔ c = false := by
  cases c <;> decide

/-- `flag && square == X` with a right operand that can panic: `if flag { X checked } else { false }` -/
theorem and_some (c d : Bool) : (if c = true then some d else some false) = some (c && d) := by cases c <;> rfl

/-- `a == X || a == Y` with short-circuit evaluation -/
theorem ite_true_or (s n m : Nat) : (if (s == n) = true then some true else some (s == m)) = some (s == n || s == m) := by
  cases (s == n) <;> rfl

theorem if_flag (P : Prop) [Decidable P] (x : UInt64) (m : Nat) :
    (if P then some (x ||| m.toUInt64) else some x) = some (x ||| flagBits (decide P) m) := by
  by_cases h : P <;> simp [h, flagBits]

theorem if_flag2 (oq c : Bool) (x : UInt64) (q k : Nat) :
    (if oq = true then some (x ||| q.toUInt64) else some (x ||| flagBits c k)) =
      some (x ||| flagBits oq q ||| flagBits (!oq && c) k) := by
  cases oq <;> cases c <;> simp [flagBits]

theorem rs_make_move_ctor_eq (b : Board) (result : List (UInt64 × Int)) (nq : Bool) (src tgt piece : Nat) (castle ep : Bool)
    (promo epOpp : Nat) (hp : piece ≤ 6) (hpr : promo ≤ 6)
    (hatt : (if b.whiteTurn then tgt + (if ep then 8 else 0) else tgt - (if ep then 8 else 0)) < 64)
    (hep : b.whiteTurn = false → ep = true → 8 ≤ tgt) :
    Rs.Bitboard.make_move (toRsSide b.white) (toRsSide b.black) b.turn b.ep b.halfmove result nq src tgt piece.toUInt64
        (flagBits castle castleMoveTrueMask) (flagBits ep enPassantAttackTrueMask) promo.toUInt64 epOpp =
      some (result ++ (mkMove b nq src tgt piece castle ep promo epOpp).toList.map encMove) := by
  -- the colour only chooses the two sides, the offset `d` of the castling squares and the sign of the e.p. offset
  have hpre : (if b.whiteTurn = true then
          (Rs.chk Rs.Ty.u32 (↑tgt + if ep = false then 0 else 8)).bind fun attack_square_shift =>
            some (toRsSide b.white, toRsSide b.black, (0 : Int), attack_square_shift)
        else
          (Rs.chk Rs.Ty.u32 (↑tgt - if ep = false then 0 else 8)).bind fun attack_square_shift =>
            some (toRsSide b.black, toRsSide b.white, 56, attack_square_shift)) =
      some (toRsSide b.active, toRsSide b.passive, (((if b.whiteTurn then 0 else 56 : Nat)) : Int),
        (((if b.whiteTurn then tgt + (if ep then 8 else 0) else tgt - (if ep then 8 else 0) : Nat)) : Int)) := by
    unfold Board.active Board.passive
    cases hw : b.whiteTurn <;> cases he : ep
    all_goals
      rw [hw, he] at hatt
      simp only [Bool.false_eq_true, Bool.true_eq_false, if_false, if_true, Nat.add_zero, Nat.sub_zero, Int.add_zero,
        Int.sub_zero] at hatt ⊢
    · simp only [rs_eval, show tgt < 4294967296 by omega]
      rfl
    · -- black captures en passant: the only subtraction that can underflow
      have h8 := hep hw he
      simp only [rs_eval, h8, show tgt - 8 < 4294967296 by omega]
      rfl
    · simp only [rs_eval, show tgt < 4294967296 by omega]
      rfl
    · simp only [rs_eval, show tgt + 8 < 4294967296 by omega]
      rfl
  have hd : A8 + (if b.whiteTurn then 0 else 56) < 4294967296 ∧ H8 + (if b.whiteTurn then 0 else 56) < 4294967296 ∧
      (if b.whiteTurn then 0 else 56) ≤ A1 ∧ A1 - (if b.whiteTurn then 0 else 56) < 4294967296 ∧
      (if b.whiteTurn then 0 else 56) ≤ E1 ∧ E1 - (if b.whiteTurn then 0 else 56) < 4294967296 ∧
      (if b.whiteTurn then 0 else 56) ≤ H1 ∧ H1 - (if b.whiteTurn then 0 else 56) < 4294967296 := by
    cases b.whiteTurn <;> decide
  have hatt6 := pieceAtMask_le b.passive (bitU (if b.whiteTurn then tgt + (if ep then 8 else 0) else tgt - (if ep then 8 else 0)))
  change b.passive.pieceAt _ ≤ 6 at hatt6
  unfold Rs.Bitboard.make_move mkMove
  simp only [rs_eval, flagBits_eq_zero, show (b.turn == 0) = b.whiteTurn from rfl]
  rw [hpre]
  simp only [rs_eval, hatt, hd, rs_test, and_some, ite_true_or]
  generalize b.passive.pieceAt (if b.whiteTurn then tgt + (if ep then 8 else 0) else tgt - (if ep then 8 else 0)) = att at hatt6 ⊢
  simp only [rs_mvv_lva piece att hp hatt6, rs_eval, or_flag]
  simp only [if_flag, ne_eq, toUInt64_eq_iff att NO_PIECE (by omega) (by decide), toUInt64_eq_iff promo NO_PIECE (by omega) (by decide),
    toUInt64_eq_iff piece PAWN (by omega) (by decide)]
  simp only [if_flag2, Option.bind_some]
  by_cases hret : (att == NO_PIECE && promo == NO_PIECE && nq) = true
  · have : (decide (att = NO_PIECE) && decide (promo = NO_PIECE) && nq) = true := by simpa using hret
    rw [if_pos this, if_pos hret]; simp
  · have : ¬ (decide (att = NO_PIECE) && decide (promo = NO_PIECE) && nq) = true := by simpa using hret
    rw [if_neg this, if_neg hret]
    simp only [Option.toList, List.map, encMove, encode]
    have e1 : decide (piece = PAWN ∨ ¬att = NO_PIECE) = (piece == PAWN || att != NO_PIECE) := by
      by_cases h1 : piece = PAWN <;> by_cases h2 : att = NO_PIECE <;> simp [h1, h2]
    rw [e1]
    simp only [Bool.and_assoc]

#print axioms rs_make_move_ctor_eq

/-- the same in the accumulator style of the model's generator (`pushOpt`) -/
theorem rs_make_move_push (b : Board) (acc : List Board.Move) (nq : Bool) (src tgt piece : Nat) (castle ep : Bool)
    (promo epOpp : Nat) (hp : piece ≤ 6) (hpr : promo ≤ 6)
    (hatt : (if b.whiteTurn then tgt + (if ep then 8 else 0) else tgt - (if ep then 8 else 0)) < 64)
    (hep : b.whiteTurn = false → ep = true → 8 ≤ tgt) :
    Rs.Bitboard.make_move (toRsSide b.white) (toRsSide b.black) b.turn b.ep b.halfmove (acc.map encMove) nq src tgt piece.toUInt64
        (flagBits castle castleMoveTrueMask) (flagBits ep enPassantAttackTrueMask) promo.toUInt64 epOpp =
      some ((pushOpt acc (mkMove b nq src tgt piece castle ep promo epOpp)).map encMove) := by
  rw [rs_make_move_ctor_eq b _ nq src tgt piece castle ep promo epOpp hp hpr hatt hep]
  cases mkMove b nq src tgt piece castle ep promo epOpp <;> simp [pushOpt]

#print axioms rs_make_move_push

/-- without the e.p. flag the captured piece is looked up on the target square itself: no side condition but `tgt < 64` -/
@[rs_eval] theorem rs_make_move_push_plain (b : Board) (acc : List Board.Move) (nq : Bool) (src tgt piece : Nat) (castle : Bool)
    (promo epOpp : Nat) (hp : piece ≤ 6) (hpr : promo ≤ 6) (ht : tgt < 64) :
    Rs.Bitboard.make_move (toRsSide b.white) (toRsSide b.black) b.turn b.ep b.halfmove (acc.map encMove) nq src tgt piece.toUInt64
        (flagBits castle castleMoveTrueMask) (flagBits false enPassantAttackTrueMask) promo.toUInt64 epOpp =
      some ((pushOpt acc (mkMove b nq src tgt piece castle false promo epOpp)).map encMove) :=
  rs_make_move_push b acc nq src tgt piece castle false promo epOpp hp hpr (by cases b.whiteTurn <;> simpa using ht)
    (by intro _ h; cases h)

/-- the exact panic condition `hep`: black to move, e.p. flag, target on rank 8 — `target_square_shift - 8` underflows -/
theorem rs_make_move_panics (b : Board) (result : List (UInt64 × Int)) (nq : Bool) (src tgt : Nat) (piece castle promo : UInt64)
    (epOpp : Int) (hb : b.turn ≠ 0) (ht : tgt < 8) :
    Rs.Bitboard.make_move (toRsSide b.white) (toRsSide b.black) b.turn b.ep b.halfmove result nq src tgt piece
        castle (flagBits true enPassantAttackTrueMask) promo epOpp = none := by
  unfold Rs.Bitboard.make_move
  have hbeq : ¬ (b.turn == 0) = true := by simp [hb]
  have : Rs.chk .u32 ((tgt : Int) - 8) = none := Rs.chk_eq_none (Or.inl (by simp only [Rs.Ty.lo]; omega))
  simp only [rs_is_white_turn_eq, flagBits_eq_zero, Option.bind_eq_bind, Option.bind_some, Option.pure_def, hbeq, if_false,
    Bool.true_eq_false, this, Option.bind_none]
  rfl

/-! non-vacuity: 1. e2-e4 with pawns, rooks and kings on their initial squares (white to move: source 52, target 36, pawn, next e.p. square 44) -/
def ctorDemo : Board :=
  { white := { pawns := 0x00FF000000000000, rooks := 0x8100000000000000, kings := bitU 60, qs := true, ks := true },
    black := { pawns := 0x000000000000FF00, rooks := 0x0000000000000081, kings := bitU 4, qs := true, ks := true },
    turn := 0, ep := 0, fullmove := 1, halfmove := 0 }
example : (mkMove ctorDemo false 52 36 PAWN false false NO_PIECE 44).isSome = true := by decide +kernel
example : Rs.Bitboard.make_move (toRsSide ctorDemo.white) (toRsSide ctorDemo.black) 0 0 0 [] false 52 36 1 0 0 0 44 =
    some ((mkMove ctorDemo false 52 36 PAWN false false NO_PIECE 44).toList.map encMove) :=
  rs_make_move_ctor_eq ctorDemo [] false 52 36 PAWN false false NO_PIECE 44 (by decide) (by decide) (by decide) (by decide)

end Inkayaku.Translated
