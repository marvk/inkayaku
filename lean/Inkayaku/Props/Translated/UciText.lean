import Inkayaku.Gen.Rs.UciText
import Inkayaku.Props.Translated.FenWrite
import Inkayaku.Props.Translated.MoveBits
import Inkayaku.Model.Util
/-! UCI text of a move (property C13): `piece_to_string` (board/src/lib.rs), `Move::to_uci_string` (board/src/board.rs), `str::trim`
(generated module `UciText`) = `Board.pieceString`, `Move.uci` (Model/Board.lean), `Util.rustTrim` (Model/Util.lean)

`Square` / `Piece` (the data tables of `inkayaku_core::constants`) are opaque: `SquareTables` (`FenWrite.lean`) and `PieceLetters`
below state what the proofs need of them (`Square::from_index(i).fen` = the square name, `Piece::from_index(k).fen` = the lower-case
piece letter, `Piece::from_index(0)` = `None`). -/

namespace Inkayaku.Translated
open Inkayaku.Board Inkayaku.Gen Inkayaku.MoveBits

/-- the lower-case piece letter (`Piece::X.fen`) -/
def pieceLetter : Nat → Char
  | 1 => 'p' | 2 => 'n' | 3 => 'b' | 4 => 'r' | 5 => 'q' | _ => 'k'

/-- mapping assumption on the opaque `Piece` table: `Piece::from_index(0) = None`, `Piece::from_index(k).fen` = the letter of piece `k` -/
structure PieceLetters {P : Type} (fromIndex : Int → Option P) (fen : P → Char) : Prop where
  none0 : fromIndex 0 = none
  some : ∀ k : Nat, 1 ≤ k → k ≤ 6 → ∃ pc, fromIndex (k : Int) = some pc ∧ fen pc = pieceLetter k

theorem rs_str_trim (l : List Char) : Rs.strTrim l = Util.rustTrimChars l := rfl

theorem rs_str_trim_string (s : String) : Rs.strTrim s.toList = (Util.rustTrim s).toList := by
  rw [Util.rustTrim, String.toList_ofList]; rfl

theorem pieceString_cases (k : Nat) (h : k ≤ 6) :
    (pieceString k).toList = if k = 0 then [] else [pieceLetter k] := by
  have : ∀ k : Fin 7, (pieceString k.val).toList = if k.val = 0 then [] else [pieceLetter k.val] := by decide
  exact this ⟨k, by omega⟩

theorem rs_piece_to_string {P : Type} (fromIndex : Int → Option P) (fen : P → Char) (hp : PieceLetters fromIndex fen)
    (k : Nat) (h : k ≤ 6) :
    Rs.piece_to_string k.toUInt64 fromIndex fen = some (pieceString k).toList := by
  have h64 : k < 18446744073709551616 := by omega
  unfold Rs.piece_to_string
  simp only [rs_eval, h64]
  rw [pieceString_cases k h]
  by_cases h0 : k = 0
  · subst h0
    have h00 : fromIndex ((0 : Nat) : Int) = none := hp.none0
    rw [h00]
    rfl
  · obtain ⟨pc, h1, h2⟩ := hp.some k (by omega) h
    rw [h1, if_neg h0]
    simp only [h2]

/-- the hypotheses on `m` hold of every generated move: `rs_to_uci_string_generated` (`FindUci.lean`) -/
theorem rs_to_uci_string_eq {S P : Type} (fromIndex : Int → Option S) (mask : S → UInt64) (sqfen : S → List Char)
    (pfromIndex : Int → Option P) (pfen : P → Char) (hs : SquareTables fromIndex mask sqfen) (hp : PieceLetters pfromIndex pfen)
    (m : Board.Move) (h1 : m.f.source < 64) (h2 : m.f.target < 64) (h3 : m.f.promotion ≤ 6) :
    Rs.Move.to_uci_string m.bits fromIndex sqfen pfromIndex pfen = some m.uci.toList := by
  have e1 := rs_square_to_string fromIndex mask sqfen hs m.f.source h1
  have e2 := rs_square_to_string fromIndex mask sqfen hs m.f.target h2
  have e3 := rs_piece_to_string pfromIndex pfen hp m.f.promotion h3
  unfold Rs.Move.to_uci_string
  simp only [rs_eval, show decode m.bits = m.f from rfl, e1, e2, e3]
  simp only [Board.Move.uci, MoveF.uci, String.toList_append]

#print axioms rs_str_trim_string
#print axioms rs_piece_to_string
#print axioms rs_to_uci_string_eq

/-! non-vacuity: a table with the required properties exists (squares = indices, pieces = codes) -/
def demoSqFrom (i : Int) : Option Nat := if 0 ≤ i ∧ i < 64 then some i.toNat else none
def demoPcFrom (i : Int) : Option Nat := if 1 ≤ i ∧ i ≤ 6 then some i.toNat else none

theorem demo_square_tables : SquareTables demoSqFrom bitU (fun q => (squareString q).toList) :=
  ⟨fun i hi => ⟨i, by unfold demoSqFrom; rw [if_pos (by omega)]; simp, rfl, rfl⟩⟩
theorem demo_piece_letters : PieceLetters demoPcFrom pieceLetter :=
  ⟨by decide, fun k h1 h2 => ⟨k, by unfold demoPcFrom; rw [if_pos (by omega)]; simp, rfl⟩⟩

end Inkayaku.Translated
