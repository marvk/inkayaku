import Inkayaku.Model.Magic
import Inkayaku.Model.Board
import Inkayaku.Props.C04
import Inkayaku.Gen.Rs.Magic
import Inkayaku.Props.Translated.Basic
/-! `magic_hash`, `MagicConfiguration::{hash, get_attacks}` (board/src/board/precalculated/magic.rs) = `Inkayaku.Magic`

The generated functions work on `UInt64` (bit-manipulating translation mode), the model `Magic.magicIndex` / `lookup`
on `Nat` with an explicit `% 2^64`; the attack slice of a configuration is `attacksOf c` (the dump packs it into the
number `c.tbl`).  `get_unchecked` is translated as a checked access, so `rs_magic_get_attacks_eq` also shows that the
Rust access is in bounds whenever the model's index is (`C04.rook_correct` / `bishop_correct`: always).
-/
namespace Inkayaku.Translated
open Inkayaku.Rs Inkayaku.Magic Inkayaku.Gen

/-- the fields of a configuration are `u64` / shift values, as in the Rust struct -/
def CfgOk (c : MagicCfg) : Prop :=
  c.mask < 18446744073709551616 ∧ c.magic < 18446744073709551616 ∧ c.hmask < 18446744073709551616 ∧ c.hshift < 64

instance (c : MagicCfg) : Decidable (CfgOk c) := by unfold CfgOk; infer_instance

theorem rook_cfg_ok : ∀ sq, sq < 64 → CfgOk (rookCfg sq) := by decide
theorem bishop_cfg_ok : ∀ sq, sq < 64 → CfgOk (bishopCfg sq) := by decide

theorem rs_magic_hash_eq (c : MagicCfg) (h : CfgOk c) (occ : UInt64) :
    magic_hash c.mask.toUInt64 (c.hshift : Int) c.hmask.toUInt64 c.magic.toUInt64 occ =
      some ((magicIndex c occ.toNat : Nat) : Int) := by
  obtain ⟨h1, h2, h3, h4⟩ := h
  unfold magic_hash
  have hs : (0 : Int) ≤ (c.hshift : Int) ∧ (c.hshift : Int) < 64 := by omega
  simp only [u64Shr, u64OverflowingMul, hs, and_self, if_true, Option.bind_eq_bind, Option.bind_some, Option.pure_def, Int.toNat_natCast]
  have key : (((occ &&& c.mask.toUInt64) * c.magic.toUInt64) >>> UInt64.ofNat c.hshift &&& c.hmask.toUInt64).toNat
      = magicIndex c occ.toNat := by
    unfold magicIndex
    simp only [UInt64.toNat_and, UInt64.toNat_shiftRight, UInt64.toNat_mul, Nat.toUInt64, UInt64.toNat_ofNat']
    have e1 : c.mask % 2 ^ 64 = c.mask := Nat.mod_eq_of_lt h1
    have e2 : c.magic % 2 ^ 64 = c.magic := Nat.mod_eq_of_lt h2
    have e3 : c.hmask % 2 ^ 64 = c.hmask := Nat.mod_eq_of_lt h3
    have e4 : c.hshift % 2 ^ 64 % 64 = c.hshift := by omega
    simp only [e1, e2, e3, e4]
  unfold u64ToInt
  rw [key, cast_usize (by omega)]
  have : magicIndex c occ.toNat ≤ c.hmask := by unfold magicIndex; exact Nat.and_le_right
  omega

#print axioms rs_magic_hash_eq

/-- the Rust slice `attacks` of a configuration -/
def attacksOf (c : MagicCfg) : List UInt64 := (List.range c.len).map fun i => (entry c i).toUInt64

theorem rs_magic_cfg_hash_eq (c : MagicCfg) (h : CfgOk c) (occ : UInt64) :
    MagicConfiguration.hash c.mask.toUInt64 c.magic.toUInt64 c.hmask.toUInt64 (c.hshift : Int) occ =
      some ((magicIndex c occ.toNat : Nat) : Int) := by
  unfold MagicConfiguration.hash
  exact rs_magic_hash_eq c h occ

theorem rs_magic_get_attacks_eq (c : MagicCfg) (h : CfgOk c) (occ : UInt64) (hi : magicIndex c occ.toNat < c.len) :
    MagicConfiguration.get_attacks c.mask.toUInt64 c.magic.toUInt64 c.hmask.toUInt64 (c.hshift : Int) (attacksOf c) occ =
      some (lookup c occ.toNat).toUInt64 := by
  unfold MagicConfiguration.get_attacks
  rw [rs_magic_cfg_hash_eq c h occ]
  simp only [Option.bind_eq_bind, Option.bind_some, vecIdx, Int.toNat_natCast, attacksOf, List.getElem?_map,
    List.getElem?_range hi, Option.map_some, lookup]

#print axioms rs_magic_get_attacks_eq

theorem rs_magic_get_attacks_ub (c : MagicCfg) (h : CfgOk c) (occ : UInt64) (hi : ¬ magicIndex c occ.toNat < c.len) :
    MagicConfiguration.get_attacks c.mask.toUInt64 c.magic.toUInt64 c.hmask.toUInt64 (c.hshift : Int) (attacksOf c) occ = none := by
  unfold MagicConfiguration.get_attacks
  rw [rs_magic_cfg_hash_eq c h occ]
  have : (attacksOf c)[magicIndex c occ.toNat]? = none := by
    rw [List.getElem?_eq_none_iff]; simp [attacksOf]; omega
  simp only [Option.bind_eq_bind, Option.bind_some, vecIdx, Int.toNat_natCast, this]

theorem rs_rook_attacks_eq (sq : Nat) (hsq : sq < 64) (occ : UInt64) :
    MagicConfiguration.get_attacks (rookCfg sq).mask.toUInt64 (rookCfg sq).magic.toUInt64 (rookCfg sq).hmask.toUInt64
      ((rookCfg sq).hshift : Int) (attacksOf (rookCfg sq)) occ = some (Board.rookAttacks sq occ) :=
  rs_magic_get_attacks_eq _ (rook_cfg_ok sq hsq) occ (C04.rook_correct_u64 sq hsq occ).1

theorem rs_bishop_attacks_eq (sq : Nat) (hsq : sq < 64) (occ : UInt64) :
    MagicConfiguration.get_attacks (bishopCfg sq).mask.toUInt64 (bishopCfg sq).magic.toUInt64 (bishopCfg sq).hmask.toUInt64
      ((bishopCfg sq).hshift : Int) (attacksOf (bishopCfg sq)) occ = some (Board.bishopAttacks sq occ) :=
  rs_magic_get_attacks_eq _ (bishop_cfg_ok sq hsq) occ (C04.bishop_correct_u64 sq hsq occ).1

#print axioms rs_rook_attacks_eq
#print axioms rs_bishop_attacks_eq

/-! #### the 64-element arrays: `impl UnsafeMagicsExt for Magics` (`self.get_unchecked(square).get_attacks(occupancy)`) -/

def toRsCfg (c : MagicCfg) : Rs.MagicConfiguration :=
  { mask := c.mask.toUInt64, magic := c.magic.toUInt64, hash_mask := c.hmask.toUInt64, hash_shift := (c.hshift : Int),
    attacks := attacksOf c }

/-- `ROOK_MAGICS` / `BISHOP_MAGICS` as the dump describes them -/
def rookMagics : List Rs.MagicConfiguration := (List.range 64).map fun i => toRsCfg (rookCfg i)
def bishopMagics : List Rs.MagicConfiguration := (List.range 64).map fun i => toRsCfg (bishopCfg i)

theorem magics_idx (g : Nat → MagicCfg) (sq : Nat) (hsq : sq < 64) :
    vecIdx ((List.range 64).map fun i => toRsCfg (g i)) (Rs.cast .usize (sq : Int)) = some (toRsCfg (g sq)) := by
  rw [Rs.cast_usize (by omega) (by omega)]
  simp only [vecIdx, Int.toNat_natCast, List.getElem?_map, List.getElem?_range hsq, Option.map_some]

/-- `ROOK_MAGICS.get_attacks(sq, occ)`: `some` says that both unchecked accesses are in bounds -/
theorem rs_rook_magics_eq (sq : Nat) (hsq : sq < 64) (occ : UInt64) :
    Magics.get_attacks rookMagics (sq : Int) occ = some (Board.rookAttacks sq occ) := by
  unfold Magics.get_attacks rookMagics
  simp only [magics_idx rookCfg sq hsq, Option.bind_eq_bind, Option.bind_some]
  exact rs_rook_attacks_eq sq hsq occ

theorem rs_bishop_magics_eq (sq : Nat) (hsq : sq < 64) (occ : UInt64) :
    Magics.get_attacks bishopMagics (sq : Int) occ = some (Board.bishopAttacks sq occ) := by
  unfold Magics.get_attacks bishopMagics
  simp only [magics_idx bishopCfg sq hsq, Option.bind_eq_bind, Option.bind_some]
  exact rs_bishop_attacks_eq sq hsq occ

/-- a square `≥ 64` indexes past the 64-element array: undefined behaviour (`none`) -/
theorem rs_rook_magics_ub (sq : Nat) (hsq : 64 ≤ sq) (hsq' : sq < 4294967296) (occ : UInt64) :
    Magics.get_attacks rookMagics (sq : Int) occ = none := by
  unfold Magics.get_attacks rookMagics
  have : vecIdx ((List.range 64).map fun i => toRsCfg (rookCfg i)) (Rs.cast .usize (sq : Int)) = none := by
    rw [Rs.cast_usize (by omega) (by omega)]
    simp only [vecIdx, Int.toNat_natCast]
    rw [List.getElem?_eq_none_iff]; simp; omega
  simp only [this, Option.bind_eq_bind, Option.bind_none]

#print axioms rs_rook_magics_eq
#print axioms rs_bishop_magics_eq

/-! a shift amount ≥ 64 is a panic (the second example) -/
example : magic_hash 0x7e 52 0xfff 0x80102040008040 0x12 = some 144 := by decide
example : magic_hash 0x7e 64 0xfff 0x80102040008040 0x12 = none := by decide
example : CfgOk (rookCfg 35) := rook_cfg_ok 35 (by decide)
example : MagicConfiguration.get_attacks 1 1 1 0 [5, 7] 1 = some 7 := by decide
example : MagicConfiguration.get_attacks 1 1 1 0 [5] 1 = none := by decide
example : Magics.get_attacks [⟨1, 1, 1, 0, [5, 7]⟩, ⟨1, 1, 1, 0, [8, 9]⟩] 1 1 = some 9 := by decide
example : Magics.get_attacks [⟨1, 1, 1, 0, [5, 7]⟩] 1 1 = none := by decide

#print axioms rs_magic_cfg_hash_eq
#print axioms rs_magic_get_attacks_ub
#print axioms rs_rook_magics_ub

end Inkayaku.Translated
