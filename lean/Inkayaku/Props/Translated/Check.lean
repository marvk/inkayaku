import Inkayaku.Model.Board
import Inkayaku.Gen.Rs.Check
import Inkayaku.Props.Translated.Magic
import Inkayaku.Props.Translated.Basic
import Inkayaku.Props.Translated.TestForm
/-! Check detection: `Bitboard::{is_valid, is_current_in_check, is_in_check, _is_in_check_by_bits, _is_square_in_check}`,
`PlayerState::{kings, .., pawns, full_occupancy}`, `opposite_color` (board/src/board.rs, board/src/lib.rs)
= `Board.isValid`, `isCurrentInCheck`, `inCheck`, `squareInCheck`, `Side.full` (Model/Board.lean)

`PlayerState` is regenerated as a Lean structure (`occupancy : List UInt64`, indexing is bounds-checked like the Rust
array); `toRsSide` maps the model's `Side` (seven named words) to it.  The attack-table lookups
(`ROOK_MAGICS.get_attacks(sq, occ)`, `KNIGHT_NONMAGICS.get_attacks(sq)`, ..) are OPAQUE FUNCTION parameters of the generated
definitions; the theorems instantiate them with the model's lookups (`rookAttacks` = what `Props/Translated/Magic.lean`
proves `MagicConfiguration::get_attacks` computes, `leaperAttacks` on the dumped tables).
-/

namespace Inkayaku.Translated
open Inkayaku.Board Inkayaku.Gen

def toRsSide (s : Side) : Rs.PlayerState :=
  { occupancy := [s.o0, s.pawns, s.knights, s.bishops, s.rooks, s.queens, s.kings],
    queen_side_castle := s.qs, king_side_castle := s.ks }

def rookF (sq : Int) (occ : UInt64) : UInt64 := rookAttacks sq.toNat occ
def bishopF (sq : Int) (occ : UInt64) : UInt64 := bishopAttacks sq.toNat occ
def knightF (sq : Int) : UInt64 := leaperAttacks knightTable sq.toNat
def whitePawnF (sq : Int) : UInt64 := leaperAttacks whitePawnTable sq.toNat
def blackPawnF (sq : Int) : UInt64 := leaperAttacks blackPawnTable sq.toNat
def kingF (sq : Int) : UInt64 := leaperAttacks kingTable sq.toNat

/-- what the opaque parameter `ROOK_MAGICS_get_attacks` stands for: on a square `< 64` the translated
`Magics::get_attacks` on the rook configurations is defined and is `rookF` (for a square `≥ 64` — a side without king,
`trailing_zeros` = 64 — the Rust indexes `get_unchecked` out of bounds, `rs_rook_magics_ub`; the model excludes that
by well-formedness) -/
theorem rookF_is_translated_lookup (sq : Nat) (hsq : sq < 64) (occ : UInt64) :
    Rs.Magics.get_attacks rookMagics (sq : Int) occ = some (rookF (sq : Int) occ) := by
  rw [rs_rook_magics_eq sq hsq occ]; simp only [rookF, Int.toNat_natCast]

theorem bishopF_is_translated_lookup (sq : Nat) (hsq : sq < 64) (occ : UInt64) :
    Rs.Magics.get_attacks bishopMagics (sq : Int) occ = some (bishopF (sq : Int) occ) := by
  rw [rs_bishop_magics_eq sq hsq occ]; simp only [bishopF, Int.toNat_natCast]

@[rs_eval] theorem rs_colour_consts : Rs.WHITE = ((0 : Nat) : Int) ∧ Rs.BLACK = ((1 : Nat) : Int) := ⟨rfl, rfl⟩

/-! #### `PlayerState` accessors (array indexing never out of bounds: the piece constants are 1..6) -/

@[rs_eval] theorem rs_side_kings (s : Side) : Rs.PlayerState.kings (toRsSide s).occupancy = some s.kings := rfl
@[rs_eval] theorem rs_side_queens (s : Side) : Rs.PlayerState.queens (toRsSide s).occupancy = some s.queens := rfl
@[rs_eval] theorem rs_side_rooks (s : Side) : Rs.PlayerState.rooks (toRsSide s).occupancy = some s.rooks := rfl
@[rs_eval] theorem rs_side_bishops (s : Side) : Rs.PlayerState.bishops (toRsSide s).occupancy = some s.bishops := rfl
@[rs_eval] theorem rs_side_knights (s : Side) : Rs.PlayerState.knights (toRsSide s).occupancy = some s.knights := rfl
@[rs_eval] theorem rs_side_pawns (s : Side) : Rs.PlayerState.pawns (toRsSide s).occupancy = some s.pawns := rfl

@[rs_eval] theorem rs_side_full_occupancy (s : Side) : Rs.PlayerState.full_occupancy (toRsSide s).occupancy = some s.full := by
  simp only [Rs.PlayerState.full_occupancy, rs_eval, Side.full]

/-- `PlayerState::occupancy(piece)`; a piece code `≥ 7` panics (array of 7) -/
@[rs_eval] theorem rs_side_occupancy (s : Side) (p : Nat) (hp : p < 7) :
    Rs.PlayerState.occupancy_fn (toRsSide s).occupancy p.toUInt64 = some (s.get p) := by
  have : p = 0 ∨ p = 1 ∨ p = 2 ∨ p = 3 ∨ p = 4 ∨ p = 5 ∨ p = 6 := by omega
  rcases this with h | h | h | h | h | h | h <;> subst h <;> rfl

@[rs_eval] theorem rs_is_square_in_check_eq (color : Nat) (passive : Side) (sq : Nat) (occ : UInt64) :
    Rs.Bitboard._is_square_in_check (color : Int) (toRsSide passive) (sq : Int) occ rookF bishopF knightF whitePawnF
      blackPawnF kingF = some (squareInCheck color passive sq occ) := by
  unfold Rs.Bitboard._is_square_in_check squareInCheck
  -- the tests first: unfolding `kingF` under `decide` leaves its `Decidable` instance behind, and `ne_zero_iff` no longer matches
  simp only [rs_eval, rs_test, apply_ite some]
  simp only [rookF, bishopF, knightF, whitePawnF, blackPawnF, kingF, Int.toNat_natCast, apply_ite (leaperAttacks · sq)]
  rfl

#print axioms rs_is_square_in_check_eq

theorem u64Tz_eq (x : UInt64) : Rs.u64Tz x = (trailingZeros x : Int) := rfl

/-- The body over abstract sides: with `toRsSide` in place the proof term makes the kernel evaluate the accessors'
bounds-checked indexing on 64-bit literals. -/
theorem by_bits_aux (W B : Rs.PlayerState) (c : Int) (fw fb kw kb : UInt64)
    (h1 : Rs.PlayerState.full_occupancy W.occupancy = some fw) (h2 : Rs.PlayerState.full_occupancy B.occupancy = some fb)
    (h3 : Rs.PlayerState.kings W.occupancy = some kw) (h4 : Rs.PlayerState.kings B.occupancy = some kb)
    (R Bi : Int → UInt64 → UInt64) (N WP BP K : Int → UInt64) :
    Rs.Bitboard._is_in_check_by_bits W B c R Bi N WP BP K =
      if c = Rs.WHITE then Rs.Bitboard._is_square_in_check c B (Rs.u64Tz kw) (fw ||| fb) R Bi N WP BP K
      else Rs.Bitboard._is_square_in_check c W (Rs.u64Tz kb) (fb ||| fw) R Bi N WP BP K := by
  unfold Rs.Bitboard._is_in_check_by_bits
  by_cases h : c = Rs.WHITE
  · simp only [h, if_true, h1, h2, h3, Option.bind_eq_bind, Option.bind_some]
  · simp only [h, if_false, h1, h2, h4, Option.bind_eq_bind, Option.bind_some]

@[rs_eval] theorem rs_is_in_check_by_bits_eq (b : Board) (color : Nat) :
    Rs.Bitboard._is_in_check_by_bits (toRsSide b.white) (toRsSide b.black) (color : Int) rookF bishopF knightF whitePawnF
      blackPawnF kingF = some (inCheck b color) := by
  rw [by_bits_aux _ _ _ _ _ _ _ (rs_side_full_occupancy _) (rs_side_full_occupancy _) (rs_side_kings _) (rs_side_kings _)]
  simp only [u64Tz_eq, rs_is_square_in_check_eq, inCheck, Rs.WHITE, Int.natCast_eq_zero, beq_iff_eq]
  split
  · rfl
  · rfl

#print axioms rs_is_in_check_by_bits_eq

@[rs_eval] theorem rs_is_current_in_check_eq (b : Board) :
    Rs.Bitboard.is_current_in_check (toRsSide b.white) (toRsSide b.black) (b.turn : Int) rookF bishopF knightF whitePawnF
      blackPawnF kingF = some (isCurrentInCheck b) := by
  unfold Rs.Bitboard.is_current_in_check isCurrentInCheck
  exact rs_is_in_check_by_bits_eq b b.turn

/-- `is_in_check(&Color)`: `color.index` is the colour code -/
@[rs_eval] theorem rs_is_in_check_eq (b : Board) (color : Nat) :
    Rs.Bitboard.is_in_check (toRsSide b.white) (toRsSide b.black) (color : Int) rookF bishopF knightF whitePawnF
      blackPawnF kingF = some (inCheck b color) := by
  unfold Rs.Bitboard.is_in_check
  exact rs_is_in_check_by_bits_eq b color

/-- `opposite_color` / `opposite_turn`: `1 - c` in `u32`, a panic for a colour code above 1 -/
@[rs_eval] theorem rs_opposite_turn_eq (t : Nat) (h : t ≤ 1) : Rs.Bitboard.opposite_turn (t : Int) = some ((1 - t : Nat) : Int) := by
  unfold Rs.Bitboard.opposite_turn Rs.opposite_color
  rw [Rs.chk_u32 (by omega) (by omega)]
  congr 1; omega

@[rs_eval] theorem rs_is_white_turn_eq (t : Nat) : Rs.Bitboard.is_white_turn (t : Int) = some (t == 0) := by
  unfold Rs.Bitboard.is_white_turn
  simp only [rs_eval, rs_test]

theorem rs_opposite_turn_panics (t : Nat) (h : 1 < t) : Rs.Bitboard.opposite_turn (t : Int) = none := by
  unfold Rs.Bitboard.opposite_turn Rs.opposite_color
  exact Rs.chk_eq_none (Or.inl (by simp only [Rs.Ty.lo]; omega))

@[rs_eval] theorem rs_is_valid_eq (b : Board) (h : b.turn ≤ 1) :
    Rs.Bitboard.is_valid (toRsSide b.white) (toRsSide b.black) (b.turn : Int) rookF bishopF knightF whitePawnF
      blackPawnF kingF = some (isValid b) := by
  unfold Rs.Bitboard.is_valid isValid
  simp only [rs_eval, h]

#print axioms rs_is_current_in_check_eq
#print axioms rs_is_in_check_eq
#print axioms rs_is_valid_eq

/-! non-vacuity: a concrete position (white king e1 attacked by a black rook on e8, nothing in between) -/
def demoBoard : Board :=
  { white := { kings := bitU 60 }, black := { kings := bitU 0, rooks := bitU 4 }, turn := 0, ep := 0, fullmove := 1, halfmove := 0 }
example : isCurrentInCheck demoBoard = true := by decide +kernel
example : Rs.Bitboard.is_current_in_check (toRsSide demoBoard.white) (toRsSide demoBoard.black) 0 rookF bishopF knightF
    whitePawnF blackPawnF kingF = some true := by
  rw [show (0 : Int) = ((demoBoard.turn : Nat) : Int) from rfl, rs_is_current_in_check_eq]; decide +kernel
example : Rs.PlayerState.occupancy_fn [1, 2, 3, 4, 5, 6, 7] 7 = none := by decide
example : demoBoard.turn ≤ 1 := by decide

#print axioms rs_side_kings
#print axioms rs_side_queens
#print axioms rs_side_rooks
#print axioms rs_side_bishops
#print axioms rs_side_knights
#print axioms rs_side_pawns
#print axioms rs_side_full_occupancy
#print axioms rs_side_occupancy
#print axioms rs_opposite_turn_eq
#print axioms rs_is_white_turn_eq
#print axioms rs_opposite_turn_panics

end Inkayaku.Translated
