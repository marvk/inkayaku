import Inkayaku.Model.FenBoard
import Inkayaku.Gen.Rs.FenDecode
import Inkayaku.Props.Translated.Fen
import Inkayaku.Props.Translated.PlayerState
import Inkayaku.Props.Translated.RefIndex
import Inkayaku.Props.C12
/-! The board-level FEN decoder: `FenParseExt for Fen` and `From<&Fen> for Bitboard` (board/src/board.rs) = `FenBoard.boardOfFields` (Model/FenBoard.lean)

Generated module `FenDecode`: `square_shift_from_index`, `square_mask_from_index`, `square_shift_from_fen_unchecked`
(board/src/board/constants.rs), the place methods `PlayerState::{queens_ref, bishops_ref, knights_ref}`, `Fen::parse_turn`,
`parse_en_passant_square_shift`, `parse_fullmove_clock`, `parse_halfmove_clock`, `parse_player_states` (the placement decoding,
char by char: two nested loops `Fen.parse_player_states.for_1` over the ranks / `.for_2` over the chars of a rank) and
`Bitboard.from` (`From<&Fen>`).  The `Fen` value is regenerated as the structure `Rs.Fen` (module `FenText`): the text and the BYTE
ranges of the regex groups, exactly as the Rust stores them; the getters `Fen::get_*` slice the text (`strSlice`) and supply the
defaults `"0"` / `"1"` of a four-field FEN.

`FenView fen f`: the getters of `fen` yield the fields `f` (that is what `Props/Translated/FenFromStr.lean` proves of the value
`Fen::from_str` builds).  `rs_fen_decode_eq`: for every `fen` with `FenView fen f`, `f` the fields of an ACCEPTED text
(`parseChars l = .ok f`), the translated `Bitboard::from(&fen)` does not panic and returns the six fields of the model board
`boardOfFields f`.  The hypothesis "accepted" is what rules out the panics of the Rust (`panic!()` arms, `1 << shift` with
`shift ≥ 64`, `unwrap` of the digit / clock parses; `C12.parse_no_panic_branch`); `c.is_uppercase()` is only modelled on ASCII
(`charIsUppercase`), which the grammar guarantees. -/

namespace Inkayaku.Translated
open Inkayaku.Board Inkayaku.FenSyntax Inkayaku.FenBoard

@[rs_eval] theorem rs_square_shift_from_index (file rank : Nat) (h : file + 8 * rank < 4294967296) :
    Rs.square_shift_from_index (file : Int) (rank : Int) = some ((file + 8 * rank : Nat) : Int) := by
  unfold Rs.square_shift_from_index Rs.to_square_index_from_indices
  simp (disch := omega) only [rs_eval]
  congr 2; omega

theorem rs_square_mask_from_index (file rank : Nat) (h : file + 8 * rank < 64) :
    Rs.square_mask_from_index (file : Int) (rank : Int) = some (bitU (file + 8 * rank)) := by
  unfold Rs.square_mask_from_index
  simp only [rs_eval, h, show file + 8 * rank < 4294967296 by omega]

@[rs_eval] theorem knights_index : Rs.PlayerState.knights_ref_index = some ((2 : Nat) : Int) := by decide
@[rs_eval] theorem bishops_index : Rs.PlayerState.bishops_ref_index = some ((3 : Nat) : Int) := by decide
@[rs_eval] theorem queens_index : Rs.PlayerState.queens_ref_index = some ((5 : Nat) : Int) := by decide

/-- the `match c.to_ascii_lowercase() { 'p' => .., .. }` chain yields the index of the piece word the model names -/
theorem piece_cases {c : Char} {p : Nat} (h : pieceOfChar c = some p) :
    (toLower c = 'p' ∧ p = 1) ∨ (toLower c = 'n' ∧ p = 2) ∨ (toLower c = 'b' ∧ p = 3) ∨ (toLower c = 'r' ∧ p = 4)
      ∨ (toLower c = 'q' ∧ p = 5) ∨ (toLower c = 'k' ∧ p = 6) := by
  unfold pieceOfChar at h
  split at h <;> simp_all [Board.PAWN, Board.KNIGHT, Board.BISHOP, Board.ROOK, Board.QUEEN, Board.KING] <;> omega

/-- the chain of `parse_player_states` after `rs_eval` has evaluated its six arms `PlayerState::*_ref_index` -/
theorem index_chain (lc : Char) (p : Nat)
    (h : (lc = 'p' ∧ p = 1) ∨ (lc = 'n' ∧ p = 2) ∨ (lc = 'b' ∧ p = 3) ∨ (lc = 'r' ∧ p = 4) ∨ (lc = 'q' ∧ p = 5) ∨ (lc = 'k' ∧ p = 6)) :
    (if lc = 'p' then some ((1 : Nat) : Int)
      else if lc = 'n' then some ((2 : Nat) : Int)
      else if lc = 'b' then some ((3 : Nat) : Int)
      else if lc = 'r' then some ((4 : Nat) : Int)
      else if lc = 'q' then some ((5 : Nat) : Int)
      else if lc = 'k' then some ((6 : Nat) : Int) else none) = some ((p : Nat) : Int) := by
  rcases h with ⟨h, rfl⟩ | ⟨h, rfl⟩ | ⟨h, rfl⟩ | ⟨h, rfl⟩ | ⟨h, rfl⟩ | ⟨h, rfl⟩ <;> rw [h] <;> rfl

theorem if_toRs (c : Bool) (a b : Side) : (if c = true then toRsSide a else toRsSide b) = toRsSide (if c then a else b) := by
  cases c <;> rfl

theorem rs_place_rank (idx : Nat) (hidx : idx < 8) :
    ∀ (r : List Char) (file : Nat) (w bl : Side),
      (∀ c ∈ r, c.toNat < 128) → C12.rankSafe idx r file = true → file + 9 * r.length ≤ 1000 →
      Rs.Fen.parse_player_states.for_2 (idx : Int) r (toRsSide w) (toRsSide bl) (file : Int) =
        some (toRsSide (placeRank idx r file (w, bl)).1, toRsSide (placeRank idx r file (w, bl)).2,
          ((file + rankCount r : Nat) : Int)) := by
  intro r
  induction r with
  | nil =>
    intro file w bl _ _ _
    simp [Rs.Fen.parse_player_states.for_2, placeRank, rankCount]
  | cons c cs ih =>
    intro file w bl hascii hsafe hlen
    have rs_place_rank := fun (_ : Nat) (_ : idx < 8) (_ : List Char) => ih
    have hc : c.toNat < 128 := hascii c (by simp)
    have hcs : ∀ x ∈ cs, x.toNat < 128 := fun x hx => hascii x (by simp [hx])
    simp only [List.length_cons] at hlen
    rw [Rs.Fen.parse_player_states.for_2, rs_isAsciiDigit_eq]
    by_cases hd : FenSyntax.isAsciiDigit c = true
    · -- a digit: advance the file
      rw [C12.rankSafe, if_pos hd] at hsafe
      have hv := digitVal_le hd
      have ih := rs_place_rank idx hidx cs (file + digitVal c) w bl hcs hsafe (by omega)
      have hfd : file + digitVal c < 4294967296 := by omega
      simp only [rs_eval, hd, hfd, ih]
      rw [placeRank, if_pos hd, FenRoundtrip.rankCount_cons, if_pos hd]
      congr 3; omega
    · -- a piece letter: upper case goes to white, lower case to black; the statements are the same
      rw [C12.rankSafe, if_neg hd] at hsafe
      cases hp : pieceOfChar c with
      | none => rw [hp] at hsafe; cases hsafe
      | some p =>
        rw [hp] at hsafe
        simp only [Bool.and_eq_true, decide_eq_true_eq] at hsafe
        have ih := fun w' bl' => rs_place_rank idx hidx cs (file + 1) w' bl' hcs hsafe.2 (by omega)
        have hp7 : p < 7 := by rcases piece_cases hp with h | h | h | h | h | h <;> omega
        have hfile : file + 1 < 4294967296 := by omega
        rw [placeRank, if_neg hd, hp, FenRoundtrip.rankCount_cons, if_neg hd]
        simp only [Bool.not_eq_true] at hd
        simp only [rs_eval, hd, Bool.false_eq_true, hc, index_chain (toLower c) p (piece_cases hp),
          show idx < 4294967296 by omega, rs_square_mask_from_index file idx hsafe.1]
        cases isUpper c <;> simp only [rs_eval, hp7, hfile, ih, Nat.add_assoc]

theorem rs_place_ranks : ∀ (rs : List (List Char)) (idx : Nat) (w bl : Side),
    idx + rs.length ≤ 8 → (∀ r ∈ rs, (∀ c ∈ r, c.toNat < 128) ∧ 9 * r.length ≤ 1000) → C12.ranksSafe rs idx = true →
    Rs.Fen.parse_player_states.for_1 (Rs.iterEnumerateFrom (idx : Int) rs) (toRsSide w) (toRsSide bl) =
      some (toRsSide (placeRanks rs idx (w, bl)).1, toRsSide (placeRanks rs idx (w, bl)).2) := by
  intro rs
  induction rs with
  | nil =>
    intro idx w bl _ _ _
    simp [Rs.iterEnumerateFrom, Rs.Fen.parse_player_states.for_1, placeRanks]
  | cons r rs ih =>
    intro idx w bl hlen hall hsafe
    simp only [List.length_cons] at hlen
    rw [C12.ranksSafe, Bool.and_eq_true] at hsafe
    have hr := hall r (by simp)
    rw [Rs.iterEnumerateFrom, Rs.Fen.parse_player_states.for_1]
    have hrank : Rs.Fen.parse_player_states.for_2 (idx : Int) r (toRsSide w) (toRsSide bl) 0 = _ :=
      rs_place_rank idx (by omega) r 0 w bl hr.1 hsafe.1 (by omega)
    simp only [rs_eval, hrank, ih (idx + 1) _ _ (by omega) (fun x hx => hall x (List.mem_cons_of_mem _ hx)) hsafe.2]
    rw [placeRanks]

theorem default_side : ({ occupancy := List.replicate 7 (0 : UInt64), queen_side_castle := false, king_side_castle := false } : Rs.PlayerState)
    = toRsSide ({} : Side) := rfl

/-- the hypotheses on the ranks are what the grammar guarantees (`accepted_facts`) -/
theorem rs_parse_player_states_eq (fen : List Char) (pr cr : Int × Int) (pl k : List Char)
    (hp : Rs.Fen.get_piece_placement fen pr = some pl) (hk : Rs.Fen.get_castling_availability fen cr = some k)
    (hlen : (splitOnChar '/' pl).length ≤ 8)
    (hall : ∀ r ∈ splitOnChar '/' pl, (∀ c ∈ r, c.toNat < 128) ∧ 9 * r.length ≤ 1000)
    (hsafe : C12.ranksSafe (splitOnChar '/' pl) 0 = true) :
    Rs.Fen.parse_player_states fen pr cr =
      some (toRsSide { (placeRanks (splitOnChar '/' pl) 0 ({}, {})).1 with qs := k.contains 'Q', ks := k.contains 'K' },
            toRsSide { (placeRanks (splitOnChar '/' pl) 0 ({}, {})).2 with qs := k.contains 'q', ks := k.contains 'k' }) := by
  unfold Rs.Fen.parse_player_states
  rw [hp, hk]
  simp only [Option.bind_eq_bind, Option.bind_some, Option.pure_def, default_side, strSplit_eq, Rs.iterEnumerate]
  have z : (0 : Int) = ((0 : Nat) : Int) := rfl
  rw [z, rs_place_ranks _ 0 _ _ (by omega) hall hsafe]
  simp only [Option.bind_some]
  rfl

theorem rs_parse_turn_eq (fen : List Char) (ar : Int × Int) (c : Char) (h : Rs.Fen.get_active_color fen ar = some [c])
    (hc : c = 'b' ∨ c = 'w') : Rs.Fen.parse_turn fen ar = some (((if c = 'b' then 1 else 0 : Nat)) : Int) := by
  unfold Rs.Fen.parse_turn
  rw [h]
  rcases hc with rfl | rfl <;> decide

theorem rs_square_shift_from_fen (fl rk : Char) (h1 : 'a' ≤ fl) (h2 : fl ≤ 'h') (hd : FenSyntax.isAsciiDigit rk = true)
    (hr1 : 1 ≤ digitVal rk) (hr8 : digitVal rk ≤ 8) :
    Rs.square_shift_from_fen_unchecked [fl, rk] = some ((squareOfName [fl, rk] : Nat) : Int) := by
  have hf1 : 97 ≤ fl.toNat := (CharRange.char_le_iff 'a' fl).mp h1
  have hf2 : fl.toNat ≤ 104 := (CharRange.char_le_iff fl 'h').mp h2
  have hrk := (isAsciiDigit_iff rk).mp hd
  unfold Rs.square_shift_from_fen_unchecked
  rw [strLen_two fl rk (by omega) (by omega)]
  simp only [Rs.rsAssert, decide_true, Rs.iterNext, Rs.ofChar]
  simp (disch := omega) only [rs_eval, hd]
  rfl

theorem rs_parse_ep_eq (fen : List Char) (er : Int × Int) (e : List Char) (h : Rs.Fen.get_en_passant_target_square fen er = some e)
    (he : e = ['-'] ∨ ∃ fl rk, e = [fl, rk] ∧ 'a' ≤ fl ∧ fl ≤ 'h' ∧ FenSyntax.isAsciiDigit rk = true ∧ 1 ≤ digitVal rk ∧ digitVal rk ≤ 8) :
    Rs.Fen.parse_en_passant_square_shift fen er = some (((if e = ['-'] then 0 else squareOfName e : Nat)) : Int) := by
  unfold Rs.Fen.parse_en_passant_square_shift
  rw [h]
  simp only [Option.bind_eq_bind, Option.bind_some]
  rcases he with rfl | ⟨fl, rk, rfl, h1, h2, hd, hr1, hr8⟩
  · rfl
  · have hne : ¬ ([fl, rk] = ['-']) := by simp
    rw [if_neg hne, if_neg hne]
    exact rs_square_shift_from_fen fl rk h1 h2 hd hr1 hr8

/-- the getters of the Rust `Fen` value yield the fields `f` (the clocks as TEXT that passed the `u32` check: the captured
groups, or the defaults `"0"` / `"1"` of a four-field FEN) -/
structure FenView (fen : Rs.Fen) (f : FenFields) : Prop where
  placement : Rs.Fen.get_piece_placement fen.fen fen.piece_placement = some f.placement
  side : Rs.Fen.get_active_color fen.fen fen.active_color = some [f.side]
  castling : Rs.Fen.get_castling_availability fen.fen fen.castling_availability = some f.castling
  ep : Rs.Fen.get_en_passant_target_square fen.fen fen.en_passant_target_square = some f.ep
  half : ∃ hs, Rs.Fen.get_halfmove_clock fen.fen fen.halfmove_clock = some hs ∧ clockOk hs = true ∧ decimalValue hs = f.half
  full : ∃ fs, Rs.Fen.get_fullmove_clock fen.fen fen.fullmove_clock = some fs ∧ clockOk fs = true ∧ decimalValue fs = f.full

theorem placement_char_ascii {c : Char} (h : isPlacementChar c = true) : c.toNat < 128 := by
  have hm : c ∈ "PNBRQKpnbrqk12345678".toList := by simpa [isPlacementChar] using h
  have : ∀ c ∈ "PNBRQKpnbrqk12345678".toList, c.toNat < 128 := by decide
  exact this c hm

theorem parseChars_ok_ne_startpos {l : List Char} {f : FenFields} (h : parseChars l = .ok f) : l ≠ "startpos".toList := by
  intro he
  have : parseChars "startpos".toList = .error .capture := by rfl
  rw [he, this] at h
  cases h

theorem shape_ranks {p : List Char} (h : placementShapeOk p = true) :
    (splitOnChar '/' p).length = 8 ∧ ∀ r ∈ splitOnChar '/' p, (∀ c ∈ r, c.toNat < 128) ∧ r.length ≤ 8 := by
  simp only [placementShapeOk, Bool.and_eq_true, beq_iff_eq, List.all_eq_true] at h
  refine ⟨h.1, fun r hr => ?_⟩
  have := h.2 r hr
  simp only [rankShapeOk, Bool.and_eq_true, decide_eq_true_eq, List.all_eq_true] at this
  exact ⟨fun c hc => placement_char_ascii (this.2 c hc), this.1.2⟩

/-- what the grammar guarantees about the fields of an accepted text (everything the decoder can panic on) -/
theorem accepted_facts {l : List Char} {f : FenFields} (h : parseChars l = .ok f) :
    (splitOnChar '/' f.placement).length ≤ 8
    ∧ (∀ r ∈ splitOnChar '/' f.placement, (∀ c ∈ r, c.toNat < 128) ∧ 9 * r.length ≤ 1000)
    ∧ C12.ranksSafe (splitOnChar '/' f.placement) 0 = true
    ∧ (f.side = 'b' ∨ f.side = 'w')
    ∧ (f.ep = ['-'] ∨ ∃ fl rk, f.ep = [fl, rk] ∧ 'a' ≤ fl ∧ fl ≤ 'h' ∧ FenSyntax.isAsciiDigit rk = true ∧ 1 ≤ digitVal rk
        ∧ digitVal rk ≤ 8) := by
  obtain ⟨hlen, hr⟩ := shape_ranks (FenRoundtrip.parseChars_ok h).1
  obtain ⟨hsafe, hside, hep, _⟩ := C12.no_panic_of_ok h
  exact ⟨by omega, fun r hr' => ⟨(hr r hr').1, by have := (hr r hr').2; omega⟩, hsafe, hside, hep⟩

/-- **`Bitboard::from(&Fen)` (translated) = the model decoder `boardOfFields`**, for the `Fen` value of an accepted text. -/
theorem rs_fen_decode_eq (fen : Rs.Fen) (f : FenFields) (l : List Char) (hacc : parseChars l = .ok f) (hview : FenView fen f) :
    Rs.Bitboard.from fen = some (boardFields (boardOfFields f)) := by
  obtain ⟨hlen, hall, hsafe, hside, hep⟩ := accepted_facts hacc
  obtain ⟨hs, hh1, hh2, hh3⟩ := hview.half
  obtain ⟨fs, hf1, hf2, hf3⟩ := hview.full
  unfold Rs.Bitboard.from
  rw [rs_parse_player_states_eq _ _ _ _ _ hview.placement hview.castling hlen hall hsafe,
    rs_parse_turn_eq _ _ _ hview.side hside, rs_parse_ep_eq _ _ _ hview.ep hep]
  unfold Rs.Fen.parse_fullmove_clock Rs.Fen.parse_halfmove_clock
  rw [hh1, hf1]
  simp only [Option.bind_eq_bind, Option.bind_some, Option.pure_def, parseU32_clock _ hh2, parseU32_clock _ hf2, hh3, hf3]
  rfl

theorem rs_fen_decode_fromFenString (fen : Rs.Fen) (s : String) (f : FenFields) (hs : s ≠ "startpos")
    (hp : FenSyntax.parse s = .ok f) (hview : FenView fen f) :
    ∃ b, fromFenString s = .ok b ∧
      Rs.Bitboard.from fen = some (boardFields b) := by
  refine ⟨boardOfFields f, by simp [fromFenString, hp], ?_⟩
  have : parseChars s.toList = .ok f := by unfold FenSyntax.parse at hp; rwa [if_neg hs] at hp
  exact rs_fen_decode_eq fen f _ this hview

#print axioms rs_fen_decode_eq
#print axioms rs_fen_decode_fromFenString
#print axioms rs_parse_player_states_eq
#print axioms rs_place_rank
#print axioms rs_place_ranks
#print axioms rs_parse_turn_eq
#print axioms rs_parse_ep_eq
#print axioms rs_square_shift_from_fen
#print axioms rs_square_mask_from_index

/-! non-vacuity: the `Fen` value of a six-field text (byte ranges as the regex reports them) and of a four-field text -/
def exFen : Rs.Fen :=
  { fen := "r3k2r/8/8/3pP3/8/8/8/R3K2R w Kq d6 4000000000 4294967295".toList, piece_placement := (0, 26), active_color := (27, 28),
    castling_availability := (29, 31), en_passant_target_square := (32, 34), halfmove_clock := some (35, 45), fullmove_clock := some (46, 56) }
def exFen4 : Rs.Fen :=
  { fen := "4k3/8/8/8/8/8/8/4K3 b - -".toList, piece_placement := (0, 19), active_color := (20, 21),
    castling_availability := (22, 23), en_passant_target_square := (24, 25), halfmove_clock := none, fullmove_clock := none }

example : Rs.Bitboard.from exFen = some (boardFields C12.exBoard) := by decide +kernel
def exFields : FenFields :=
  { placement := "r3k2r/8/8/3pP3/8/8/8/R3K2R".toList, side := 'w', castling := "Kq".toList, ep := "d6".toList, hasClocks := true,
    half := 4000000000, full := 4294967295 }
example : parseChars exFen.fen = .ok exFields ∧ FenView exFen exFields :=
  ⟨by rfl, ⟨by decide +kernel, by decide +kernel, by decide +kernel, by decide +kernel,
    ⟨"4000000000".toList, by decide +kernel, by decide +kernel, by decide +kernel⟩,
    ⟨"4294967295".toList, by decide +kernel, by decide +kernel, by decide +kernel⟩⟩⟩
example : (Rs.Bitboard.from exFen4).map (fun r => (r.2.2.1, r.2.2.2.2.1, r.2.2.2.2.2))
      = some (1, 1, 0) := by decide +kernel
/-- a slice that is out of range is a PANIC of the getter (`&self.fen[a..b]`), not a wrong answer -/
example : Rs.Fen.get_piece_placement "8/8".toList (0, 9) = none := by decide

end Inkayaku.Translated
