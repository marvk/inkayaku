import Inkayaku.Props.Translated.Check
import Inkayaku.Gen.Rs.MoveCtor
import Inkayaku.Proofs.MakeSides
/-! The occupancy array and the castling flags of the regenerated `PlayerState` on `toRsSide s`: bounds-checked indexing
(`Rs.vecIdx` / `Rs.vecSet`, an index `≥ 7` panics like the Rust array) is the model's `Side.get` / `Side.set`. -/

namespace Inkayaku.Translated
open Inkayaku.Board Inkayaku.Gen

@[rs_eval] theorem side_idx (s : Side) (p : Nat) (hp : p < 7) : Rs.vecIdx (toRsSide s).occupancy (p : Int) = some (s.get p) := by
  have : p = 0 ∨ p = 1 ∨ p = 2 ∨ p = 3 ∨ p = 4 ∨ p = 5 ∨ p = 6 := by omega
  rcases this with h | h | h | h | h | h | h <;> subst h <;> rfl

@[rs_eval] theorem side_set (s : Side) (p : Nat) (hp : p < 7) (v : UInt64) :
    Rs.vecSet (toRsSide s).occupancy (p : Int) v = some (toRsSide (s.set p v)).occupancy := by
  have : p = 0 ∨ p = 1 ∨ p = 2 ∨ p = 3 ∨ p = 4 ∨ p = 5 ∨ p = 6 := by omega
  rcases this with h | h | h | h | h | h | h <;> subst h <;> rfl

theorem set_ge (s : Side) (p : Nat) (hp : 7 ≤ p) (v : UInt64) : s.set p v = s := by
  obtain ⟨k, rfl⟩ : ∃ k, p = k + 7 := ⟨p - 7, by omega⟩
  rfl

@[rs_eval] theorem side_with_occ (s : Side) (p : Nat) (v : UInt64) :
    ({ toRsSide s with occupancy := (toRsSide (s.set p v)).occupancy } : Rs.PlayerState) = toRsSide (s.set p v) := by
  by_cases hp : p < 7
  · have : p = 0 ∨ p = 1 ∨ p = 2 ∨ p = 3 ∨ p = 4 ∨ p = 5 ∨ p = 6 := by omega
    rcases this with h | h | h | h | h | h | h <;> subst h <;> rfl
  · rw [set_ge s p (by omega)]

theorem side_idx_oob (s : Side) (p : Nat) (hp : 7 ≤ p) : Rs.vecIdx (toRsSide s).occupancy (p : Int) = none := by
  unfold Rs.vecIdx
  rw [List.getElem?_eq_none_iff]
  simp [toRsSide]; omega

theorem get_set_same (s : Side) (p : Nat) (hp : p < 7) (v : UInt64) : (s.set p v).get p = v :=
  MakeUnmake.get_set_self s (by omega) v

theorem set_set_same (s : Side) (p : Nat) (v w : UInt64) : (s.set p v).set p w = s.set p w := MakeUnmake.set_set s p v w

/-- one `*x.pawns_ref() op= ..` statement (board/src/board.rs) as the generated code has it: read, write, rebuild the record -/
theorem place_update (s : Side) (p : Nat) (hp : p < 7) (g : UInt64 → UInt64) :
    (do
      let old ← Rs.vecIdx (toRsSide s).occupancy (p : Int)
      let arr ← Rs.vecSet (toRsSide s).occupancy (p : Int) (g old)
      pure ({ toRsSide s with occupancy := arr } : Rs.PlayerState)) = some (toRsSide (s.set p (g (s.get p)))) := by
  rw [side_idx s p hp]
  simp only [Option.bind_eq_bind, Option.bind_some, side_set s p hp, side_with_occ, Option.pure_def]

@[rs_eval] theorem set_qs (s : Side) (p : Nat) (v : UInt64) : (s.set p v).qs = s.qs := MakeUnmake.qs_set s p v

@[rs_eval] theorem set_ks (s : Side) (p : Nat) (v : UInt64) : (s.set p v).ks = s.ks := MakeUnmake.ks_set s p v

@[rs_eval] theorem toRs_qs (s : Side) : (toRsSide s).queen_side_castle = s.qs := rfl
@[rs_eval] theorem toRs_ks (s : Side) : (toRsSide s).king_side_castle = s.ks := rfl

theorem repack (s' : Side) (q k : Bool) :
    Rs.PlayerState.mk (toRsSide s').occupancy q k = toRsSide { s' with qs := q, ks := k } := rfl

/-- `S` is the side after some `Side.set`s, which leave the flags alone: `set_qs`, `set_ks` -/
@[rs_eval] theorem repack_of (S : Side) (q k : Bool) (hq : S.qs = q) (hk : S.ks = k) :
    Rs.PlayerState.mk (toRsSide S).occupancy q k = toRsSide S := by
  subst hq hk; rfl

theorem side_eta (s : Side) : ({ s with qs := s.qs, ks := s.ks } : Side) = s := by cases s; rfl

theorem with_flags_set (X : Side) (p : Nat) (v : UInt64) (q k : Bool) (hq : X.qs = q) (hk : X.ks = k) :
    ({ X.set p v with qs := q, ks := k } : Side) = X.set p v := by
  subst hq hk
  by_cases hp : p < 7
  · have : p = 0 ∨ p = 1 ∨ p = 2 ∨ p = 3 ∨ p = 4 ∨ p = 5 ∨ p = 6 := by omega
    rcases this with h | h | h | h | h | h | h <;> subst h <;> rfl
  · rw [set_ge X p (by omega)]

theorem set_one (s : Side) (v : UInt64) : s.set 1 v = { s with pawns := v } := rfl
theorem get_one (s : Side) : s.get 1 = s.pawns := rfl

/-! `PlayerState::get_piece_const_by_square_{mask, shift}` (generated module `MoveCtor`) = `Side.pieceAtMask` / `pieceAt` -/

@[rs_eval] theorem rs_piece_at_mask (s : Side) (m : UInt64) :
    Rs.PlayerState.get_piece_const_by_square_mask (toRsSide s).occupancy m = some (s.pieceAtMask m).toUInt64 := by
  unfold Rs.PlayerState.get_piece_const_by_square_mask Side.pieceAtMask
  simp only [rs_eval, rs_test, apply_ite some, apply_ite Nat.toUInt64]
  -- the leaves are `Rs.PAWN` against `PAWN.toUInt64` etc.
  rfl

theorem pieceAtMask_le (s : Side) (m : UInt64) : s.pieceAtMask m ≤ 6 := Bits.pieceAtMask_le s m

@[rs_eval] theorem rs_piece_at (s : Side) (sq : Nat) (h : sq < 64) :
    Rs.PlayerState.get_piece_const_by_square_shift (toRsSide s).occupancy (sq : Int) = some (s.pieceAt sq).toUInt64 := by
  unfold Rs.PlayerState.get_piece_const_by_square_shift Side.pieceAt
  rw [u64Shl_natCast _ _ h]
  simp only [Option.bind_eq_bind, Option.bind_some]
  exact rs_piece_at_mask s _

@[rs_eval] theorem shl_one (s : Nat) (hs : s < 64) : Rs.u64Shl (1 : UInt64) (s : Int) = some (bitU s) := by
  rw [u64Shl_natCast _ _ hs]; rfl

/-! a pawn's step: one rank up or down -/
@[rs_eval] theorem shl8 (x : UInt64) : Rs.u64Shl x 8 = some (x <<< 8) := rfl
@[rs_eval] theorem shr8 (x : UInt64) : Rs.u64Shr x 8 = some (x >>> 8) := rfl

/-- the six fields of the Rust `Bitboard` for a model board -/
def boardFields (b : Board) : Rs.PlayerState × Rs.PlayerState × Int × Int × Int × Int :=
  (toRsSide b.white, toRsSide b.black, (b.turn : Int), (b.ep : Int), (b.fullmove : Int), (b.halfmove : Int))

end Inkayaku.Translated
