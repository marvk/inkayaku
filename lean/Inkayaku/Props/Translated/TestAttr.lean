import Lean.Meta.Tactic.Simp.RegisterCommand

/-- Lemmas that bring the tests of the generated code (`if x ≠ 0`, `decide (x ≠ 0)`, `(n : Int) = (m : Int)`) to the
Boolean tests of the model (`x != 0`, `n == m`), so that both sides of an equivalence become the same `if`-tree. -/
register_simp_attr rs_test

/-- The evaluation rules of translated code.  In the set: the `Option` plumbing of a `do` block; the range checks `chk` / `cast` on casts of
natural numbers (side conditions in `Nat`, left to `omega`) and the rules that pull a cast outwards (`Basic.lean`); and the equations
`rs_f … = some (model …)` of the LEAF functions that other bodies call: getters, predicates and setters of the move word (`MoveBits.lean`), the
occupancy array and castling flags of a side and the check tests (`PlayerState.lean`, `Check.lean`, `MakeUnmakeCommon.lean`), the char and string
primitives (`Text.lean`), `mask_and_shift_from_lowest_one_bit`, the per-piece functions of the generator, and the regenerated constants (piece
codes, squares, masks, the `*_ref_index`, the scores of `Heuristic.lean`).  Passed by hand at each call: the equation of a function with a
loop or with hypotheses other than bounds (`rs_place_rank`, `rs_piece_square_sum_eq`, `rs_validate_rank_fuel`, …), `rs_test` where a test has to meet
the model's Boolean, and the bounds the checks need.  Proofs about functions whose MODEL computes in `Int` (`score_from_value`, `count_repetitions`) do not
use the set: its cast rules would turn their tests round.
`unfold Rs.g; simp only [rs_eval, h₁, h₂, …]` (the `hᵢ` are the bounds the checks need, as hypotheses; for a short arithmetic body
`simp (disch := omega) only [rs_eval]` finds them itself) runs the body of `g` on the images (`toRsSide s`, `(n : Int)`, `decode bits`,
`acc.map encMove`) of model values; what is left is a statement about the model.
A rule's left side must itself be in normal form with respect to the set, or it never fires; likewise a lemma given beside the set (so
`rs_count_eq`, which speaks of `toDigit10`, is rewritten with before the set runs). -/
register_simp_attr rs_eval
