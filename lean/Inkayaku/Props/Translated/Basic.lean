import Inkayaku.Gen.Rs.Prelude
import Inkayaku.Props.Translated.TestAttr
/-!
# Translated Rust functions = hand-written model functions (`Props/Translated/*.lean`, one file per Rust source / function group)

`Inkayaku/Gen/Rs/*.lean` is regenerated on every run from the CURRENT Rust sources by `/verif/translator` (`rs2lean`,
a `syn`-based translator of a small subset of Rust; semantics: header of `Gen/Rs/Prelude.lean`).  The files of this directory
prove, for each translated function, that it computes the same value as the hand-written model function the property
theorems are about (and that it does not panic), under preconditions that are exactly the ranges the Rust types
impose plus, where the Rust really can overflow, the exact no-overflow condition.  Each file names in its header the Rust
functions it ties to which model functions, and what is opaque or assumed.

A semantic change of one of these Rust functions changes the generated definition and breaks the proof of that function's
file.  Mutation sanity check of all of them: `/verif/translator/mutation_check.sh`.

This file: facts about the run-time library of the translation (`Gen/Rs/Prelude.lean`).
-/

namespace Inkayaku.Rs

theorem chk_eq_some {t : Ty} {x : Int} (h1 : t.lo ≤ x) (h2 : x ≤ t.hi) : chk t x = some x := by
  simp [chk, h1, h2]

theorem chk_eq_none {t : Ty} {x : Int} (h : x < t.lo ∨ t.hi < x) : chk t x = none := by
  have : ¬ (t.lo ≤ x ∧ x ≤ t.hi) := by omega
  simp [chk, this]

theorem cast_eq_self {t : Ty} {x : Int} (h1 : t.lo ≤ x) (h2 : x ≤ t.hi) : cast t x = x := by
  unfold cast Ty.modulus
  rw [Int.emod_eq_of_lt (by omega) (by omega)]; omega

@[rs_eval] theorem chk_i32 {x : Int} (h1 : -2147483648 ≤ x) (h2 : x ≤ 2147483647) : chk .i32 x = some x := chk_eq_some h1 h2
@[rs_eval] theorem chk_u32 {x : Int} (h1 : 0 ≤ x) (h2 : x ≤ 4294967295) : chk .u32 x = some x := chk_eq_some h1 h2
@[rs_eval] theorem chk_usize {x : Int} (h1 : 0 ≤ x) (h2 : x ≤ 18446744073709551615) : chk .usize x = some x := chk_eq_some h1 h2
@[rs_eval] theorem cast_i32 {x : Int} (h1 : -2147483648 ≤ x) (h2 : x ≤ 2147483647) : cast .i32 x = x := cast_eq_self h1 h2
@[rs_eval] theorem cast_usize {x : Int} (h1 : 0 ≤ x) (h2 : x ≤ 18446744073709551615) : cast .usize x = x := cast_eq_self h1 h2
theorem cast_u16_eq (x : Int) : cast .u16 x = x % 65536 := by simp [cast, Ty.lo, Ty.modulus, Ty.hi]

/-! #### the evaluation rules `rs_eval`

The model computes in `Nat`, the translation in `Int` with a range check after every operation.  The translated code is run on
casts `(n : Int)`; the rules below pull the cast outwards through `+ - *` (a subtraction needs `b ≤ a`, the only place where the
two arithmetics differ), so that every range check meets a single cast `chk t (n : Int)` and asks for one bound in `Nat`.
Only the operand shapes and integer types that occur in the generated code are covered. -/

attribute [rs_eval] Option.bind_eq_bind Option.bind_some Option.pure_def Option.map_some if_true if_false Bool.false_eq_true
  Int.toNat_natCast

@[rs_eval] theorem natCast_add_pull (a b : Nat) : (a : Int) + (b : Int) = ((a + b : Nat) : Int) := (Int.natCast_add a b).symm
@[rs_eval] theorem natCast_sub_pull (a b : Nat) (h : b ≤ a) : (a : Int) - (b : Int) = ((a - b : Nat) : Int) :=
  (Int.natCast_sub h).symm
/-! the same with a numeral for one operand (`no_index`: a numeral is a literal to `simp`'s index, `OfNat.ofNat n` is not) -/
@[rs_eval low] theorem natCast_add_lit (a n : Nat) : (a : Int) + (no_index (OfNat.ofNat n) : Int) = ((a + OfNat.ofNat n : Nat) : Int) := by
  rw [Int.natCast_add]; rfl
@[rs_eval low] theorem natCast_mul_lit (a n : Nat) : (a : Int) * (no_index (OfNat.ofNat n) : Int) = ((a * OfNat.ofNat n : Nat) : Int) := by
  rw [Int.natCast_mul]; rfl
@[rs_eval low] theorem lit_mul_natCast (a n : Nat) : (no_index (OfNat.ofNat n) : Int) * (a : Int) = ((OfNat.ofNat n * a : Nat) : Int) := by
  rw [Int.natCast_mul]; rfl
@[rs_eval low] theorem natCast_sub_lit (a n : Nat) (h : OfNat.ofNat n ≤ a) :
    (a : Int) - (no_index (OfNat.ofNat n) : Int) = ((a - OfNat.ofNat n : Nat) : Int) := by
  rw [Int.natCast_sub h]; rfl
@[rs_eval low] theorem lit_sub_natCast (a n : Nat) (h : a ≤ OfNat.ofNat n) :
    (no_index (OfNat.ofNat n) : Int) - (a : Int) = ((OfNat.ofNat n - a : Nat) : Int) := by
  rw [Int.natCast_sub h]; rfl

/-! equality tests of two casts are not here: `rs_test` brings them to the model's `==` -/
attribute [rs_eval] Int.ofNat_le Int.ofNat_lt ge_iff_le gt_iff_lt
@[rs_eval low] theorem natCast_le_lit (a n : Nat) : ((a : Int) ≤ (no_index (OfNat.ofNat n) : Int)) ↔ a ≤ OfNat.ofNat n :=
  Int.ofNat_le (m := a) (n := OfNat.ofNat n)
@[rs_eval low] theorem lit_le_natCast (a n : Nat) : ((no_index (OfNat.ofNat n) : Int) ≤ (a : Int)) ↔ OfNat.ofNat n ≤ a :=
  Int.ofNat_le (m := OfNat.ofNat n) (n := a)
@[rs_eval low] theorem natCast_lt_lit (a n : Nat) : ((a : Int) < (no_index (OfNat.ofNat n) : Int)) ↔ a < OfNat.ofNat n :=
  Int.ofNat_lt (n := a) (m := OfNat.ofNat n)
@[rs_eval low] theorem lit_lt_natCast (a n : Nat) : ((no_index (OfNat.ofNat n) : Int) < (a : Int)) ↔ OfNat.ofNat n < a :=
  Int.ofNat_lt (n := OfNat.ofNat n) (m := a)
@[rs_eval low] theorem natCast_eq_lit (a n : Nat) : ((a : Int) = (no_index (OfNat.ofNat n) : Int)) ↔ a = OfNat.ofNat n :=
  Int.natCast_inj (m := a) (n := OfNat.ofNat n)

@[rs_eval] theorem chk_u8_nat (n : Nat) (h : n < 256) : chk .u8 (n : Int) = some (n : Int) :=
  chk_eq_some (by simp only [Ty.lo]; omega) (by simp only [Ty.hi]; omega)
@[rs_eval] theorem chk_u32_nat (n : Nat) (h : n < 4294967296) : chk .u32 (n : Int) = some (n : Int) := chk_u32 (by omega) (by omega)
@[rs_eval] theorem chk_usize_nat (n : Nat) (h : n < 18446744073709551616) : chk .usize (n : Int) = some (n : Int) :=
  chk_usize (by omega) (by omega)
@[rs_eval] theorem cast_u8_nat (n : Nat) (h : n < 256) : cast .u8 (n : Int) = (n : Int) :=
  cast_eq_self (by simp only [Ty.lo]; omega) (by simp only [Ty.hi]; omega)
@[rs_eval] theorem cast_u32_nat (n : Nat) (h : n < 4294967296) : cast .u32 (n : Int) = (n : Int) :=
  cast_eq_self (by simp only [Ty.lo]; omega) (by simp only [Ty.hi]; omega)
@[rs_eval] theorem cast_usize_nat (n : Nat) (h : n < 18446744073709551616) : cast .usize (n : Int) = (n : Int) :=
  cast_usize (by omega) (by omega)

theorem checkedSub_usize_nat (a b : Nat) (h : a < 18446744073709551616) :
    checkedSub .usize (a : Int) (b : Int) = if a < b then none else some ((a - b : Nat) : Int) := by
  unfold checkedSub
  by_cases hb : a < b
  · rw [if_pos hb, chk_eq_none (by left; simp only [Ty.lo]; omega)]
  · rw [if_neg hb, chk_usize (by omega) (by omega)]
    congr 1
    omega

theorem wrappingSub_u32_nat (a b : Nat) (ha : a < 4294967296) (hb : b < 4294967296) :
    wrappingSub .u32 (a : Int) (b : Int) = (((a + 4294967296 - b) % 4294967296 : Nat) : Int) := by
  simp only [wrappingSub, Rs.cast, Ty.lo, Ty.hi, Ty.modulus]
  omega

/-- value of a function that ends with a loop: the early-return value or a component of the final state -/
def Ctl.val {ρ σ : Type} (f : σ → ρ) : Ctl ρ σ → ρ
  | .ret r => r
  | .next s => f s

end Inkayaku.Rs

namespace Inkayaku.Translated

theorem u64Shr_natCast (a : UInt64) (s : Nat) (h : s < 64) : Rs.u64Shr a (s : Int) = some (a >>> s.toUInt64) := by
  have : (0 : Int) ≤ (s : Int) ∧ (s : Int) < 64 := by omega
  simp only [Rs.u64Shr, this, and_self, if_true, Int.toNat_natCast, Nat.toUInt64_eq]

theorem u64Shl_natCast (a : UInt64) (s : Nat) (h : s < 64) : Rs.u64Shl a (s : Int) = some (a <<< s.toUInt64) := by
  have : (0 : Int) ≤ (s : Int) ∧ (s : Int) < 64 := by omega
  simp only [Rs.u64Shl, this, and_self, if_true, Int.toNat_natCast, Nat.toUInt64_eq]

theorem toUInt64_toNat (n : Nat) (h : n < 18446744073709551616) : n.toUInt64.toNat = n := by
  simp only [Nat.toUInt64_eq, UInt64.toNat_ofNat', Nat.mod_eq_of_lt h]

@[rs_eval] theorem u64ToInt_toUInt64 (n : Nat) (h : n < 18446744073709551616) : Rs.u64ToInt n.toUInt64 = (n : Int) := by
  rw [Rs.u64ToInt, toUInt64_toNat n h]

theorem toUInt64_eq_iff (a c : Nat) (ha : a < 18446744073709551616) (hc : c < 18446744073709551616) :
    a.toUInt64 = c.toUInt64 ↔ a = c :=
  ⟨fun h => by rw [← toUInt64_toNat a ha, ← toUInt64_toNat c hc, h], fun h => by rw [h]⟩

theorem toUInt64_beq (a c : Nat) (ha : a < 18446744073709551616) (hc : c < 18446744073709551616) :
    (a.toUInt64 = c.toUInt64) ↔ (a == c) = true := by
  rw [beq_iff_eq]
  exact toUInt64_eq_iff a c ha hc

open Inkayaku.Rs in
theorem vecIdx_getD {α : Type} (v : List α) (i : Nat) (d : α) (h : i < v.length) : vecIdx v (i : Int) = some (v.getD i d) := by
  simp only [vecIdx, Int.toNat_natCast, List.getD_eq_getElem?_getD, List.getElem?_eq_getElem h, Option.getD_some]

open Inkayaku.Rs in
theorem vecIdxL {α : Type} (v : List α) (i : Nat) (h : i < v.length) : vecIdx v (i : Int) = some (v[i]'h) := by
  simp only [vecIdx, Int.toNat_natCast, List.getElem?_eq_getElem h]

theorem u64OfInt_natCast (n : Nat) : Rs.u64OfInt (n : Int) = n.toUInt64 := by
  unfold Rs.u64OfInt
  apply UInt64.toNat_inj.mp
  simp only [Nat.toUInt64_eq, UInt64.toNat_ofNat']
  omega

end Inkayaku.Translated
