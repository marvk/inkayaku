import Inkayaku.Gen.Rs.FindUci
import Inkayaku.Props.Translated.UciText
import Inkayaku.Props.Translated.GenerateTop
import Inkayaku.Props.Translated.GenUnmake
import Inkayaku.Model.San
import Inkayaku.Proofs.BoardCongr
import Inkayaku.Proofs.GenSpecLegal
import Inkayaku.Proofs.MoveText
/-! `Bitboard::{find_uci, make_uci}` (board/src/board.rs; generated module `FindUci`) = `San.findUci`, `San.makeUci` (Model/San.lean); property C13

`find_uci` = trim the text, generate the pseudo-legal moves, `find` the first one whose `to_uci_string()` is the text (the generated
`find_uci.find_1`, by structural recursion on the list), then `make; is_valid; unmake` on `self`.  The translation returns the
`Result` AND the six fields of `self` afterwards.  On a well-formed board the translated function never panics, its result is the
model's (`Ok(mv)` = the packed model move; the error KIND is the model's, payloads = the trimmed text / the found move), and the board
it leaves is the model's `(findUci b s).2` — which holds the same position as before (`vis`, composing with `rs_unmake_generated`):
a rejected move leaves the position as it was.  The board may start as any `c` with `vis c = vis b` (the scratch words
`occupancy[NO_PIECE]` differ after an `unmake`), which is what `make_all_uci` needs. -/

namespace Inkayaku.Translated
open Inkayaku.Board Inkayaku.Gen Inkayaku.WF Inkayaku.BoardCongr Inkayaku.San

/-- the model's error kind of a `MoveFromUciError` (payloads dropped) -/
def uciErrKind : Rs.MoveFromUciError → UciErr
  | .MoveDoesNotExist _ => .notExist
  | .MoveIsNotValid _ => .notValid

/-- a translated result against a model result: `Ok` payloads related by `r`, errors of the same kind; the payload of
`MoveDoesNotExist` is the text `t` -/
def uciResRel {α β : Type} (t : List Char) (r : α → β → Prop) : Except Rs.MoveFromUciError α → Except UciErr β → Prop
  | .ok a, .ok x => r a x
  | .error (.MoveDoesNotExist t'), .error .notExist => t' = t
  | .error (.MoveIsNotValid _), .error .notValid => True
  | _, _ => False

theorem uciResRel_inv {α β : Type} {t : List Char} {rel : α → β → Prop} {r : Except Rs.MoveFromUciError α} {x : Except UciErr β}
    (h : uciResRel t rel r x) :
    (∃ a y, r = .ok a ∧ x = .ok y ∧ rel a y) ∨ (∃ e, r = .error e ∧ x = .error (uciErrKind e)) := by
  cases r with
  | ok a => cases x with
    | ok y => exact .inl ⟨a, y, rfl, rfl, h⟩
    | error k => exact h.elim
  | error e => cases x with
    | ok y => cases e <;> exact h.elim
    | error k =>
      cases e with
      | MoveDoesNotExist t' =>
        cases k with
        | notExist => exact .inr ⟨_, rfl, rfl⟩
        | notValid => exact h.elim
      | MoveIsNotValid p =>
        cases k with
        | notExist => exact h.elim
        | notValid => exact .inr ⟨_, rfl, rfl⟩

theorem rs_to_uci_string_generated {S P : Type} {fromIndex : Int → Option S} {mask : S → UInt64} {sqfen : S → List Char}
    {pfromIndex : Int → Option P} {pfen : P → Char} (hs : SquareTables fromIndex mask sqfen) (hp : PieceLetters pfromIndex pfen)
    {b : Board} (h : wf b = true) {m : Board.Move} (hm : m ∈ genPseudo b) :
    Rs.Move.to_uci_string m.bits fromIndex sqfen pfromIndex pfen = some m.uci.toList := by
  obtain ⟨h1, h2, h3⟩ := GenSpec.gen_bounds h hm
  exact rs_to_uci_string_eq fromIndex mask sqfen pfromIndex pfen hs hp m h1 h2 h3

theorem uci_beq (a u : String) : decide (a.toList = u.toList) = (a == u) := by
  rw [Bool.eq_iff_iff]
  simp only [decide_eq_true_eq, beq_iff_eq, String.toList_inj]

theorem rs_find_loop {S P : Type} (u : String) (SF : Int → Option S) (Sf : S → List Char) (PF : Int → Option P) (Pf : P → Char) :
    ∀ ms : List Board.Move, (∀ m ∈ ms, Rs.Move.to_uci_string m.bits SF Sf PF Pf = some m.uci.toList) →
      Rs.Bitboard.find_uci.find_1 u.toList SF Sf PF Pf (ms.map encMove) =
        some ((ms.find? (fun m => m.uci == u)).map encMove)
  | [], _ => rfl
  | m :: ms, hms => by
    rw [List.map_cons, encMove, Rs.Bitboard.find_uci.find_1]
    simp only [rs_eval, hms m List.mem_cons_self, uci_beq]
    rw [List.find?_cons]
    cases hq : (m.uci == u)
    · rw [if_neg (by simp)]
      exact rs_find_loop u SF Sf PF Pf ms (fun x hx => hms x (List.mem_cons_of_mem _ hx))
    · rw [if_pos rfl]; rfl

section
variable {S P : Type} {fromIndex : Int → Option S} {mask : S → UInt64} {sqfen : S → List Char}
  {pfromIndex : Int → Option P} {pfen : P → Char}

/-- **`Bitboard::find_uci` (translated) = `San.findUci`**, started on any board `c` holding the position of the well-formed `b` -/
theorem rs_find_uci_vis (hs : SquareTables fromIndex mask sqfen) (hp : PieceLetters pfromIndex pfen)
    {b c : Board} (h : wf b = true) (hc : vis c = vis b) (s : String) (fuel : Nat) (hf : 130 ≤ fuel) :
    ∃ r c', vis c' = vis b ∧
      Rs.Bitboard.find_uci (toRsSide c.white) (toRsSide c.black) c.turn c.ep c.fullmove c.halfmove s.toList rookF bishopF knightF
        kingF whitePawnF blackPawnF fromIndex sqfen pfromIndex pfen fuel = some (r, boardFields c') ∧
      uciResRel (Util.rustTrim s).toList (fun p m => p = encMove m) r (findUci b s).1 ∧
      (∀ m, (findUci b s).1 = .ok m → m ∈ genPseudo b ∧ isMoveLegal b m = true) ∧ (c = b → c' = (findUci b s).2) := by
  have hwc : wf c = true := by rw [wf_congr hc]; exact h
  have hgc : genPseudo c = genPseudo b := genPseudo_congr hc
  unfold Rs.Bitboard.find_uci findUci
  rw [rs_str_trim_string, rs_generate_pseudo_legal_wf hwc fuel hf, hgc]
  simp only [Option.bind_eq_bind, Option.bind_some]
  rw [rs_find_loop (Util.rustTrim s) fromIndex sqfen pfromIndex pfen (genPseudo b)
    (fun m hm => rs_to_uci_string_generated hs hp h hm), Option.bind_some]
  cases hfind : (genPseudo b).find? (fun m => m.uci == Util.rustTrim s) with
  | none =>
    refine ⟨_, c, hc, rfl, ?_, ?_, fun e => e⟩
    · simp only [uciResRel]
    · intro m hm; simp only [reduceCtorEq] at hm
  | some m =>
    have hm : m ∈ genPseudo b := List.mem_of_find?_eq_some hfind
    have hmc : m ∈ genPseudo c := by rw [hgc]; exact hm
    have e1 := rs_make_generated hwc hmc
    have e2 := rs_is_valid_after_make hwc m
    have e3 := (rs_unmake_generated hwc hmc).1
    have e4 := (rs_unmake_generated hwc hmc).2
    have el : isMoveLegal c m = isMoveLegal b m := isMoveLegal_congr hc m
    simp only [boardFields] at e1 e3
    simp only [Option.map_some, encMove, e1, Option.bind_some, e2, e3, Option.pure_def, el]
    have hv : isValid (Board.make b m) = isMoveLegal b m := rfl
    rw [hv]
    cases hl : isMoveLegal b m
    · refine ⟨.error (.MoveIsNotValid (m.bits, m.mvvlva)), Board.unmake (Board.make c m) m, e4.trans hc, rfl, ?_, ?_, ?_⟩
      case' refine_3 => intro e; subst e; rfl
      · simp only [Bool.not_false, if_true, uciResRel]
      · intro m' hm'; simp only [Bool.not_false, if_true, reduceCtorEq] at hm'
    · refine ⟨.ok (m.bits, m.mvvlva), Board.unmake (Board.make c m) m, e4.trans hc, rfl, ?_, ?_, ?_⟩
      case' refine_3 => intro e; subst e; rfl
      · simp only [Bool.not_true, Bool.false_eq_true, if_false, uciResRel]
      · intro m' hm'
        simp only [Bool.not_true, Bool.false_eq_true, if_false, Except.ok.injEq] at hm'
        rw [← hm']; exact ⟨hm, hl⟩

theorem findUci_vis {b : Board} (h : wf b = true) (s : String) : vis (findUci b s).2 = vis b := MoveText.findUci_pure h s

/-- **`Bitboard::find_uci` (translated) = `San.findUci`** on a well-formed board -/
theorem rs_find_uci_eq (hs : SquareTables fromIndex mask sqfen) (hp : PieceLetters pfromIndex pfen)
    {b : Board} (h : wf b = true) (s : String) (fuel : Nat) (hf : 130 ≤ fuel) :
    ∃ r, Rs.Bitboard.find_uci (toRsSide b.white) (toRsSide b.black) b.turn b.ep b.fullmove b.halfmove s.toList rookF bishopF knightF
        kingF whitePawnF blackPawnF fromIndex sqfen pfromIndex pfen fuel = some (r, boardFields (findUci b s).2) ∧
      uciResRel (Util.rustTrim s).toList (fun p m => p = encMove m) r (findUci b s).1 ∧
      vis (findUci b s).2 = vis b := by
  obtain ⟨r, c', -, e, hr, -, hcb⟩ := rs_find_uci_vis hs hp h (rfl : vis b = vis b) s fuel hf
  rw [hcb rfl] at e
  exact ⟨r, e, hr, findUci_vis h s⟩

/-- **`Bitboard::make_uci` (translated) = `San.makeUci`**, started on any board `c` holding the position of the well-formed `b` -/
theorem rs_make_uci_vis (hs : SquareTables fromIndex mask sqfen) (hp : PieceLetters pfromIndex pfen)
    {b c : Board} (h : wf b = true) (hc : vis c = vis b) (s : String) (fuel : Nat) (hf : 130 ≤ fuel) :
    ∃ r c', vis c' = vis (makeUci b s).2 ∧
      Rs.Bitboard.make_uci (toRsSide c.white) (toRsSide c.black) c.turn c.ep c.fullmove c.halfmove s.toList rookF bishopF knightF
        kingF whitePawnF blackPawnF fromIndex sqfen pfromIndex pfen fuel = some (r, boardFields c') ∧
      uciResRel (Util.rustTrim s).toList (fun _ _ => True) r (makeUci b s).1 ∧ (c = b → c' = (makeUci b s).2) := by
  obtain ⟨r, c', hc', e, hr, hgen, hcb⟩ := rs_find_uci_vis hs hp h hc s fuel hf
  have hv := findUci_vis h s
  unfold Rs.Bitboard.make_uci makeUci
  rw [e]
  simp only [Option.bind_eq_bind, Option.bind_some, boardFields]
  revert hr hgen hcb hv
  cases (findUci b s) with
  | mk res b' =>
  intro hr hgen hcb hv
  simp only at hr hgen hcb hv
  rcases uciResRel_inv hr with ⟨p, m, rfl, rfl, rfl⟩ | ⟨e', rfl, rfl⟩
  · have hwc' : wf c' = true := by rw [wf_congr hc']; exact h
    have hm' : m ∈ genPseudo c' := by rw [genPseudo_congr hc']; exact (hgen m rfl).1
    have e1 := rs_make_generated hwc' hm'
    simp only [boardFields] at e1
    simp only [encMove, e1, Option.bind_some, Option.pure_def]
    exact ⟨.ok (), Board.make c' m, make_congr (hc'.trans hv.symm) m, rfl, trivial, fun e => by rw [hcb e]⟩
  · exact ⟨.error e', c', hc'.trans hv.symm, rfl, by cases e' <;> exact hr, hcb⟩

/-- **`Bitboard::make_uci` (translated) = `San.makeUci`** on a well-formed board -/
theorem rs_make_uci_eq (hs : SquareTables fromIndex mask sqfen) (hp : PieceLetters pfromIndex pfen)
    {b : Board} (h : wf b = true) (s : String) (fuel : Nat) (hf : 130 ≤ fuel) :
    ∃ r, Rs.Bitboard.make_uci (toRsSide b.white) (toRsSide b.black) b.turn b.ep b.fullmove b.halfmove s.toList rookF bishopF knightF
        kingF whitePawnF blackPawnF fromIndex sqfen pfromIndex pfen fuel = some (r, boardFields (makeUci b s).2) ∧
      uciResRel (Util.rustTrim s).toList (fun _ _ => True) r (makeUci b s).1 := by
  obtain ⟨r, c', -, e, hr, hcb⟩ := rs_make_uci_vis hs hp h (rfl : vis b = vis b) s fuel hf
  rw [hcb rfl] at e
  exact ⟨r, e, hr⟩

/-- a rejected `make_uci` leaves the position as it was -/
theorem makeUci_error_vis {b : Board} (h : wf b = true) (s : String) (er : UciErr) (he : (makeUci b s).1 = .error er) :
    vis (makeUci b s).2 = vis b :=
  (MoveText.makeUci_err h (Prod.ext he rfl : makeUci b s = (.error er, (makeUci b s).2))).2

end

#print axioms rs_find_uci_vis
#print axioms rs_find_uci_eq
#print axioms rs_make_uci_vis
#print axioms rs_make_uci_eq
#print axioms makeUci_error_vis

/-! non-vacuity: the hypotheses are satisfiable (`demo_wf`, the demo tables of `UciText.lean`); in the demo position the model finds
`e2e4` (with surrounding blanks), and rejects `e2e5` -/
example : ∃ r, Rs.Bitboard.find_uci (toRsSide demoPos.white) (toRsSide demoPos.black) demoPos.turn demoPos.ep demoPos.fullmove
    demoPos.halfmove " e2e4 ".toList rookF bishopF knightF kingF whitePawnF blackPawnF demoSqFrom (fun q => (squareString q).toList)
    demoPcFrom pieceLetter 130 = some (r, boardFields (findUci demoPos " e2e4 ").2) :=
  (rs_find_uci_eq demo_square_tables demo_piece_letters demo_wf " e2e4 " 130 (Nat.le_refl _)).imp fun _ h => h.1
example : (match (findUci demoPos " e2e4 ").1 with | .ok m => m == demoMove | .error _ => false) = true := by decide +kernel
example : (match (findUci demoPos "e2e5").1 with | .error e => e == .notExist | .ok _ => false) = true := by decide +kernel

end Inkayaku.Translated
