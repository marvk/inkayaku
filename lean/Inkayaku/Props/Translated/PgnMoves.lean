import Inkayaku.Props.Translated.PgnTags
/-! The move section and the iterator of the PGN reader (generated module `Pgn`, monadic
mode) against the model: `read_braced_annotation`, `read_semicolon_annotation`, `read_move` (result tokens, move numbers, annotations),
`read_moves` (`while let Some(mv) = self.read_move()?`, then `skip_to_next_line` whose `ReadingFromClosedRead` is swallowed), `read_pgn`,
`Iterator::next`. -/

set_option linter.unusedSectionVars false

namespace Inkayaku.Translated
open Inkayaku.Pgn Inkayaku.C17

def moveOf (m : RawMove) : Rs.PgnRawAnnotatedMove := { mv := strOf m.mv, annotation := m.annotation.map strOf }
def gameOf (g : RawGame) : Rs.PgnRaw := { tag_pairs := tagsOf g.tags, moves := g.moves.map moveOf }

theorem strOf_beq (a b : List UInt8) : (strOf a == strOf b) = decide (a = b) := by
  by_cases h : a = b
  · subst h; simp
  · have : ¬ strOf a = strOf b := fun e => h (strOf_inj e)
    simp [h, this]

theorem contains_strOf (l : List UInt8) (c : UInt8) : Rs.strContains (strOf l) (Char.ofNat c.toNat) = l.contains c := by
  unfold Rs.strContains
  induction l with
  | nil => rfl
  | cons x l ih =>
    have hx : (Char.ofNat c.toNat == Char.ofNat x.toNat) = (c == x) := by
      by_cases h : c = x
      · subst h; rw [beq_self_eq_true, beq_self_eq_true]
      · have h' : ¬ Char.ofNat c.toNat = Char.ofNat x.toNat := fun e => h (char_byte_inj _ _ e)
        rw [beq_eq_false_iff_ne.mpr h, beq_eq_false_iff_ne.mpr h']
    show (Char.ofNat x.toNat :: strOf l).contains (Char.ofNat c.toNat) = (x :: l).contains c
    rw [List.contains_cons, List.contains_cons, ih, hx]

theorem mbind_assoc {α β γ : Type} (p : M α) (f : α → M β) (g : β → M γ) :
    M.bind (M.bind p f) g = M.bind p (fun a => M.bind (f a) g) := by
  unfold M.bind
  induction p with
  | ret a => cases a <;> rfl
  | step inc k ih => simp only [Prog.bind]; congr 1; funext b; exact ih b

section
variable {E : Type} (rd : Reader → List Int → Except E Int × Reader × List Int) (hrd : ReadModel rd)
include hrd

theorem rs_read_braced_annotation_simT (fuel : Nat) :
    SimT fuel (Rs.PgnRawParser.read_braced_annotation rd fuel) (readBracedAnnotation fuel) (relRes (fun r out => r = strOf out)) := by
  unfold Rs.PgnRawParser.read_braced_annotation readBracedAnnotation
  refine simT_try (rs_consume_simT rd hrd fuel 123) (fun e => ⟨_, rfl, rfl⟩) (fun _ _ _ => ?_)
  dsimp only []
  refine simT_pure_bind (simT_attempt rd hrd (rs_read_until_simT rd hrd fuel 125) (fun value out hv => ?_))
  refine simT_try (rs_consume_simT rd hrd fuel 125) (fun e => ⟨_, rfl, rfl⟩) (fun _ _ _ => ?_)
  dsimp only []
  exact simT_pure_bind (simT_pure hv)

theorem rs_read_semicolon_annotation_simT (fuel : Nat) :
    SimT fuel (Rs.PgnRawParser.read_semicolon_annotation rd fuel) (readSemicolonAnnotation fuel) (relRes (fun r out => r = strOf out)) := by
  unfold Rs.PgnRawParser.read_semicolon_annotation readSemicolonAnnotation
  refine simT_try (rs_consume_simT rd hrd fuel 59) (fun e => ⟨_, rfl, rfl⟩) (fun _ _ _ => ?_)
  dsimp only []
  refine simT_pure_bind (simT_attempt rd hrd (rs_read_until_simT rd hrd fuel NL) (fun value out hv => ?_))
  refine simT_try (rs_consume_simT rd hrd fuel NL) (fun e => ⟨_, rfl, rfl⟩) (fun _ _ _ => ?_)
  dsimp only []
  exact simT_pure_bind (simT_pure hv)

omit hrd in
theorem result_token_eq (tok : List UInt8) :
    (strOf tok == [Char.ofNat 42] || strOf tok == [Char.ofNat 49, Char.ofNat 45, Char.ofNat 48] ||
      strOf tok == [Char.ofNat 48, Char.ofNat 45, Char.ofNat 49] ||
      strOf tok == [Char.ofNat 49, Char.ofNat 47, Char.ofNat 50, Char.ofNat 45, Char.ofNat 49, Char.ofNat 47, Char.ofNat 50])
      = isResultToken tok := by
  rw [show [Char.ofNat 42] = strOf [42] from rfl, show [Char.ofNat 49, Char.ofNat 45, Char.ofNat 48] = strOf [49, 45, 48] from rfl,
    show [Char.ofNat 48, Char.ofNat 45, Char.ofNat 49] = strOf [48, 45, 49] from rfl,
    show [Char.ofNat 49, Char.ofNat 47, Char.ofNat 50, Char.ofNat 45, Char.ofNat 49, Char.ofNat 47, Char.ofNat 50]
      = strOf [49, 47, 50, 45, 49, 47, 50] from rfl, strOf_beq, strOf_beq, strOf_beq, strOf_beq]
  rfl

theorem rs_read_move_simT (fuel : Nat) :
    SimT fuel (Rs.PgnRawParser.read_move rd fuel) (readMove fuel) (relRes (fun r out => r = out.map moveOf)) := by
  unfold Rs.PgnRawParser.read_move readMove
  refine simT_try (rs_skip_blank_lines_and_spaces_simT rd hrd fuel) (fun e => ⟨_, rfl, rfl⟩) (fun _ _ _ => ?_)
  rw [M.bind]
  refine simT_bind (rs_read_token_simT rd hrd fuel) (fun token out htok => ?_)
  obtain ⟨tok, rfl, rfl⟩ := htok
  -- the part after the move token `mv` is known is a join point of the translation: with and without a move number
  extract_lets token jp
  dsimp only [token]
  rw [result_token_eq]
  by_cases hres : isResultToken tok = true
  · rw [if_pos hres, if_pos hres]
    exact simT_pure rfl
  · rw [if_neg hres, if_neg hres]
    have tail : ∀ mv : List UInt8, SimT fuel (jp (strOf mv))
        (skipSpaces fuel >>ₑ peekByte >>=ₑ fun byte =>
          (if byte = 123 then readBracedAnnotation fuel >>=ₑ fun a => M.pure (some a)
           else if byte = 59 then readSemicolonAnnotation fuel >>=ₑ fun a => M.pure (some a)
           else M.pure none) >>=ₑ fun annotation => M.pure (some ⟨mv, annotation⟩))
        (relRes (fun r out => r = out.map moveOf)) := by
      intro mv
      dsimp only [jp]
      refine simT_try (rs_skip_spaces_simT rd hrd fuel) (fun e => ⟨_, rfl, rfl⟩) (fun _ _ _ => ?_)
      refine simT_peek rd hrd (fun e => ⟨_, rfl, rfl⟩) (fun byte => ?_)
      dsimp only []
      refine simT_pure_bind ?_
      rw [apply_ite (M.bind · _), apply_ite (M.bind · _)]
      refine simT_ite (byteI_beq byte 123) (fun _ => ?_) (fun _ => simT_ite (byteI_beq byte 59) (fun _ => ?_)
        (fun _ => simT_pure_bind (simT_pure rfl)))
      · rw [mbind_assoc]
        refine simT_try (rs_read_braced_annotation_simT rd hrd fuel) (fun e => ⟨_, rfl, rfl⟩) (fun a a' ha => ?_)
        rw [show a = strOf a' from ha]
        exact simT_pure_bind (simT_pure_bind (simT_pure rfl))
      · rw [mbind_assoc]
        refine simT_try (rs_read_semicolon_annotation_simT rd hrd fuel) (fun e => ⟨_, rfl, rfl⟩) (fun a a' ha => ?_)
        rw [show a = strOf a' from ha]
        exact simT_pure_bind (simT_pure_bind (simT_pure rfl))
    rw [show (Char.ofNat 46) = Char.ofNat (46 : UInt8).toNat from rfl, contains_strOf]
    by_cases hdot : tok.contains 46 = true
    · rw [if_pos hdot, if_pos hdot, mbind_assoc]
      refine simT_try (rs_skip_spaces_simT rd hrd fuel) (fun e => ⟨_, rfl, rfl⟩) (fun _ _ _ => ?_)
      rw [M.bind]
      refine simT_bind (rs_read_token_simT rd hrd fuel) (fun token2 out2 htok2 => ?_)
      obtain ⟨mv, rfl, rfl⟩ := htok2
      exact simT_pure_bind (tail mv)
    · rw [if_neg hdot, if_neg hdot]
      exact simT_pure_bind (tail tok)

/-- a move was read: the stream is shorter, so the loop counter `k` suffices for the rest -/
theorem rs_read_moves_loopT (fuel : Nat) : ∀ k (l : List RawMove),
    SimT (min k fuel) (Rs.PgnRawParser.read_moves.loop_1 rd fuel k (l.map moveOf)) (readMovesLoop fuel k l)
      (relCtl (fun r out => r = out.map moveOf) (fun _ _ => False)) := by
  intro k
  induction k with
  | zero => intro l; rw [Rs.PgnRawParser.read_moves.loop_1, Nat.zero_min]; exact simT_zero
  | succ k ih =>
    intro l
    rw [Rs.PgnRawParser.read_moves.loop_1]
    unfold readMovesLoop
    refine simT_try_at (kf := fun m' => if m'.isSome then min k fuel else min (k + 1) fuel)
      (simT_mono (Nat.min_le_right _ _) (rs_read_move_simT rd hrd fuel)) (fun s m' hg hl hb => ?_) (fun e => ⟨_, rfl, rfl⟩)
      (fun m m' hm => ?_)
    · cases m' with
      | none => exact Nat.lt_of_le_of_lt (stream_run_le _ s hg) hl
      | some mv =>
        exact stream_lt_of s hg hb fun l' h => by
          have := readMove_decreases fuel _ l' mv (by omega) h
          show _ < min k fuel
          omega
    · rw [show m = m'.map moveOf from hm]
      dsimp only []
      refine simT_pure_bind ?_
      cases m' with
      | none => exact simT_pure rfl
      | some mv =>
        have := ih (l ++ [mv])
        rw [List.map_append] at this
        exact this

theorem rs_read_moves_simT (fuel : Nat) :
    SimT fuel (Rs.PgnRawParser.read_moves rd fuel) (readMoves fuel) (relRes (fun r out => r = out.map moveOf)) := by
  unfold Rs.PgnRawParser.read_moves readMoves
  dsimp only []
  have hl := rs_read_moves_loopT rd hrd fuel fuel []
  rw [Nat.min_self] at hl
  rw [M.bind]
  refine simT_bind hl (fun c out hc => ?_)
  match c, out, hc with
  | .ret (.error e), .error e', hc => exact simT_pure hc
  | .next r, .ok res, hc =>
    rw [show r = res.map moveOf from hc]
    dsimp only []
    refine simT_attempt rd hrd (rs_skip_to_next_line_simT rd hrd fuel) (fun t2 out2 h2 => ?_)
    match t2, out2, h2 with
    | .ok u, .ok u', _ => exact simT_pure rfl
    | .error e, .error e', h2 =>
      rw [← show pgnErrKind e = e' from h2]
      cases e with
      | ReadingFromClosedRead => exact simT_pure rfl
      | IllegalConsume p x y => exact simT_pure rfl
      | IllegalSymbol p x => exact simT_pure rfl

theorem rs_read_pgn_simT (fuel : Nat) :
    SimT fuel (Rs.PgnRawParser.read_pgn rd fuel) (readPgn fuel) (relRes (fun r out => r = gameOf out)) := by
  unfold Rs.PgnRawParser.read_pgn readPgn
  refine simT_try (rs_read_tag_pairs_simT rd hrd fuel) (fun e => ⟨_, rfl, rfl⟩) (fun tp tp' ht => ?_)
  rw [show tp = tagsOf tp' from ht]
  dsimp only []
  refine simT_pure_bind ?_
  refine simT_try (rs_skip_blank_lines_simT rd hrd fuel) (fun e => ⟨_, rfl, rfl⟩) (fun _ _ _ => ?_)
  refine simT_try (rs_read_moves_simT rd hrd fuel) (fun e => ⟨_, rfl, rfl⟩) (fun ms ms' hms => ?_)
  rw [show ms = ms'.map moveOf from hms]
  exact simT_pure_bind (simT_pure rfl)

theorem rs_pgn_next_simT (fuel : Nat) :
    SimT fuel (Rs.PgnRawParser.next rd fuel) (Pgn.next fuel)
      (fun r out => match r, out with
        | none, none => True
        | some x, some y => relRes (fun g g' => g = gameOf g') x y
        | _, _ => False) := by
  unfold Rs.PgnRawParser.next Pgn.next
  refine simT_bind (rs_skip_blank_lines_and_spaces_simT rd hrd fuel) (fun t1 out h1 => ?_)
  match t1, out, h1 with
  | .ok u, .ok u', _ =>
    dsimp only []
    exact simT_bind (rs_read_pgn_simT rd hrd fuel) (fun t2 out2 h2 => simT_pure h2)
  | .error e, .error e', h1 =>
    rw [← show pgnErrKind e = e' from h1]
    cases e with
    | ReadingFromClosedRead => exact simT_pure trivial
    | IllegalConsume p x y => exact simT_pure rfl
    | IllegalSymbol p x => exact simT_pure rfl

theorem rs_read_braced_annotation_sim (fuel : Nat) :
    Sim (Rs.PgnRawParser.read_braced_annotation rd fuel) (readBracedAnnotation fuel) (relRes (fun r out => r = strOf out)) :=
  (rs_read_braced_annotation_simT rd hrd fuel).1
theorem rs_read_semicolon_annotation_sim (fuel : Nat) :
    Sim (Rs.PgnRawParser.read_semicolon_annotation rd fuel) (readSemicolonAnnotation fuel) (relRes (fun r out => r = strOf out)) :=
  (rs_read_semicolon_annotation_simT rd hrd fuel).1
theorem rs_read_move_sim (fuel : Nat) :
    Sim (Rs.PgnRawParser.read_move rd fuel) (readMove fuel) (relRes (fun r out => r = out.map moveOf)) :=
  (rs_read_move_simT rd hrd fuel).1
theorem rs_read_moves_loop (fuel : Nat) : ∀ k (l : List RawMove),
    Sim (Rs.PgnRawParser.read_moves.loop_1 rd fuel k (l.map moveOf)) (readMovesLoop fuel k l)
      (relCtl (fun r out => r = out.map moveOf) (fun _ _ => False)) := fun k l => (rs_read_moves_loopT rd hrd fuel k l).1
theorem rs_read_moves_sim (fuel : Nat) :
    Sim (Rs.PgnRawParser.read_moves rd fuel) (readMoves fuel) (relRes (fun r out => r = out.map moveOf)) :=
  (rs_read_moves_simT rd hrd fuel).1
theorem rs_read_pgn_sim (fuel : Nat) :
    Sim (Rs.PgnRawParser.read_pgn rd fuel) (readPgn fuel) (relRes (fun r out => r = gameOf out)) :=
  (rs_read_pgn_simT rd hrd fuel).1

theorem rs_pgn_next_eq (fuel : Nat) :
    Sim (Rs.PgnRawParser.next rd fuel) (Pgn.next fuel)
      (fun r out => match r, out with
        | none, none => True
        | some x, some y => relRes (fun g g' => g = gameOf g') x y
        | _, _ => False) :=
  (rs_pgn_next_simT rd hrd fuel).1

#print axioms rs_read_move_sim
#print axioms rs_read_moves_sim
#print axioms rs_read_pgn_sim
#print axioms rs_pgn_next_eq

end
end Inkayaku.Translated
