import Inkayaku.Model.Board
import Inkayaku.Gen.Rs.KillerTable
import Inkayaku.Gen.Rs.MoveOrder
import Inkayaku.Gen.Rs.Board
import Inkayaku.Model.Search
import Inkayaku.Props.Translated.Basic

namespace Inkayaku.Translated
open Inkayaku.Rs Inkayaku.Board

/-! `KillerTable::{get, put}` (generated `KillerTable.*`) = `Search.killerGet` / `killerPut`; `MvvLvaMoveOrder::{eval, move_bonus}` and the key
closure of `sort` (generated `MvvLvaMoveOrder.sort_key` …) = `Search.moveKey`. -/

def toRsMove (m : Board.Move) : Rs.Move := { bits := m.bits.toNat, mvvlva := m.mvvlva }

theorem toRsMove_bits_eq (a b : Board.Move) : ((toRsMove a).bits = (toRsMove b).bits) ↔ a.bits = b.bits := by
  simp [toRsMove, Int.natCast_inj, UInt64.toNat_inj]

theorem rs_killer_get_eq (k : List Board.Move) (d : Nat) :
    KillerTable.get (k.map toRsMove) (d : Int) = some ((Search.killerGet k d).map toRsMove) := by
  unfold KillerTable.get Search.killerGet vecGet
  simp only [Option.pure_def, Int.toNat_natCast, List.getElem?_map]
  cases k[d]? with
  | none => rfl
  | some m =>
    by_cases hb : m.bits = 0
    · simp [hb, toRsMove]
    · have : ¬ m.bits.toNat = 0 := fun h => hb (UInt64.toNat_inj.mp (by simpa using h))
      simp [hb, toRsMove, this]

#print axioms rs_killer_get_eq

theorem rs_killer_put_eq (k : List Board.Move) (d : Nat) (m : Board.Move) (hd : d < 18446744073709551615) :
    KillerTable.put (k.map toRsMove) (d : Int) (toRsMove m) = some ((Search.killerPut k d m).map toRsMove) := by
  unfold KillerTable.put Search.killerPut vecResize vecSet
  rw [chk_usize (by omega) (by omega)]
  have e1 : ((d : Int) + 1).toNat = d + 1 := by omega
  have z : ({ bits := 0, mvvlva := 0 } : Rs.Move) = toRsMove ⟨0, 0⟩ := rfl
  simp only [Option.bind_eq_bind, Option.bind_some, e1, Int.toNat_natCast, List.length_map, z]
  by_cases hl : k.length ≥ d + 1
  · simp only [hl, if_true, ← List.map_take, List.length_map, List.length_take]
    have : d < min (d + 1) k.length := by omega
    simp [this, List.map_set]
  · simp only [hl, if_false, List.length_append, List.length_map, List.length_replicate]
    have : d < k.length + (d + 1 - k.length) := by omega
    simp [this, List.map_set]

#print axioms rs_killer_put_eq

/-- non-vacuity: `put` truncates a longer table (the `resize` quirk the model describes) and extends a shorter one -/
example : KillerTable.put [⟨5, 0⟩, ⟨6, 0⟩, ⟨7, 0⟩] 1 ⟨9, 1⟩ = some [⟨5, 0⟩, ⟨9, 1⟩] := by decide
example : KillerTable.put [] 2 ⟨9, 1⟩ = some [⟨0, 0⟩, ⟨0, 0⟩, ⟨9, 1⟩] := by decide
example : KillerTable.get [⟨5, 0⟩, ⟨0, 3⟩] 1 = some none := by decide
example : KillerTable.get [⟨5, 0⟩, ⟨0, 3⟩] 0 = some (some ⟨5, 0⟩) := by decide

theorem rs_move_bonus_eq (m : Board.Move) (h : Option Board.Move) (b : Int) :
    MvvLvaMoveOrder.move_bonus (toRsMove m) (h.map toRsMove) b =
      some (match h with | some x => if x.bits == m.bits then b else 0 | none => 0) := by
  unfold MvvLvaMoveOrder.move_bonus
  cases h with
  | none => rfl
  | some x =>
    by_cases hb : x.bits = m.bits
    · have := (toRsMove_bits_eq x m).mpr hb
      simp [Option.filter, this, hb]
    · have hne : ¬ (toRsMove x).bits = (toRsMove m).bits := fun h => hb ((toRsMove_bits_eq x m).mp h)
      simp [Option.filter, hne, hb]

theorem rs_sort_key_eq (m : Board.Move) (pv tt killer : Option Board.Move)
    (hlo : -2147483648 ≤ m.mvvlva) (hhi : m.mvvlva + 2400000 ≤ 2147483647) :
    MvvLvaMoveOrder.sort_key (toRsMove m) (pv.map toRsMove) (tt.map toRsMove) (killer.map toRsMove) =
      some (Search.moveKey m pv tt killer) := by
  unfold MvvLvaMoveOrder.sort_key Search.moveKey MvvLvaMoveOrder.eval
  simp only [rs_move_bonus_eq, Option.bind_eq_bind, Option.bind_some, Option.pure_def]
  generalize h1 : (match pv with | some x => if x.bits == m.bits then (900000 : Int) else 0 | none => 0) = b1
  generalize h2 : (match tt with | some x => if x.bits == m.bits then (800000 : Int) else 0 | none => 0) = b2
  generalize h3 : (match killer with | some x => if x.bits == m.bits then (700000 : Int) else 0 | none => 0) = b3
  have r1 : 0 ≤ b1 ∧ b1 ≤ 900000 := by
    subst h1; split
    · split <;> omega
    · omega
  have r2 : 0 ≤ b2 ∧ b2 ≤ 800000 := by
    subst h2; split
    · split <;> omega
    · omega
  have r3 : 0 ≤ b3 ∧ b3 ≤ 700000 := by
    subst h3; split
    · split <;> omega
    · omega
  have e : (toRsMove m).mvvlva = m.mvvlva := rfl
  rw [e]
  simp (disch := omega) only [chk_i32, Option.bind_some]
  subst h1 h2 h3; rfl

#print axioms rs_sort_key_eq

example : MvvLvaMoveOrder.sort_key ⟨77, 500⟩ (some ⟨77, 0⟩) none (some ⟨77, 1⟩) = some 1600500 := by decide
/-- outside the precondition the Rust really overflows -/
example : MvvLvaMoveOrder.sort_key ⟨77, 2147000000⟩ (some ⟨77, 0⟩) none none = none := by decide

#print axioms rs_move_bonus_eq

end Inkayaku.Translated
