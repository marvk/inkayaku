import Inkayaku.Props.Translated.GenerateLegal
import Inkayaku.Props.Closure
/-! C01 for the regenerated source: the legal-move generator translated from board/src/board.rs offers exactly
the legal moves of the rules

`rs_generate_legal_eq_rules` composes `rs_generate_legal_moves_eq` (the translated `Bitboard::generate_legal_moves` — move
constructor, bit-scan loops, the five generator helpers, the two top-level generators, the make / is_valid / unmake filter, all
translated from the Rust source on every run — returns the model's `genLegal b`) with `Closure.genLegal_eq_rules` /
`C01.legal_moves_exact` (the model's `genLegal b` is the set of legal moves of `Spec/Chess.lean`, without duplicates): for every
well-formed board the translated Rust function never panics, and the moves it returns, decoded with the getters' `decode` and
written as (source, target, promotion) triples resp. as UCI strings, are exactly the legal moves of the rules — nothing missing,
nothing extra, no duplicates — and `self` holds the same position afterwards.
Trusted: the semantics rs2lean gives to the Rust subset (header of `Gen/Rs/Prelude.lean`) and the six attack-table lookups taken
as the functions `rookF` … `kingF` (`Props/Translated/Magic.lean` ties the two magic lookups to the translated `get_attacks`).
-/

namespace Inkayaku.Translated
open Inkayaku.Board Inkayaku.Gen Inkayaku.WF Inkayaku.Abs

def decMove (p : UInt64 × Int) : MoveF := decode p.1

theorem decMove_enc (m : Board.Move) : decMove (encMove m) = m.f := rfl

/-- **C01 for the translated generator** -/
theorem rs_generate_legal_eq_rules {b : Board} (h : wf b = true) (fuel : Nat) (hf : 130 ≤ fuel) :
    ∃ (out : List (UInt64 × Int)) (c' : Board),
      Rs.Bitboard.generate_legal_moves (toRsSide b.white) (toRsSide b.black) b.turn b.ep b.fullmove b.halfmove rookF bishopF
        knightF kingF whitePawnF blackPawnF fuel = some (out, boardFields c') ∧
      vis c' = vis b ∧
      (∀ sm : Spec.SMove, sm ∈ out.map (fun p => absMove (decMove p)) ↔ sm ∈ Spec.legalMoves (abs b)) ∧
      (∀ s : String, s ∈ out.map (fun p => (decMove p).uci) ↔ s ∈ (Spec.legalMoves (abs b)).map Spec.SMove.uci) ∧
      (out.map (fun p => (decMove p).uci)).Nodup := by
  obtain ⟨c', hc', e⟩ := rs_generate_legal_moves_eq h fuel hf
  obtain ⟨huci, hnodup, -, -, -⟩ := C01.legal_moves_exact h (fun _ hm => C02.make_eq_apply h hm)
  have e1 : ((genLegal b).map encMove).map (fun p => absMove (decMove p)) = (genLegal b).map (absMove ∘ Move.f) := by
    rw [List.map_map]; rfl
  have e2 : ((genLegal b).map encMove).map (fun p => (decMove p).uci) = (genLegal b).map Move.uci := by
    rw [List.map_map]; rfl
  refine ⟨(genLegal b).map encMove, c', e, hc', ?_, ?_, ?_⟩
  · intro sm; rw [e1]; exact Closure.genLegal_eq_rules h sm
  · intro s; rw [e2]; exact huci s
  · rw [e2]; exact hnodup

#print axioms rs_generate_legal_eq_rules

theorem rs_generate_pseudo_legal_eq_rules {b : Board} (h : wf b = true) (fuel : Nat) (hf : 130 ≤ fuel) :
    ∃ out : List (UInt64 × Int),
      Rs.Bitboard.generate_pseudo_legal_moves (toRsSide b.white) (toRsSide b.black) b.turn b.ep b.halfmove rookF bishopF
        knightF kingF whitePawnF blackPawnF fuel = some out ∧
      (∀ sm : Spec.SMove, sm ∈ out.map (fun p => absMove (decMove p)) ↔ sm ∈ Spec.pseudoMoves (abs b)) ∧
      (out.map (fun p => (decMove p).uci)).Nodup := by
  refine ⟨(genPseudo b).map encMove, rs_generate_pseudo_legal_wf h fuel hf, ?_, ?_⟩
  · intro sm
    have : ((genPseudo b).map encMove).map (fun p => absMove (decMove p)) = (genPseudo b).map (absMove ∘ Move.f) := by
      rw [List.map_map]; rfl
    rw [this]; exact C01.genPseudo_iff h sm
  · have : ((genPseudo b).map encMove).map (fun p => (decMove p).uci) = (genPseudo b).map Move.uci := by
      rw [List.map_map]; rfl
    rw [this]; exact C01.genPseudo_nodup h

#print axioms rs_generate_pseudo_legal_eq_rules

example : wf demoPos = true := demo_wf
example : ∃ (out : List (UInt64 × Int)) (c' : Board),
    Rs.Bitboard.generate_legal_moves (toRsSide demoPos.white) (toRsSide demoPos.black) demoPos.turn demoPos.ep demoPos.fullmove
      demoPos.halfmove rookF bishopF knightF kingF whitePawnF blackPawnF 130 = some (out, boardFields c') ∧ vis c' = vis demoPos :=
  let ⟨out, c', h1, h2, _⟩ := rs_generate_legal_eq_rules demo_wf 130 (Nat.le_refl _)
  ⟨out, c', h1, h2⟩

end Inkayaku.Translated
