import Inkayaku.Gen.Rs.MakeAllUci
import Inkayaku.Props.Translated.FindUci
import Inkayaku.Proofs.WfStepProof
/-! `Bitboard::make_all_uci` (board/src/board.rs; generated module `MakeAllUci`) = `San.makeAllUci` (Model/San.lean); property C13

The translation: the `for uci in moves` loop is `make_all_uci.for_1` (structural recursion on the list of texts; state = the six fields of
`self` and the rollback vector `potential_unmake`; `Ctl.ret` = the early `return Err(error)`), the rollback loop
`for mv in potential_unmake.iter().rev() { self.unmake(*mv) }` is `make_all_uci.for_2`.  On a board that is well-formed with clock
budget `moves.len()` (`Search.Inv`: every accepted move keeps it well-formed, `Search.make_inv`) the translated function never panics,
returns `Ok(())` / an error of the model's kind, and leaves a board holding the position of the model's `(makeAllUci b ss).2`; on an
error that is the position it started from (all made moves are taken back). -/

namespace Inkayaku.Translated
open Inkayaku.Board Inkayaku.Gen Inkayaku.WF Inkayaku.BoardCongr Inkayaku.San

/-- `made` (most recent first) can be taken back from `cur`, ending in the position of `orig` -/
def Roll : List Board.Move → Board → Board → Prop
  | [], cur, orig => vis cur = vis orig
  | m :: made, cur, orig => ∃ p, wf p = true ∧ m ∈ genPseudo p ∧ vis cur = vis (Board.make p m) ∧ Roll made p orig

theorem Roll.congr {made : List Board.Move} {cur cur' orig : Board} (h : vis cur' = vis cur) (r : Roll made cur orig) :
    Roll made cur' orig := by
  cases made with
  | nil => exact h.trans r
  | cons m made => obtain ⟨p, h1, h2, h3, h4⟩ := r; exact ⟨p, h1, h2, h.trans h3, h4⟩

theorem rs_rollback : ∀ (made : List Board.Move) (cur orig : Board), Roll made cur orig →
    Rs.Bitboard.make_all_uci.for_2 (made.map encMove) (toRsSide cur.white) (toRsSide cur.black) cur.turn cur.ep cur.fullmove cur.halfmove =
      some (boardFields (made.foldl (fun acc m => Board.unmake acc m) cur)) ∧
    vis (made.foldl (fun acc m => Board.unmake acc m) cur) = vis orig
  | [], cur, orig, r => ⟨rfl, r⟩
  | m :: made, cur, orig, r => by
    obtain ⟨p, hp, hm, hc, hr⟩ := r
    obtain ⟨e1, e2⟩ := rs_unmake_vis hp hm hc
    obtain ⟨e3, e4⟩ := rs_rollback made (Board.unmake cur m) orig (hr.congr e2)
    refine ⟨?_, e4⟩
    rw [List.map_cons, encMove, Rs.Bitboard.make_all_uci.for_2]
    simp only [rs_eval, e1, boardFields]
    exact e3

def uciResKind {α : Type} : Except Rs.MoveFromUciError α → Except UciErr α
  | .ok a => .ok a
  | .error e => .error (uciErrKind e)

section
variable {S P : Type} {fromIndex : Int → Option S} {mask : S → UInt64} {sqfen : S → List Char}
  {pfromIndex : Int → Option P} {pfen : P → Char}

/-- Model and translation run in lockstep on the SAME boards (scratch words included); `vis` only serves to carry well-formedness
and generation over to the board a `find_uci` leaves. -/
theorem rs_make_all_loop (hs : SquareTables fromIndex mask sqfen) (hp : PieceLetters pfromIndex pfen) (fuel : Nat) (hf : 130 ≤ fuel)
    (orig : Board) :
    ∀ (ss : List String) (b : Board) (made : List Board.Move), Search.Inv ss.length b → Roll made b orig →
      (∃ pu, (makeAllUciAux b ss made).1 = .ok () ∧
          Rs.Bitboard.make_all_uci.for_1 rookF bishopF knightF kingF whitePawnF blackPawnF fromIndex sqfen pfromIndex pfen fuel
            (ss.map String.toList) (toRsSide b.white) (toRsSide b.black) b.turn b.ep b.fullmove b.halfmove (made.reverse.map encMove) =
          some (Rs.Ctl.next (toRsSide (makeAllUciAux b ss made).2.white, toRsSide (makeAllUciAux b ss made).2.black,
            ((makeAllUciAux b ss made).2.turn : Int), ((makeAllUciAux b ss made).2.ep : Int),
            ((makeAllUciAux b ss made).2.fullmove : Int), ((makeAllUciAux b ss made).2.halfmove : Int), pu))) ∨
       (∃ er, (makeAllUciAux b ss made).1 = .error (uciErrKind er) ∧ vis (makeAllUciAux b ss made).2 = vis orig ∧
          Rs.Bitboard.make_all_uci.for_1 rookF bishopF knightF kingF whitePawnF blackPawnF fromIndex sqfen pfromIndex pfen fuel
            (ss.map String.toList) (toRsSide b.white) (toRsSide b.black) b.turn b.ep b.fullmove b.halfmove (made.reverse.map encMove) =
          some (Rs.Ctl.ret (Except.error er, boardFields (makeAllUciAux b ss made).2)))
  | [], b, made, _, _ => Or.inl ⟨_, rfl, rfl⟩
  | s :: ss, b, made, hinv, hroll => by
    have h : wf b = true := hinv.1
    obtain ⟨r, e, hr, hv⟩ := rs_find_uci_eq hs hp h s fuel hf
    rw [List.map_cons, Rs.Bitboard.make_all_uci.for_1, MoveText.makeAllUciAux_cons]
    simp only [rs_eval, e, boardFields]
    generalize (findUci b s).2 = b' at *
    rcases uciResRel_inv hr with ⟨p, m, rfl, hm, rfl⟩ | ⟨e', rfl, he⟩
    · obtain ⟨hmg, hml⟩ := List.mem_filter.mp (MoveText.findUci_ok_legal hm).1
      rw [hm]
      have e1 := rs_make_generated (b := b') (by rw [wf_congr hv]; exact h) (by rw [genPseudo_congr hv]; exact hmg)
      simp only [boardFields] at e1
      have hres := rs_make_all_loop hs hp fuel hf orig ss (Board.make b' m) (m :: made)
        (Search.Inv_congr (make_congr hv.symm m) (Search.make_inv ss.length b m hinv (Or.inl hmg) hml)) ⟨b, h, hmg, make_congr hv m, hroll⟩
      simp only [boardFields, encMove, e1, Option.bind_some, List.reverse_cons, List.map_append, List.map_cons, List.map_nil] at hres ⊢
      exact hres
    · rw [he]
      obtain ⟨r1, r2⟩ := rs_rollback made b' orig (hroll.congr hv)
      refine Or.inr ⟨e', rfl, r2, ?_⟩
      simp only [boardFields, List.map_reverse, List.reverse_reverse] at r1 ⊢
      rw [r1]; rfl

theorem rs_make_all_uci_eq (hs : SquareTables fromIndex mask sqfen) (hp : PieceLetters pfromIndex pfen)
    {b : Board} (ss : List String) (hinv : Search.Inv ss.length b) (fuel : Nat) (hf : 130 ≤ fuel) :
    ∃ r c', Rs.Bitboard.make_all_uci (toRsSide b.white) (toRsSide b.black) b.turn b.ep b.fullmove b.halfmove (ss.map String.toList)
        rookF bishopF knightF kingF whitePawnF blackPawnF fromIndex sqfen pfromIndex pfen fuel = some (r, boardFields c') ∧
      uciResKind r = (makeAllUci b ss).1 ∧ vis c' = vis (makeAllUci b ss).2 ∧
      (∀ e, (makeAllUci b ss).1 = .error e → vis (makeAllUci b ss).2 = vis b) := by
  have hres := rs_make_all_loop hs hp fuel hf b ss b [] hinv (rfl : vis b = vis b)
  unfold Rs.Bitboard.make_all_uci makeAllUci
  simp only [List.reverse_nil, List.map_nil] at hres
  rcases hres with ⟨pu, h1, h2⟩ | ⟨er, h1, h2, h3⟩
  · refine ⟨.ok (), _, ?_, ?_, rfl, ?_⟩
    · simp only [Option.bind_eq_bind, h2, Option.bind_some, Option.pure_def, boardFields]
    · rw [h1]; rfl
    · intro e he; rw [h1] at he; simp only [reduceCtorEq] at he
  · refine ⟨.error er, _, ?_, ?_, rfl, ?_⟩
    · simp only [Option.bind_eq_bind, h3, Option.bind_some, Option.pure_def]
    · rw [h1]; rfl
    · intro _ _; exact h2

end

#print axioms rs_unmake_vis
#print axioms rs_rollback
#print axioms rs_make_all_loop
#print axioms rs_make_all_uci_eq

/-! non-vacuity: the hypotheses are satisfiable (`demo_wf`; the demo position has clocks 3 / 1, far from the bounds), and the model
rejects `e2e4 e2e4` there, restoring the position -/
theorem demo_inv : Search.Inv 2 demoPos := ⟨demo_wf, by decide, by decide⟩
example : ∃ r c', Rs.Bitboard.make_all_uci (toRsSide demoPos.white) (toRsSide demoPos.black) demoPos.turn demoPos.ep demoPos.fullmove
    demoPos.halfmove (["e2e4", "e2e4"].map String.toList) rookF bishopF knightF kingF whitePawnF blackPawnF demoSqFrom
    (fun q => (squareString q).toList) demoPcFrom pieceLetter 130 = some (r, boardFields c') := by
  obtain ⟨r, c', h, -⟩ := rs_make_all_uci_eq demo_square_tables demo_piece_letters ["e2e4", "e2e4"] demo_inv 130 (Nat.le_refl _)
  exact ⟨r, c', h⟩
example : (match (makeAllUci demoPos ["e2e4", "e2e4"]).1 with | .error e => e == .notExist | .ok _ => false) = true := by
  decide +kernel
example : vis (makeAllUci demoPos ["e2e4", "e2e4"]).2 = vis demoPos := by decide +kernel

end Inkayaku.Translated
