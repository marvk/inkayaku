import Inkayaku.Proofs.BoardCongr
import Inkayaku.Props.Translated.Unmake
import Inkayaku.Props.Translated.GenMake
import Inkayaku.Props.Translated.GenCommon
import Inkayaku.Gen.Rs.Legal
import Inkayaku.Proofs.GenOK
/-! The translated `Bitboard::unmake` and `Bitboard::is_move_legal` (`make; is_valid; unmake`) on generated moves of well-formed boards

`rs_unmake_generated` uses `Unmake.lean` only; the end-to-end `rs_is_move_legal_generated` composes it with `rs_make_generated` and
`rs_is_valid_after_make` (`GenMake.lean`) — the Rust `is_move_legal` calls all three.  This file does not import `ZobristXor.lean` / `GenXor.lean`:
a change of the Rust `zobrist_xor` leaves these theorems standing. -/

namespace Inkayaku.Translated
open Inkayaku.Board Inkayaku.Gen Inkayaku.MoveBits Inkayaku.BoardCongr Inkayaku.WF Inkayaku.MakeUnmake

/-- `cur`: any board holding the position after a generated move; `unmake` gives back the original position up to the scratch
word `occupancy[NO_PIECE]` (C03) -/
theorem rs_unmake_vis {p cur : Board} (h : wf p = true) {m : Board.Move} (hm : m ∈ genPseudo p)
    (hc : vis cur = vis (Board.make p m)) :
    Rs.Bitboard.unmake (toRsSide cur.white) (toRsSide cur.black) cur.turn cur.ep cur.fullmove cur.halfmove m.bits =
      some (boardFields (Board.unmake cur m)) ∧ vis (Board.unmake cur m) = vis p := by
  obtain ⟨hf1, hf2, hh, ht⟩ := wf_clocks h
  obtain ⟨-, hok⟩ := GenOK.genPseudo_ok h m hm
  refine ⟨?_, (unmake_congr hc m).trans (MakeUnmake.unmake_make hok)⟩
  obtain ⟨hC, hP⟩ := moveOK_no_panic hok
  have e1 : cur.turn = 1 - p.turn := (turn_congr hc).trans rfl
  have e2 : cur.fullmove = p.fullmove + p.turn := (congrArg Board.fullmove hc : (vis cur).fullmove = _).trans rfl
  exact rs_unmake_move_eq cur m (by rw [e1]; omega) (by rw [e1, e2]; omega) (by rw [e2]; omega) hC hP

theorem rs_unmake_generated {b : Board} (h : wf b = true) {m : Board.Move} (hm : m ∈ genPseudo b) :
    Rs.Bitboard.unmake (toRsSide (Board.make b m).white) (toRsSide (Board.make b m).black) (Board.make b m).turn
        (Board.make b m).ep (Board.make b m).fullmove (Board.make b m).halfmove m.bits =
      some (boardFields (Board.unmake (Board.make b m) m)) ∧
    vis (Board.unmake (Board.make b m) m) = vis b :=
  rs_unmake_vis h hm rfl

#print axioms rs_unmake_generated

/-- the board it leaves, `unmake (make b m)`, is the original position up to the scratch word (second component of
`rs_unmake_generated`) -/
theorem rs_is_move_legal_generated {b : Board} (h : wf b = true) {m : Board.Move} (hm : m ∈ genPseudo b) :
    Rs.Bitboard.is_move_legal (toRsSide b.white) (toRsSide b.black) b.turn b.ep b.fullmove b.halfmove m.bits
      rookF bishopF knightF whitePawnF blackPawnF kingF =
    some (isMoveLegal b m, boardFields (Board.unmake (Board.make b m) m)) := by
  unfold Rs.Bitboard.is_move_legal
  rw [rs_make_generated h hm]
  simp only [boardFields, Option.bind_eq_bind, Option.bind_some, rs_is_valid_after_make h m, (rs_unmake_generated h hm).1,
    Option.pure_def]

#print axioms rs_is_move_legal_generated

example : vis (Board.unmake (Board.make demoPos demoMove) demoMove) = vis demoPos := (rs_unmake_generated demo_wf demo_gen).2
example : Rs.Bitboard.is_move_legal (toRsSide demoPos.white) (toRsSide demoPos.black) demoPos.turn demoPos.ep demoPos.fullmove
    demoPos.halfmove demoMove.bits rookF bishopF knightF whitePawnF blackPawnF kingF =
    some (isMoveLegal demoPos demoMove, boardFields (Board.unmake (Board.make demoPos demoMove) demoMove)) :=
  rs_is_move_legal_generated demo_wf demo_gen

end Inkayaku.Translated
