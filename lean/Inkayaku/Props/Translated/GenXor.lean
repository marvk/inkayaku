import Inkayaku.Props.Translated.ZobristXor
import Inkayaku.Props.Translated.GenCommon
import Inkayaku.Proofs.GenFacts
/-! The translated `Bitboard::zobrist_xor` on generated moves of well-formed boards

This file does not import `Make.lean` / `Unmake.lean` / `GenMake.lean` / `GenUnmake.lean`: a change of the Rust `make` / `unmake`
leaves this theorem standing. -/

namespace Inkayaku.Translated
open Inkayaku.Board Inkayaku.Gen Inkayaku.MoveBits Inkayaku.WF

theorem rs_zobrist_xor_generated {b : Board} (h : wf b = true) {m : Board.Move} (hm : m ∈ genPseudo b) :
    Rs.Bitboard.zobrist_xor m.bits Zobrist.blackToMove zCastleF zEnPassantF zPieceSquareF = some (Zobrist.xorOf m.f) := by
  obtain ⟨-, hside, -, -, -, -, -, -, -, hk⟩ := GenFacts.genPseudo_hashok h m hm
  refine rs_zobrist_xor_move m ?_ ?_
  · intro hc
    rw [if_pos hc] at hk
    unfold ZobristStep.CastleOK at hk
    intro hn
    rw [hn] at hk
    exact hk
  · intro hc he hs
    simp only [hc, he, Bool.false_eq_true, if_false, if_true] at hk
    have : ¬ b.turn = 0 := by rw [← hside]; exact hs
    rw [if_neg this] at hk
    exact hk.2.2.1

#print axioms rs_zobrist_xor_generated

example : Rs.Bitboard.zobrist_xor demoMove.bits Zobrist.blackToMove zCastleF zEnPassantF zPieceSquareF =
    some (Zobrist.xorOf demoMove.f) := rs_zobrist_xor_generated demo_wf demo_gen

end Inkayaku.Translated
