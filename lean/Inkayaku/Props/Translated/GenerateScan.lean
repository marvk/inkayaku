import Inkayaku.Model.Board
import Inkayaku.Proofs.Bits
import Inkayaku.Proofs.GenLength
import Inkayaku.Gen.Rs.Generate
import Inkayaku.Props.Translated.PlayerState
/-! The bit-scan loops of the move generator and the constants it uses (generated module `Generate`)

Every loop of the generator has the shape `while occ != 0 { let (mask, shift) = mask_and_shift_from_lowest_one_bit(occ);
occ &= !mask; BODY(shift) }`; the model writes it as a fold over `bitsAsc occ = (List.range 64).filter (testU occ)` (`scan_loop`).
`rs_gen_consts`: the rank / castling masks and flag masks REGENERATED from constants.rs are those of the build
(`Gen.BoardConsts`) the model uses.
-/

namespace Inkayaku.Translated
open Inkayaku.Board Inkayaku.Gen Inkayaku.Bits

/-- the lowest set bit is the head of the list (`trailingZeros_eq_head`), and clearing a bit filters it out of the list, which has
no duplicates -/
theorem bitsAsc_pop (x : UInt64) (h : x ≠ 0) :
    bitsAsc x = trailingZeros x :: bitsAsc (x &&& ~~~bitU (trailingZeros x)) := by
  have hclear : ∀ t, t < 64 → bitsAsc (x &&& ~~~bitU t) = (bitsAsc x).filter (· != t) := by
    intro t ht
    unfold bitsAsc
    rw [List.filter_filter]
    refine List.filter_congr fun s hs => ?_
    rw [testU_and, Bits.testU_not _ _ (List.mem_range.mp hs), testU_bitU t s ht, Bool.and_comm]
    by_cases e : t = s
    · subst e; simp
    · have : s ≠ t := fun h => e h.symm
      simp [e, this]
  cases hb : bitsAsc x with
  | nil =>
    obtain ⟨t, -, ht⟩ := (Bits.ne_zero_iff x).mp (by simpa using h)
    have := (Bits.mem_bitsAsc x t).mpr ht
    rw [hb] at this; cases this
  | cons t rest =>
    have e : trailingZeros x = t := by rw [trailingZeros_eq_head, hb]; rfl
    have ht : t < 64 := Bits.testU_lt ((Bits.mem_bitsAsc x t).mp (hb ▸ List.mem_cons_self))
    have hn : (t :: rest).Nodup := hb ▸ List.Pairwise.filter _ List.nodup_range
    rw [e, hclear t ht, hb, List.filter_cons_of_neg (by simp), List.filter_eq_self.mpr]
    intro s hs
    have : s ≠ t := fun e => (List.nodup_cons.mp hn).1 (e ▸ hs)
    simpa using this

theorem bitsAsc_zero : bitsAsc 0 = [] := by decide

theorem mem_bitsAsc_pop {x : UInt64} (h : x ≠ 0) {s : Nat} (hs : s ∈ bitsAsc (x &&& ~~~bitU (trailingZeros x))) :
    s ∈ bitsAsc x := by
  rw [bitsAsc_pop x h]; exact List.mem_cons_of_mem _ hs

theorem tz_mem_bitsAsc {x : UInt64} (h : x ≠ 0) : trailingZeros x ∈ bitsAsc x := by
  rw [bitsAsc_pop x h]; exact List.mem_cons_self

theorem tz_lt (x : UInt64) (h : x ≠ 0) : trailingZeros x < 64 :=
  Bits.testU_lt ((Bits.mem_bitsAsc x _).mp (tz_mem_bitsAsc h))

/-- `mask_and_shift_from_lowest_one_bit` on a non-empty word (on 0 the shift `1 << 64` panics; every loop tests `!= 0` first) -/
@[rs_eval] theorem rs_mask_and_shift (x : UInt64) (h : x ≠ 0) :
    Rs.mask_and_shift_from_lowest_one_bit x = some (bitU (trailingZeros x), ((trailingZeros x : Nat) : Int)) := by
  unfold Rs.mask_and_shift_from_lowest_one_bit
  simp only [u64Tz_eq, u64Shl_natCast _ _ (tz_lt x h), Option.bind_eq_bind, Option.bind_some, Option.pure_def, bitU]

theorem rs_mask_and_shift_zero : Rs.mask_and_shift_from_lowest_one_bit 0 = none := by decide

/-- `loop fuel state occ` is a translated `while occ != 0 { pop lowest bit; BODY }` with state `enc a` (`a` = the model's
accumulator).  If one iteration with at least `K` units of fuel left performs the model step `g` (`hstep`, for squares
satisfying `P`) and the loop exits on the empty word (`hexit`), then with more than `K + popcount` units of fuel the loop
computes the model's fold.  (`K` = what the body needs: 0 for `make_move`, 65 for a nested scan.) -/
theorem scan_loop {σ τ : Type} (loop : Nat → σ → UInt64 → Option (σ × UInt64)) (enc : τ → σ) (g : τ → Nat → τ) (K : Nat)
    (P : Nat → Prop)
    (hexit : ∀ fuel a, loop (fuel + 1) (enc a) 0 = some (enc a, 0))
    (hstep : ∀ fuel a x, x ≠ 0 → K ≤ fuel → P (trailingZeros x) →
      loop (fuel + 1) (enc a) x = loop fuel (enc (g a (trailingZeros x))) (x &&& ~~~bitU (trailingZeros x))) :
    ∀ (fuel : Nat) (x : UInt64) (a : τ), (∀ s ∈ bitsAsc x, P s) → K + (bitsAsc x).length < fuel →
      loop fuel (enc a) x = some (enc ((bitsAsc x).foldl g a), 0)
  | 0, _, _, _, h => by omega
  | fuel + 1, x, a, hP, h => by
    by_cases hx : x = 0
    · subst hx; rw [hexit, bitsAsc_zero]; rfl
    · have hpop := bitsAsc_pop x hx
      rw [hstep fuel a x hx (by omega) (hP _ (tz_mem_bitsAsc hx))]
      rw [scan_loop loop enc g K P hexit hstep fuel _ _ (fun s hs => hP s (mem_bitsAsc_pop hx hs))
        (by rw [hpop, List.length_cons] at h; omega)]
      rw [hpop, List.foldl_cons]

/-- a word has at most 64 set bits: 65 units of fuel more than the body needs suffice (65 for a single scan, 130 for two nested) -/
theorem fuel_ok (x : UInt64) (K fuel : Nat) (h : K + 65 ≤ fuel) : K + (bitsAsc x).length < fuel := by
  have := GenLength.bitsAsc_length_le x
  omega

@[rs_eval] theorem rs_gen_consts :
    Rs.RANK_1_OCCUPANCY = some rank1.toUInt64 ∧ Rs.RANK_2_OCCUPANCY = some rank2.toUInt64 ∧
    Rs.RANK_7_OCCUPANCY = some rank7.toUInt64 ∧ Rs.RANK_8_OCCUPANCY = some rank8.toUInt64 ∧
    Rs.WHITE_QUEEN_SIDE_CASTLE_EMPTY_OCCUPANCY = some whiteQueenSideCastleEmpty.toUInt64 ∧
    Rs.WHITE_KING_SIDE_CASTLE_EMPTY_OCCUPANCY = some whiteKingSideCastleEmpty.toUInt64 ∧
    Rs.BLACK_QUEEN_SIDE_CASTLE_EMPTY_OCCUPANCY = some blackQueenSideCastleEmpty.toUInt64 ∧
    Rs.BLACK_KING_SIDE_CASTLE_EMPTY_OCCUPANCY = some blackKingSideCastleEmpty.toUInt64 ∧
    Rs.WHITE_QUEEN_SIDE_CASTLE_CHECK_OCCUPANCY = some whiteQueenSideCastleCheck.toUInt64 ∧
    Rs.WHITE_KING_SIDE_CASTLE_CHECK_OCCUPANCY = some whiteKingSideCastleCheck.toUInt64 ∧
    Rs.BLACK_QUEEN_SIDE_CASTLE_CHECK_OCCUPANCY = some blackQueenSideCastleCheck.toUInt64 ∧
    Rs.BLACK_KING_SIDE_CASTLE_CHECK_OCCUPANCY = some blackKingSideCastleCheck.toUInt64 := by
  decide +kernel

@[rs_eval] theorem rs_flag_consts :
    Rs.CASTLE_MOVE_TRUE_MASK = flagBits true castleMoveTrueMask ∧ Rs.CASTLE_MOVE_FALSE_MASK = flagBits false castleMoveTrueMask ∧
    Rs.EN_PASSANT_ATTACK_TRUE_MASK = flagBits true enPassantAttackTrueMask ∧
    Rs.EN_PASSANT_ATTACK_FALSE_MASK = flagBits false enPassantAttackTrueMask ∧
    Rs.NO_SQUARE = ((0 : Nat) : Int) := by
  decide +kernel

#print axioms bitsAsc_pop
#print axioms scan_loop
#print axioms rs_gen_consts

example : bitsAsc 0x8100000000000081 = [0, 7, 56, 63] := by decide +kernel
example : Rs.mask_and_shift_from_lowest_one_bit 0x8100000000000080 = some (bitU 7, 7) := by decide +kernel

end Inkayaku.Translated
