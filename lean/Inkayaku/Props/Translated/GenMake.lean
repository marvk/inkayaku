import Inkayaku.Props.Translated.Make
import Inkayaku.Props.Translated.Check
import Inkayaku.Props.Translated.GenCommon
import Inkayaku.Proofs.GenOK
/-! The translated `Bitboard::make`, and `is_valid` on its result, on generated moves of well-formed boards

This file does not import `Unmake.lean` / `GenUnmake.lean` / `ZobristXor.lean` / `GenXor.lean`: a change of the Rust `unmake` or
`zobrist_xor` leaves these theorems standing. -/

namespace Inkayaku.Translated
open Inkayaku.Board Inkayaku.Gen Inkayaku.MoveBits Inkayaku.WF Inkayaku.MakeUnmake

theorem rs_make_generated {b : Board} (h : wf b = true) {m : Board.Move} (hm : m ∈ genPseudo b) :
    Rs.Bitboard.make (toRsSide b.white) (toRsSide b.black) b.turn b.ep b.fullmove b.halfmove m.bits =
      some (boardFields (Board.make b m)) := by
  obtain ⟨hf1, hf2, hh, ht⟩ := wf_clocks h
  obtain ⟨hC, hP⟩ := moveOK_no_panic (GenOK.genPseudo_ok h m hm).2
  exact rs_make_move_eq b m ht (by omega) (fun _ => by omega) hC (fun hc he => ⟨(hP hc).1, (hP hc).2 he⟩)

#print axioms rs_make_generated

/-- `is_move_legal` = `make; is_valid; unmake` with the translated functions: the middle step on the successor -/
theorem rs_is_valid_after_make {b : Board} (h : wf b = true) (m : Board.Move) :
    Rs.Bitboard.is_valid (toRsSide (Board.make b m).white) (toRsSide (Board.make b m).black) (Board.make b m).turn
      rookF bishopF knightF whitePawnF blackPawnF kingF = some (isMoveLegal b m) := by
  obtain ⟨-, -, -, ht⟩ := wf_clocks h
  have e1 : (Board.make b m).turn = 1 - b.turn := rfl
  exact rs_is_valid_eq (Board.make b m) (by rw [e1]; omega)

#print axioms rs_is_valid_after_make

example : Rs.Bitboard.make (toRsSide demoPos.white) (toRsSide demoPos.black) demoPos.turn demoPos.ep demoPos.fullmove
    demoPos.halfmove demoMove.bits = some (boardFields (Board.make demoPos demoMove)) := rs_make_generated demo_wf demo_gen
example : Rs.Bitboard.is_valid (toRsSide (Board.make demoPos demoMove).white) (toRsSide (Board.make demoPos demoMove).black)
    (Board.make demoPos demoMove).turn rookF bishopF knightF whitePawnF blackPawnF kingF = some (isMoveLegal demoPos demoMove) :=
  rs_is_valid_after_make demo_wf demoMove

end Inkayaku.Translated
