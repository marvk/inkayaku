import Inkayaku.Model.Board
import Inkayaku.Gen.Rs.Square
import Inkayaku.Model.Uci
import Inkayaku.Props.Translated.Fen

namespace Inkayaku.Translated
open Inkayaku.Rs Inkayaku.Board

/-! `Square::from_chars`, `from_indices`, `to_square_index_from_indices` (generated `Square.*`; `from_index` is an opaque parameter,
instantiated with `squareFromIndex`) = `Uci.squareFromChars`. -/

/-- `Square::from_index` seen through the square index: `Some(square i)` for `i < 64` (the 64 `match` arms) -/
def squareFromIndex (i : Int) : Option Nat := if 0 ≤ i ∧ i < 64 then some i.toNat else none

theorem char_lt_2_21 (c : Char) : c.toNat < 1114112 := by
  have := c.valid
  rcases this with h | h
  · have : c.toNat < 55296 := h; omega
  · exact h.2

theorem squareFromIndex_nat (i : Nat) (h : i < 64) : squareFromIndex (i : Int) = some i := by
  have : (0 : Int) ≤ (i : Int) ∧ (i : Int) < 64 := by omega
  simp only [squareFromIndex, this, and_self, if_true, Int.toNat_natCast]

theorem rs_from_indices {S : Type} (fromIndex : Int → Option S) (file rank : Nat) :
    Square.from_indices (file : Int) (rank : Int) fromIndex =
      some (if file < 8 ∧ rank < 8 then fromIndex ((file + rank * 8 : Nat) : Int) else none) := by
  unfold Square.from_indices to_square_index_from_indices
  by_cases h : file < 8 ∧ rank < 8
  · simp (disch := omega) only [rs_eval, h, and_self]
  · simp (disch := omega) only [rs_eval, h]

theorem rs_from_chars_eq (f r : Char) :
    Square.from_chars f r squareFromIndex = some (Uci.squareFromChars f r) := by
  unfold Square.from_chars Uci.squareFromChars
  have hf := char_lt_2_21 f
  have ha : 'a'.toNat = 97 := rfl
  simp (disch := omega) only [ha, ofChar, rs_eval, checkedSub_usize_nat]
  by_cases h97 : f.toNat < 97
  · simp only [h97, if_true]
  · by_cases hd : FenSyntax.isAsciiDigit r = true
    · have h9 := digitVal_le hd
      have c8 : (8 : Int) = ((8 : Nat) : Int) := rfl
      simp (disch := omega) only [h97, hd, if_true, if_false, c8, wrappingSub_u32_nat, rs_eval, rs_from_indices, Bool.not_true,
        Bool.false_eq_true]
      by_cases h8 : f.toNat - 97 < 8 ∧ (8 + 4294967296 - FenSyntax.digitVal r) % 4294967296 < 8
      · rw [if_pos h8, if_pos h8, squareFromIndex_nat _ (by omega)]
      · rw [if_neg h8, if_neg h8]
    · simp only [h97, hd, if_false, Bool.not_false, if_true, Bool.false_eq_true]

#print axioms rs_from_chars_eq

example : Square.from_chars 'e' '4' squareFromIndex = some (some 36) := by decide
example : Square.from_chars 'e' '9' squareFromIndex = some none := by decide
example : Square.from_chars 'A' '1' squareFromIndex = some none := by decide

end Inkayaku.Translated
