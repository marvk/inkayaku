import Inkayaku.Model.Board
import Inkayaku.Gen.Rs.Fen
import Inkayaku.Model.FenSyntax
import Inkayaku.Props.Translated.Text

namespace Inkayaku.Translated
open Inkayaku.Rs Inkayaku.Board

/-! `Fen::validate_rank` (core/src/fen.rs; generated `Fen.validate_rank`) = `FenSyntax.validateRank`, for ASCII ranks. -/

/-- the summand of `count`: `c.to_digit(10).unwrap_or(1)` -/
theorem rs_digit_or_one (c : Char) :
    (toDigit10 c).getD 1 = ((if FenSyntax.isAsciiDigit c then FenSyntax.digitVal c else 1 : Nat) : Int) := by
  rw [rs_toDigit10_eq]
  split <;> rfl

/-- `iter.sum::<T>()` of casts of natural numbers: the sum in `Nat`, as long as it fits -/
theorem iterSum_natCast {α : Type} (t : Ty) (ht : t.lo ≤ 0) (f : α → Nat) (l : List α) (a : Nat) (h : ((a + (l.map f).sum : Nat) : Int) ≤ t.hi) :
    l.foldl (fun acc x => acc.bind fun a => chk t (a + (f x : Int))) (some (a : Int)) = some ((a + (l.map f).sum : Nat) : Int) := by
  induction l generalizing a with
  | nil => rfl
  | cons x xs ih =>
    simp only [List.map_cons, List.sum_cons, ← Nat.add_assoc] at h ⊢
    rw [List.foldl_cons, Option.bind_some, chk_eq_some (by omega) (by omega), natCast_add_pull, ih _ h]

theorem rs_count_eq (r : List Char) (hlen : r.length ≤ 400000000) :
    iterSum .u32 (r.map (fun c => (toDigit10 c).getD 1)) = some ((FenSyntax.rankCount r : Nat) : Int) := by
  have hbound : ∀ l : List Char, FenSyntax.rankCount l ≤ 9 * l.length := by
    intro l; induction l with
    | nil => exact Nat.le_refl _
    | cons x xs ih =>
      simp only [FenSyntax.rankCount, List.map_cons, List.sum_cons, List.length_cons] at ih ⊢
      split
      · have := digitVal_le ‹_›
        omega
      · omega
  have := hbound r
  unfold iterSum
  simp only [List.foldl_map, rs_digit_or_one]
  rw [show (0 : Int) = ((0 : Nat) : Int) from rfl, iterSum_natCast .u32 (by decide) _ r 0 (by simp only [Nat.zero_add, Ty.hi]; unfold FenSyntax.rankCount at this; omega),
    Nat.zero_add]
  rfl

/-- the result the Rust function gives for a model verdict -/
def rankResult (r : List Char) : Except Rs.FenParseError Unit :=
  match FenSyntax.validateRank r with
  | none => .ok ()
  | some .count => .error (.RankWithInvalidPieceCount r (FenSyntax.rankCount r))
  | some .concurrent => .error (.ConcurrentNumbers r)
  | some .capture => .ok ()   -- never produced by `validateRank`

theorem validate_rank_loop (r : List Char) (hne : 1 ≤ r.length) (hlen : r.length ≤ 400000000) :
    ∀ (k fuel i : Nat), i + k = r.length - 1 → k < fuel →
      Fen.validate_rank.for_1 r r ((r.length : Int) - 1) fuel (i : Int) =
        some (if FenSyntax.hasAdjacentDigits (r.drop i) then Ctl.ret (Except.error (FenParseError.ConcurrentNumbers r))
              else Ctl.next ((r.length : Int) - 1)) := by
  intro k
  induction k with
  | zero =>
    intro fuel i hi hf
    obtain ⟨fuel, rfl⟩ : ∃ n, fuel = n + 1 := ⟨fuel - 1, by omega⟩
    have hi' : i = r.length - 1 := by omega
    have hd : r.drop i = [r[i]'(by omega)] := by
      rw [List.drop_eq_getElem_cons (by omega)]; congr 1; apply List.drop_of_length_le; omega
    unfold Fen.validate_rank.for_1
    have : ¬ ((i : Int) < (r.length : Int) - 1) := by omega
    simp only [this, if_false, hd, FenSyntax.hasAdjacentDigits, Option.pure_def, Bool.false_eq_true]
    congr 2; omega
  | succ k ih =>
    intro fuel i hi hf
    obtain ⟨fuel, rfl⟩ : ∃ n, fuel = n + 1 := ⟨fuel - 1, by omega⟩
    have hlt : (i : Int) < (r.length : Int) - 1 := by omega
    have hd : r.drop i = r[i]'(by omega) :: r[i+1]'(by omega) :: r.drop (i + 2) := by
      rw [List.drop_eq_getElem_cons (by omega), List.drop_eq_getElem_cons (by omega)]
    unfold Fen.validate_rank.for_1
    have e1 := vecIdxL r i (by omega)
    have e3 := vecIdxL r (i + 1) (by omega)
    have hd1 : r.drop (i + 1) = r[i+1]'(by omega) :: r.drop (i + 2) := by
      rw [List.drop_eq_getElem_cons (by omega)]
    have hrec := ih fuel (i + 1) (by omega) (by omega)
    rw [hd1] at hrec
    simp only [hlt, rs_eval, show i + 1 < 18446744073709551616 by omega, e1, e3, hd,
      FenSyntax.hasAdjacentDigits]
    cases FenSyntax.isAsciiDigit (r[i]'(by omega))
    · simpa only [Bool.false_eq_true, if_false, Bool.false_and, Bool.false_or, Option.bind_some] using hrec
    · cases FenSyntax.isAsciiDigit (r[i+1]'(by omega))
      · simpa only [if_true, Bool.and_false, Bool.false_or, Bool.false_eq_true, if_false, Option.bind_some] using hrec
      · rfl

/-- **`Fen::validate_rank` (translated) equals the model verdict**, for any loop counter `fuel ≥ rank.len()`.  Preconditions: the
rank is ASCII (guaranteed by `FEN_REGEX`, which is matched first; for non-ASCII input the Rust loop bound `rank.len()` counts BYTES
and `chars[i + 1]` can go out of bounds, see the example below) and short enough for the `u32` sum not to overflow. -/
theorem rs_validate_rank_fuel (r : List Char) (hascii : ∀ c ∈ r, c.toNat < 128) (hlen : r.length ≤ 400000000) (fuel : Nat)
    (hf : r.length ≤ fuel) : Fen.validate_rank r fuel = some (rankResult r) := by
  unfold Fen.validate_rank rankResult FenSyntax.validateRank
  -- before the set runs: `rs_eval` rewrites `toDigit10`, which `rs_count_eq` speaks of
  rw [rs_count_eq r hlen]
  simp only [rs_eval, ne_eq]
  by_cases hc : FenSyntax.rankCount r = 8
  · have hne : 1 ≤ r.length := by
      cases r with
      | nil => cases hc
      | cons x xs => simp
    have hl := validate_rank_loop r hne hlen (r.length - 1) fuel 0 (by omega) (by omega)
    simp only [List.drop_zero, Int.natCast_zero] at hl
    simp (disch := omega) only [hc, not_true_eq_false, if_false, rs_strLen_ascii r hascii, chk_usize, Option.bind_some, hl]
    cases FenSyntax.hasAdjacentDigits r <;> rfl
  · simp only [hc, not_false_eq_true, if_true]

theorem rs_validate_rank_eq (r : List Char) (hascii : ∀ c ∈ r, c.toNat < 128) (hlen : r.length ≤ 400000000) :
    Fen.validate_rank r r.length = some (rankResult r) :=
  rs_validate_rank_fuel r hascii hlen r.length (Nat.le_refl _)

#print axioms rs_validate_rank_eq

example : Fen.validate_rank ['4', 'p', '3'] 3 = some (.ok ()) := by rfl
example : Fen.validate_rank ['p', 'p', 'p'] 3 = some (.error (.RankWithInvalidPieceCount ['p', 'p', 'p'] 3)) := by rfl
example : Fen.validate_rank ['4', '4'] 2 = some (.error (.ConcurrentNumbers ['4', '4'])) := by rfl
/-- outside the precondition (non-ASCII) the Rust function PANICS (`rank.len()` counts bytes; `chars[8]` is out of
bounds); unreachable in the engine because `FEN_REGEX` is matched first -/
example : Fen.validate_rank "éééééééé".toList 20 = none := by decide

#print axioms rs_digit_or_one
#print axioms rs_count_eq

end Inkayaku.Translated
