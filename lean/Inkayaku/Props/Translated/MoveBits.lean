import Inkayaku.Model.Board
import Inkayaku.Proofs.MoveBits
import Inkayaku.Gen.Rs.MoveBits
import Inkayaku.Props.Translated.Basic
import Inkayaku.Props.Translated.TestForm
/-! The packed move word: constants of board/src/board/constants.rs, getters / setters / predicates of `impl Move` (board/src/board.rs)

* `rs_move_masks`, `rs_move_shifts`, `rs_piece_consts`: the constants regenerated from constants.rs (the shifts are
  `MASK.trailing_zeros()` there) equal the constants dumped from the build (`Gen.BoardConsts`) the model uses.
* `rs_move_decode_eq`: `rsDecode` reads the 16 fields with 9 generated getters `get_*` and 7 flag predicates `is_*`; they never panic
  and compute the model's `decode` (= `Move.f`); `rs_is_attack_eq`, `rs_is_promotion_eq` for the two remaining predicates.
* `rs_move_encode_eq`: the 16 generated setters, called in the order of `Bitboard::make_move`, never panic and build the
  model's `encode`.
* `rs_move_roundtrip`: C03's `field_roundtrip` stated for the generated code.
-/

namespace Inkayaku.Translated
open Inkayaku.Board Inkayaku.Gen Inkayaku.MoveBits

theorem rs_move_masks :
    Rs.PIECE_MOVED_MASK = pieceMovedMask.toUInt64 ∧ Rs.PIECE_ATTACKED_MASK = pieceAttackedMask.toUInt64 ∧
    Rs.SELF_LOST_KING_SIDE_CASTLE_MASK = selfLostKingMask.toUInt64 ∧ Rs.SELF_LOST_QUEEN_SIDE_CASTLE_MASK = selfLostQueenMask.toUInt64 ∧
    Rs.OPPONENT_LOST_KING_SIDE_CASTLE_MASK = oppLostKingMask.toUInt64 ∧ Rs.OPPONENT_LOST_QUEEN_SIDE_CASTLE_MASK = oppLostQueenMask.toUInt64 ∧
    Rs.CASTLE_MOVE_MASK = castleMoveMask.toUInt64 ∧ Rs.EN_PASSANT_ATTACK_MASK = enPassantAttackMask.toUInt64 ∧
    Rs.SOURCE_SQUARE_MASK = sourceSquareMask.toUInt64 ∧ Rs.TARGET_SQUARE_MASK = targetSquareMask.toUInt64 ∧
    Rs.HALFMOVE_RESET_MASK = halfmoveResetMask.toUInt64 ∧ Rs.PREVIOUS_HALFMOVE_MASK = previousHalfmoveMask.toUInt64 ∧
    Rs.PREVIOUS_EN_PASSANT_SQUARE_MASK = previousEnPassantMask.toUInt64 ∧ Rs.NEXT_EN_PASSANT_SQUARE_MASK = nextEnPassantMask.toUInt64 ∧
    Rs.PROMOTION_PIECE_MASK = promotionPieceMask.toUInt64 ∧ Rs.SIDE_TO_MOVE_MASK = sideToMoveMask.toUInt64 := by
  decide

theorem rs_move_shifts :
    Rs.PIECE_MOVED_SHIFT = (pieceMovedShift : Int) ∧ Rs.PIECE_ATTACKED_SHIFT = (pieceAttackedShift : Int) ∧
    Rs.SELF_LOST_KING_SIDE_CASTLE_SHIFT = (selfLostKingShift : Int) ∧ Rs.SELF_LOST_QUEEN_SIDE_CASTLE_SHIFT = (selfLostQueenShift : Int) ∧
    Rs.OPPONENT_LOST_KING_SIDE_CASTLE_SHIFT = (oppLostKingShift : Int) ∧ Rs.OPPONENT_LOST_QUEEN_SIDE_CASTLE_SHIFT = (oppLostQueenShift : Int) ∧
    Rs.CASTLE_MOVE_SHIFT = (castleMoveShift : Int) ∧ Rs.EN_PASSANT_ATTACK_SHIFT = (enPassantAttackShift : Int) ∧
    Rs.SOURCE_SQUARE_SHIFT = (sourceSquareShift : Int) ∧ Rs.TARGET_SQUARE_SHIFT = (targetSquareShift : Int) ∧
    Rs.HALFMOVE_RESET_SHIFT = (halfmoveResetShift : Int) ∧ Rs.PREVIOUS_HALFMOVE_SHIFT = (previousHalfmoveShift : Int) ∧
    Rs.PREVIOUS_EN_PASSANT_SQUARE_SHIFT = (previousEnPassantShift : Int) ∧ Rs.NEXT_EN_PASSANT_SQUARE_SHIFT = (nextEnPassantShift : Int) ∧
    Rs.PROMOTION_PIECE_SHIFT = (promotionPieceShift : Int) ∧ Rs.SIDE_TO_MOVE_SHIFT = (sideToMoveShift : Int) := by
  decide

@[rs_eval] theorem rs_piece_consts :
    Rs.NO_PIECE = NO_PIECE.toUInt64 ∧ Rs.PAWN = PAWN.toUInt64 ∧ Rs.KNIGHT = KNIGHT.toUInt64 ∧ Rs.BISHOP = BISHOP.toUInt64 ∧
    Rs.ROOK = ROOK.toUInt64 ∧ Rs.QUEEN = QUEEN.toUInt64 ∧ Rs.KING = KING.toUInt64 := by decide

/-- the piece codes index the seven-element occupancy array (side conditions of `rs_eval` rules about a piece code) -/
@[rs_eval] theorem piece_codes_le : NO_PIECE ≤ 6 ∧ PAWN ≤ 6 ∧ KNIGHT ≤ 6 ∧ BISHOP ≤ 6 ∧ ROOK ≤ 6 ∧ QUEEN ≤ 6 ∧ KING ≤ 6 := by decide

theorem getter64 (b : UInt64) (mask shift : Nat) (hs : shift < 64) :
    Rs.u64Shr (b &&& mask.toUInt64) (shift : Int) = some (field b mask shift).toUInt64 := by
  rw [u64Shr_natCast _ _ hs]
  simp only [field, Nat.toUInt64_eq, UInt64.ofNat_toNat]

theorem getter32 (b : UInt64) (mask shift w : Nat)
    (hm : mask = (2^w - 1) <<< shift) (hs : shift + w ≤ 64) (hs' : shift < 64) (hw : w ≤ 32) :
    (do pure (Rs.cast .u32 (Rs.u64ToInt (← Rs.u64Shr (b &&& mask.toUInt64) (shift : Int)))) : Option Int) =
      some ((field b mask shift : Nat) : Int) := by
  rw [getter64 b mask shift hs']
  have hlt : field b mask shift < 2 ^ 32 := by
    rw [field_eq b mask shift w hm hs hs']
    exact Nat.lt_of_lt_of_le (Nat.mod_lt _ (Nat.two_pow_pos w)) (Nat.pow_le_pow_right (by decide) hw)
  have h64 : field b mask shift < 2 ^ 64 := Nat.lt_trans hlt (by decide)
  simp only [Option.bind_eq_bind, Option.bind_some, Option.pure_def, Rs.u64ToInt, Nat.toUInt64_eq, UInt64.toNat_ofNat',
    Nat.mod_eq_of_lt h64]
  rw [Rs.cast_eq_self (by simp [Rs.Ty.lo]) (by simp only [Rs.Ty.hi]; omega)]

/-! #### the getters (`(self.bits & X_MASK) >> X_SHIFT`, some with `as u32`) are the fields of the model's `decode`
(a field of `decode b` IS `field b X_MASK X_SHIFT`, so `getter64` / `getter32` apply as they stand) -/

@[rs_eval] theorem rs_get_piece_moved (b : UInt64) : Rs.Move.get_piece_moved b = some (decode b).pieceMoved.toUInt64 :=
  getter64 b pieceMovedMask pieceMovedShift (by decide)

@[rs_eval] theorem rs_get_piece_attacked (b : UInt64) : Rs.Move.get_piece_attacked b = some (decode b).pieceAttacked.toUInt64 :=
  getter64 b pieceAttackedMask pieceAttackedShift (by decide)

@[rs_eval] theorem rs_get_self_lost_king_side_castle (b : UInt64) : Rs.Move.get_self_lost_king_side_castle b = some (field b selfLostKingMask selfLostKingShift).toUInt64 :=
  getter64 b selfLostKingMask selfLostKingShift (by decide)

@[rs_eval] theorem rs_get_self_lost_queen_side_castle (b : UInt64) : Rs.Move.get_self_lost_queen_side_castle b = some (field b selfLostQueenMask selfLostQueenShift).toUInt64 :=
  getter64 b selfLostQueenMask selfLostQueenShift (by decide)

@[rs_eval] theorem rs_get_opponent_lost_king_side_castle (b : UInt64) : Rs.Move.get_opponent_lost_king_side_castle b = some (field b oppLostKingMask oppLostKingShift).toUInt64 :=
  getter64 b oppLostKingMask oppLostKingShift (by decide)

@[rs_eval] theorem rs_get_opponent_lost_queen_side_castle (b : UInt64) : Rs.Move.get_opponent_lost_queen_side_castle b = some (field b oppLostQueenMask oppLostQueenShift).toUInt64 :=
  getter64 b oppLostQueenMask oppLostQueenShift (by decide)

@[rs_eval] theorem rs_get_castle_move (b : UInt64) : Rs.Move.get_castle_move b = some (field b castleMoveMask castleMoveShift).toUInt64 :=
  getter64 b castleMoveMask castleMoveShift (by decide)

@[rs_eval] theorem rs_get_en_passant_attack (b : UInt64) : Rs.Move.get_en_passant_attack b = some (field b enPassantAttackMask enPassantAttackShift).toUInt64 :=
  getter64 b enPassantAttackMask enPassantAttackShift (by decide)

@[rs_eval] theorem rs_get_halfmove_reset (b : UInt64) : Rs.Move.get_halfmove_reset b = some (field b halfmoveResetMask halfmoveResetShift).toUInt64 :=
  getter64 b halfmoveResetMask halfmoveResetShift (by decide)

@[rs_eval] theorem rs_get_promotion_piece (b : UInt64) : Rs.Move.get_promotion_piece b = some (decode b).promotion.toUInt64 :=
  getter64 b promotionPieceMask promotionPieceShift (by decide)

@[rs_eval] theorem rs_get_source_square (b : UInt64) : Rs.Move.get_source_square b = some (((decode b).source : Nat) : Int) :=
  getter32 b sourceSquareMask sourceSquareShift 6 (by decide) (by decide) (by decide) (by decide)

@[rs_eval] theorem rs_get_target_square (b : UInt64) : Rs.Move.get_target_square b = some (((decode b).target : Nat) : Int) :=
  getter32 b targetSquareMask targetSquareShift 6 (by decide) (by decide) (by decide) (by decide)

@[rs_eval] theorem rs_get_previous_halfmove (b : UInt64) : Rs.Move.get_previous_halfmove b = some (((decode b).prevHalfmove : Nat) : Int) :=
  getter32 b previousHalfmoveMask previousHalfmoveShift 12 (by decide) (by decide) (by decide) (by decide)

@[rs_eval] theorem rs_get_previous_en_passant_square (b : UInt64) : Rs.Move.get_previous_en_passant_square b = some (((decode b).prevEp : Nat) : Int) :=
  getter32 b previousEnPassantMask previousEnPassantShift 6 (by decide) (by decide) (by decide) (by decide)

@[rs_eval] theorem rs_get_next_en_passant_square (b : UInt64) : Rs.Move.get_next_en_passant_square b = some (((decode b).nextEp : Nat) : Int) :=
  getter32 b nextEnPassantMask nextEnPassantShift 6 (by decide) (by decide) (by decide) (by decide)

@[rs_eval] theorem rs_get_side_to_move (b : UInt64) : Rs.Move.get_side_to_move b = some (((decode b).side : Nat) : Int) :=
  getter32 b sideToMoveMask sideToMoveShift 1 (by decide) (by decide) (by decide) (by decide)

theorem field_ne_zero (b : UInt64) (mask shift : Nat) :
    decide ((field b mask shift).toUInt64 ≠ (0 : UInt64)) = (field b mask shift != 0) := by
  unfold field
  generalize (b &&& mask.toUInt64) >>> shift.toUInt64 = x
  rw [Nat.toUInt64_eq, UInt64.ofNat_toNat]
  by_cases h : x = 0
  · subst h; rfl
  · have : x.toNat ≠ 0 := fun h' => h (UInt64.toNat_inj.mp h')
    simp [h, this]

/-- a predicate `self.get_x() != 0` of the generated code, from the equation of its getter -/
theorem flag64 {g : Option UInt64} (b : UInt64) (mask shift : Nat) (h : g = some (field b mask shift).toUInt64) :
    (do pure (decide ((← g) ≠ (0 : UInt64))) : Option Bool) = some (field b mask shift != 0) := by
  subst h
  exact congrArg some (field_ne_zero b mask shift)

@[rs_eval] theorem rs_is_self_lost_king_side_castle (b : UInt64) : Rs.Move.is_self_lost_king_side_castle b = some (decode b).selfLostKing :=
  flag64 b selfLostKingMask selfLostKingShift (rs_get_self_lost_king_side_castle b)

@[rs_eval] theorem rs_is_self_lost_queen_side_castle (b : UInt64) : Rs.Move.is_self_lost_queen_side_castle b = some (decode b).selfLostQueen :=
  flag64 b selfLostQueenMask selfLostQueenShift (rs_get_self_lost_queen_side_castle b)

@[rs_eval] theorem rs_is_opponent_lost_king_side_castle (b : UInt64) : Rs.Move.is_opponent_lost_king_side_castle b = some (decode b).oppLostKing :=
  flag64 b oppLostKingMask oppLostKingShift (rs_get_opponent_lost_king_side_castle b)

@[rs_eval] theorem rs_is_opponent_lost_queen_side_castle (b : UInt64) : Rs.Move.is_opponent_lost_queen_side_castle b = some (decode b).oppLostQueen :=
  flag64 b oppLostQueenMask oppLostQueenShift (rs_get_opponent_lost_queen_side_castle b)

@[rs_eval] theorem rs_is_en_passant_attack (b : UInt64) : Rs.Move.is_en_passant_attack b = some (decode b).enPassant :=
  flag64 b enPassantAttackMask enPassantAttackShift (rs_get_en_passant_attack b)

@[rs_eval] theorem rs_is_castle_move (b : UInt64) : Rs.Move.is_castle_move b = some (decode b).castle :=
  flag64 b castleMoveMask castleMoveShift (rs_get_castle_move b)

@[rs_eval] theorem rs_is_halfmove_reset (b : UInt64) : Rs.Move.is_halfmove_reset b = some (decode b).halfmoveReset :=
  flag64 b halfmoveResetMask halfmoveResetShift (rs_get_halfmove_reset b)

@[rs_eval] theorem rs_is_attack (b : UInt64) : Rs.Move.is_attack b = some ((decode b).pieceAttacked != 0) :=
  flag64 b pieceAttackedMask pieceAttackedShift (rs_get_piece_attacked b)

@[rs_eval] theorem rs_is_promotion (b : UInt64) : Rs.Move.is_promotion b = some ((decode b).promotion != 0) :=
  flag64 b promotionPieceMask promotionPieceShift (rs_get_promotion_piece b)

/-- the fields of a packed move, read with the GENERATED getters and predicates -/
def rsDecode (b : UInt64) : Option MoveF := do
  pure {
    pieceMoved := (← Rs.Move.get_piece_moved b).toNat
    pieceAttacked := (← Rs.Move.get_piece_attacked b).toNat
    selfLostKing := (← Rs.Move.is_self_lost_king_side_castle b)
    selfLostQueen := (← Rs.Move.is_self_lost_queen_side_castle b)
    oppLostKing := (← Rs.Move.is_opponent_lost_king_side_castle b)
    oppLostQueen := (← Rs.Move.is_opponent_lost_queen_side_castle b)
    castle := (← Rs.Move.is_castle_move b)
    enPassant := (← Rs.Move.is_en_passant_attack b)
    source := (← Rs.Move.get_source_square b).toNat
    target := (← Rs.Move.get_target_square b).toNat
    halfmoveReset := (← Rs.Move.is_halfmove_reset b)
    prevHalfmove := (← Rs.Move.get_previous_halfmove b).toNat
    prevEp := (← Rs.Move.get_previous_en_passant_square b).toNat
    nextEp := (← Rs.Move.get_next_en_passant_square b).toNat
    promotion := (← Rs.Move.get_promotion_piece b).toNat
    side := (← Rs.Move.get_side_to_move b).toNat }

theorem field_toUInt64_toNat (b : UInt64) (mask shift : Nat) : (field b mask shift).toUInt64.toNat = field b mask shift := by
  unfold field
  rw [Nat.toUInt64_eq, UInt64.ofNat_toNat]

theorem rs_move_decode_eq (b : UInt64) : rsDecode b = some (decode b) := by
  simp only [rsDecode, decode, rs_eval, field_toUInt64_toNat]

#print axioms rs_move_decode_eq

theorem rs_is_attack_eq (m : Board.Move) : Rs.Move.is_attack m.bits = some m.isAttack := rs_is_attack m.bits
theorem rs_is_promotion_eq (m : Board.Move) : Rs.Move.is_promotion m.bits = some m.isPromotion := rs_is_promotion m.bits

/-! #### the setters (`self.bits |= value << X_SHIFT`, `self.bits |= X_MASK`, `self.bits |= value`): never panic -/

theorem setter64 (b v : UInt64) (shift : Nat) (hs : shift < 64) :
    (do let x ← Rs.u64Shl v (shift : Int); pure (b ||| x) : Option UInt64) = some (b ||| (v <<< shift.toUInt64)) := by
  rw [u64Shl_natCast _ _ hs]
  rfl

@[rs_eval] theorem rs_set_piece_moved (b v : UInt64) : Rs.Move.set_piece_moved b v = some (b ||| (v <<< pieceMovedShift.toUInt64)) :=
  setter64 b v pieceMovedShift (by decide)

@[rs_eval] theorem rs_set_piece_attacked (b v : UInt64) : Rs.Move.set_piece_attacked b v = some (b ||| (v <<< pieceAttackedShift.toUInt64)) :=
  setter64 b v pieceAttackedShift (by decide)

@[rs_eval] theorem rs_set_promotion_piece (b v : UInt64) : Rs.Move.set_promotion_piece b v = some (b ||| (v <<< promotionPieceShift.toUInt64)) :=
  setter64 b v promotionPieceShift (by decide)

@[rs_eval] theorem rs_set_source_square (b : UInt64) (v : Nat) : Rs.Move.set_source_square b (v : Int) = some (b ||| (v.toUInt64 <<< sourceSquareShift.toUInt64)) := by
  rw [← u64OfInt_natCast]
  exact setter64 b _ sourceSquareShift (by decide)

@[rs_eval] theorem rs_set_target_square (b : UInt64) (v : Nat) : Rs.Move.set_target_square b (v : Int) = some (b ||| (v.toUInt64 <<< targetSquareShift.toUInt64)) := by
  rw [← u64OfInt_natCast]
  exact setter64 b _ targetSquareShift (by decide)

@[rs_eval] theorem rs_set_previous_halfmove (b : UInt64) (v : Nat) : Rs.Move.set_previous_halfmove b (v : Int) = some (b ||| (v.toUInt64 <<< previousHalfmoveShift.toUInt64)) := by
  rw [← u64OfInt_natCast]
  exact setter64 b _ previousHalfmoveShift (by decide)

@[rs_eval] theorem rs_set_previous_en_passant_square (b : UInt64) (v : Nat) : Rs.Move.set_previous_en_passant_square b (v : Int) = some (b ||| (v.toUInt64 <<< previousEnPassantShift.toUInt64)) := by
  rw [← u64OfInt_natCast]
  exact setter64 b _ previousEnPassantShift (by decide)

@[rs_eval] theorem rs_set_next_en_passant_square (b : UInt64) (v : Nat) : Rs.Move.set_next_en_passant_square b (v : Int) = some (b ||| (v.toUInt64 <<< nextEnPassantShift.toUInt64)) := by
  rw [← u64OfInt_natCast]
  exact setter64 b _ nextEnPassantShift (by decide)

@[rs_eval] theorem rs_set_side_to_move (b : UInt64) (v : Nat) : Rs.Move.set_side_to_move b (v : Int) = some (b ||| (v.toUInt64 <<< sideToMoveShift.toUInt64)) := by
  rw [← u64OfInt_natCast]
  exact setter64 b _ sideToMoveShift (by decide)

@[rs_eval] theorem rs_set_self_lost_king_side_castle (b : UInt64) : Rs.Move.set_self_lost_king_side_castle b = some (b ||| selfLostKingMask.toUInt64) := rfl

@[rs_eval] theorem rs_set_self_lost_queen_side_castle (b : UInt64) : Rs.Move.set_self_lost_queen_side_castle b = some (b ||| selfLostQueenMask.toUInt64) := rfl

@[rs_eval] theorem rs_set_opponent_lost_king_side_castle (b : UInt64) : Rs.Move.set_opponent_lost_king_side_castle b = some (b ||| oppLostKingMask.toUInt64) := rfl

@[rs_eval] theorem rs_set_opponent_lost_queen_side_castle (b : UInt64) : Rs.Move.set_opponent_lost_queen_side_castle b = some (b ||| oppLostQueenMask.toUInt64) := rfl

@[rs_eval] theorem rs_set_halfmove_reset (b : UInt64) : Rs.Move.set_halfmove_reset b = some (b ||| halfmoveResetMask.toUInt64) := rfl

@[rs_eval] theorem rs_set_castle_move (b v : UInt64) : Rs.Move.set_castle_move b v = some (b ||| v) := rfl
@[rs_eval] theorem rs_set_en_passant_attack (b v : UInt64) : Rs.Move.set_en_passant_attack b v = some (b ||| v) := rfl

/-- `make_move`'s sequence of `set_*` calls (flags: the call happens only if the flag is set) -/
def rsEncode (f : MoveF) : Option UInt64 := do
  let b : UInt64 := 0
  let b ← Rs.Move.set_en_passant_attack b (flagBits f.enPassant enPassantAttackTrueMask)
  let b ← Rs.Move.set_next_en_passant_square b (f.nextEp : Int)
  let b ← Rs.Move.set_piece_moved b f.pieceMoved.toUInt64
  let b ← Rs.Move.set_piece_attacked b f.pieceAttacked.toUInt64
  let b ← Rs.Move.set_source_square b (f.source : Int)
  let b ← Rs.Move.set_target_square b (f.target : Int)
  let b ← Rs.Move.set_castle_move b (flagBits f.castle castleMoveTrueMask)
  let b ← Rs.Move.set_previous_halfmove b (f.prevHalfmove : Int)
  let b ← Rs.Move.set_previous_en_passant_square b (f.prevEp : Int)
  let b ← Rs.Move.set_promotion_piece b f.promotion.toUInt64
  let b ← Rs.Move.set_side_to_move b (f.side : Int)
  let b ← (if f.halfmoveReset then Rs.Move.set_halfmove_reset b else pure b)
  let b ← (if f.oppLostQueen then Rs.Move.set_opponent_lost_queen_side_castle b else pure b)
  let b ← (if f.oppLostKing then Rs.Move.set_opponent_lost_king_side_castle b else pure b)
  let b ← (if f.selfLostQueen then Rs.Move.set_self_lost_queen_side_castle b else pure b)
  let b ← (if f.selfLostKing then Rs.Move.set_self_lost_king_side_castle b else pure b)
  pure b

theorem or_flag (b : UInt64) (c : Bool) (m : Nat) :
    (if c = true then some (b ||| m.toUInt64) else some b) = some (b ||| flagBits c m) := by
  cases c <;> simp [flagBits]

/-- no range hypothesis on `f`: both sides truncate alike -/
theorem rs_move_encode_eq (f : MoveF) : rsEncode f = some (encode f) := by
  simp only [rsEncode, encode, rs_eval, or_flag]

#print axioms rs_move_encode_eq

theorem rs_move_roundtrip (f : MoveF) (h : FieldsFit f) : (rsEncode f).bind rsDecode = some f := by
  rw [rs_move_encode_eq, Option.bind_some, rs_move_decode_eq, decode_encode h]

#print axioms rs_move_roundtrip

theorem field_lt64 (b : UInt64) (m s : Nat) : field b m s < 18446744073709551616 := by
  unfold field; exact UInt64.toNat_lt _

@[rs_eval] theorem rs_square_consts :
    Rs.A1 = ((A1 : Nat) : Int) ∧ Rs.C1 = ((C1 : Nat) : Int) ∧ Rs.D1 = ((D1 : Nat) : Int) ∧ Rs.E1 = ((E1 : Nat) : Int) ∧
    Rs.F1 = ((F1 : Nat) : Int) ∧ Rs.G1 = ((G1 : Nat) : Int) ∧ Rs.H1 = ((H1 : Nat) : Int) ∧ Rs.A8 = ((A8 : Nat) : Int) ∧
    Rs.C8 = ((C8 : Nat) : Int) ∧ Rs.D8 = ((D8 : Nat) : Int) ∧ Rs.E8 = ((E8 : Nat) : Int) ∧ Rs.F8 = ((F8 : Nat) : Int) ∧
    Rs.G8 = ((G8 : Nat) : Int) ∧ Rs.H8 = ((H8 : Nat) : Int) := by
  decide

/-- `match target { C1 => .., G1 => .., C8 => .., G8 => .., _ => panic!() }` in `make`, `unmake` and `zobrist_xor`: the four
arms are one function `g` of the rook's two squares, which the model takes from `castleRook target`; an arm may use which
target it stands for (`zobrist_xor` names the king's squares as constants). -/
theorem castle_dispatch {β : Type} (t : Nat) (g : Nat → Nat → β) (y x1 x2 x3 x4 : β)
    (h1 : t = C1 → x1 = g A1 D1) (h2 : t = G1 → x2 = g H1 F1) (h3 : t = C8 → x3 = g A8 D8) (h4 : t = G8 → x4 = g H8 F8) :
    (if (t : Int) = (C1 : Nat) then x1 else if (t : Int) = (G1 : Nat) then x2 else if (t : Int) = (C8 : Nat) then x3
      else if (t : Int) = (G8 : Nat) then x4 else y) =
      match castleRook t with
      | some (rs, rt) => g rs rt
      | none => y := by
  unfold castleRook
  simp only [rs_test]
  by_cases e1 : (t == C1) = true
  · rw [if_pos e1, if_pos e1, h1 (beq_iff_eq.mp e1)]
  rw [if_neg e1, if_neg e1]
  by_cases e2 : (t == G1) = true
  · rw [if_pos e2, if_pos e2, h2 (beq_iff_eq.mp e2)]
  rw [if_neg e2, if_neg e2]
  by_cases e3 : (t == C8) = true
  · rw [if_pos e3, if_pos e3, h3 (beq_iff_eq.mp e3)]
  rw [if_neg e3, if_neg e3]
  by_cases e4 : (t == G8) = true
  · rw [if_pos e4, if_pos e4, h4 (beq_iff_eq.mp e4)]
  rw [if_neg e4, if_neg e4]

example : rsDecode 0x1000000041043 = some (decode 0x1000000041043) := rs_move_decode_eq _
example : (decode 0x1000000041043).source = 1 ∧ (decode 0x1000000041043).pieceMoved = 3 := by decide
example : FieldsFit { pieceMoved := 6, source := 60, target := 62, castle := true, prevHalfmove := 4095, side := 1 } := by decide
example : Rs.Move.get_piece_moved 0x2b = some 3 := by decide
example : Rs.Move.set_source_square 0 63 = some 0x3f000 := by decide

#print axioms rs_move_masks
#print axioms rs_move_shifts
#print axioms rs_piece_consts

#print axioms rs_get_piece_moved
#print axioms rs_get_piece_attacked
#print axioms rs_get_self_lost_king_side_castle
#print axioms rs_get_self_lost_queen_side_castle
#print axioms rs_get_opponent_lost_king_side_castle
#print axioms rs_get_opponent_lost_queen_side_castle
#print axioms rs_get_castle_move
#print axioms rs_get_en_passant_attack
#print axioms rs_get_halfmove_reset
#print axioms rs_get_promotion_piece
#print axioms rs_get_source_square
#print axioms rs_get_target_square
#print axioms rs_get_previous_halfmove
#print axioms rs_get_previous_en_passant_square
#print axioms rs_get_next_en_passant_square
#print axioms rs_get_side_to_move
#print axioms rs_is_self_lost_king_side_castle
#print axioms rs_is_self_lost_queen_side_castle
#print axioms rs_is_opponent_lost_king_side_castle
#print axioms rs_is_opponent_lost_queen_side_castle
#print axioms rs_is_en_passant_attack
#print axioms rs_is_castle_move
#print axioms rs_is_halfmove_reset
#print axioms rs_is_attack
#print axioms rs_is_promotion
#print axioms rs_is_attack_eq
#print axioms rs_is_promotion_eq
#print axioms rs_set_piece_moved
#print axioms rs_set_piece_attacked
#print axioms rs_set_promotion_piece
#print axioms rs_set_source_square
#print axioms rs_set_target_square
#print axioms rs_set_previous_halfmove
#print axioms rs_set_previous_en_passant_square
#print axioms rs_set_next_en_passant_square
#print axioms rs_set_side_to_move
#print axioms rs_set_self_lost_king_side_castle
#print axioms rs_set_self_lost_queen_side_castle
#print axioms rs_set_opponent_lost_king_side_castle
#print axioms rs_set_opponent_lost_queen_side_castle
#print axioms rs_set_halfmove_reset
#print axioms rs_set_castle_move
#print axioms rs_set_en_passant_attack

end Inkayaku.Translated
