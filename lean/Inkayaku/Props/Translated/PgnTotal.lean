import Inkayaku.Props.Translated.PgnIter
/-! NO PANIC / FUEL ADEQUACY of the translated PGN reader: on a `Good` state whose remaining stream is shorter than `fuel` no
translated method returns `none` (no overflow, no index out of bounds, no `panic!`, no loop counter exhausted).  This is the second
half of `SimT` (`PgnBuffer.lean`), proved method by method together with the simulation in the other `Pgn*.lean` files and, for the
iteration of `Iterator::next`, in `rs_items_spec` (`PgnIter.lean`); here is the total form of the theorem about the whole reader. -/

set_option linter.unusedSectionVars false

namespace Inkayaku.Translated
open Inkayaku.Pgn Inkayaku.C17

section
variable {E : Type} (rd : Reader → List Int → Except E Int × Reader × List Int) (hrd : ReadModel rd)
include hrd

theorem rs_pgn_next_total (fuel : Nat) : TotalF fuel (Rs.PgnRawParser.next rd fuel) := (rs_pgn_next_simT rd hrd fuel).2

theorem rs_items_total (fuel : Nat) (k : Nat) (s : Buffered) (hg : Good s) (hl : (stream s).length < fuel) :
    ∃ l, rsItems rd fuel k (toRs s) = some l :=
  Option.ne_none_iff_exists'.mp ((rs_items_spec rd hrd fuel k s hg).2 hl)

/-- **C17 on the regenerated reader, total form**: for every input, chunk size (≥ 1, a `usize`) and fragmentation schedule (entries ≥ 1),
iterating the TRANSLATED `PgnRawParser::with_chunk_size(reader, chunk)` with loop bound `input.length + 1` never panics, never exhausts a
loop bound, and yields item by item what the model parser yields on the plain byte list (`readAll input`): the items do not depend on
`chunk` / `sched`. -/
theorem rs_pgn_reader_correct (input : List UInt8) (chunk : Nat) (sched : Nat → Nat) (hchunk : 1 ≤ chunk) (hsched : ∀ k, 1 ≤ sched k)
    (hc : chunk < 18446744073709551616) (hi : input.length < 18446744073709551616) :
    ∃ l, rsItems rd (input.length + 1) (input.length + 1) (Rs.PgnRawParser.with_chunk_size ⟨input, sched, 0⟩ (chunk : Int)) = some l
      ∧ itemsRel l (readAll input) := by
  have hg := good_new input chunk sched hchunk hsched hc hi
  have hs : (stream (Buffered.new ⟨input, sched, 0⟩ chunk)).length < input.length + 1 := by
    rw [(R_new chunk sched input hchunk hsched).2]; omega
  obtain ⟨l, hl⟩ := rs_items_total rd hrd (input.length + 1) (input.length + 1) _ hg hs
  rw [← rs_with_chunk_size_eq] at hl
  exact ⟨l, hl, rs_pgn_chunk_independent rd hrd input chunk sched hchunk hsched hc hi l hl⟩

#print axioms rs_pgn_next_total
#print axioms rs_pgn_reader_correct

end

/-- `[a "b"]`, blank line, `e4 *` -/
def exBytes : List UInt8 := [91, 97, 32, 34, 98, 34, 93, 10, 10, 101, 52, 32, 42]

/-- non-vacuity: the hypotheses are satisfiable (chunk 2, reads of 1,2,1,2,… bytes; `readF` is a `ReadModel`) -/
example : ∃ l, rsItems (E := Unit) readF 14 14 (Rs.PgnRawParser.with_chunk_size ⟨exBytes, fun k => 1 + k % 2, 0⟩ ((2 : Nat) : Int)) = some l
    ∧ itemsRel l (readAll exBytes) :=
  rs_pgn_reader_correct readF (fun _ _ => rfl) exBytes 2 (fun k => 1 + k % 2) (by decide) (fun k => by omega) (by decide) (by decide)

end Inkayaku.Translated
