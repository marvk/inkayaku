import Inkayaku.Props.Translated.PgnLoops
import Inkayaku.Proofs.CharRange
/-! The tag-pair section of the PGN reader (generated module `Pgn`, monadic mode)
against the model: `read_tag_name`, `read_tag_value` (the closing quote is consumed BEFORE the error of `read_until` is propagated),
`read_tag_pair_line`, `read_tag_pairs` (`loop { match self.peek_byte()? { b'[' => .., b'\n' => return Ok(..), other => return Err(..) } }`;
`HashMap::insert` = `hmInsert` on an association list against the model's `tagInsert`). -/

set_option linter.unusedSectionVars false

namespace Inkayaku.Translated
open Inkayaku.Pgn Inkayaku.C17

theorem char_byte_inj (x y : UInt8) (h : Char.ofNat x.toNat = Char.ofNat y.toNat) : x = y := by
  have hx := CharRange.toNat_ofNat_byte x.toNat_lt
  have hy := CharRange.toNat_ofNat_byte y.toNat_lt
  exact UInt8.toNat_inj.mp (by rw [← hx, ← hy, h])

theorem strOf_inj : ∀ {a b : List UInt8}, strOf a = strOf b → a = b
  | [], [], _ => rfl
  | [], _ :: _, h => by simp [strOf] at h
  | _ :: _, [], h => by simp [strOf] at h
  | x :: a, y :: b, h => by
    simp only [strOf, List.map_cons, List.cons.injEq] at h
    rw [char_byte_inj x y h.1, strOf_inj (a := a) (b := b) h.2]

/-- the `HashMap<String, String>` of the translation for the model's tag list -/
def tagsOf (l : List (List UInt8 × List UInt8)) : Rs.HMap (List Char) (List Char) := l.map (fun kv => (strOf kv.1, strOf kv.2))

theorem hmGet_none_of_notin (l : List (List UInt8 × List UInt8)) (k : List UInt8) (h : k ∉ l.map Prod.fst) :
    Rs.hmGet (tagsOf l) (strOf k) = none := by
  induction l with
  | nil => rfl
  | cons x l ih =>
    simp only [List.map_cons, List.mem_cons, not_or] at h
    simp only [tagsOf, List.map_cons, Rs.hmGet]
    rw [if_neg (fun e => h.1 (strOf_inj e).symm)]
    exact ih h.2

theorem map_replace_notin (l : List (List UInt8 × List UInt8)) (k : List UInt8) (v : List Char) (h : k ∉ l.map Prod.fst) :
    (tagsOf l).map (fun e => if e.1 = strOf k then (e.1, v) else e) = tagsOf l := by
  induction l with
  | nil => rfl
  | cons x l ih =>
    simp only [List.map_cons, List.mem_cons, not_or] at h
    simp only [tagsOf, List.map_cons]
    rw [if_neg (fun e => h.1 (strOf_inj e).symm)]
    congr 1
    exact ih h.2

theorem hmInsert_cons_ne {K V : Type} [DecidableEq K] (x : K × V) (m : Rs.HMap K V) (k : K) (v : V) (h : x.1 ≠ k) :
    (Rs.hmInsert (x :: m) k v).1 = x :: (Rs.hmInsert m k v).1 := by
  unfold Rs.hmInsert
  simp only [Rs.hmGet, if_neg h]
  cases Rs.hmGet m k with
  | none => rfl
  | some old => simp only [List.map_cons, if_neg h]

theorem keys_tagInsert (k v : List UInt8) : ∀ l : List (List UInt8 × List UInt8),
    (tagInsert k v l).map Prod.fst = if k ∈ l.map Prod.fst then l.map Prod.fst else l.map Prod.fst ++ [k]
  | [] => by simp [tagInsert]
  | (k', v') :: l => by
    unfold tagInsert
    by_cases hk : k' = k
    · simp [hk]
    · have hk' : ¬ k = k' := fun e => hk e.symm
      simp only [if_neg hk, List.map_cons, keys_tagInsert k v l, List.mem_cons, hk', false_or]
      split <;> rfl

theorem tagInsert_nodup (k v : List UInt8) (l : List (List UInt8 × List UInt8)) (hn : (l.map Prod.fst).Nodup) :
    ((tagInsert k v l).map Prod.fst).Nodup := by
  rw [keys_tagInsert]
  split
  · exact hn
  · rename_i h
    refine List.nodup_append.mpr ⟨hn, by simp, fun a ha b hb => ?_⟩
    rw [List.mem_singleton.mp hb]
    exact fun e => h (e ▸ ha)
/-- **`HashMap::insert` on the association list = the model's `tagInsert`**, the keys being distinct (`insert` overwrites every entry
of the key, `tagInsert` the first) -/
theorem hmInsert_tagsOf (k v : List UInt8) : ∀ (l : List (List UInt8 × List UInt8)), (l.map Prod.fst).Nodup →
    (Rs.hmInsert (tagsOf l) (strOf k) (strOf v)).1 = tagsOf (tagInsert k v l)
  | [], _ => rfl
  | (k', v') :: l, hn => by
    simp only [List.map_cons, List.nodup_cons] at hn
    unfold tagInsert
    by_cases hk : k' = k
    · subst hk
      rw [if_pos rfl]
      unfold Rs.hmInsert
      simp only [tagsOf, List.map_cons, Rs.hmGet, if_pos]
      have := map_replace_notin l k' (strOf v) hn.1
      simp only [tagsOf] at this
      simp only [this]
    · rw [if_neg hk]
      show (Rs.hmInsert ((strOf k', strOf v') :: tagsOf l) (strOf k) (strOf v)).1 = _
      rw [hmInsert_cons_ne _ _ _ _ (fun e => hk (strOf_inj e)), hmInsert_tagsOf k v l hn.2]
      rfl

section
variable {E : Type} (rd : Reader → List Int → Except E Int × Reader × List Int) (hrd : ReadModel rd)
include hrd

omit hrd in
theorem attempt_bind {β δ : Type} (p : M β) (g : Except Err β → M δ) : M.bind (M.attempt p) g = Prog.bind p g := by
  unfold M.bind M.attempt
  induction p with
  | ret a => rfl
  | step inc k ih => simp only [Prog.bind]; congr 1; funext b; exact ih b

omit hrd in
theorem sim_attempt {α β γ δ : Type} {m : Rs.RsM (Rs.PgnRawParser Reader) α} {f : α → Rs.RsM (Rs.PgnRawParser Reader) γ}
    {p : M β} {g : Except Err β → M δ} {rel : α → Except Err β → Prop} {rel' : γ → Except Err δ → Prop}
    (h1 : Sim m p rel) (h2 : ∀ a b, rel a b → Sim (f a) (g b) rel') : Sim (m >>= f) (M.bind (M.attempt p) g) rel' := by
  rw [attempt_bind]
  exact sim_bind h1 h2

/-- `let value = p;` (no `?`): the model's `M.attempt` -/
theorem simT_attempt {α β γ δ : Type} {k : Nat} {m : Rs.RsM (Rs.PgnRawParser Reader) α} {f : α → Rs.RsM (Rs.PgnRawParser Reader) γ}
    {p : M β} {g : Except Err β → M δ} {rel : α → Except Err β → Prop} {rel' : γ → Except Err δ → Prop}
    (h1 : SimT k m p rel) (h2 : ∀ a b, rel a b → SimT k (f a) (g b) rel') : SimT k (m >>= f) (M.bind (M.attempt p) g) rel' := by
  rw [attempt_bind]
  exact simT_bind h1 h2

theorem rs_read_tag_name_simT (fuel : Nat) :
    SimT fuel (Rs.PgnRawParser.read_tag_name rd fuel) (readTagName fuel) (relRes (fun r out => r = strOf out)) := by
  unfold Rs.PgnRawParser.read_tag_name readTagName
  exact rs_read_until_simT rd hrd fuel SP

theorem rs_read_tag_value_simT (fuel : Nat) :
    SimT fuel (Rs.PgnRawParser.read_tag_value rd fuel) (readTagValue fuel) (relRes (fun r out => r = strOf out)) := by
  unfold Rs.PgnRawParser.read_tag_value readTagValue
  refine simT_try (rs_consume_simT rd hrd fuel 34) (fun e => ⟨_, rfl, rfl⟩) (fun _ _ _ => ?_)
  dsimp only []
  refine simT_pure_bind (simT_attempt rd hrd (rs_read_until_simT rd hrd fuel 34) (fun value out hv => ?_))
  refine simT_try (rs_consume_simT rd hrd fuel 34) (fun e => ⟨_, rfl, rfl⟩) (fun _ _ _ => ?_)
  dsimp only []
  exact simT_pure_bind (simT_pure hv)

theorem rs_read_tag_pair_line_simT (fuel : Nat) :
    SimT fuel (Rs.PgnRawParser.read_tag_pair_line rd fuel) (readTagPairLine fuel)
      (relRes (fun r out => r = (strOf out.1, strOf out.2))) := by
  unfold Rs.PgnRawParser.read_tag_pair_line readTagPairLine
  refine simT_try (rs_consume_simT rd hrd fuel 91) (fun e => ⟨_, rfl, rfl⟩) (fun _ _ _ => ?_)
  refine simT_try (rs_read_tag_name_simT rd hrd fuel) (fun e => ⟨_, rfl, rfl⟩) (fun name name' hn => ?_)
  refine simT_pure_bind ?_
  refine simT_try (rs_consume_simT rd hrd fuel SP) (fun e => ⟨_, rfl, rfl⟩) (fun _ _ _ => ?_)
  refine simT_try (rs_read_tag_value_simT rd hrd fuel) (fun e => ⟨_, rfl, rfl⟩) (fun value value' hv => ?_)
  refine simT_pure_bind ?_
  refine simT_try (rs_consume_simT rd hrd fuel 93) (fun e => ⟨_, rfl, rfl⟩) (fun _ _ _ => ?_)
  refine simT_try (rs_consume_simT rd hrd fuel NL) (fun e => ⟨_, rfl, rfl⟩) (fun _ _ _ => ?_)
  rw [show name = strOf name' from hn, show value = strOf value' from hv]
  exact simT_pure rfl

/-- the loop is needed for every counter `k`, its no-panic half only below the counter `fuel` of the calls in its body -/
theorem rs_read_tag_pairs_loopT (fuel : Nat) : ∀ k (l : List (List UInt8 × List UInt8)), (l.map Prod.fst).Nodup →
    SimT (min k fuel) (Rs.PgnRawParser.read_tag_pairs.loop_1 rd fuel k (tagsOf l)) (readTagPairsLoop fuel k l)
      (relCtl (fun _ _ => False) (fun r out => r = tagsOf out)) := by
  intro k
  induction k with
  | zero => intro l _; rw [Rs.PgnRawParser.read_tag_pairs.loop_1, Nat.zero_min]; exact simT_zero
  | succ k ih =>
    intro l hn
    rw [Rs.PgnRawParser.read_tag_pairs.loop_1]
    unfold readTagPairsLoop
    refine simT_peek rd hrd (fun e => ⟨_, rfl, rfl⟩) (fun b => ?_)
    dsimp only []
    refine simT_pure_bind (simT_ite (byteI_beq b 91) (fun _ => ?_)
      (fun _ => simT_ite (byteI_beq b NL) (fun _ => simT_pure rfl) (fun _ => simT_get_bind (fun g => simT_pure rfl))))
    refine simT_try_at (kf := fun _ => min k fuel) (simT_mono (Nat.min_le_right _ _) (rs_read_tag_pair_line_simT rd hrd fuel))
      (fun s kv hg hl hb => stream_lt_of s hg hb fun l' h => by have := readTagPairLine_decreases fuel _ l' kv h; omega)
      (fun e => ⟨_, rfl, rfl⟩) (fun kv kv' hkv => ?_)
    rw [show kv = (strOf kv'.1, strOf kv'.2) from hkv]
    dsimp only []
    refine simT_pure_bind (simT_pure_bind ?_)
    rw [hmInsert_tagsOf kv'.1 kv'.2 l hn]
    exact ih _ (tagInsert_nodup kv'.1 kv'.2 l hn)

/-- **`read_tag_pairs` = `readTagPairs`** (the map is the association list of the code-point strings, in first-insertion order) -/
theorem rs_read_tag_pairs_simT (fuel : Nat) :
    SimT fuel (Rs.PgnRawParser.read_tag_pairs rd fuel) (readTagPairs fuel) (relRes (fun r out => r = tagsOf out)) := by
  unfold Rs.PgnRawParser.read_tag_pairs readTagPairs
  dsimp only []
  have hl := rs_read_tag_pairs_loopT rd hrd fuel fuel [] (by simp)
  rw [Nat.min_self] at hl
  exact simT_loop_wrap hl (fun _ => rfl) (fun _ _ h => h) (fun _ _ h => absurd h id)

theorem rs_read_tag_name_sim (fuel : Nat) :
    Sim (Rs.PgnRawParser.read_tag_name rd fuel) (readTagName fuel) (relRes (fun r out => r = strOf out)) :=
  (rs_read_tag_name_simT rd hrd fuel).1
theorem rs_read_tag_value_sim (fuel : Nat) :
    Sim (Rs.PgnRawParser.read_tag_value rd fuel) (readTagValue fuel) (relRes (fun r out => r = strOf out)) :=
  (rs_read_tag_value_simT rd hrd fuel).1
theorem rs_read_tag_pair_line_sim (fuel : Nat) :
    Sim (Rs.PgnRawParser.read_tag_pair_line rd fuel) (readTagPairLine fuel)
      (relRes (fun r out => r = (strOf out.1, strOf out.2))) :=
  (rs_read_tag_pair_line_simT rd hrd fuel).1
theorem rs_read_tag_pairs_loop (fuel : Nat) : ∀ k (l : List (List UInt8 × List UInt8)), (l.map Prod.fst).Nodup →
    Sim (Rs.PgnRawParser.read_tag_pairs.loop_1 rd fuel k (tagsOf l)) (readTagPairsLoop fuel k l)
      (relCtl (fun _ _ => False) (fun r out => r = tagsOf out)) := fun k l hn => (rs_read_tag_pairs_loopT rd hrd fuel k l hn).1
theorem rs_read_tag_pairs_sim (fuel : Nat) :
    Sim (Rs.PgnRawParser.read_tag_pairs rd fuel) (readTagPairs fuel) (relRes (fun r out => r = tagsOf out)) :=
  (rs_read_tag_pairs_simT rd hrd fuel).1

#print axioms rs_read_tag_value_sim
#print axioms rs_read_tag_pair_line_sim
#print axioms rs_read_tag_pairs_sim

end
end Inkayaku.Translated
