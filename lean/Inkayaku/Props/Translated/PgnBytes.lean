import Inkayaku.Props.Translated.PgnBuffer
/-! The byte-level methods of the PGN reader `PgnRawParser` (pgn/src/reader.rs;
generated module `Pgn`, MONADIC MODE) against the model programs of `Model/Pgn.lean`: `peek_byte`, `pop_byte`, `skip_byte`, `consume`.
Each is total (never panics on a `Good` state) and simulates the model program (`Sim`, see `PgnBuffer.lean`). -/

namespace Inkayaku.Translated
open Inkayaku.Pgn Inkayaku.C17

section
variable {E : Type} (rd : Reader → List Int → Except E Int × Reader × List Int) (hrd : ReadModel rd)
include hrd

omit hrd in
theorem idx_run (s1 : Buffered) (b : UInt8)
    (h3 : Rs.vecIdx (toRs s1).current_buffer (toRs s1).current_byte = some (byteI b)) (t : Rs.PgnRawParser Reader) :
    (Rs.RsM.liftO (Rs.vecIdx (toRs s1).current_buffer (toRs s1).current_byte) : Rs.RsM (Rs.PgnRawParser Reader) Int) t = some (byteI b, t) := by
  rw [run_liftO, h3, omap_some]

omit hrd in
/-- `current_buffer[current_byte]` as the translation spells it (two reads of `self`), in a state where it is `b` -/
theorem idx_bind {γ : Type} {s1 : Buffered} {b : UInt8}
    (h3 : Rs.vecIdx (toRs s1).current_buffer (toRs s1).current_byte = some (byteI b)) (H : Int → Rs.RsM (Rs.PgnRawParser Reader) γ) :
    (Rs.RsM.get >>= fun g1 => Rs.RsM.get >>= fun g2 => Rs.RsM.liftO (Rs.vecIdx g1.current_buffer g2.current_byte) >>= H) (toRs s1)
      = H (byteI b) (toRs s1) := by
  rw [bind_some (run_get _), bind_some (run_get _), bind_some (idx_run s1 b h3 _)]

theorem rs_peek_byte_simT (k : Nat) : SimT k (Rs.PgnRawParser.peek_byte rd) peekByte (relRes relByte) := by
  unfold Rs.PgnRawParser.peek_byte peekByte
  refine simT_step rd hrd (Nat.le_succ k) (simT_pure rfl) (fun b s1 g1 _ h3 _ => ?_)
  show Agrees k _ (M.pure b) s1 _
  rw [if_pos rfl, idx_bind h3]
  exact SimT.at (simT_pure rfl) g1

theorem rs_skip_byte_simT (k : Nat) : SimT k (Rs.PgnRawParser.skip_byte rd) skipByte (relRes (fun _ _ => True)) := by
  unfold Rs.PgnRawParser.skip_byte skipByte
  refine simT_step rd hrd (Nat.le_succ k) (simT_pure rfl) (fun b s1 _ g2 _ h4 => ?_)
  show Agrees k _ (M.pure ()) s1.incr _
  rw [if_pos rfl, bind_some h4]
  exact SimT.at (simT_pure trivial) g2

/-- `pop_byte` is `peek_byte` followed by `increment_byte`: one `Prog.step` of the model -/
theorem rs_pop_byte_simT (k : Nat) : SimT k (Rs.PgnRawParser.pop_byte rd) popByte (relRes relByte) := by
  unfold Rs.PgnRawParser.pop_byte Rs.PgnRawParser.peek_byte popByte
  rw [bind_assoc_run]
  refine simT_step rd hrd (Nat.le_succ k) ?_ (fun b s1 _ g2 h3 h4 => ?_)
  · rw [if_neg (by decide), pure_bind_run]
    exact simT_pure rfl
  · show Agrees k _ (M.pure b) s1.incr _
    rw [if_pos rfl]
    simp only [bind_assoc_run]
    rw [idx_bind h3, pure_bind_run]
    dsimp only []
    rw [pure_bind_run, bind_some h4]
    exact SimT.at (simT_pure rfl) g2

omit hrd in
theorem sim_pure_bind {α β γ : Type} {a : α} {f : α → Rs.RsM (Rs.PgnRawParser Reader) γ} {p : Prog β} {rel : γ → β → Prop}
    (h : Sim (f a) p rel) : Sim (pure a >>= f) p rel := by
  rw [pure_bind_run]; exact h

omit hrd in
theorem sim_panic {α β : Type} {p : Prog β} {rel : α → β → Prop} : Sim (Rs.RsM.panic : Rs.RsM (Rs.PgnRawParser Reader) α) p rel := by
  intro s a t _ hm
  rw [run_panic] at hm; cases hm

theorem rs_peek_byte_eq (s : Buffered) (hg : Good s) :
    ∃ a, Rs.PgnRawParser.peek_byte rd (toRs s) = some (a, toRs (run peekByte s).2) ∧ relRes relByte a (run peekByte s).1 :=
  simT_exists (rs_peek_byte_simT rd hrd) s hg
theorem rs_pop_byte_eq (s : Buffered) (hg : Good s) :
    ∃ a, Rs.PgnRawParser.pop_byte rd (toRs s) = some (a, toRs (run popByte s).2) ∧ relRes relByte a (run popByte s).1 :=
  simT_exists (rs_pop_byte_simT rd hrd) s hg
theorem rs_skip_byte_eq (s : Buffered) (hg : Good s) :
    ∃ a, Rs.PgnRawParser.skip_byte rd (toRs s) = some (a, toRs (run skipByte s).2) ∧ relRes (fun _ _ => True) a (run skipByte s).1 :=
  simT_exists (rs_skip_byte_simT rd hrd) s hg

theorem rs_peek_byte_sim : Sim (Rs.PgnRawParser.peek_byte rd) peekByte (relRes relByte) := (rs_peek_byte_simT rd hrd 0).1
theorem rs_pop_byte_sim : Sim (Rs.PgnRawParser.pop_byte rd) popByte (relRes relByte) := (rs_pop_byte_simT rd hrd 0).1
theorem rs_skip_byte_sim : Sim (Rs.PgnRawParser.skip_byte rd) skipByte (relRes (fun _ _ => True)) := (rs_skip_byte_simT rd hrd 0).1
theorem rs_peek_byte_total : Total (Rs.PgnRawParser.peek_byte rd) := total_of_simT (rs_peek_byte_simT rd hrd)
theorem rs_pop_byte_total : Total (Rs.PgnRawParser.pop_byte rd) := total_of_simT (rs_pop_byte_simT rd hrd)
theorem rs_skip_byte_total : Total (Rs.PgnRawParser.skip_byte rd) := total_of_simT (rs_skip_byte_simT rd hrd)

omit hrd in
theorem skip_ok_stream (s : Buffered) (hg : Good s) (u : Unit) (h : (run skipByte s).1 = .ok u) :
    (stream (run skipByte s).2).length + 1 = (stream s).length := by
  obtain ⟨h1, h2⟩ := stream_run skipByte s hg
  rw [h1] at h
  cases hl : stream s with
  | nil => rw [hl] at h; simp at h
  | cons x t => rw [h2, hl]; simp

omit hrd in
theorem pop_ok_stream (s : Buffered) (hg : Good s) (b : UInt8) (h : (run popByte s).1 = .ok b) :
    (stream (run popByte s).2).length + 1 = (stream s).length := by
  obtain ⟨h1, h2⟩ := stream_run popByte s hg
  rw [h1] at h
  cases hl : stream s with
  | nil => rw [hl] at h; simp at h
  | cons x t => rw [h2, hl]; simp

section
variable {γ δ : Type} {k : Nat} {g : UInt8 → M δ} {rel' : γ → Except Err δ → Prop}

/-- `let v = self.peek_byte()?; ..` -/
theorem simT_peek {F : Except Rs.PgnRawParserError Int → Rs.RsM (Rs.PgnRawParser Reader) γ}
    (herr : ∀ e, ∃ c, F (.error e) = pure c ∧ rel' c (.error (pgnErrKind e)))
    (hok : ∀ b, SimT k (F (.ok (byteI b))) (g b) rel') :
    SimT k (Rs.PgnRawParser.peek_byte rd >>= F) (M.bind peekByte g) rel' :=
  simT_try (rs_peek_byte_simT rd hrd k) herr (fun v b hv => by rw [show v = byteI b from hv]; exact hok b)

/-- `let v = self.pop_byte()?; ..`: a byte is gone, the continuation is needed one counter lower -/
theorem simT_pop {F : Except Rs.PgnRawParserError Int → Rs.RsM (Rs.PgnRawParser Reader) γ}
    (herr : ∀ e, ∃ c, F (.error e) = pure c ∧ rel' c (.error (pgnErrKind e)))
    (hok : ∀ b, SimT k (F (.ok (byteI b))) (g b) rel') :
    SimT (k + 1) (Rs.PgnRawParser.pop_byte rd >>= F) (M.bind popByte g) rel' :=
  simT_try_at (kf := fun _ => k) (rs_pop_byte_simT rd hrd (k + 1)) (fun s b hg _ h => by have := pop_ok_stream s hg b h; omega) herr
    (fun v b hv => by rw [show v = byteI b from hv]; exact hok b)

/-- `self.skip_byte()?; ..` -/
theorem simT_skip {F : Except Rs.PgnRawParserError Unit → Rs.RsM (Rs.PgnRawParser Reader) γ} {g : Unit → M δ}
    (herr : ∀ e, ∃ c, F (.error e) = pure c ∧ rel' c (.error (pgnErrKind e)))
    (hok : SimT k (F (.ok ())) (g ()) rel') :
    SimT (k + 1) (Rs.PgnRawParser.skip_byte rd >>= F) (M.bind skipByte g) rel' :=
  simT_try_at (kf := fun _ => k) (rs_skip_byte_simT rd hrd (k + 1)) (fun s u hg _ h => by have := skip_ok_stream s hg u h; omega) herr
    (fun _ _ _ => hok)
end

omit hrd in
theorem byteI_inj {a b : UInt8} (h : byteI a = byteI b) : a = b := by
  unfold byteI at h
  exact UInt8.toNat_inj.mp (by omega)

omit hrd in
theorem byteI_beq (b c : UInt8) : (byteI b == byteI c) = decide (b = c) := by
  by_cases h : b = c
  · subst h; simp
  · have : ¬ byteI b = byteI c := fun e => h (byteI_inj e)
    simp [h, this]

omit hrd in
theorem byteI_bne (b c : UInt8) : (byteI b != byteI c) = decide (b ≠ c) := by
  rw [bne, byteI_beq]; simp

/-- the payload of `IllegalConsume` is dropped by the model -/
theorem rs_consume_simT (k : Nat) (c : UInt8) :
    SimT k (Rs.PgnRawParser.consume rd (byteI c)) (Pgn.consume c) (relRes (fun _ _ => True)) := by
  unfold Rs.PgnRawParser.consume Pgn.consume
  refine simT_try (rs_pop_byte_simT rd hrd k) (fun e => ⟨_, rfl, rfl⟩) (fun v b hv => ?_)
  rw [show v = byteI b from hv]
  dsimp only []
  exact simT_pure_bind (simT_ite (byteI_beq b c) (fun _ => simT_pure trivial) (fun _ => simT_get_bind (fun g => simT_pure rfl)))

theorem rs_consume_sim (c : UInt8) : Sim (Rs.PgnRawParser.consume rd (byteI c)) (Pgn.consume c) (relRes (fun _ _ => True)) :=
  (rs_consume_simT rd hrd 0 c).1

#print axioms rs_peek_byte_eq
#print axioms rs_pop_byte_eq
#print axioms rs_skip_byte_eq
#print axioms rs_consume_sim

end
end Inkayaku.Translated
