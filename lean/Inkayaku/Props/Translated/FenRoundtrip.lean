import Inkayaku.Props.Translated.FenDecode
import Inkayaku.Props.Translated.FenFromStr
import Inkayaku.Props.Translated.FenWrite
import Inkayaku.Props.C12
/-! Composition with `C12.print_parse_board`.

`rs_fen_read_eq`: the two translated halves of the READER composed — `Fen::from_str` (regex opaque, `RegexModel`) followed by
`Bitboard::from(&Fen)` is the model's `fromFenString` on every text other than the alias: same verdict, same board.

`rs_fen_roundtrip_read`: for every representable board (`FenRoundtrip.Repr`, in particular every legal position) the canonical text the
model printer `printFen` writes is accepted by the TRANSLATED reader, which gives back the same position (`WF.vis`).

`rs_fen_roundtrip`: the same statement with the translated WRITER `Rs.Fen.from` (generated module `FenWrite`: `From<&Bitboard> for Fen`,
`get_colored_piece`, `square_to_string`) in place of the model printer: the writer does not panic on a representable board, its text is
`printFen b`, and `Rs.Bitboard.from` of the `Fen` VALUE the writer returns is the same position (`rs_fen_write_eq` of `FenWrite.lean`
composed with `rs_fen_decode_eq`), under the table assumptions `SquareTables` / `PieceTables` for the opaque constants. -/

namespace Inkayaku.Translated
open Inkayaku.Board Inkayaku.FenSyntax Inkayaku.FenBoard

theorem rs_fen_read_eq {C M : Type} (parse : List Char → Except Rs.FenParseError C) (get : C → Int → Option M)
    (range : M → Int × Int) (hm : RegexModel parse get range) (dflt : Rs.Fen) (s : String) (hs : s ≠ "startpos")
    (fuel : Nat) (hfuel : 8 ≤ fuel) :
    ∃ r, Rs.Fen.from_str s.toList dflt parse get range fuel = some r ∧
      (match fromFenString s with
       | .error e => ∃ err, r = .error err ∧ errKind err = e
       | .ok b => ∃ fen, r = .ok fen ∧ fen.fen = s.toList ∧ Rs.Bitboard.from fen = some (boardFields b)) := by
  have hs' : s.toList ≠ "startpos".toList := by
    intro h; apply hs; rw [← String.ofList_toList (s := s), h]; rfl
  obtain ⟨r, h1, h2⟩ := rs_fen_from_str_eq parse get range hm dflt s.toList hs' fuel hfuel
  refine ⟨r, h1, ?_⟩
  unfold fromFenString FenSyntax.parse
  rw [if_neg hs]
  cases hp : parseChars s.toList with
  | error e => rw [hp] at h2; exact h2
  | ok f =>
    rw [hp] at h2
    obtain ⟨fen, e1, e2, hv⟩ := h2
    exact ⟨fen, e1, e2, rs_fen_decode_eq fen f _ hp hv⟩

/-- **round trip through the translated reader**: the text the model printer writes for a representable board is accepted by the
translated `Fen::from_str` + `Bitboard::from(&Fen)`, and decodes to the same position -/
theorem rs_fen_roundtrip_read {C M : Type} (parse : List Char → Except Rs.FenParseError C) (get : C → Int → Option M)
    (range : M → Int × Int) (hm : RegexModel parse get range) (dflt : Rs.Fen) (fuel : Nat) (hfuel : 8 ≤ fuel)
    {b : Board} (h : FenRoundtrip.Repr b) :
    ∃ s fen b', printFen b = some s ∧ Rs.Fen.from_str s.toList dflt parse get range fuel = some (.ok fen) ∧ fen.fen = s.toList
      ∧ Rs.Bitboard.from fen = some (boardFields b') ∧ WF.vis b' = WF.vis b := by
  obtain ⟨s, b', hp, hs0, hr, hv⟩ := C12.print_parse_board h
  have hs : s ≠ "startpos" := by
    intro he
    refine parseChars_ok_ne_startpos (FenRoundtrip.parseChars_printA (FenRoundtrip.absOf_valid h)) ?_
    rw [← String.toList_ofList (l := FenText.printA (FenRoundtrip.absOf b)), ← hs0, he]
  obtain ⟨r, h1, h2⟩ := rs_fen_read_eq parse get range hm dflt s hs fuel hfuel
  rw [hr] at h2
  obtain ⟨fen, e1, e2, e3⟩ := h2
  exact ⟨s, fen, b', hp, by rw [h1, e1], e2, e3, hv⟩

/-- **FEN round trip on the translated source** (C12): for every representable board the translated WRITER `From<&Bitboard> for Fen`
does not panic, writes the canonical text of the model printer, and the translated READER `Bitboard::from(&Fen)` applied to the very
`Fen` value the writer returns gives back the same position. -/
theorem rs_fen_roundtrip {S P CP C M : Type} (fromIndex : Int → Option S) (mask : S → UInt64) (sqfen : S → List Char)
    (pfromIndex : Int → Option P) (toWhite toBlack : P → CP) (fen : CP → Char)
    (parse : List Char → Except Rs.FenParseError C) (get : C → Int → Option M) (range : M → Int × Int)
    (hs : SquareTables fromIndex mask sqfen) (ht : PieceTables pfromIndex toWhite toBlack fen) (hm : RegexModel parse get range)
    (dflt : Rs.Fen) (fuel : Nat) (hfuel : 17 ≤ fuel) {b : Board} (h : FenRoundtrip.Repr b) :
    ∃ s fn b', printFen b = some s ∧
      Rs.Fen.from (toRsSide b.white) (toRsSide b.black) (b.turn : Int) (b.ep : Int) (b.fullmove : Int) (b.halfmove : Int)
        fromIndex mask pfromIndex toWhite toBlack fen fromIndex sqfen dflt parse get range fuel = some fn
      ∧ fn.fen = s.toList ∧ Rs.Bitboard.from fn = some (boardFields b') ∧ WF.vis b' = WF.vis b := by
  obtain ⟨s, b', hp, hs0, hr, hv⟩ := C12.print_parse_board h
  obtain ⟨fn, f, e1, e2, e3, e4⟩ := rs_fen_write_eq fromIndex mask sqfen pfromIndex toWhite toBlack fen parse get range hs ht hm dflt fuel
    hfuel b h.ep s hp
  refine ⟨s, fn, boardOfFields f, hp, e1, e2, rs_fen_decode_eq fn f _ e3 e4, ?_⟩
  have : fromFenString s = .ok (boardOfFields f) := by
    have hne : s ≠ "startpos" := by
      intro he
      exact parseChars_ok_ne_startpos e3 (by rw [he])
    unfold fromFenString FenSyntax.parse
    rw [if_neg hne, e3]
  rw [this] at hr
  cases hr
  exact hv

#print axioms rs_fen_read_eq
#print axioms rs_fen_roundtrip_read
#print axioms rs_fen_roundtrip

example : FenRoundtrip.Repr startBoard := C12.startBoard_repr
example : FenRoundtrip.Repr C12.exBoard := C12.exBoard_repr

end Inkayaku.Translated
