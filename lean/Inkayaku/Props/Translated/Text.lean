import Inkayaku.Model.FenBoard
import Inkayaku.Props.Translated.Basic
import Inkayaku.Proofs.CharRange
/-! The char and string primitives of the translation's run-time library (`Gen/Rs/Prelude.lean`: `is_ascii_digit`, `to_digit`,
`from_digit`, `is_uppercase`, `to_ascii_lowercase`, `str::len`, `split`, `parse::<u32>`) = the functions the hand-written FEN models
(`Model/FenSyntax.lean`, `Model/FenBoard.lean`) use for the same purpose.  One equation per primitive, total where the primitive is;
`is_uppercase` and `str::len` are modelled on ASCII only, which the FEN grammar guarantees. -/

namespace Inkayaku.Translated
open Inkayaku.Board Inkayaku.FenSyntax Inkayaku.FenBoard

theorem isAsciiDigit_iff (c : Char) : FenSyntax.isAsciiDigit c = true ↔ 48 ≤ c.toNat ∧ c.toNat ≤ 57 :=
  CharRange.isAsciiDigit_iff c

@[rs_eval] theorem rs_isAsciiDigit_eq (c : Char) : Rs.isAsciiDigit c = FenSyntax.isAsciiDigit c := by
  by_cases h : FenSyntax.isAsciiDigit c = true
  · rw [h]; simpa [Rs.isAsciiDigit] using (isAsciiDigit_iff c).mp h
  · have h' : ¬ (48 ≤ c.toNat ∧ c.toNat ≤ 57) := fun x => h ((isAsciiDigit_iff c).mpr x)
    simp only [Bool.not_eq_true] at h
    rw [h]; simpa [Rs.isAsciiDigit] using h'

theorem digitVal_le {c : Char} (h : FenSyntax.isAsciiDigit c = true) : FenSyntax.digitVal c ≤ 9 := by
  have h' := (isAsciiDigit_iff c).mp h
  simp only [FenSyntax.digitVal]; omega

/-- `c.to_digit(10)` (a Rust `Option` value) on every char -/
@[rs_eval] theorem rs_toDigit10_eq (c : Char) :
    Rs.toDigit10 c = if FenSyntax.isAsciiDigit c = true then some ((FenSyntax.digitVal c : Nat) : Int) else none := by
  by_cases h : FenSyntax.isAsciiDigit c = true
  · have h' := (isAsciiDigit_iff c).mp h
    simp only [Rs.toDigit10, h', and_self, if_true, h, FenSyntax.digitVal]; congr 1; omega
  · have h' : ¬ (48 ≤ c.toNat ∧ c.toNat ≤ 57) := fun x => h ((isAsciiDigit_iff c).mpr x)
    simp only [Rs.toDigit10, h', h, if_false, Bool.false_eq_true]

theorem fromDigit10_nat (e : Nat) (h : e ≤ 9) :
    Rs.fromDigit10 (e : Int) = some (Char.ofNat (48 + e)) ∧ natToChars e = [Char.ofNat (48 + e)] := by
  have : ∀ e : Fin 10, Rs.fromDigit10 ((e.val : Nat) : Int) = some (Char.ofNat (48 + e.val)) ∧ natToChars e.val = [Char.ofNat (48 + e.val)] := by
    decide
  exact this ⟨e, by omega⟩

/-- `n.to_string()` of an unsigned integer is the model's `natToChars` (both are `Nat.repr`) -/
@[rs_eval] theorem rs_uintToString (n : Nat) : Rs.uintToString (n : Int) = natToChars n := rfl

theorem isUpper_iff (c : Char) : isUpper c = true ↔ 65 ≤ c.toNat ∧ c.toNat ≤ 90 := by
  simp only [isUpper, Bool.and_eq_true, decide_eq_true_eq, CharRange.char_le_iff]; exact Iff.rfl

@[rs_eval] theorem rs_isUppercase_ascii (c : Char) (h : c.toNat < 128) : Rs.charIsUppercase c = some (isUpper c) := by
  unfold Rs.charIsUppercase
  rw [if_pos h]
  by_cases hu : isUpper c = true
  · rw [hu]; simpa using (isUpper_iff c).mp hu
  · have : ¬ (65 ≤ c.toNat ∧ c.toNat ≤ 90) := fun x => hu ((isUpper_iff c).mpr x)
    simp only [Bool.not_eq_true] at hu
    rw [hu]; simpa using this

@[rs_eval] theorem rs_toLower_eq (c : Char) : Rs.charToAsciiLowercase c = toLower c := by
  unfold Rs.charToAsciiLowercase toLower
  by_cases hu : isUpper c = true
  · rw [if_pos ((isUpper_iff c).mp hu), if_pos hu]
  · rw [if_neg (fun x => hu ((isUpper_iff c).mpr x)), if_neg hu]

open Inkayaku.Rs in
theorem rs_strLen_ascii (r : List Char) (hascii : ∀ c ∈ r, c.toNat < 128) : strLen r = (r.length : Int) := by
  unfold strLen
  congr 1
  induction r with
  | nil => rfl
  | cons x xs ih =>
    have hx : x.toNat < 128 := hascii x (by simp)
    have h1 : x.utf8Size = 1 := by
      have : x.val.toNat ≤ 127 := by have : x.val.toNat = x.toNat := Char.toNat_val; omega
      simp only [Char.utf8Size]
      have h' : x.val ≤ 127 := by rw [UInt32.le_iff_toNat_le]; exact this
      simp [h']
    simp only [List.map_cons, List.sum_cons, List.length_cons, h1, ih (fun c hc => hascii c (by simp [hc]))]; omega

theorem strLen_two (a b : Char) (ha : a.toNat < 128) (hb : b.toNat < 128) : Rs.strLen [a, b] = 2 := by
  rw [rs_strLen_ascii [a, b] (by intro c hc; simp at hc; rcases hc with rfl | rfl <;> assumption)]
  rfl

@[rs_eval] theorem strSplit_eq (sep : Char) : ∀ l : List Char, Rs.strSplit sep l = splitOnChar sep l
  | [] => rfl
  | c :: cs => by
    by_cases h : c = sep
    · simp [Rs.strSplit, splitOnChar, strSplit_eq sep cs, h]
    · cases hs : splitOnChar sep cs <;> simp [Rs.strSplit, splitOnChar, strSplit_eq sep cs, h, hs]

theorem stripPlus_digits (s : List Char) (hall : s.all FenSyntax.isAsciiDigit = true) : Rs.stripPlus s = s := by
  cases s with
  | nil => rfl
  | cons c cs =>
    have hc : FenSyntax.isAsciiDigit c = true := by simp only [List.all_cons, Bool.and_eq_true] at hall; exact hall.1
    by_cases h : c = '+'
    · subst h; exact absurd hc (by decide)
    · unfold Rs.stripPlus; split <;> simp_all

/-- `str::parse::<u32>` on a non-empty string of ASCII digits -/
theorem parseU32_digits_eq (s : List Char) (hne : s.isEmpty = false) (hall : s.all FenSyntax.isAsciiDigit = true) :
    Rs.parseU32 s = if decimalValue s ≤ 4294967295 then some ((decimalValue s : Nat) : Int) else none := by
  unfold Rs.parseU32
  simp only [stripPlus_digits s hall]
  have hall' : s.all Rs.isAsciiDigit = true := by
    rw [List.all_eq_true] at hall ⊢
    intro x hx; rw [rs_isAsciiDigit_eq]; exact hall x hx
  rw [hall', hne]
  rfl

theorem parseU32_clock (s : List Char) (h : clockOk s = true) : Rs.parseU32 s = some ((decimalValue s : Nat) : Int) := by
  simp only [clockOk, Bool.and_eq_true, Bool.not_eq_true', decide_eq_true_eq] at h
  obtain ⟨⟨hne, hall⟩, hv⟩ := h
  rw [parseU32_digits_eq s hne hall, if_pos (by omega)]

theorem parseU32_digits (s : List Char) (hne : s.isEmpty = false) (hall : s.all FenSyntax.isAsciiDigit = true) :
    (Rs.parseU32 s).isNone = !clockOk s := by
  by_cases hc : clockOk s = true
  · rw [parseU32_clock s hc, hc]; rfl
  · simp only [Bool.not_eq_true] at hc
    rw [hc]
    have hv : ¬ decimalValue s < 4294967296 := by
      intro hv; simp [clockOk, hne, hall, hv] at hc
    rw [parseU32_digits_eq s hne hall, if_neg (by omega)]
    rfl

#print axioms rs_isAsciiDigit_eq
#print axioms rs_strLen_ascii
#print axioms rs_isUppercase_ascii

end Inkayaku.Translated
