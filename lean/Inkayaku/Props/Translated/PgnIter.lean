import Inkayaku.Props.Translated.PgnMoves
/-! The iteration of the translated `Iterator::next` over
`PgnRawParser::with_chunk_size(reader, chunk)` and the composition with `C17.chunk_independent`: for every chunk size ≥ 1 and every
fragmentation schedule with entries ≥ 1 (the mapping assumption `ReadModel` for `Read::read`) the items the REGENERATED reader yields
— whenever it yields them, i.e. no panic and the loop counters (`fuel`) do not run out — are those the model parser yields on the plain
byte list (`readAll`), which `C17.parse_render` relates to the printed games. -/

set_option linter.unusedSectionVars false

namespace Inkayaku.Translated
open Inkayaku.Pgn Inkayaku.C17

/-- `for item in parser { items.push(item) }` over the translated `next`, stopping after the first `Some(Err _)` (kept), at most `k` items;
`none` = a call of `next` panicked or ran out of fuel -/
def rsItems {E : Type} (rd : Reader → List Int → Except E Int × Reader × List Int) (fuel : Nat) :
    Nat → Rs.PgnRawParser Reader → Option (List (Except Rs.PgnRawParserError Rs.PgnRaw))
  | 0, _ => some []
  | k + 1, st =>
    match Rs.PgnRawParser.next rd fuel st with
    | none => none
    | some (none, _) => some []
    | some (some (.error e), _) => some [.error e]
    | some (some (.ok g), st') => (rsItems rd fuel k st').map (fun l => .ok g :: l)

def itemRel : Except Rs.PgnRawParserError Rs.PgnRaw → Item → Prop
  | .ok g, .game g' => g = gameOf g'
  | .error e, .err e' => pgnErrKind e = e'
  | _, _ => False

def itemsRel : List (Except Rs.PgnRawParserError Rs.PgnRaw) → List Item → Prop
  | [], [] => True
  | x :: xs, y :: ys => itemRel x y ∧ itemsRel xs ys
  | _, _ => False

theorem readAllLoop_acc (fuel : Nat) : ∀ k (items : List Item) (s : Buffered),
    (run (readAllLoop fuel k items) s).1 = items ++ (run (readAllLoop fuel k []) s).1 := by
  intro k
  induction k with
  | zero => intro items s; simp [readAllLoop, run]
  | succ k ih =>
    intro items s
    unfold readAllLoop
    rw [run_pbind, run_pbind]
    cases h : (run (Pgn.next fuel) s).1 with
    | none => simp [run]
    | some r =>
      cases r with
      | error e => simp [run]
      | ok g =>
        dsimp only []
        rw [ih (items ++ [Item.game g]), ih ([] ++ [Item.game g])]
        simp

section
variable {E : Type} (rd : Reader → List Int → Except E Int × Reader × List Int) (hrd : ReadModel rd)
include hrd

theorem rs_items_spec (fuel : Nat) : ∀ k (s : Buffered), Good s →
    (∀ l, rsItems rd fuel k (toRs s) = some l → itemsRel l (run (readAllLoop fuel k []) s).1) ∧
    ((stream s).length < fuel → rsItems rd fuel k (toRs s) ≠ none) := by
  intro k
  induction k with
  | zero => exact fun s _ => ⟨fun l h => by cases h; trivial, fun _ h => by cases h⟩
  | succ k ih =>
    intro s hg
    obtain ⟨hsim, hnp⟩ := (rs_pgn_next_simT rd hrd fuel).at hg
    unfold rsItems readAllLoop
    rw [run_pbind]
    cases hn : Rs.PgnRawParser.next rd fuel (toRs s) with
    | none => exact ⟨fun l h => (nomatch h), fun hl => absurd hn (hnp hl)⟩
    | some x =>
      obtain ⟨r, t⟩ := x
      obtain ⟨rfl, e2⟩ := hsim r t hn
      obtain ⟨ih1, ih2⟩ := ih _ (good_run (Pgn.next fuel) s hg)
      have hle := stream_run_le (Pgn.next fuel) s hg
      generalize (run (Pgn.next fuel) s).1 = out at e2 ⊢
      match r, out, e2 with
      | none, none, _ => exact ⟨fun l h => by cases h; trivial, fun _ h => by cases h⟩
      | some (.error e), some (.error e'), hxy => exact ⟨fun l h => by cases h; exact ⟨hxy, trivial⟩, fun _ h => by cases h⟩
      | some (.ok g), some (.ok g'), hxy =>
        dsimp only []
        rw [readAllLoop_acc]
        cases hr : rsItems rd fuel k (toRs (run (Pgn.next fuel) s).2) with
        | none => exact ⟨fun l h => (nomatch h), fun hl => absurd hr (ih2 (by omega))⟩
        | some l' => exact ⟨fun l h => by cases h; exact ⟨hxy, ih1 l' hr⟩, fun _ h => by cases h⟩

theorem rs_items_eq (fuel : Nat) : ∀ k (s : Buffered) l, Good s → rsItems rd fuel k (toRs s) = some l →
    itemsRel l (run (readAllLoop fuel k []) s).1 := fun k s l hg h => (rs_items_spec rd hrd fuel k s hg).1 l h

omit hrd in
theorem rs_with_chunk_size_eq (r : Reader) (chunk : Nat) :
    Rs.PgnRawParser.with_chunk_size r (chunk : Int) = toRs (Buffered.new r chunk) := by
  simp [Rs.PgnRawParser.with_chunk_size, toRs, Buffered.new, byteI]

omit hrd in
theorem good_new (input : List UInt8) (chunk : Nat) (sched : Nat → Nat) (hchunk : 1 ≤ chunk) (hsched : ∀ k, 1 ≤ sched k)
    (hc : chunk < 18446744073709551616) (hi : input.length < 18446744073709551616) : Good (Buffered.new ⟨input, sched, 0⟩ chunk) := by
  obtain ⟨h1, h2⟩ := R_new chunk sched input hchunk hsched
  refine ⟨h1, hc, ?_⟩
  rw [h2]
  show 0 + input.length < _
  omega

/-- **C17 on the regenerated reader**: whatever chunk size (≥ 1, a `usize`) and fragmentation of the underlying `Read` (`sched`, entries
≥ 1; `ReadModel`), if iterating the TRANSLATED `PgnRawParser::with_chunk_size(reader, chunk)` with loop bound `fuel = input.length + 1`
yields the items `l` (no panic, no bound exhausted), then `l` is — item by item, strings as code-point lists, error payloads dropped —
what the model parser yields on the plain bytes (`readAll input`, independent of `chunk` and `sched` by `C17.chunk_independent`). -/
theorem rs_pgn_chunk_independent (input : List UInt8) (chunk : Nat) (sched : Nat → Nat) (hchunk : 1 ≤ chunk) (hsched : ∀ k, 1 ≤ sched k)
    (hc : chunk < 18446744073709551616) (hi : input.length < 18446744073709551616) (l : List (Except Rs.PgnRawParserError Rs.PgnRaw))
    (h : rsItems rd (input.length + 1) (input.length + 1) (Rs.PgnRawParser.with_chunk_size ⟨input, sched, 0⟩ (chunk : Int)) = some l) :
    itemsRel l (readAll input) := by
  rw [rs_with_chunk_size_eq] at h
  have := rs_items_eq rd hrd (input.length + 1) (input.length + 1) _ l (good_new input chunk sched hchunk hsched hc hi) h
  rw [← chunk_independent input chunk sched hchunk hsched]
  exact this

theorem rs_pgn_chunk_independent' (input : List UInt8) (c₁ c₂ : Nat) (s₁ s₂ : Nat → Nat) (h₁ : 1 ≤ c₁) (h₂ : 1 ≤ c₂)
    (hs₁ : ∀ k, 1 ≤ s₁ k) (hs₂ : ∀ k, 1 ≤ s₂ k) (hc₁ : c₁ < 18446744073709551616) (hc₂ : c₂ < 18446744073709551616)
    (hi : input.length < 18446744073709551616) (l₁ l₂ : List (Except Rs.PgnRawParserError Rs.PgnRaw))
    (e₁ : rsItems rd (input.length + 1) (input.length + 1) (Rs.PgnRawParser.with_chunk_size ⟨input, s₁, 0⟩ (c₁ : Int)) = some l₁)
    (e₂ : rsItems rd (input.length + 1) (input.length + 1) (Rs.PgnRawParser.with_chunk_size ⟨input, s₂, 0⟩ (c₂ : Int)) = some l₂) :
    itemsRel l₁ (readAll input) ∧ itemsRel l₂ (readAll input) :=
  ⟨rs_pgn_chunk_independent rd hrd input c₁ s₁ h₁ hs₁ hc₁ hi l₁ e₁, rs_pgn_chunk_independent rd hrd input c₂ s₂ h₂ hs₂ hc₂ hi l₂ e₂⟩

#print axioms rs_items_eq
#print axioms rs_pgn_chunk_independent

end

/-- non-vacuity: the translated reader run (kernel-evaluated) on a two-byte chunk, reads of 1,2,1,2,.. bytes: it yields one game, no panic -/
example : (rsItems (E := Unit) readF 12 12 (Rs.PgnRawParser.with_chunk_size ⟨"[a \"b\"]\n\ne4 *".toUTF8.toList, fun k => 1 + k % 2, 0⟩ 2)).map List.length
    = some 1 := by decide +kernel

end Inkayaku.Translated
