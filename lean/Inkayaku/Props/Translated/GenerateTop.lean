import Inkayaku.Props.Translated.GenerateAttacks
import Inkayaku.Props.Translated.GeneratePawns
import Inkayaku.Props.Translated.GenerateCastle
import Inkayaku.Proofs.GenSpecList
import Inkayaku.Proofs.GenSpecKeys
/-! The pseudo-legal move generators: `Bitboard::{generate_pseudo_legal_moves_with_buffer, generate_pseudo_legal_moves,
generate_pseudo_legal_non_quiescent_moves_with_buffer, generate_pseudo_legal_non_quiescent_moves, get_active_and_passive}`
(board/src/board.rs; generated module `Generate`) = `Board.genPseudo`, `genNonQuiescent` (Model/Board.lean) AS LISTS

The `_with_buffer` functions APPEND to the caller's buffer (`rs_generate_pseudo_legal_buffer_eq`: `acc ++ genPseudo b`); the
plain ones start from `Vec::new()`.  Remaining hypotheses = the exact panic conditions of the pawn code (`b.ep < 64`, no pawn
of the side to move on its last rank); both follow from `WF.wf` (`rs_generate_pseudo_legal_wf`).  The attack tables are the
opaque lookup functions of `Props/Translated/Check.lean` (`rookF` …), in the order the generated definition takes them.
-/

set_option linter.unusedSimpArgs false

namespace Inkayaku.Translated
open Inkayaku.Board Inkayaku.Gen Inkayaku.Bits

theorem rs_get_active_and_passive (b : Board) :
    Rs.Bitboard.get_active_and_passive (toRsSide b.white) (toRsSide b.black) b.turn = some (toRsSide b.active, toRsSide b.passive) := by
  unfold Rs.Bitboard.get_active_and_passive Board.active Board.passive Board.whiteTurn
  simp only [rs_is_white_turn_eq, Option.bind_eq_bind, Option.bind_some, Option.pure_def]
  cases b.turn == 0
  · rfl
  · rfl

theorem rs_generate_pseudo_legal_buffer_eq (b : Board) (acc : List Board.Move) (hep : b.ep < 64)
    (hpawn : ∀ s ∈ bitsAsc b.active.pawns, 8 ≤ s ∧ s < 56) (fuel : Nat) (hf : 130 ≤ fuel) :
    Rs.Bitboard.generate_pseudo_legal_moves_with_buffer (toRsSide b.white) (toRsSide b.black) b.turn b.ep b.halfmove
        (acc.map encMove) rookF bishopF knightF kingF whitePawnF blackPawnF fuel = some ((acc ++ genPseudo b).map encMove) := by
  unfold Rs.Bitboard.generate_pseudo_legal_moves_with_buffer
  -- by `rw`, not under `simp`: the proof term `simp` builds for this step makes the kernel evaluate the accessors on `toRsSide`
  rw [rs_get_active_and_passive, Option.bind_eq_bind, Option.bind_some]
  -- the ten appenders in the order of the Rust; their panic conditions are `hep`, `hpawn` and the fuel
  simp only [rs_eval, hep, hf, show 65 ≤ fuel by omega, rs_pawn_moves_eq b _ false _ _ hpawn fuel hf]
  congr 2
  simp only [GenSpec.slidingMoves_eq, GenSpec.singleMoves_eq, GenSpec.pawnAttacks_eq, GenSpec.pawnMoves_eq,
    GenSpec.castleMoves_eq, GenSpec.genPseudo_eq, List.append_assoc]

theorem rs_generate_non_quiescent_buffer_eq (b : Board) (acc : List Board.Move) (hep : b.ep < 64)
    (hpawn : ∀ s ∈ bitsAsc b.active.pawns, 8 ≤ s ∧ s < 56) (fuel : Nat) (hf : 130 ≤ fuel) :
    Rs.Bitboard.generate_pseudo_legal_non_quiescent_moves_with_buffer (toRsSide b.white) (toRsSide b.black) b.turn b.ep b.halfmove
        (acc.map encMove) rookF bishopF knightF kingF whitePawnF blackPawnF fuel = some ((acc ++ genNonQuiescent b).map encMove) := by
  unfold Rs.Bitboard.generate_pseudo_legal_non_quiescent_moves_with_buffer
  rw [rs_get_active_and_passive, Option.bind_eq_bind, Option.bind_some]
  simp only [rs_eval, hep, hf, rs_pawn_moves_eq b _ true _ _ hpawn fuel hf]
  congr 2
  simp only [GenSpec.slidingMoves_eq, GenSpec.singleMoves_eq, GenSpec.pawnAttacks_eq, GenSpec.pawnMoves_eq,
    GenSpec.genNonQuiescent_eq, List.append_assoc]

theorem rs_generate_pseudo_legal_eq (b : Board) (hep : b.ep < 64) (hpawn : ∀ s ∈ bitsAsc b.active.pawns, 8 ≤ s ∧ s < 56)
    (fuel : Nat) (hf : 130 ≤ fuel) :
    Rs.Bitboard.generate_pseudo_legal_moves (toRsSide b.white) (toRsSide b.black) b.turn b.ep b.halfmove rookF bishopF knightF kingF
        whitePawnF blackPawnF fuel = some ((genPseudo b).map encMove) := by
  unfold Rs.Bitboard.generate_pseudo_legal_moves
  have := rs_generate_pseudo_legal_buffer_eq b [] hep hpawn fuel hf
  simp only [List.map_nil, List.nil_append] at this
  simp only [this, Option.bind_eq_bind, Option.bind_some, Option.pure_def]

theorem rs_generate_non_quiescent_eq (b : Board) (hep : b.ep < 64) (hpawn : ∀ s ∈ bitsAsc b.active.pawns, 8 ≤ s ∧ s < 56)
    (fuel : Nat) (hf : 130 ≤ fuel) :
    Rs.Bitboard.generate_pseudo_legal_non_quiescent_moves (toRsSide b.white) (toRsSide b.black) b.turn b.ep b.halfmove rookF bishopF
        knightF kingF whitePawnF blackPawnF fuel = some ((genNonQuiescent b).map encMove) := by
  unfold Rs.Bitboard.generate_pseudo_legal_non_quiescent_moves
  have := rs_generate_non_quiescent_buffer_eq b [] hep hpawn fuel hf
  simp only [List.map_nil, List.nil_append] at this
  simp only [this, Option.bind_eq_bind, Option.bind_some, Option.pure_def]

theorem wf_gen_hyps {b : Board} (h : WF.wf b = true) : b.ep < 64 ∧ ∀ s ∈ bitsAsc b.active.pawns, 8 ≤ s ∧ s < 56 :=
  ⟨(GenOK.wf_facts h).basic.ep, fun _ hs => GenSpec.pawn_mid' (GenOK.wf_facts h) hs⟩

theorem rs_generate_pseudo_legal_wf {b : Board} (h : WF.wf b = true) (fuel : Nat) (hf : 130 ≤ fuel) :
    Rs.Bitboard.generate_pseudo_legal_moves (toRsSide b.white) (toRsSide b.black) b.turn b.ep b.halfmove rookF bishopF knightF kingF
        whitePawnF blackPawnF fuel = some ((genPseudo b).map encMove) :=
  rs_generate_pseudo_legal_eq b (wf_gen_hyps h).1 (wf_gen_hyps h).2 fuel hf

theorem rs_generate_non_quiescent_wf {b : Board} (h : WF.wf b = true) (fuel : Nat) (hf : 130 ≤ fuel) :
    Rs.Bitboard.generate_pseudo_legal_non_quiescent_moves (toRsSide b.white) (toRsSide b.black) b.turn b.ep b.halfmove rookF bishopF
        knightF kingF whitePawnF blackPawnF fuel = some ((genNonQuiescent b).map encMove) :=
  rs_generate_non_quiescent_eq b (wf_gen_hyps h).1 (wf_gen_hyps h).2 fuel hf

#print axioms rs_generate_pseudo_legal_buffer_eq
#print axioms rs_generate_non_quiescent_buffer_eq
#print axioms rs_generate_pseudo_legal_wf
#print axioms rs_generate_non_quiescent_wf

/-! non-vacuity: the hypotheses hold in the initial position (kings, rooks and pawns only), which has 25 pseudo-legal moves
(16 pawn pushes, 5 rook moves, 2 king steps, 2 castlings) -/
example : ctorDemo.ep < 64 ∧ ∀ s ∈ bitsAsc ctorDemo.active.pawns, 8 ≤ s ∧ s < 56 := by decide +kernel
example : (genPseudo ctorDemo).length = 25 := by decide +kernel

end Inkayaku.Translated
