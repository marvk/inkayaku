import Inkayaku.Props.Translated.GenerateCtor
import Inkayaku.Props.Translated.GenerateScan
import Inkayaku.Proofs.GenSpecKeys
/-! Pawn moves of the generator: `Bitboard::{generate_pawn_promotion, generate_pawn_promotions, generate_pawn_attacks,
pawn_attacks, pawn_moves}` (board/src/board.rs; generated module `Generate`) = `Board.promotions`, `pawnAttacks`, `pawnMoves`
(Model/Board.lean) AS LISTS, in the same order

Exact panic conditions that remain as hypotheses:
* `pawn_attacks`: `1 << self.en_passant_square_shift` needs `b.ep < 64` (the model's `bitU` would wrap);
* `pawn_moves`: no pawn of the side to move on rank 1 / rank 8 (`hpawn`): there `trailing_zeros` of the empty single-step mask is
  64 and the piece lookup `1 << 64` inside `make_move` panics (the model continues with a wrapped shift).
The e.p. victim arithmetic of `make_move` (`target ± 8`) cannot panic here: an e.p. capture is only generated for a target that is
neither on rank 1 nor on rank 8 (`rank_mid`).
-/

namespace Inkayaku.Translated
open Inkayaku.Board Inkayaku.Gen Inkayaku.Bits

theorem rs_generate_pawn_promotion_eq (b : Board) (acc : List Board.Move) (src tgt p : Nat) (hp : p ≤ 6) (ht : tgt < 64) :
    Rs.Bitboard.generate_pawn_promotion (toRsSide b.white) (toRsSide b.black) b.turn b.ep b.halfmove (acc.map encMove) src tgt
        p.toUInt64 = some ((pushOpt acc (mkMove b false src tgt PAWN false false p 0)).map encMove) := by
  unfold Rs.Bitboard.generate_pawn_promotion
  simp only [rs_eval, hp, ht]

theorem rs_generate_pawn_promotions_eq (b : Board) (acc : List Board.Move) (src tgt : Nat) (ht : tgt < 64) :
    Rs.Bitboard.generate_pawn_promotions (toRsSide b.white) (toRsSide b.black) b.turn b.ep b.halfmove (acc.map encMove) src tgt =
      some ((promotions b src tgt acc).map encMove) := by
  unfold Rs.Bitboard.generate_pawn_promotions promotions
  simp only [rs_eval, List.foldl_cons, List.foldl_nil, rs_generate_pawn_promotion_eq b _ src tgt _ _ ht]

/-- `if is_en_passant { EN_PASSANT_ATTACK_TRUE_MASK } else { EN_PASSANT_ATTACK_FALSE_MASK }` -/
theorem ep_mask (e : Bool) (m : Nat) : (if e = true then flagBits true m else flagBits false m) = flagBits e m := by
  cases e <;> rfl

theorem rank_mid (t : Nat) (ht : t < 64) (h : (bitU t &&& rank8.toUInt64 != 0 || bitU t &&& rank1.toUInt64 != 0) = false) :
    8 ≤ t ∧ t < 56 := by
  rw [GenSpec.lastRank_iff t ht] at h
  simp only [GenSpec.lastRank, Bool.or_eq_false_iff, decide_eq_false_iff_not] at h
  omega

theorem rs_generate_pawn_attacks_eq (b : Board) (acc : List Board.Move) (att : UInt64) (src : Nat) (fuel : Nat) (hf : 65 ≤ fuel) :
    Rs.Bitboard.generate_pawn_attacks (toRsSide b.white) (toRsSide b.black) b.turn b.ep b.halfmove (acc.map encMove) att src fuel =
      some (((bitsAsc att).foldl (fun acc tgt =>
        if bitU tgt &&& rank8.toUInt64 != 0 || bitU tgt &&& rank1.toUInt64 != 0 then promotions b src tgt acc
        else pushOpt acc (mkMove b false src tgt PAWN false (tgt == b.ep) NO_PIECE 0)) acc).map encMove) := by
  unfold Rs.Bitboard.generate_pawn_attacks
  have key := scan_loop
    (fun fuel st x => Rs.Bitboard.generate_pawn_attacks.while_1 (toRsSide b.white) (toRsSide b.black) b.turn b.ep b.halfmove src fuel st x)
    (List.map encMove)
    (fun acc tgt =>
        if bitU tgt &&& rank8.toUInt64 != 0 || bitU tgt &&& rank1.toUInt64 != 0 then promotions b src tgt acc
        else pushOpt acc (mkMove b false src tgt PAWN false (tgt == b.ep) NO_PIECE 0))
    0 (fun _ => True)
    (by intro fuel a; simp [Rs.Bitboard.generate_pawn_attacks.while_1])
    (by
      intro fuel a x hx _ _
      have ht := tz_lt x hx
      simp only [Rs.Bitboard.generate_pawn_attacks.while_1, ne_eq, hx, not_false_eq_true, rs_eval]
      generalize trailingZeros x = t at ht ⊢
      have hc : (if ¬bitU t &&& rank8.toUInt64 = 0 then some true else some (decide ¬bitU t &&& rank1.toUInt64 = 0)) =
          some (bitU t &&& rank8.toUInt64 != 0 || bitU t &&& rank1.toUInt64 != 0) := by
        by_cases h8 : bitU t &&& rank8.toUInt64 = 0 <;> by_cases h1 : bitU t &&& rank1.toUInt64 = 0 <;> simp [h8, h1]
      rw [hc, Option.bind_some]
      cases hr : (bitU t &&& rank8.toUInt64 != 0 || bitU t &&& rank1.toUInt64 != 0)
      · obtain ⟨h8, h56⟩ := rank_mid t ht hr
        simp only [rs_eval, rs_test, ep_mask]
        rw [rs_make_move_push b a false src t PAWN false (t == b.ep) NO_PIECE 0 (by decide) (by decide)
          (by cases b.whiteTurn <;> cases (t == b.ep) <;> simp <;> omega) (fun _ _ => h8)]
        rfl
      · simp only [rs_eval, rs_generate_pawn_promotions_eq b a src t ht])
    fuel att acc (fun _ _ => trivial) (fuel_ok _ 0 _ hf)
  simp only [key, rs_eval]

theorem rank18_eq : rank18 = rank1.toUInt64 ||| rank8.toUInt64 := by decide +kernel

@[rs_eval] theorem rs_pawn_attacks_eq (b : Board) (acc : List Board.Move) (pawnOcc activeOcc passiveOcc : UInt64) (hep : b.ep < 64)
    (fuel : Nat) (hf : 130 ≤ fuel) :
    Rs.Bitboard.pawn_attacks (toRsSide b.white) (toRsSide b.black) b.turn b.ep b.halfmove (acc.map encMove) pawnOcc activeOcc
        passiveOcc whitePawnF blackPawnF fuel = some ((pawnAttacks b pawnOcc activeOcc passiveOcc acc).map encMove) := by
  unfold Rs.Bitboard.pawn_attacks pawnAttacks
  simp only [rs_eval]
  have etbl : (if (b.turn == 0) = true then some whitePawnF else some blackPawnF) =
      some (fun sq : Int => leaperAttacks (if b.whiteTurn then whitePawnTable else blackPawnTable) sq.toNat) := by
    unfold Board.whiteTurn
    cases (b.turn == 0) <;> rfl
  rw [etbl, Option.bind_some]
  have key := scan_loop
    (fun fuel st x => Rs.Bitboard.pawn_attacks.while_1 (toRsSide b.white) (toRsSide b.black) b.turn b.ep b.halfmove activeOcc
      passiveOcc (fun sq : Int => leaperAttacks (if b.whiteTurn then whitePawnTable else blackPawnTable) sq.toNat) fuel st x)
    (List.map encMove)
    (fun acc src =>
      (bitsAsc (leaperAttacks (if b.whiteTurn then whitePawnTable else blackPawnTable) src &&&
          (passiveOcc ||| (bitU b.ep &&& ~~~rank18)) &&& ~~~activeOcc)).foldl (fun acc tgt =>
        if bitU tgt &&& rank8.toUInt64 != 0 || bitU tgt &&& rank1.toUInt64 != 0 then promotions b src tgt acc
        else pushOpt acc (mkMove b false src tgt PAWN false (tgt == b.ep) NO_PIECE 0)) acc)
    65 (fun _ => True)
    (by intro fuel a; simp [Rs.Bitboard.pawn_attacks.while_1])
    (by
      intro fuel a x hx hK _
      simp only [Rs.Bitboard.pawn_attacks.while_1, ne_eq, hx, not_false_eq_true, rs_eval, hep,
        rs_generate_pawn_attacks_eq b a _ _ fuel hK, rank18_eq])
    fuel pawnOcc acc (fun _ _ => trivial) (fuel_ok _ _ _ hf)
  simp only [key, Option.bind_some]

theorem u64Shr_8 (a : UInt64) : Rs.u64Shr a 8 = some (a >>> 8) := shr8 a
theorem u64Shl_8 (a : UInt64) : Rs.u64Shl a 8 = some (a <<< 8) := shl8 a

/-- for a pawn that is not on its last rank the single-step square is on the board, and so is the double-step square of a
pawn on its home rank (otherwise `trailing_zeros` of the empty mask is 64 and the piece lookup `1 << 64` panics) -/
theorem pawn_step_facts : ∀ s, s < 56 → 8 ≤ s →
    trailingZeros (bitU s >>> 8) < 64 ∧ trailingZeros (bitU s <<< 8) < 64 ∧
    ((bitU s &&& rank2.toUInt64 != 0) = true → trailingZeros (bitU s >>> 8 >>> 8) < 64) ∧
    ((bitU s &&& rank7.toUInt64 != 0) = true → trailingZeros (bitU s <<< 8 <<< 8) < 64) := by
  decide +kernel

/-- one iteration of the model's `pawnMoves` -/
def pawnMoveStep (b : Board) (nq : Bool) (fullOcc : UInt64) (acc : List Board.Move) (src : Nat) : List Board.Move :=
  let srcMask := bitU src
  let white := b.whiteTurn
  let singleMask := if white then srcMask >>> 8 else srcMask <<< 8
  let promoteRank := if white then rank8.toUInt64 else rank1.toUInt64
  let singleSq := trailingZeros singleMask
  if singleMask &&& fullOcc == 0 then
    if singleMask &&& promoteRank == 0 then
      let acc := pushOpt acc (mkMove b nq src singleSq PAWN false false NO_PIECE 0)
      let doubleMask := if white then singleMask >>> 8 else singleMask <<< 8
      let doubleRank := if white then rank2.toUInt64 else rank7.toUInt64
      let doubleSq := trailingZeros doubleMask
      if srcMask &&& doubleRank != 0 && doubleMask &&& fullOcc == 0 then
        pushOpt acc (mkMove b nq src doubleSq PAWN false false NO_PIECE singleSq)
      else acc
    else promotions b src singleSq acc
  else acc

theorem pawnMoves_eq_foldl (b : Board) (nq : Bool) (pawnOcc fullOcc : UInt64) (acc : List Board.Move) :
    pawnMoves b nq pawnOcc fullOcc acc = (bitsAsc pawnOcc).foldl (pawnMoveStep b nq fullOcc) acc := rfl

theorem ite_some_pair {α β : Type} (c : Bool) (x x' : α) (y y' : β) :
    (if c = true then some (x, y) else some (x', y')) = some (if c = true then x else x', if c = true then y else y') := by
  cases c <;> rfl

theorem eq_zero_iff_beq (x : UInt64) : (x = 0) ↔ ((x == 0) = true) := by simp

theorem rs_pawn_moves_eq (b : Board) (acc : List Board.Move) (nq : Bool) (pawnOcc fullOcc : UInt64)
    (hpawn : ∀ s ∈ bitsAsc pawnOcc, 8 ≤ s ∧ s < 56) (fuel : Nat) (hf : 130 ≤ fuel) :
    Rs.Bitboard.pawn_moves (toRsSide b.white) (toRsSide b.black) b.turn b.ep b.halfmove (acc.map encMove) nq pawnOcc fullOcc fuel =
      some ((pawnMoves b nq pawnOcc fullOcc acc).map encMove) := by
  unfold Rs.Bitboard.pawn_moves
  rw [pawnMoves_eq_foldl]
  have key := scan_loop
    (fun fuel st x => Rs.Bitboard.pawn_moves.while_1 (toRsSide b.white) (toRsSide b.black) b.turn b.ep b.halfmove nq fullOcc fuel st x)
    (List.map encMove) (pawnMoveStep b nq fullOcc) 0 (fun s => 8 ≤ s ∧ s < 56)
    (by intro fuel a; simp [Rs.Bitboard.pawn_moves.while_1])
    (by
      intro fuel a x hx _ hP
      simp only [Rs.Bitboard.pawn_moves.while_1, ne_eq, hx, not_false_eq_true, rs_eval]
      generalize trailingZeros x = s at hP ⊢
      obtain ⟨f1, f2, f3, f4⟩ := pawn_step_facts s hP.2 hP.1
      unfold pawnMoveStep
      -- the colour only chooses the direction of the step and the two ranks: name the chosen values and forget the colour
      simp only [show (b.turn == 0) = b.whiteTurn from rfl, rs_eval, u64Tz_eq, ite_some_pair]
      have g1 : trailingZeros (if b.whiteTurn = true then bitU s >>> 8 else bitU s <<< 8) < 64 := by
        cases b.whiteTurn
        · exact f2
        · exact f1
      have g2 : (bitU s &&& (if b.whiteTurn = true then rank2.toUInt64 else rank7.toUInt64) != 0) = true →
          trailingZeros (if b.whiteTurn = true then (if b.whiteTurn = true then bitU s >>> 8 else bitU s <<< 8) >>> 8
            else (if b.whiteTurn = true then bitU s >>> 8 else bitU s <<< 8) <<< 8) < 64 := by
        cases b.whiteTurn
        · exact f4
        · exact f3
      generalize (if b.whiteTurn = true then (if b.whiteTurn = true then bitU s >>> 8 else bitU s <<< 8) >>> 8
            else (if b.whiteTurn = true then bitU s >>> 8 else bitU s <<< 8) <<< 8) = dbl at g2 ⊢
      generalize (if b.whiteTurn = true then bitU s >>> 8 else bitU s <<< 8) = single at g1 ⊢
      generalize (if b.whiteTurn = true then rank8.toUInt64 else rank1.toUInt64) = lastRank
      generalize (if b.whiteTurn = true then rank2.toUInt64 else rank7.toUInt64) = homeRank at g2 ⊢
      simp only [rs_test]
      cases single &&& fullOcc == 0
      · simp only [rs_eval]
      · simp only [rs_eval]
        cases single &&& lastRank == 0
        · simp only [rs_eval, rs_generate_pawn_promotions_eq b a s _ g1]
        · simp only [rs_eval, g1]
          by_cases c3 : ¬bitU s &&& homeRank = 0 ∧ dbl &&& fullOcc = 0
          · have c3' : (bitU s &&& homeRank != 0 && dbl &&& fullOcc == 0) = true := by simpa using c3
            have g3 := g2 (by simpa using c3.1)
            simp only [if_pos c3, if_pos c3', rs_eval, g3]
          · have c3' : ¬ (bitU s &&& homeRank != 0 && dbl &&& fullOcc == 0) = true := by simpa using c3
            rw [if_neg c3, if_neg c3', Option.bind_some])
    fuel pawnOcc acc hpawn (fuel_ok _ _ _ (by omega))
  simp only [key, rs_eval]

#print axioms rs_generate_pawn_promotions_eq
#print axioms rs_generate_pawn_attacks_eq
#print axioms rs_pawn_attacks_eq
#print axioms rs_pawn_moves_eq

/-! non-vacuity: the 16 pawn pushes of `ctorDemo`; its pawns satisfy `hpawn` -/
example : (pawnMoves ctorDemo false ctorDemo.white.pawns (ctorDemo.white.full ||| ctorDemo.black.full) []).length = 16 := by
  decide +kernel
example : ∀ s ∈ bitsAsc ctorDemo.white.pawns, 8 ≤ s ∧ s < 56 := by decide +kernel

end Inkayaku.Translated
