import Inkayaku.Props.Translated.MakeUnmakeCommon
/-! `Bitboard::{make, make_castle}` (board/src/board.rs) = `Board.makeF` (Model/Board.lean): `rs_make_eq`, under hypotheses that
are exactly the ways the Rust can panic (colour code above 1, `u32` clock overflow, the `_ => panic!()` arm of the castle `match`,
a piece code 7 indexing the 7-element occupancy array).  All of them hold for generated moves of well-formed boards (`GenMake.lean`). -/

set_option linter.unusedSimpArgs false

namespace Inkayaku.Translated
open Inkayaku.Board Inkayaku.Gen Inkayaku.MoveBits Inkayaku.MakeUnmake

theorem rs_make_castle_eq (s : Side) (rs ks rt kt : UInt64) :
    Rs.Bitboard.make_castle (toRsSide s) rs ks rt kt =
      some (toRsSide { s with rooks := clearBit s.rooks rs ||| rt, kings := clearBit s.kings ks ||| kt }) := by
  unfold Rs.Bitboard.make_castle
  simp only [rs_eval, Nat.reduceLT]
  rfl
#print axioms rs_make_castle_eq

theorem rs_make_eq (b : Board) (bits : UInt64)
    (hturn : b.turn ≤ 1) (hfull : b.fullmove + b.turn < 4294967296)
    (hhalf : (decode bits).halfmoveReset = false → b.halfmove + 1 < 4294967296)
    (hC : (decode bits).castle = true → castleRook (decode bits).target ≠ none)
    (hP : (decode bits).castle = false → (decode bits).enPassant = false →
      (decode bits).pieceAttacked < 7 ∧
        (if (decode bits).promotion != 0 then (decode bits).promotion < 7 else (decode bits).pieceMoved < 7)) :
    Rs.Bitboard.make (toRsSide b.white) (toRsSide b.black) b.turn b.ep b.fullmove b.halfmove bits =
      some (boardFields (makeF b (decode bits))) := by
  have htg := decode_target_lt bits
  have hsrc := decode_source_lt bits
  unfold Rs.Bitboard.make
  -- everything up to the branch on the kind of move: getters, clocks, turn, the borrow of the two sides, the castling flags
  simp only [rs_eval, hfull, hturn, htg, hsrc]
  generalize decode bits = f at *
  have hhchk : (if f.halfmoveReset = true then some 0 else Rs.chk Rs.Ty.u32 ((b.halfmove + 1 : Nat) : Int)) =
      some (((if f.halfmoveReset then 0 else b.halfmove + 1 : Nat)) : Int) := by
    cases hr : f.halfmoveReset
    · simp only [rs_eval, hhalf hr]
    · rfl
  rw [makeF_eq]
  simp only [hhchk, rs_eval, turn_flip b, not_active, not_passive, show (b.turn == 0) = b.whiteTurn from rfl]
  generalize b.active = A
  generalize b.passive = P
  generalize b.whiteTurn = c
  unfold mkMover mkOther moverUpds otherUpds
  cases hcas : f.castle
  · cases hep : f.enPassant
    · obtain ⟨hpa7, hx⟩ := hP hcas hep
      -- a promotion moves the pawn word and the word of the new piece, any other move the word of the piece moved
      cases hpr : (f.promotion != 0)
      all_goals
        simp only [hpr, Bool.false_eq_true, if_false, if_true] at hx
        simp only [rs_eval, Nat.reduceLT, hx, hpa7, hpr, get_set_same, set_set_same, set_one, get_one, clearBit, NO_PIECE, run, List.foldl, PAWN]
        exact congrArg some (write_back c _ _ _ _ _ _)
    · simp only [rs_eval, Nat.reduceLT, set_one, get_one, clearBit, run, List.foldl, PAWN]
      exact congrArg some (write_back c _ _ _ _ _ _)
  · simp only [rs_eval]
    rw [castle_dispatch f.target (fun rs rt => Rs.Bitboard.make_castle _ (bitU rs) _ (bitU rt) _) none _ _ _ _ (fun _ => rfl) (fun _ => rfl) (fun _ => rfl) (fun _ => rfl)]
    cases hcr : castleRook f.target with
    | none => exact absurd hcr (hC hcas)
    | some p =>
      simp only [rs_make_castle_eq, rs_eval, run, List.foldl]
      exact congrArg some (write_back c _ _ _ _ _ _)

#print axioms rs_make_eq

theorem rs_make_move_eq (b : Board) (m : Board.Move)
    (hturn : b.turn ≤ 1) (hfull : b.fullmove + b.turn < 4294967296)
    (hhalf : m.f.halfmoveReset = false → b.halfmove + 1 < 4294967296)
    (hC : m.f.castle = true → castleRook m.f.target ≠ none)
    (hP : m.f.castle = false → m.f.enPassant = false →
      m.f.pieceAttacked < 7 ∧ (if m.f.promotion != 0 then m.f.promotion < 7 else m.f.pieceMoved < 7)) :
    Rs.Bitboard.make (toRsSide b.white) (toRsSide b.black) b.turn b.ep b.fullmove b.halfmove m.bits =
      some (boardFields (Board.make b m)) :=
  rs_make_eq b m.bits hturn hfull hhalf hC hP

#print axioms rs_make_move_eq

/-! non-vacuity: 1. e2-e4 on a small position (`Demo.lean`); a piece code 7 panics (array of 7) -/
example : Rs.Bitboard.make (toRsSide demoPos.white) (toRsSide demoPos.black) 0 0 1 3 demoMove.bits =
    some (boardFields (Board.make demoPos demoMove)) :=
  rs_make_move_eq demoPos demoMove (by decide) (by decide) (by decide) (by decide) (by decide)
example : Rs.Bitboard.make (toRsSide demoPos.white) (toRsSide demoPos.black) 0 0 1 3 (encode { pieceMoved := 7, source := 52, target := 36 }) = none := by
  decide

end Inkayaku.Translated
