import Inkayaku.Gen.Rs.GenerateLegal
import Inkayaku.Props.Translated.GenerateTop
import Inkayaku.Props.Translated.GenUnmake
import Inkayaku.Proofs.BoardCongr
/-! The legality filter over generated moves: `Bitboard::{generate_legal_moves, is_any_move_legal}` (board/src/board.rs;
generated module `GenerateLegal`) = `Board.genLegal`, `isAnyMoveLegal` (Model/Board.lean)

`is_move_legal` (= `make; is_valid; unmake`, `Props/Translated/GenUnmake.lean`) MODIFIES `self`: after each call the board is
the original one up to the scratch words `occupancy[NO_PIECE]` (`WF.vis`).  The translation threads the six fields of `self`
through the calls (`generate_legal_moves.filter_1`: the closure of `.filter(..)`, by structural recursion on the list, in
list order; `is_any_move_legal.for_1`: the `for` loop with its early `return true`).  The proofs carry the invariant
`vis c = vis b` and use that well-formedness, generation, `make`, `unmake` and `is_valid` only depend on `vis`
(`Proofs/BoardCongr.lean`).  Result: on a well-formed board the translated functions never panic, return the model's list /
verdict, and leave a board holding the same position (`vis c' = vis b`).
-/

namespace Inkayaku.Translated
open Inkayaku.Board Inkayaku.Gen Inkayaku.WF Inkayaku.BoardCongr

theorem rs_is_move_legal_vis {b c : Board} (h : wf b = true) (hc : vis c = vis b) {m : Board.Move} (hm : m ∈ genPseudo b) :
    ∃ c', vis c' = vis b ∧
      Rs.Bitboard.is_move_legal (toRsSide c.white) (toRsSide c.black) c.turn c.ep c.fullmove c.halfmove m.bits
        rookF bishopF knightF whitePawnF blackPawnF kingF = some (isMoveLegal b m, boardFields c') := by
  have hwc : wf c = true := by rw [wf_congr hc]; exact h
  have hmc : m ∈ genPseudo c := by rw [genPseudo_congr hc]; exact hm
  refine ⟨Board.unmake (Board.make c m) m, ?_, ?_⟩
  · rw [(rs_unmake_generated hwc hmc).2]; exact hc
  · rw [rs_is_move_legal_generated hwc hmc, isMoveLegal_congr hc]

theorem rs_filter_legal {b : Board} (h : wf b = true) :
    ∀ (ms : List Board.Move) (c : Board), vis c = vis b → (∀ m ∈ ms, m ∈ genPseudo b) →
      ∃ c', vis c' = vis b ∧
        Rs.Bitboard.generate_legal_moves.filter_1 rookF bishopF knightF kingF whitePawnF blackPawnF (ms.map encMove)
          (toRsSide c.white) (toRsSide c.black) c.turn c.ep c.fullmove c.halfmove =
        some ((ms.filter (isMoveLegal b)).map encMove, boardFields c')
  | [], c, hc, _ => ⟨c, hc, rfl⟩
  | m :: ms, c, hc, hms => by
    obtain ⟨c1, hc1, e1⟩ := rs_is_move_legal_vis h hc (hms m List.mem_cons_self)
    obtain ⟨c2, hc2, e2⟩ := rs_filter_legal h ms c1 hc1 (fun x hx => hms x (List.mem_cons_of_mem _ hx))
    refine ⟨c2, hc2, ?_⟩
    rw [List.map_cons, encMove, Rs.Bitboard.generate_legal_moves.filter_1]
    simp only [rs_eval, e1, boardFields, e2, List.filter_cons]
    cases isMoveLegal b m <;> rfl

theorem rs_generate_legal_moves_eq {b : Board} (h : wf b = true) (fuel : Nat) (hf : 130 ≤ fuel) :
    ∃ c', vis c' = vis b ∧
      Rs.Bitboard.generate_legal_moves (toRsSide b.white) (toRsSide b.black) b.turn b.ep b.fullmove b.halfmove rookF bishopF
        knightF kingF whitePawnF blackPawnF fuel = some ((genLegal b).map encMove, boardFields c') := by
  obtain ⟨c', hc', e⟩ := rs_filter_legal h (genPseudo b) b rfl (fun _ hm => hm)
  refine ⟨c', hc', ?_⟩
  unfold Rs.Bitboard.generate_legal_moves
  rw [rs_generate_pseudo_legal_wf h fuel hf]
  simp only [Option.bind_eq_bind, Option.bind_some, e, boardFields, Option.pure_def, genLegal]

theorem rs_any_legal_loop {b : Board} (h : wf b = true) :
    ∀ (ms : List Board.Move) (c : Board), vis c = vis b → (∀ m ∈ ms, m ∈ genPseudo b) →
      ∃ c', vis c' = vis b ∧
        Rs.Bitboard.is_any_move_legal.for_1 rookF bishopF knightF whitePawnF blackPawnF kingF (ms.map encMove)
          (toRsSide c.white) (toRsSide c.black) c.turn c.ep c.fullmove c.halfmove =
        some (if ms.any (isMoveLegal b) then Rs.Ctl.ret (true, boardFields c') else Rs.Ctl.next (boardFields c'))
  | [], c, hc, _ => ⟨c, hc, rfl⟩
  | m :: ms, c, hc, hms => by
    obtain ⟨c1, hc1, e1⟩ := rs_is_move_legal_vis h hc (hms m List.mem_cons_self)
    rw [List.map_cons, List.any_cons, encMove, Rs.Bitboard.is_any_move_legal.for_1]
    cases hl : isMoveLegal b m
    · obtain ⟨c2, hc2, e2⟩ := rs_any_legal_loop h ms c1 hc1 (fun x hx => hms x (List.mem_cons_of_mem _ hx))
      refine ⟨c2, hc2, ?_⟩
      simp only [rs_eval, e1, hl, boardFields, e2, Bool.false_or]
    · refine ⟨c1, hc1, ?_⟩
      simp only [rs_eval, e1, hl, Bool.true_or]

theorem rs_is_any_move_legal_eq {b : Board} (h : wf b = true) (ms : List Board.Move) (hms : ∀ m ∈ ms, m ∈ genPseudo b) :
    ∃ c', vis c' = vis b ∧
      Rs.Bitboard.is_any_move_legal (toRsSide b.white) (toRsSide b.black) b.turn b.ep b.fullmove b.halfmove (ms.map encMove)
        rookF bishopF knightF whitePawnF blackPawnF kingF = some (isAnyMoveLegal b ms, boardFields c') := by
  obtain ⟨c', hc', e⟩ := rs_any_legal_loop h ms b rfl hms
  refine ⟨c', hc', ?_⟩
  unfold Rs.Bitboard.is_any_move_legal isAnyMoveLegal
  rw [e]
  cases ms.any (isMoveLegal b) <;> rfl

#print axioms rs_generate_legal_moves_eq
#print axioms rs_is_any_move_legal_eq

example : wf demoPos = true := demo_wf
example : (genLegal demoPos).length > 0 := by decide +kernel

end Inkayaku.Translated
