import Inkayaku.Model.Board
import Inkayaku.Gen.Rs.Search
import Inkayaku.Model.Search
import Inkayaku.Props.Translated.Basic

namespace Inkayaku.Translated
open Inkayaku.Rs Inkayaku.Board

/-! `Search::calculate_max_thinking_time`, `get_self_time_remaining`, `get_self_increment` (generated `Search.*`) = `Search.maxThinkingNs`.
Mapping assumption: `Duration::mul_f64` by the constants of the source is `durMulF64` with the fraction `(n, d)`. -/

theorem durMulF64_eq (ns n d : Int) (h1 : 0 ≤ ns * n / d) (h2 : ns * n / d < 18446744073709551616000000000) :
    durMulF64 ns (n, d) = some (ns * n / d) := by
  unfold durMulF64
  exact if_pos ⟨h1, h2⟩

/-- a UCI time in milliseconds as a `Duration` in nanoseconds -/
def msToNs (t : Option Nat) : Option Int := t.map fun ms => ((ms * 1000000 : Nat) : Int)

/-- For the millisecond-valued `Duration`s the UCI `go` command produces.  Precondition: the millisecond values of the increments
fit `u64` (`parse_duration` in uci/src/uci/parser.rs casts them to `u64`).  Relies on the mapping-table assumption documented at
`Rs.durMulF64` (exact product for the factors 1, 3/4, 1/2, 1/4). -/

theorem rs_calculate_max_thinking_time_eq (s : Search.St)
    (hwi : ∀ t, s.go.winc = some t → t < 18446744073709551616) (hbi : ∀ t, s.go.binc = some t → t < 18446744073709551616) :
    Rs.Search.calculate_max_thinking_time (s.board.turn : Int) (msToNs s.go.wtime) (msToNs s.go.btime)
        (msToNs s.go.winc) (msToNs s.go.binc) =
      some ((Search.maxThinkingNs s).map fun ns => (ns : Int)) := by
  unfold Rs.Search.calculate_max_thinking_time Rs.Search.get_self_increment Rs.Search.get_self_time_remaining
    Search.maxThinkingNs
  have hturn : ((s.board.turn : Int) = WHITE) ↔ (s.board.turn == 0) = true := by simp [WHITE]
  have hsel : ∀ (a b : Option Nat), (if (s.board.turn : Int) = WHITE then (some (msToNs a) : Option (Option Int)) else some (msToNs b)) =
      some (msToNs (if (s.board.turn == 0) = true then a else b)) := by
    intro a b
    by_cases ht : (s.board.turn == 0) = true
    · simp [ht, hturn.mpr ht]
    · have hn : ¬ (s.board.turn : Int) = WHITE := fun h => ht (hturn.mp h)
      simp [ht, hn]
  have hincb : ∀ t, (if (s.board.turn == 0) = true then s.go.winc else s.go.binc) = some t → t < 18446744073709551616 := by
    intro t; split <;> intro h
    · exact hwi t h
    · exact hbi t h
  simp only [Option.bind_eq_bind, Option.pure_def]
  simp only [hsel, Option.bind_some]
  generalize (if (s.board.turn == 0) = true then s.go.winc else s.go.binc) = inc at hincb
  generalize (if (s.board.turn == 0) = true then s.go.wtime else s.go.btime) = rem
  cases rem with
  | none => simp [msToNs]
  | some rem =>
    cases inc with
    | none =>
      simp only [msToNs, Option.map_some, durDiv]
      simp
    | some inc =>
      have hi := hincb inc rfl
      have hsecs : durAsSecs ((rem * 1000000 : Nat) : Int) = ((rem / 1000 : Nat) : Int) := by
        simp only [durAsSecs]; omega
      simp only [msToNs, Option.map_some, hsecs]
      -- the thresholds are tested on a cast: bring the tests to `Nat`, then one case per factor of `mul_f64`
      simp only [ge_iff_le, lit_le_natCast]
      by_cases h20 : 20 ≤ rem / 1000
      · have e : ((inc * 1000000 : Nat) : Int) * 1 / 1 = ((inc * 1000000 : Nat) : Int) := by omega
        rw [if_pos h20, if_pos h20, Option.bind_some, durMulF64_eq _ _ _ (by omega) (by omega), e]
        rfl
      · rw [if_neg h20, if_neg h20]
        by_cases h10 : 10 ≤ rem / 1000
        · have e : ((inc * 1000000 : Nat) : Int) * 3 / 4 = ((inc * 1000000 * 3 / 4 : Nat) : Int) := by omega
          rw [if_pos h10, if_pos h10, Option.bind_some, durMulF64_eq _ _ _ (by omega) (by omega), e]
          rfl
        · rw [if_neg h10, if_neg h10]
          by_cases h2 : 2 ≤ rem / 1000
          · have e : ((inc * 1000000 : Nat) : Int) * 1 / 2 = ((inc * 1000000 / 2 : Nat) : Int) := by omega
            rw [if_pos h2, if_pos h2, Option.bind_some, durMulF64_eq _ _ _ (by omega) (by omega), e]
            rfl
          · have e : ((inc * 1000000 : Nat) : Int) * 1 / 4 = ((inc * 1000000 / 4 : Nat) : Int) := by omega
            rw [if_neg h2, if_neg h2, Option.bind_some, durMulF64_eq _ _ _ (by omega) (by omega), e]
            rfl

#print axioms rs_calculate_max_thinking_time_eq

/-- non-vacuity: 15 s left with 2 s increment (factor 0.75), no increment (1/60 of the time), no clock -/
example : Rs.Search.calculate_max_thinking_time 0 (some 15000000000) none (some 2000000000) none = some (some 1500000000) := by decide
example : Rs.Search.calculate_max_thinking_time 1 none (some 60000000000) none none = some (some 1000000000) := by decide
example : Rs.Search.calculate_max_thinking_time 1 (some 5) none none none = some none := by decide

end Inkayaku.Translated
