import Inkayaku.Gen.Rs.Simple
import Inkayaku.Props.Translated.Heuristic
import Inkayaku.Props.Translated.Check
import Inkayaku.Props.Translated.GenerateScan
import Inkayaku.Proofs.EvalBound
import Inkayaku.Props.Translated.Demo
/-! `SimpleHeuristic` (engine_core/src/engine/heuristic/simple.rs; generated module `Simple`): `piece_value`, `game_stage`,
`piece_square_sum(_for_player)`, `piece_square_value`, `evaluate_ongoing` = `Eval.pieceValue`, `gameStage`, `squareSum`,
`sideSquareSum`, `pieceSquareValue`, `evaluateOngoing` (Model/Eval.lean); property C11

The piece-square tables `WHITE_TABLES` / `BLACK_TABLES` are OPAQUE parameters of the translation (lists of lists of lists).  The
theorems hold for any tables of the right shape with small entries (`TablesOK`: 3 stages × 6 pieces × 64 squares, entries within
±1000, so that no `i32` sum overflows and no index is out of bounds); the regenerated tables `Gen.whiteTables` / `Gen.blackTables` of
the current build satisfy this (`gen_tables_ok`, by evaluation).  `rs_evaluate_full_eq` closes the opaque `evaluate_ongoing` parameter
of `rs_evaluate_eq` (`Heuristic.lean`). -/

namespace Inkayaku.Translated
open Inkayaku.Board Inkayaku.Gen Inkayaku.Rs

def TableOK (t : List Int) : Prop := t.length = 64 ∧ ∀ v ∈ t, -1000 ≤ v ∧ v ≤ 1000
def TablesOK (T : List (List (List Int))) : Prop := T.length = 3 ∧ ∀ s ∈ T, s.length = 6 ∧ ∀ t ∈ s, TableOK t

instance (t : List Int) : Decidable (TableOK t) := by unfold TableOK; exact inferInstance
instance (T : List (List (List Int))) : Decidable (TablesOK T) := by unfold TablesOK; exact inferInstance

theorem gen_tables_ok : TablesOK Gen.whiteTables ∧ TablesOK Gen.blackTables := by decide +kernel

@[rs_eval] theorem u64Popcnt_eq (x : UInt64) : u64Popcnt x = (Eval.popcount x : Int) := rfl

theorem rs_piece_value_eq (s : Side) : SimpleHeuristic.piece_value (toRsSide s) = some (Eval.pieceValue s) := by
  unfold SimpleHeuristic.piece_value Eval.pieceValue
  have hq := Eval.popcount_le s.queens
  have hr := Eval.popcount_le s.rooks
  have hb := Eval.popcount_le s.bishops
  have hn := Eval.popcount_le s.knights
  have hp := Eval.popcount_le s.pawns
  simp (disch := omega) only [rs_eval, QUEEN_VALUE, ROOK_VALUE, BISHOP_VALUE, KNIGHT_VALUE, PAWN_VALUE, Gen.queenValue,
    Gen.rookValue, Gen.bishopValue, Gen.knightValue, Gen.pawnValue]

theorem rs_game_stage_eq (b : Board) :
    SimpleHeuristic.game_stage (toRsSide b.white) (toRsSide b.black) = some ((Eval.gameStage b : Nat) : Int) := by
  unfold SimpleHeuristic.game_stage Eval.gameStage
  simp only [rs_eval, MID, LATE, rs_test]
  split
  · rfl
  · rfl

theorem getD_bound {t : List Int} (ht : TableOK t) (sq : Nat) : -1000 ≤ t.getD sq 0 ∧ t.getD sq 0 ≤ 1000 :=
  Eval.getD_bound (by decide) ht.2 sq

theorem squareSum_bound {t : List Int} (ht : TableOK t) (occ : UInt64) :
    -64000 ≤ Eval.squareSum occ t ∧ Eval.squareSum occ t ≤ 64000 :=
  Eval.squareSum_bound (B := 1000) (by decide) occ ht.2

theorem rs_square_loop {t : List Int} (ht : TableOK t) : ∀ (fuel : Nat) (x : UInt64) (acc : Int),
    (bitsAsc x).length < fuel → -2000000000 ≤ acc - 1000 * (bitsAsc x).length → acc + 1000 * (bitsAsc x).length ≤ 2000000000 →
      SimpleHeuristic.piece_square_sum.while_1 t fuel x acc = some (0, (bitsAsc x).foldl (fun a sq => a + t.getD sq 0) acc)
  | 0, _, _, h, _, _ => by omega
  | fuel + 1, x, acc, h, hlo, hhi => by
    rw [SimpleHeuristic.piece_square_sum.while_1]
    by_cases hx : x = 0
    · subst hx; simp only [ne_eq, not_true_eq_false, if_false, bitsAsc_zero]; rfl
    · have hpop := bitsAsc_pop x hx
      have hlt := tz_lt x hx
      rw [hpop, List.length_cons] at h hlo hhi
      have hb := getD_bound ht (trailingZeros x)
      have hidx := vecIdx_getD t (trailingZeros x) 0 (by rw [ht.1]; exact hlt)
      -- the running sum stays 1000 per remaining square away from the `i32` bounds
      have hsum : -2147483648 ≤ acc + t.getD (trailingZeros x) 0 ∧ acc + t.getD (trailingZeros x) 0 ≤ 2147483647 := by
        push_cast at hlo hhi; omega
      simp only [ne_eq, hx, not_false_eq_true, rs_eval, show trailingZeros x < 18446744073709551616 by omega,
        hidx, chk_i32 hsum.1 hsum.2]
      rw [rs_square_loop ht fuel _ _ (by omega) (by push_cast at hlo hhi ⊢; omega) (by push_cast at hlo hhi ⊢; omega)]
      rw [hpop, List.foldl_cons]

theorem rs_piece_square_sum_eq {t : List Int} (ht : TableOK t) (occ : UInt64) (fuel : Nat) (hf : 66 ≤ fuel) :
    SimpleHeuristic.piece_square_sum occ t fuel = some (Eval.squareSum occ t) := by
  have hl := GenLength.bitsAsc_length_le occ
  unfold SimpleHeuristic.piece_square_sum
  simp only [Option.bind_eq_bind]
  rw [rs_square_loop ht fuel occ 0 (by omega) (by omega) (by omega)]
  rfl

theorem table_at {T : List (List Int)} (h6 : T.length = 6) (hT : ∀ t ∈ T, TableOK t) (i : Nat) (hi : i < 6) :
    vecIdx T (i : Int) = some (T.getD i []) ∧ TableOK (T.getD i []) := by
  have h : i < T.length := by omega
  refine ⟨vecIdx_getD T i [] h, ?_⟩
  rw [List.getD_eq_getElem?_getD, List.getElem?_eq_getElem h, Option.getD_some]
  exact hT _ (List.getElem_mem h)

/-- the tables `tables[PAWN - 1]` … `tables[KING - 1]` of the Rust are the model's `0 … 5` -/
theorem table_indices :
    chk .usize (cast .usize (u64ToInt PAWN) - 1) = some ((0 : Nat) : Int) ∧ chk .usize (cast .usize (u64ToInt KNIGHT) - 1) = some ((1 : Nat) : Int) ∧
    chk .usize (cast .usize (u64ToInt BISHOP) - 1) = some ((2 : Nat) : Int) ∧ chk .usize (cast .usize (u64ToInt ROOK) - 1) = some ((3 : Nat) : Int) ∧
    chk .usize (cast .usize (u64ToInt QUEEN) - 1) = some ((4 : Nat) : Int) ∧ chk .usize (cast .usize (u64ToInt KING) - 1) = some ((5 : Nat) : Int) := by
  decide

theorem sideSquareSum_bound {T : List (List Int)} (hT : ∀ t ∈ T, TableOK t) (s : Side) :
    -384000 ≤ Eval.sideSquareSum s T ∧ Eval.sideSquareSum s T ≤ 384000 :=
  Eval.sideSquareSum_bound (B := 1000) (by decide) s fun t h => (hT t h).2

theorem rs_piece_square_sum_for_player_eq {T : List (List Int)} (h6 : T.length = 6) (hT : ∀ t ∈ T, TableOK t) (s : Side)
    (fuel : Nat) (hf : 66 ≤ fuel) :
    SimpleHeuristic.piece_square_sum_for_player (toRsSide s) T fuel = some (Eval.sideSquareSum s T) := by
  have t := table_at h6 hT
  have b := fun i hi => squareSum_bound (t i hi).2
  have b0 := b 0 (by omega) s.pawns
  have b1 := b 1 (by omega) s.knights
  have b2 := b 2 (by omega) s.bishops
  have b3 := b 3 (by omega) s.rooks
  have b4 := b 4 (by omega) s.queens
  have b5 := b 5 (by omega) s.kings
  unfold SimpleHeuristic.piece_square_sum_for_player Eval.sideSquareSum
  simp (disch := omega) only [rs_eval, table_indices, t, rs_piece_square_sum_eq (t _ _).2 _ fuel hf]

theorem gameStage_cases (b : Board) : Eval.gameStage b = 1 ∨ Eval.gameStage b = 2 := by
  unfold Eval.gameStage
  simp only
  split
  · right; rfl
  · left; rfl

theorem stage_tables {T : List (List (List Int))} (hT : TablesOK T) (i : Nat) (hi : i < 3) :
    (T.getD i []).length = 6 ∧ ∀ t ∈ T.getD i [], TableOK t := by
  have h : i < T.length := by rw [hT.1]; exact hi
  rw [List.getD_eq_getElem?_getD, List.getElem?_eq_getElem h, Option.getD_some]
  exact hT.2 _ (List.getElem_mem h)

theorem rs_piece_square_value_eq (b : Board) (fuel : Nat) (hf : 66 ≤ fuel) :
    SimpleHeuristic.piece_square_value (toRsSide b.white) (toRsSide b.black) Gen.whiteTables Gen.blackTables fuel =
      some (Eval.pieceSquareValue b) := by
  have hs : Eval.gameStage b < 3 := by rcases gameStage_cases b with h | h <;> omega
  obtain ⟨w6, wT⟩ := stage_tables gen_tables_ok.1 _ hs
  obtain ⟨b6, bT⟩ := stage_tables gen_tables_ok.2 _ hs
  have bw := sideSquareSum_bound wT b.white
  have bb := sideSquareSum_bound bT b.black
  unfold SimpleHeuristic.piece_square_value Eval.pieceSquareValue
  simp only [rs_game_stage_eq, Option.bind_eq_bind, Option.bind_some]
  rw [vecIdx_getD _ _ [] (by rw [gen_tables_ok.1.1]; exact hs), vecIdx_getD _ _ [] (by rw [gen_tables_ok.2.1]; exact hs)]
  simp only [Option.bind_some, rs_piece_square_sum_for_player_eq w6 wT b.white fuel hf,
    rs_piece_square_sum_for_player_eq b6 bT b.black fuel hf]
  exact chk_i32 (by omega) (by omega)

theorem pieceSquareValue_bound (b : Board) : -768000 ≤ Eval.pieceSquareValue b ∧ Eval.pieceSquareValue b ≤ 768000 :=
  Eval.pieceSquareValue_bound (B := 1000) (by decide) (fun a ha t ht => ((gen_tables_ok.1.2 a ha).2 t ht).2)
    (fun a ha t ht => ((gen_tables_ok.2.2 a ha).2 t ht).2) b

/-- `some`: no `u32`/`i32` overflow, no index out of bounds; `zh` is the Zobrist pawn hash, which the Rust does not use -/
theorem rs_evaluate_ongoing_eq (b : Board) (zh : UInt64) (fuel : Nat) (hf : 66 ≤ fuel) :
    SimpleHeuristic.evaluate_ongoing (toRsSide b.white) (toRsSide b.black) zh Gen.whiteTables Gen.blackTables fuel =
      some (Eval.evaluateOngoing b) := by
  have h1 := Eval.pieceValue_bound b.white
  have h2 := Eval.pieceValue_bound b.black
  have h3 := pieceSquareValue_bound b
  unfold SimpleHeuristic.evaluate_ongoing Eval.evaluateOngoing
  simp (disch := omega) only [rs_eval, rs_piece_value_eq, rs_piece_square_value_eq b fuel hf]

/-- the whole static evaluation, no opaque parameter left: `Heuristic::evaluate` (trait default, `Heuristic.lean`) with the
translated `SimpleHeuristic::evaluate_ongoing` and the translated `Bitboard::is_current_in_check` (`Check.lean`) in place of the
opaque results of `rs_evaluate_eq` = the model's `Eval.evaluate` (the function C11's `evaluate_flip` is about) -/
theorem rs_evaluate_full_eq (b : Board) (legal : Bool) (zph : Int) (zh : UInt64) (fuel : Nat) (hfuel : 66 ≤ fuel) (ht : b.turn ≤ 1)
    (hf : b.fullmove < 2147483648) :
    ((SimpleHeuristic.evaluate_ongoing (toRsSide b.white) (toRsSide b.black) zh Gen.whiteTables Gen.blackTables fuel).bind fun eo =>
      (Bitboard.is_current_in_check (toRsSide b.white) (toRsSide b.black) (b.turn : Int) rookF bishopF knightF whitePawnF blackPawnF
        kingF).bind fun chk =>
        Heuristic.evaluate eo (b.turn : Int) (b.fullmove : Int) (b.halfmove : Int) chk zph legal) = some (Eval.evaluate b legal) := by
  rw [rs_evaluate_ongoing_eq b zh fuel hfuel, Option.bind_some, rs_is_current_in_check_eq, Option.bind_some]
  exact rs_evaluate_eq b legal zph ht hf

#print axioms rs_piece_value_eq
#print axioms rs_game_stage_eq
#print axioms rs_piece_square_sum_eq
#print axioms rs_piece_square_sum_for_player_eq
#print axioms rs_piece_square_value_eq
#print axioms rs_evaluate_ongoing_eq
#print axioms rs_evaluate_full_eq

example : SimpleHeuristic.evaluate_ongoing (toRsSide demoPos.white) (toRsSide demoPos.black) 0 Gen.whiteTables Gen.blackTables 66 =
    some (Eval.evaluateOngoing demoPos) := rs_evaluate_ongoing_eq demoPos 0 66 (Nat.le_refl _)
example : TablesOK Gen.whiteTables := gen_tables_ok.1

end Inkayaku.Translated
