import Inkayaku.Model.Board
import Inkayaku.Proofs.Bits
import Inkayaku.Model.Zobrist
import Inkayaku.Gen.Rs.ZobristXor
import Inkayaku.Props.Translated.MoveBits
/-! `Bitboard::zobrist_xor` (board/src/board.rs) = `Zobrist.xorOf` (Model/Zobrist.lean)

The key tables (`Zobrist::piece_square_hash`, `castle_hash`, `en_passant_square_hash`, `BLACK_TO_MOVE_HASH`) are OPAQUE
parameters of the generated definition; the theorem instantiates them with the model's lookups on the dumped key
material (`Gen.Zobrist`).  The move word is decoded with the generated getters (`Props/Translated/MoveBits.lean`).
The two hypotheses are the two ways the body of `zobrist_xor` itself can panic: the `_ => panic!()` arm of the castle
`match` (king target not c1/g1/c8/g8) and `target_square_shift - 8` underflowing in `u32` for a black en-passant capture.
The table lookups are not part of what is proved: the Rust `piece_square_hash` indexes `PIECE_SQUARE_HASHES[piece + 7 * color][square]`
(14 rows of 64) and panics outside it, where the model's `Zobrist.pieceSquare` reads 0 (a word with piece code 7 for black, or
a white en-passant word with target 56..63, whose victim square is 64..71); generated moves stay inside (`GenFacts`).
-/

set_option linter.unusedSimpArgs false

namespace Inkayaku.Translated
open Inkayaku.Board Inkayaku.Gen Inkayaku.MoveBits

def zCastleF (side : UInt64) (color : Int) : UInt64 := Zobrist.castle side.toNat color.toNat
def zEnPassantF (sq : Int) : UInt64 := Zobrist.enPassant sq.toNat
def zPieceSquareF (piece : UInt64) (sq color : Int) : UInt64 := Zobrist.pieceSquare piece.toNat sq.toNat color.toNat

theorem ite_pure_eq {α : Type} (c : Prop) [Decidable c] (a b : α) :
    (if c then (pure a : Option α) else pure b) = some (if c then a else b) := by split <;> rfl

theorem ite_some_eq {α : Type} (c : Prop) [Decidable c] (a b : α) :
    (if c then some a else some b) = some (if c then a else b) := by split <;> rfl

theorem side_lt_two (b : UInt64) : field b sideToMoveMask sideToMoveShift < 2 := by
  rw [field_eq b sideToMoveMask sideToMoveShift 1 (by decide) (by decide) (by decide)]
  exact Nat.mod_lt _ (by decide)

@[rs_eval] theorem rs_opposite_color_eq (c : Nat) (h : c < 2) : Rs.opposite_color (c : Int) = some ((1 - c : Nat) : Int) := by
  unfold Rs.opposite_color
  rw [Rs.chk_u32 (by omega) (by omega)]
  congr 1; omega

theorem ite_xor_some (c : Prop) [Decidable c] (r x : UInt64) :
    (if c then some (r ^^^ x) else some r) = some (r ^^^ (if c then x else 0)) := by split <;> simp

theorem natCast_ne_zero (n : Nat) : ((n : Int) ≠ Rs.NO_SQUARE) ↔ (n != 0) = true := by
  unfold Rs.NO_SQUARE; simp

theorem rs_zobrist_xor_eq (b : UInt64)
    (hC : (decode b).castle = true → castleRook (decode b).target ≠ none)
    (hE : (decode b).castle = false → (decode b).enPassant = true → (decode b).side ≠ 0 → 8 ≤ (decode b).target) :
    Rs.Bitboard.zobrist_xor b Zobrist.blackToMove zCastleF zEnPassantF zPieceSquareF = some (Zobrist.xorOf (decode b)) := by
  have hside : (decode b).side < 2 := side_lt_two b
  have htg := decode_target_lt b
  have hprom : (decode b).promotion < 18446744073709551616 := field_lt64 _ _ _
  have hpm : (decode b).pieceMoved < 18446744073709551616 := field_lt64 _ _ _
  have hpa : (decode b).pieceAttacked < 18446744073709551616 := field_lt64 _ _ _
  unfold Rs.Bitboard.zobrist_xor
  simp only [rs_eval, hside]
  generalize decode b = f at *
  have kc : KING.toUInt64.toNat = KING ∧ QUEEN.toUInt64.toNat = QUEEN ∧ ROOK.toUInt64.toNat = ROOK ∧ PAWN.toUInt64.toNat = PAWN := by
    decide
  have white_iff : (decide ((f.side : Int) = Rs.WHITE)) = (f.side == 0) := by
    unfold Rs.WHITE
    by_cases h : f.side = 0 <;> simp [h]
  unfold Zobrist.xorOf
  simp only [rs_eval, ite_xor_some, Bits.ite_xor, natCast_ne_zero, zCastleF, zEnPassantF, zPieceSquareF, kc,
    toUInt64_toNat _ hprom, toUInt64_toNat _ hpm, toUInt64_toNat _ hpa, toUInt64_beq _ PAWN hpm (by decide),
    toUInt64_beq _ PAWN hpa (by decide), white_iff, NO_PIECE]
  cases hcas : f.castle
  · simp only [Bool.false_eq_true, if_false]
    cases hep : f.enPassant
    · simp only [Bool.false_eq_true, if_false]
      cases hpr : (f.promotion != 0) <;> cases hpm' : (f.pieceMoved == PAWN) <;> cases hpa' : (f.pieceAttacked == PAWN) <;>
        simp only [Bool.false_eq_true, if_false, if_true, Option.bind_some, UInt64.zero_xor]
    · simp only [if_true, Bool.false_eq_true, if_false]
      cases hw : (f.side == 0)
      · -- black: `target - 8` must not underflow
        have h0 : f.side ≠ 0 := by simpa using hw
        have h8 := hE hcas hep h0
        have : f.target - 8 < 4294967296 := by omega
        simp only [rs_eval, h8, this, UInt64.zero_xor]
      · have : f.target + 8 < 4294967296 := by omega
        simp only [rs_eval, this, UInt64.zero_xor]
  · have hr := hC hcas
    simp only [if_true]
    -- an arm names the king's squares as constants; the model takes the target from the move and the source from the target
    rw [castle_dispatch f.target (fun rs rt => some ((rs : Int), (((if f.target == C1 || f.target == G1 then E1 else E8 : Nat)) : Int),
        (rt : Int), (f.target : Int))) none _ _ _ _ (fun e => by rw [e]; rfl) (fun e => by rw [e]; rfl) (fun e => by rw [e]; rfl)
        (fun e => by rw [e]; rfl)]
    cases hcr : castleRook f.target with
    | none => exact absurd hcr hr
    | some p => simp only [rs_eval, UInt64.zero_xor]

#print axioms rs_zobrist_xor_eq

theorem rs_zobrist_xor_move (m : Board.Move)
    (hC : m.f.castle = true → castleRook m.f.target ≠ none)
    (hE : m.f.castle = false → m.f.enPassant = true → m.f.side ≠ 0 → 8 ≤ m.f.target) :
    Rs.Bitboard.zobrist_xor m.bits Zobrist.blackToMove zCastleF zEnPassantF zPieceSquareF = some (Zobrist.xorOf m.f) :=
  rs_zobrist_xor_eq m.bits hC hE

/-! non-vacuity: a quiet knight move, and a castling word with an impossible king target panics -/
example : (decode 0x4841002).castle = false ∧ (decode 0x4841002).enPassant = false ∧ (decode 0x4841002).pieceMoved = 2 := by decide
example : Rs.Bitboard.zobrist_xor 0x4841002 Zobrist.blackToMove zCastleF zEnPassantF zPieceSquareF =
    some (Zobrist.xorOf (decode 0x4841002)) := rs_zobrist_xor_eq _ (by decide) (by decide)
example : Rs.Bitboard.zobrist_xor 0x406 7 (fun _ _ => 1) (fun _ => 2) (fun _ _ _ => 3) = none := by decide

#print axioms rs_opposite_color_eq
#print axioms rs_zobrist_xor_move

end Inkayaku.Translated
