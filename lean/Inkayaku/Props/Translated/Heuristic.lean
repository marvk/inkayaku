import Inkayaku.Model.Board
import Inkayaku.Gen.Rs.Heuristic
import Inkayaku.Gen.Rs.Uci
import Inkayaku.Gen.Rs.Board
import Inkayaku.Model.Eval
import Inkayaku.Props.Translated.Basic

namespace Inkayaku.Translated
open Inkayaku.Rs Inkayaku.Board

/-! `Heuristic::{win,loss,draw}_score`, `MAX_FULL_MOVES`, `is_checkmate`, `evaluate` (with `evaluate_ongoing` an opaque parameter),
`score_from_value` (generated `Heuristic.*`) = `Gen.winScore` …, `Eval.isCheckmateValue`, `Eval.evaluate`, `Eval.scoreFromValue`. -/
@[rs_eval] theorem rs_win_score : Heuristic.win_score = some Gen.winScore := by decide
@[rs_eval] theorem rs_max_full_moves : Heuristic.MAX_FULL_MOVES = some Gen.maxFullMoves := by decide
@[rs_eval] theorem rs_loss_score : Heuristic.loss_score = some Eval.lossScore := by decide
@[rs_eval] theorem rs_draw_score : Heuristic.draw_score = some Gen.drawScore := by decide

theorem rs_is_checkmate_eq (v : Int) : Heuristic.is_checkmate v = some (Eval.isCheckmateValue v) := by
  unfold Heuristic.is_checkmate Eval.isCheckmateValue
  simp (disch := omega) only [rs_eval, Gen.winScore, Gen.maxFullMoves, Eval.lossScore]
  by_cases h : (15728640 : Int) < v <;> simp [h] <;> rfl

#print axioms rs_is_checkmate_eq

example : Heuristic.is_checkmate 16777000 = some true := by decide
example : Heuristic.is_checkmate 300 = some false := by decide

theorem rs_evaluate_eq (b : Board) (legal : Bool) (zph : Int) (ht : b.turn ≤ 1) (hf : b.fullmove < 2147483648) :
    Heuristic.evaluate (Eval.evaluateOngoing b) (b.turn : Int) (b.fullmove : Int) (b.halfmove : Int)
      (isCurrentInCheck b) zph legal = some (Eval.evaluate b legal) := by
  unfold Heuristic.evaluate Eval.evaluate
  have c1 : cast .i32 (b.fullmove : Int) = b.fullmove := cast_i32 (by omega) (by omega)
  simp only [rs_eval, Heuristic.MAX_HALF_MOVES, Gen.maxHalfMoves, WHITE, BLACK, c1, Gen.winScore, Eval.lossScore]
  cases legal
  · simp only [Bool.false_eq_true, if_false]
    cases hchk : isCurrentInCheck b
    · simp
    · have h01 : b.turn = 0 ∨ b.turn = 1 := by omega
      rcases h01 with h0 | h1
      · simp [h0]
        exact chk_i32 (by omega) (by omega)
      · simp [h1]
        exact chk_i32 (by omega) (by omega)
  · simp only [if_true]
    by_cases hh : b.halfmove ≥ 100 <;> simp [hh]

#print axioms rs_evaluate_eq

/-- non-vacuity: white is mated at full move 7 / stalemate / fifty-move draw -/
example : Heuristic.evaluate 55 0 7 3 true 0 false = some (-16777209) := by decide
example : Heuristic.evaluate 55 1 7 3 false 0 false = some 0 := by decide
example : Heuristic.evaluate 55 1 7 100 false 0 true = some 0 := by decide
example : Heuristic.evaluate 55 1 7 99 false 0 true = some 55 := by decide

def toRsScore : Eval.Score → Rs.Score
  | .cp v => .Centipawn v
  | .mate n => .Mate n

theorem rs_score_from_value_eq (v : Int) (b : Board) (hv : -2147483648 < v) (hv2 : v ≤ 2147483647)
    (hf : b.fullmove < 2147483648) (hsum : (v.natAbs : Int) + b.fullmove < 16777216 + 2147483648) :
    Heuristic.score_from_value v (b.turn : Int) (b.fullmove : Int) = some (toRsScore (Eval.scoreFromValue v b)) := by
  unfold Heuristic.score_from_value Eval.scoreFromValue
  have c1 : cast .i32 (b.fullmove : Int) = b.fullmove := cast_i32 (by omega) (by omega)
  have ha : Rs.abs .i32 v = some (v.natAbs : Int) := chk_i32 (by omega) (by omega)
  have hd : Rs.div .i32 16777216 2 = some 8388608 := by decide
  simp only [rs_win_score, Option.bind_eq_bind, Option.bind_some, Option.pure_def, Gen.winScore, ha, hd, c1]
  by_cases hgt : (v.natAbs : Int) > 8388608
  · have hgt' : (v.natAbs : Int) > 16777216 / 2 := by omega
    simp only [hgt, hgt', if_true]
    have hoff : ofBool (decide (v > 0) && decide ((b.turn : Int) = WHITE)) = (if (v > 0 && b.turn == 0) = true then 1 else 0) := by
      by_cases h1 : v > 0 <;> by_cases h2 : b.turn = 0 <;> simp [ofBool, WHITE, h1, h2]
    rw [hoff]
    generalize hoffv : (if (v > 0 && b.turn == 0) = true then (1 : Int) else 0) = off
    have hoffr : 0 ≤ off ∧ off ≤ 1 := by subst hoffv; split <;> omega
    have hsg : signum v = v.sign := rfl
    have hsgn : v.sign = 1 ∨ v.sign = -1 := by
      rcases Int.lt_trichotomy v 0 with h | h | h
      · right; exact Int.sign_eq_neg_one_of_neg h
      · subst h; simp at hgt
      · left; exact Int.sign_eq_one_of_pos h
    simp (disch := omega) only [chk_i32, Option.bind_some, hsg]
    rw [chk_i32 (by rcases hsgn with h | h <;> rw [h] <;> omega) (by rcases hsgn with h | h <;> rw [h] <;> omega)]
    simp [toRsScore]
  · have hgt' : ¬ (v.natAbs : Int) > 16777216 / 2 := by omega
    simp [hgt, toRsScore]

#print axioms rs_score_from_value_eq

example : Heuristic.score_from_value (16777216 - 9) 0 7 = some (Score.Mate 3) := by decide
example : Heuristic.score_from_value (-120) 1 7 = some (Score.Centipawn (-120)) := by decide
/-- outside the precondition the Rust really panics: `i32::MIN.abs()` -/
example : Heuristic.score_from_value (-2147483648) 0 1 = none := by decide

#print axioms rs_win_score
#print axioms rs_max_full_moves
#print axioms rs_loss_score
#print axioms rs_draw_score

end Inkayaku.Translated
