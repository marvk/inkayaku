import Inkayaku.Model.Board
import Inkayaku.Gen.Rs.ZobristHistory
import Inkayaku.Model.History
import Inkayaku.Props.Translated.Basic

namespace Inkayaku.Translated
open Inkayaku.Rs Inkayaku.Board

/-! `ZobristHistory::count_repetitions` (generated `ZobristHistory.count_repetitions`) = `History.countRepetitions` (Model/History.lean). -/

theorem count_repetitions_loop (h : Nat → Nat) (z : Nat) (minIdx : Int) (hmin : 0 ≤ minIdx) :
    ∀ (k : Nat) (cur : Int) (reps : Nat), (cur < minIdx ∨ cur + 2 ≤ 2 * (k : Int)) → -2 ≤ cur → cur ≤ 65535 → reps ≤ 2 →
      ∃ r, ZobristHistory.count_repetitions.while_1 (fun i => (h i : Int)) (z : Int) minIdx (k + 1) cur (reps : Int) = some r ∧
        Ctl.val (fun s => s.2) r = ((History.loop h z minIdx k cur reps : Nat) : Int) := by
  intro k
  induction k with
  | zero =>
    intro cur reps hen _ _ _
    have hlt : ¬ cur ≥ minIdx := by omega
    refine ⟨.next (cur, reps), ?_, ?_⟩
    · unfold ZobristHistory.count_repetitions.while_1
      simp only [hlt, if_false, Option.pure_def]
    · simp [Ctl.val, History.loop]
  | succ k ih =>
    intro cur reps hen hlo hhi hreps
    unfold ZobristHistory.count_repetitions.while_1 History.loop
    by_cases hc : cur ≥ minIdx
    · -- `cur` is an `i32` of the model itself: the checks are discharged in `Int`, no cast is moved
      simp (disch := omega) only [hc, if_true, cast_usize, chk_usize, chk_i32, Option.bind_eq_bind, Option.bind_some,
        Option.pure_def, Int.natCast_inj]
      by_cases hz : h cur.toNat = z
      · simp only [hz, if_true]
        by_cases h3 : reps + 1 ≥ 3
        · have h3' : (reps : Int) + 1 ≥ 3 := by omega
          simp only [h3, h3', if_true]
          exact ⟨_, rfl, rfl⟩
        · have h3' : ¬ (reps : Int) + 1 ≥ 3 := by omega
          simp only [h3, h3', if_false]
          have := ih (cur - 2) (reps + 1) (by omega) (by omega) (by omega) (by omega)
          simpa using this
      · simp only [hz, if_false]
        exact ih (cur - 2) reps (by omega) (by omega) (by omega) hreps
    · refine ⟨.next (cur, reps), ?_, ?_⟩
      · simp only [hc, if_false, Option.pure_def]
      · simp [Ctl.val, hc]

/-- The hypotheses are the Rust parameter types (`u16`).  The result is `some`, i.e. no arithmetic panic
(index-out-of-bounds is not modelled by the function-style history, see `History.countRepetitionsChecked`). -/
theorem rs_count_repetitions_eq (h : Nat → Nat) (start hm : Nat) (hs : start < 65536) (hh : hm < 65536) :
    ZobristHistory.count_repetitions (fun i => (h i : Int)) (start : Int) (hm : Int) (start + 1) =
      some ((History.countRepetitions h start hm : Nat) : Int) := by
  unfold ZobristHistory.count_repetitions History.countRepetitions
  by_cases h4 : start < 4
  · have h4' : (start : Int) < 4 := by omega
    simp [h4, h4']
  · have h4' : ¬ (start : Int) < 4 := by omega
    obtain ⟨r, hr, hv⟩ := count_repetitions_loop h (h start) (max 0 ((start : Int) - (hm : Int))) (by omega) start
      ((start : Int) - 4) 1 (by omega) (by omega) (by omega) (by omega)
    simp (disch := omega) only [h4, h4', if_false, cast_i32, cast_usize, chk_i32, Option.bind_eq_bind, Option.bind_some,
      Option.pure_def, Int.toNat_natCast]
    have hr' : ZobristHistory.count_repetitions.while_1 (fun i => (h i : Int)) (h start : Int) (max 0 ((start : Int) - (hm : Int))) (start + 1) ((start : Int) - 4) 1 = some r := hr
    rw [hr']
    cases r with
    | ret r => simpa [Ctl.val] using hv
    | next s => obtain ⟨a, b⟩ := s; simpa [Ctl.val] using hv

#print axioms rs_count_repetitions_eq

/-- the history of the Rust unit test (zobrist_history.rs asserts `count_repetitions(10, 8) == 3` and `(10, 7) != 3`) -/
example : ZobristHistory.count_repetitions (fun i => ([123, 4312, 1, 2, 3, 4, 1, 2, 3, 4, 1].getD i 0 : Nat)) 10 8 11 = some 3 := by decide
example : ZobristHistory.count_repetitions (fun i => ([123, 4312, 1, 2, 3, 4, 1, 2, 3, 4, 1].getD i 0 : Nat)) 10 7 11 = some 2 := by decide
/-- too little fuel is `none`, never a wrong value -/
example : ZobristHistory.count_repetitions (fun i => ([123, 4312, 1, 2, 3, 4, 1, 2, 3, 4, 1].getD i 0 : Nat)) 10 7 2 = none := by decide

end Inkayaku.Translated
