import Inkayaku.Props.Translated.MakeUnmakeCommon
/-! `Bitboard::{unmake, unmake_castle}` (board/src/board.rs) = `Board.unmakeF` (Model/Board.lean): `rs_unmake_eq`, under hypotheses
that are exactly the ways the Rust can panic (colour code above 1, `u32` clock underflow, the `_ => panic!()` arm of the castle
`match`, a piece code 7 indexing the occupancy array).  All of them hold after a generated move of a well-formed board (`GenUnmake.lean`).

The Rust `unmake_castle` calls `make_castle` with source and target swapped, so `rs_unmake_castle_eq` unfolds both
(a change of `make_castle` re-opens it, as it must).
-/

set_option linter.unusedSimpArgs false

namespace Inkayaku.Translated
open Inkayaku.Board Inkayaku.Gen Inkayaku.MoveBits Inkayaku.MakeUnmake

theorem rs_unmake_castle_eq (s : Side) (rs ks rt kt : UInt64) :
    Rs.Bitboard.unmake_castle (toRsSide s) rs ks rt kt =
      some (toRsSide { s with rooks := clearBit s.rooks rt ||| rs, kings := clearBit s.kings kt ||| ks }) := by
  unfold Rs.Bitboard.unmake_castle Rs.Bitboard.make_castle
  simp only [rs_eval, Nat.reduceLT]
  rfl

#print axioms rs_unmake_castle_eq

theorem rs_unmake_eq (b : Board) (bits : UInt64)
    (hturn : b.turn ≤ 1) (hfull : 1 - b.turn ≤ b.fullmove) (hfull' : b.fullmove < 4294967296)
    (hC : (decode bits).castle = true → castleRook (decode bits).target ≠ none)
    (hP : (decode bits).castle = false → (decode bits).pieceAttacked < 7 ∧ ((decode bits).enPassant = false →
        (if (decode bits).promotion != 0 then (decode bits).promotion < 7 else (decode bits).pieceMoved < 7))) :
    Rs.Bitboard.unmake (toRsSide b.white) (toRsSide b.black) b.turn b.ep b.fullmove b.halfmove bits =
      some (boardFields (unmakeF b (decode bits))) := by
  have htg := decode_target_lt bits
  have hsrc := decode_source_lt bits
  have h1 : 1 - b.turn < 4294967296 := by omega
  have h2 : b.fullmove - (1 - b.turn) < 4294967296 := by omega
  unfold Rs.Bitboard.unmake
  -- everything up to the branch on the kind of move: getters, clocks, turn, the borrow of the two sides, the castling flags
  simp only [rs_eval, hturn, hfull, h1, h2, htg, hsrc]
  generalize decode bits = f at *
  rw [unmakeF_eq]
  simp only [rs_eval, turn_flip b, not_active, not_passive, show (b.turn == 0) = b.whiteTurn from rfl]
  generalize b.active = A
  generalize b.passive = P
  generalize b.whiteTurn = c
  unfold unMover unOther unMoverUpds unOtherUpds
  cases hcas : f.castle
  · obtain ⟨hpa7, hx'⟩ := hP hcas
    cases hep : f.enPassant
    · have hx := hx' hep
      -- a promotion moves the pawn word and the word of the new piece, any other move the word of the piece moved
      cases hpr : (f.promotion != 0)
      all_goals
        simp only [hpr, Bool.false_eq_true, if_false, if_true] at hx
        simp only [rs_eval, Nat.reduceLT, hx, hpa7, hpr, get_set_same, set_set_same, set_one, get_one, clearBit, NO_PIECE, run, List.foldl, PAWN]
        exact congrArg some (write_back c _ _ _ _ _ _)
    · simp only [rs_eval, Nat.reduceLT, hpa7, set_one, get_one, clearBit, run, List.foldl, PAWN]
      exact congrArg some (write_back c _ _ _ _ _ _)
  · simp only [rs_eval]
    rw [castle_dispatch f.target (fun rs rt => Rs.Bitboard.unmake_castle _ (bitU rs) _ (bitU rt) _) none _ _ _ _ (fun _ => rfl) (fun _ => rfl) (fun _ => rfl) (fun _ => rfl)]
    cases hcr : castleRook f.target with
    | none => exact absurd hcr (hC hcas)
    | some p =>
      simp only [rs_unmake_castle_eq, rs_eval, run, List.foldl]
      exact congrArg some (write_back c _ _ _ _ _ _)

#print axioms rs_unmake_eq

theorem rs_unmake_move_eq (b : Board) (m : Board.Move)
    (hturn : b.turn ≤ 1) (hfull : 1 - b.turn ≤ b.fullmove) (hfull' : b.fullmove < 4294967296)
    (hC : m.f.castle = true → castleRook m.f.target ≠ none)
    (hP : m.f.castle = false → m.f.pieceAttacked < 7 ∧ (m.f.enPassant = false →
        (if m.f.promotion != 0 then m.f.promotion < 7 else m.f.pieceMoved < 7))) :
    Rs.Bitboard.unmake (toRsSide b.white) (toRsSide b.black) b.turn b.ep b.fullmove b.halfmove m.bits =
      some (boardFields (Board.unmake b m)) :=
  rs_unmake_eq b m.bits hturn hfull hfull' hC hP

#print axioms rs_unmake_move_eq

/-! non-vacuity: taking back 1. e2-e4 on a small position (`Demo.lean`); a piece code 7 panics (array of 7) -/
example : Rs.Bitboard.unmake (toRsSide (Board.make demoPos demoMove).white) (toRsSide (Board.make demoPos demoMove).black) 1 44 1 0
    demoMove.bits = some (boardFields (Board.unmake (Board.make demoPos demoMove) demoMove)) :=
  rs_unmake_move_eq (Board.make demoPos demoMove) demoMove (by decide) (by decide) (by decide) (by decide) (by decide)
example : Rs.Bitboard.unmake (toRsSide (Board.make demoPos demoMove).white) (toRsSide (Board.make demoPos demoMove).black) 1 44 1 0
    (encode { pieceMoved := 7, source := 52, target := 36 }) = none := by
  decide

end Inkayaku.Translated
