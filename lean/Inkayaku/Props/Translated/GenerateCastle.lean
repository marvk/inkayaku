import Inkayaku.Props.Translated.GenerateCtor
import Inkayaku.Props.Translated.GenerateScan
/-! Castling moves of the generator: `Bitboard::{_is_occupancy_in_check, make_castle_move, castle_moves}` (board/src/board.rs;
generated module `Generate`) = `Board.occupancyInCheck`, `castleMoves` (Model/Board.lean), same order (queen side first)

`_is_occupancy_in_check` is a bit-scan loop with an early `return true` (`Ctl.ret`); its body is the translated
`_is_square_in_check` of `Props/Translated/Check.lean` with the same opaque table lookups.  No panic conditions.
-/

namespace Inkayaku.Translated
open Inkayaku.Board Inkayaku.Gen Inkayaku.Bits

theorem rs_occupancy_loop (color : Nat) (passive : Side) (occ : UInt64) :
    ∀ (fuel : Nat) (x : UInt64), (bitsAsc x).length < fuel →
      Rs.Bitboard._is_occupancy_in_check.while_1 (color : Int) (toRsSide passive) occ rookF bishopF knightF whitePawnF blackPawnF kingF
          fuel x =
        some (if (bitsAsc x).any (fun sq => squareInCheck color passive sq occ) then Rs.Ctl.ret true else Rs.Ctl.next 0)
  | 0, _, h => by omega
  | fuel + 1, x, h => by
    by_cases hx : x = 0
    · subst hx; simp [Rs.Bitboard._is_occupancy_in_check.while_1, bitsAsc_zero]
    · have hpop := bitsAsc_pop x hx
      simp only [Rs.Bitboard._is_occupancy_in_check.while_1, ne_eq, hx, not_false_eq_true, rs_eval]
      rw [hpop, List.any_cons]
      cases hc : squareInCheck color passive (trailingZeros x) occ
      · simp only [Bool.false_eq_true, if_false, Bool.false_or]
        exact rs_occupancy_loop color passive occ fuel _ (by rw [hpop, List.length_cons] at h; omega)
      · simp

theorem rs_is_occupancy_in_check_eq (color : Nat) (passive : Side) (occ squares : UInt64) (fuel : Nat) (hf : 65 ≤ fuel) :
    Rs.Bitboard._is_occupancy_in_check (color : Int) (toRsSide passive) occ squares rookF bishopF knightF whitePawnF blackPawnF kingF
        fuel = some (occupancyInCheck color passive occ squares) := by
  unfold Rs.Bitboard._is_occupancy_in_check occupancyInCheck
  rw [rs_occupancy_loop color passive occ fuel squares (by have := GenLength.bitsAsc_length_le squares; omega)]
  cases (bitsAsc squares).any fun sq => squareInCheck color passive sq occ <;> rfl

theorem rs_make_castle_move_eq (b : Board) (acc : List Board.Move) (src tgt : Nat) (ht : tgt < 64) :
    Rs.Bitboard.make_castle_move (toRsSide b.white) (toRsSide b.black) b.turn b.ep b.halfmove (acc.map encMove) src tgt =
      some ((pushOpt acc (mkMove b false src tgt KING true false NO_PIECE 0)).map encMove) := by
  unfold Rs.Bitboard.make_castle_move
  simp only [rs_eval, ht]

/-- `if allowed { self.make_castle_move(result, src, tgt) }` -/
theorem castle_step (b : Board) (acc : List Board.Move) (c : Bool) (src tgt : Nat) (ht : tgt < 64) :
    (if c = true then Rs.Bitboard.make_castle_move (toRsSide b.white) (toRsSide b.black) b.turn b.ep b.halfmove (acc.map encMove) src tgt
      else some (acc.map encMove)) =
      some ((if c = true then pushOpt acc (mkMove b false src tgt KING true false NO_PIECE 0) else acc).map encMove) := by
  cases c
  · rfl
  · exact rs_make_castle_move_eq b acc src tgt ht

@[rs_eval] theorem rs_castle_moves_eq (b : Board) (acc : List Board.Move) (fullOcc : UInt64) (fuel : Nat) (hf : 65 ≤ fuel) :
    Rs.Bitboard.castle_moves (toRsSide b.white) (toRsSide b.black) b.turn b.ep b.halfmove (acc.map encMove) fullOcc rookF bishopF
        knightF whitePawnF blackPawnF kingF fuel = some ((castleMoves b fullOcc acc).map encMove) := by
  unfold Rs.Bitboard.castle_moves castleMoves
  simp only [rs_eval, rs_is_occupancy_in_check_eq _ _ _ _ fuel hf, and_some, decide_eq0]
  unfold Board.whiteTurn
  cases (b.turn == 0)
  · simp only [rs_eval, castle_step b _ _ E8 C8 (by decide), castle_step b _ _ E8 G8 (by decide)]
  · simp only [rs_eval, castle_step b _ _ E1 C1 (by decide), castle_step b _ _ E1 G1 (by decide)]

#print axioms rs_is_occupancy_in_check_eq
#print axioms rs_castle_moves_eq

/-! non-vacuity: white may castle king side in a position with king e1, rook h1 and nothing between -/
def castleDemo : Board :=
  { white := { rooks := bitU 63, kings := bitU 60, ks := true }, black := { kings := bitU 4 }, turn := 0, ep := 0, fullmove := 1, halfmove := 0 }
example : (castleMoves castleDemo (castleDemo.white.full ||| castleDemo.black.full) []).length = 1 := by decide +kernel

end Inkayaku.Translated
