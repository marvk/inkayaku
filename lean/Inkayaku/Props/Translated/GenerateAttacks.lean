import Inkayaku.Props.Translated.GenerateCtor
import Inkayaku.Props.Translated.GenerateScan
import Inkayaku.Props.Translated.Magic
/-! Piece moves of the generator: `Bitboard::{generate_attacks, sliding_moves, single_moves}` (board/src/board.rs; generated
module `Generate`) = `Board.genAttacks`, `slidingMoves`, `singleMoves` (Model/Board.lean) AS LISTS, in the same order

`result: &mut Vec<Move>` is an in/out list of packed moves; the theorems take it as `acc.map encMove` for the model's
accumulator `acc` and show that the function returns `(model acc).map encMove`.  The attack table passed as `magics: &Magics` /
`nonmagics: &Nonmagics` is the lookup FUNCTION of the table (`rookF` / `bishopF` = what `Props/Translated/Magic.lean` proves
`Magics::get_attacks` computes; `leaperAttacks tbl`).  Panics: none for a piece code ≤ 6; the fuel (one unit per loop
iteration, two nested loops) suffices from 130 on.
-/

namespace Inkayaku.Translated
open Inkayaku.Board Inkayaku.Gen Inkayaku.Bits

theorem rs_generate_attacks_eq (b : Board) (acc : List Board.Move) (nq : Bool) (src : Nat) (att : UInt64) (piece : Nat)
    (hp : piece ≤ 6) (fuel : Nat) (hf : 65 ≤ fuel) :
    Rs.Bitboard.generate_attacks (toRsSide b.white) (toRsSide b.black) b.turn b.ep b.halfmove (acc.map encMove) nq src att
        piece.toUInt64 fuel = some ((genAttacks b nq src att piece acc).map encMove) := by
  unfold Rs.Bitboard.generate_attacks genAttacks
  have key := scan_loop
    (fun fuel st x => Rs.Bitboard.generate_attacks.while_1 (toRsSide b.white) (toRsSide b.black) b.turn b.ep b.halfmove nq src
      piece.toUInt64 fuel st x)
    (List.map encMove) (fun acc tgt => pushOpt acc (mkMove b nq src tgt piece false false NO_PIECE 0)) 0 (fun _ => True)
    (by intro fuel a; simp [Rs.Bitboard.generate_attacks.while_1])
    (by
      intro fuel a x hx _ _
      simp only [Rs.Bitboard.generate_attacks.while_1, ne_eq, hx, not_false_eq_true, rs_eval,
        hp, tz_lt x hx])
    fuel att acc (fun _ _ => trivial) (fuel_ok _ 0 _ hf)
  simp only [key, rs_eval]

theorem rs_sliding_moves_eq (b : Board) (acc : List Board.Move) (nq : Bool) (pieceOcc activeOcc fullOcc : UInt64) (rook : Bool)
    (piece : Nat) (hp : piece ≤ 6) (fuel : Nat) (hf : 130 ≤ fuel) :
    Rs.Bitboard.sliding_moves (toRsSide b.white) (toRsSide b.black) b.turn b.ep b.halfmove (acc.map encMove) nq pieceOcc
        activeOcc fullOcc (if rook then rookF else bishopF) piece.toUInt64 fuel =
      some ((slidingMoves b nq pieceOcc activeOcc fullOcc rook piece acc).map encMove) := by
  unfold Rs.Bitboard.sliding_moves slidingMoves
  have key := scan_loop
    (fun fuel st x => Rs.Bitboard.sliding_moves.while_1 (toRsSide b.white) (toRsSide b.black) b.turn b.ep b.halfmove nq
      activeOcc fullOcc (if rook then rookF else bishopF) piece.toUInt64 fuel st x)
    (List.map encMove)
    (fun acc src => genAttacks b nq src ((if rook then rookAttacks src fullOcc else bishopAttacks src fullOcc) &&& ~~~activeOcc) piece acc)
    65 (fun _ => True)
    (by intro fuel a; simp [Rs.Bitboard.sliding_moves.while_1])
    (by
      intro fuel a x hx hK _
      have e : (if rook then rookF else bishopF) ((trailingZeros x : Nat) : Int) fullOcc =
          (if rook then rookAttacks (trailingZeros x) fullOcc else bishopAttacks (trailingZeros x) fullOcc) := by
        cases rook <;> simp [rookF, bishopF]
      simp only [Rs.Bitboard.sliding_moves.while_1, ne_eq, hx, not_false_eq_true, rs_eval, e,
        rs_generate_attacks_eq b a nq _ _ piece hp fuel hK])
    fuel pieceOcc acc (fun _ _ => trivial) (fuel_ok _ _ _ hf)
  simp only [key, rs_eval]

theorem rs_single_moves_eq (b : Board) (acc : List Board.Move) (nq : Bool) (pieceOcc activeOcc : UInt64) (tbl : List Nat)
    (piece : Nat) (hp : piece ≤ 6) (fuel : Nat) (hf : 130 ≤ fuel) :
    Rs.Bitboard.single_moves (toRsSide b.white) (toRsSide b.black) b.turn b.ep b.halfmove (acc.map encMove) nq pieceOcc
        activeOcc (fun sq => leaperAttacks tbl sq.toNat) piece.toUInt64 fuel =
      some ((singleMoves b nq pieceOcc activeOcc tbl piece acc).map encMove) := by
  unfold Rs.Bitboard.single_moves singleMoves
  have key := scan_loop
    (fun fuel st x => Rs.Bitboard.single_moves.while_1 (toRsSide b.white) (toRsSide b.black) b.turn b.ep b.halfmove nq
      activeOcc (fun sq => leaperAttacks tbl sq.toNat) piece.toUInt64 fuel st x)
    (List.map encMove)
    (fun acc src => genAttacks b nq src (leaperAttacks tbl src &&& ~~~activeOcc) piece acc)
    65 (fun _ => True)
    (by intro fuel a; simp [Rs.Bitboard.single_moves.while_1])
    (by
      intro fuel a x hx hK _
      simp only [Rs.Bitboard.single_moves.while_1, ne_eq, hx, not_false_eq_true, rs_eval,
        rs_generate_attacks_eq b a nq _ _ piece hp fuel hK])
    fuel pieceOcc acc (fun _ _ => trivial) (fuel_ok _ _ _ hf)
  simp only [key, rs_eval]

/-! the four instances the generators call, in the form `rs_eval` can apply (`rookF`, `knightF`, … are the opaque lookups by name) -/
section
variable (b : Board) (acc : List Board.Move) (nq : Bool) (pieceOcc activeOcc fullOcc : UInt64) (piece : Nat) (hp : piece ≤ 6)
  (fuel : Nat) (hf : 130 ≤ fuel)
include hp hf

@[rs_eval] theorem rs_rook_moves_eq :
    Rs.Bitboard.sliding_moves (toRsSide b.white) (toRsSide b.black) b.turn b.ep b.halfmove (acc.map encMove) nq pieceOcc activeOcc
      fullOcc rookF piece.toUInt64 fuel = some ((slidingMoves b nq pieceOcc activeOcc fullOcc true piece acc).map encMove) :=
  rs_sliding_moves_eq b acc nq pieceOcc activeOcc fullOcc true piece hp fuel hf

@[rs_eval] theorem rs_bishop_moves_eq :
    Rs.Bitboard.sliding_moves (toRsSide b.white) (toRsSide b.black) b.turn b.ep b.halfmove (acc.map encMove) nq pieceOcc activeOcc
      fullOcc bishopF piece.toUInt64 fuel = some ((slidingMoves b nq pieceOcc activeOcc fullOcc false piece acc).map encMove) :=
  rs_sliding_moves_eq b acc nq pieceOcc activeOcc fullOcc false piece hp fuel hf

@[rs_eval] theorem rs_knight_moves_eq :
    Rs.Bitboard.single_moves (toRsSide b.white) (toRsSide b.black) b.turn b.ep b.halfmove (acc.map encMove) nq pieceOcc activeOcc
      knightF piece.toUInt64 fuel = some ((singleMoves b nq pieceOcc activeOcc knightTable piece acc).map encMove) :=
  rs_single_moves_eq b acc nq pieceOcc activeOcc knightTable piece hp fuel hf

@[rs_eval] theorem rs_king_moves_eq :
    Rs.Bitboard.single_moves (toRsSide b.white) (toRsSide b.black) b.turn b.ep b.halfmove (acc.map encMove) nq pieceOcc activeOcc
      kingF piece.toUInt64 fuel = some ((singleMoves b nq pieceOcc activeOcc kingTable piece acc).map encMove) :=
  rs_single_moves_eq b acc nq pieceOcc activeOcc kingTable piece hp fuel hf
end

#print axioms rs_generate_attacks_eq
#print axioms rs_sliding_moves_eq
#print axioms rs_single_moves_eq

/-! non-vacuity: knights on b1 and g1 among the pawns, rooks and kings of `ctorDemo` -/
example : (singleMoves ctorDemo false 0x4200000000000000 ctorDemo.white.full knightTable KNIGHT []).length = 4 := by decide +kernel

end Inkayaku.Translated
