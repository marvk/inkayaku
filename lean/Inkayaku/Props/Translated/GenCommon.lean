import Inkayaku.Props.Translated.Demo
import Inkayaku.Proofs.GenOK
/-! The translated `make` / `unmake` / `zobrist_xor` / `is_valid` / `is_move_legal` on GENERATED moves of WELL-FORMED boards

`Props/Translated/Make.lean`, `Unmake.lean` and `ZobristXor.lean` prove the equivalences under hypotheses that are exactly the panic
conditions of the Rust.  In `GenMake.lean`, `GenUnmake.lean`, `GenXor.lean` these hypotheses are discharged for every move the
(model) generator emits on a board satisfying the decidable legality predicate `WF.wf` (`GenOK.genPseudo_ok`,
`GenFacts.genPseudo_hashok`): on such inputs the translated Rust functions never panic and compute
the model's results — and `unmake ∘ make` restores the position (C03), `is_valid` after `make` is the model's legality test (C05).

This file: the model-only part — `wf_clocks`, `moveOK_no_panic`, and the shared non-vacuity facts `demo_wf`, `demo_gen` (the
hypotheses of all `…_generated` theorems are satisfiable: 1. e2-e4 in the small legal position of `Demo.lean`).  No generated
(`Gen/Rs`) definition is mentioned.  `GenMake.lean`, `GenUnmake.lean` (imports `GenMake.lean`: `is_move_legal` calls all three) and
`GenXor.lean` are separate files so that a change of one Rust function leaves the theorems about the others standing.
-/

namespace Inkayaku.Translated
open Inkayaku.Board Inkayaku.Gen Inkayaku.WF

theorem wf_clocks {b : Board} (h : wf b = true) : 1 ≤ b.fullmove ∧ b.fullmove < 2147483648 ∧ b.halfmove ≤ 4095 ∧ b.turn ≤ 1 := by
  unfold wf at h
  simp only [Bool.and_eq_true, decide_eq_true_eq] at h
  obtain ⟨⟨⟨h1, h2⟩, h3⟩, h4⟩ := h
  have := (GenOK.wf_facts (by unfold wf; simp only [Bool.and_eq_true, decide_eq_true_eq]; exact ⟨⟨⟨h1, h2⟩, h3⟩, h4⟩)).basic.turn
  exact ⟨h2, h3, h4, this⟩

/-- the two ways `make` / `unmake` can panic on a move word (the `_ => panic!()` arm of the castle `match`, a piece code 7 indexing
the 7-element occupancy array) are excluded by `MoveOK` -/
theorem moveOK_no_panic {b : Board} {f : MoveF} (hok : MakeUnmake.MoveOK b f) :
    (f.castle = true → castleRook f.target ≠ none) ∧
    (f.castle = false → f.pieceAttacked < 7 ∧
      (f.enPassant = false → if f.promotion != 0 then f.promotion < 7 else f.pieceMoved < 7)) := by
  obtain ⟨-, -, -, -, -, ⟨-, -, hshape⟩, ⟨-, -, hoth⟩⟩ := hok
  unfold MakeUnmake.ShapeOK at hshape
  refine ⟨fun hc hn => ?_, fun hc => ?_⟩
  · rw [if_pos hc, hn] at hshape
    exact hshape
  · simp only [hc, Bool.false_eq_true, if_false] at hshape hoth
    cases he : f.enPassant
    · simp only [he, Bool.false_eq_true, if_false] at hshape hoth
      refine ⟨by omega, fun _ => ?_⟩
      revert hshape
      rw [show (f.promotion != 0) = (f.promotion != NO_PIECE) from rfl]
      cases f.promotion != NO_PIECE
      · simp only [Bool.false_eq_true, if_false]
        omega
      · simp only [if_true]
        omega
    · rw [he, if_pos rfl] at hoth
      exact ⟨by rw [hoth.1]; decide, fun h' => absurd h' (by decide)⟩

/-! non-vacuity of the hypotheses `wf b = true`, `m ∈ genPseudo b` of the `…_generated` theorems -/
theorem demo_wf : wf demoPos = true := by decide +kernel
theorem demo_gen : demoMove ∈ genPseudo demoPos := by decide +kernel

end Inkayaku.Translated
