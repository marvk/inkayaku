import Inkayaku.Gen.Rs.MakeUnmake
import Inkayaku.Props.Translated.TestAttr
/-! `PlayerState::{pawns_ref, rooks_ref, kings_ref}` (board/src/board.rs), translated as the index of the occupancy word they borrow. -/

namespace Inkayaku.Translated

@[rs_eval] theorem pawns_index : Rs.PlayerState.pawns_ref_index = some ((1 : Nat) : Int) := by decide
@[rs_eval] theorem rooks_index : Rs.PlayerState.rooks_ref_index = some ((4 : Nat) : Int) := by decide
@[rs_eval] theorem kings_index : Rs.PlayerState.kings_ref_index = some ((6 : Nat) : Int) := by decide

end Inkayaku.Translated
