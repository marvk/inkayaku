import Inkayaku.Model.Table
import Inkayaku.Props.C18
import Inkayaku.Gen.Rs.Table
import Inkayaku.Props.Translated.Basic
/-! `HashTable::{new, clear, put, get, len}` (engine_core/src/engine/table.rs) = `Inkayaku.Table` (Model/Table.lean)

The generated definitions work on the three fields `capacity`, `entry_list`, `entry_map` of the Rust struct, with the
std collections mapped to the prelude's `VecDeque` / `HMap` (header of `Gen/Rs/Prelude.lean`: "std `HashMap` /
`VecDeque` behave as a map / a queue" — the same assumption the hand-written model makes).  Keys are `ZobristHash = u64`
values, i.e. `Int`s; the value type is arbitrary.  The model's `panicked` flag corresponds to the result `none` of the
generated `put` (`pop_front().unwrap()` on an empty queue): `rs_table_put_eq` is the exact correspondence for EVERY
state, `rs_table_put_no_panic` shows with C18's invariant that `none` never occurs.
-/

namespace Inkayaku.Translated
open Inkayaku.Rs Inkayaku.Table

variable {V : Type}

theorem hmGet_eq (m : List (Int × V)) (k : Int) : hmGet m k = mapGet m k := by
  induction m with
  | nil => rfl
  | cons e rest ih => obtain ⟨k', v⟩ := e; simp only [hmGet, mapGet, ih]

theorem hmInsert_eq (m : List (Int × V)) (k : Int) (v : V) : hmInsert m k v = mapInsert m k v := by
  simp only [hmInsert, mapInsert, hmGet_eq]
  cases mapGet m k <;> rfl

theorem hmRemove_fst_eq (m : List (Int × V)) (k : Int) : (hmRemove m k).1 = mapRemove m k := rfl

theorem hmLen_eq (m : List (Int × V)) : hmLen m = (mapLen m : Int) := rfl

theorem rs_table_new_eq (cap : Nat) :
    HashTable.new (V := V) (cap : Int) =
      some (((Table.new cap : State Int V).cap : Int), (Table.new cap : State Int V).queue, (Table.new cap : State Int V).map) := rfl

theorem rs_table_clear_eq (s : State Int V) :
    HashTable.clear s.queue s.map = some ((Table.clear s).queue, (Table.clear s).map) := rfl

theorem rs_table_get_eq (s : State Int V) (k : Int) : HashTable.get s.map k = some (Table.get s k) := by
  simp only [HashTable.get, Table.get, hmGet_eq, Option.pure_def]

theorem rs_table_len_eq (s : State Int V) : HashTable.len s.map = some ((Table.len s : Nat) : Int) := rfl

/-- second statement of `put` = `evictPhase` -/
theorem evict_eq (t : State Int V) (hp : t.panicked = false) :
    (if hmLen t.map > (t.cap : Int) then do
        let remove_key ← (vdPopFront t.queue).snd
        pure ((vdPopFront t.queue).fst, (hmRemove t.map remove_key).fst)
      else pure (t.queue, t.map) : Option (VecDeque Int × HMap Int V)) =
    if (evictPhase t).panicked then none else some ((evictPhase t).queue, (evictPhase t).map) := by
  unfold evictPhase
  by_cases ho : mapLen t.map > t.cap
  · have ho' : hmLen t.map > (t.cap : Int) := by simp only [hmLen_eq]; omega
    rw [if_pos ho', if_pos ho]
    cases hq : t.queue with
    | nil => rfl
    | cons x rest =>
      simp only [vdPopFront, hp, hmRemove_fst_eq, Option.bind_eq_bind, Option.bind_some, Option.pure_def]
      rfl
  · have ho' : ¬ hmLen t.map > (t.cap : Int) := by simp only [hmLen_eq]; omega
    rw [if_neg ho', if_neg ho]
    simp only [hp, Option.pure_def]
    rfl

/-- `HashTable::put`, every state: the Rust function panics exactly when the model sets its `panicked` flag, and
otherwise the new `entry_list` / `entry_map` are the model's (`capacity` and the flag itself are not touched). -/
theorem rs_table_put_eq (s : State Int V) (hp : s.panicked = false) (k : Int) (v : V) :
    HashTable.put (s.cap : Int) s.queue s.map k v =
      if (Table.put s k v).panicked then none else some ((Table.put s k v).queue, (Table.put s k v).map) := by
  unfold HashTable.put Table.put
  rw [hmInsert_eq]
  -- first statement = `insertPhase`: case split on the value returned by `insert`
  have hi : insertPhase s k v =
      ⟨s.cap, if (mapInsert s.map k v).2.isNone then s.queue ++ [k] else s.queue, (mapInsert s.map k v).1, s.panicked⟩ := rfl
  rw [hi]
  generalize mapInsert s.map k v = p
  obtain ⟨m', r⟩ := p
  cases r with
  | none => exact evict_eq ⟨s.cap, s.queue ++ [k], m', s.panicked⟩ hp
  | some old => exact evict_eq ⟨s.cap, s.queue, m', s.panicked⟩ hp

#print axioms rs_table_put_eq

/-- under C18's representation invariant the Rust `put` never panics (`pop_front().unwrap()` always finds an element) and
computes the model's new state -/
theorem rs_table_put_no_panic (s : State Int V) (h : C18.Inv s) (k : Int) (v : V) :
    HashTable.put (s.cap : Int) s.queue s.map k v = some ((Table.put s k v).queue, (Table.put s k v).map) := by
  rw [rs_table_put_eq s h.not_panicked, C18.put_no_panic h]; rfl

#print axioms rs_table_put_no_panic

open Inkayaku.FifoMap (Op Out)

/-- one operation on the three Rust fields, by the generated functions (`none` = panic) -/
def rsStep (cap : Int) (st : List Int × List (Int × V)) : Op Int V → Option ((List Int × List (Int × V)) × Option (Out V))
  | .put k v => (HashTable.put cap st.1 st.2 k v).map fun st' => (st', none)
  | .get k => (HashTable.get st.2 k).map fun r => (st, some (.value r))
  | .clear => (HashTable.clear st.1 st.2).map fun st' => (st', none)
  | .len => (HashTable.len st.2).map fun n => (st, some (.size n.toNat))

def rsRun (cap : Int) (st : List Int × List (Int × V)) : List (Op Int V) → Option ((List Int × List (Int × V)) × List (Out V))
  | [] => some (st, [])
  | op :: ops => do
    let (st', o) ← rsStep cap st op
    let (st'', os) ← rsRun cap st' ops
    pure (st'', o.toList ++ os)

theorem rsStep_eq {cap : Nat} {m : List (Int × V)} (s : State Int V) (h : C18.Holds cap m s) (op : Op Int V) :
    rsStep (cap : Int) (s.queue, s.map) op = some (((Table.step s op).1.queue, (Table.step s op).1.map), (Table.step s op).2) := by
  rw [← h.cap_eq]
  cases op with
  | put k v => simp only [rsStep, rs_table_put_no_panic s h.inv, Option.map_some, Table.step]
  | get k => simp only [rsStep, rs_table_get_eq, Option.map_some, Table.step]
  | clear => simp only [rsStep, rs_table_clear_eq, Option.map_some, Table.step]
  | len => simp [rsStep, rs_table_len_eq, Table.step]

/-- along a run the table holds the spec's state (`C18.Holds.step`), so no step panics and the capacity stays -/
theorem rsRun_eq {cap : Nat} {m : List (Int × V)} (s : State Int V) (h : C18.Holds cap m s) (ops : List (Op Int V)) :
    rsRun (cap : Int) (s.queue, s.map) ops = some (((Table.run s ops).1.queue, (Table.run s ops).1.map), (Table.run s ops).2) := by
  induction ops generalizing m s with
  | nil => rfl
  | cons op ops ih =>
    simp only [rsRun, rsStep_eq s h, ih _ (h.step op).1, Table.run, Option.bind_eq_bind, Option.bind_some, Option.pure_def]

/-- END-TO-END: every operation sequence run with the generated Rust functions from `HashTable::new(cap)` never
panics and yields the answers and the final fields of the model's `run` (whose answers are the FIFO-map spec's by
`C18.refines`). -/
theorem rs_table_run_eq (cap : Nat) (ops : List (Op Int V)) :
    (do let (c, q, m) ← HashTable.new (V := V) (cap : Int); rsRun c (q, m) ops) =
      some (((Table.run (Table.new cap : State Int V) ops).1.queue, (Table.run (Table.new cap : State Int V) ops).1.map),
            (Table.run (Table.new cap : State Int V) ops).2) := by
  rw [rs_table_new_eq]
  exact rsRun_eq (Table.new cap) ⟨C18.rep_new cap, rfl, Nat.zero_le _⟩ ops

#print axioms rs_table_run_eq

theorem rs_table_run_spec (cap : Nat) (ops : List (Op Int V)) :
    ((do let (c, q, m) ← HashTable.new (V := V) (cap : Int); rsRun c (q, m) ops).map Prod.snd) =
      some (FifoMap.run cap [] ops).2 := by
  rw [rs_table_run_eq, Option.map_some, (C18.refines cap ops).1]

#print axioms rs_table_run_spec

/-! non-vacuity: concrete runs (an eviction, an overwrite, capacity 0), and the panic branch of `rs_table_put_eq` is real
for a state violating the invariant -/
example : HashTable.put 2 [1, 2] [(1, 10), (2, 20)] 3 (30 : Nat) = some ([2, 3], [(2, 20), (3, 30)]) := by decide
example : HashTable.put 2 [1, 2] [(1, 10), (2, 20)] 1 (11 : Nat) = some ([1, 2], [(1, 11), (2, 20)]) := by decide
example : HashTable.put 0 [] [] 7 (1 : Nat) = some ([], []) := by decide
example : HashTable.put 1 [] [(1, 10), (2, 20)] 2 (21 : Nat) = none := by decide
example : C18.Inv (C18.reach 2 [.put 1 10, .put 2 20] : State Int Nat) := (C18.inv_reach _ _).1
example : (do let (c, q, m) ← HashTable.new (V := Nat) 2; rsRun c (q, m) [.put 1 10, .put 2 20, .get 1, .put 3 30, .get 1, .len])
    = some (([2, 3], [(2, 20), (3, 30)]), [.value (some 10), .value none, .size 2]) := by decide

#print axioms rs_table_get_eq
#print axioms rs_table_len_eq
#print axioms rs_table_clear_eq
#print axioms rs_table_new_eq

end Inkayaku.Translated
