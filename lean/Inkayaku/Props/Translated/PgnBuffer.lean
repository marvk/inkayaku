import Inkayaku.Gen.Rs.Pgn
import Inkayaku.Props.C17
/-! The buffer layer of the PGN reader `PgnRawParser<R: Read>` (pgn/src/reader.rs;
generated module `Pgn`, translated in MONADIC MODE: see the header of `Gen/Rs/Pgn.lean`) against the model `Buffered` of `Model/Pgn.lean`.

* `toRs : Buffered → Rs.PgnRawParser Reader`: the regenerated struct value of a model state (the reader state is the model's abstract `Reader`:
  remaining input + fragmentation schedule); `ReadModel rd`: the MAPPING ASSUMPTION for the opaque `Read::read` (`rd = readF`: writes
  `min buf.len() (sched calls) rest.length` bytes to the front of the buffer, returns `Ok(n)`; so `0` only at the end of the input).
* `Good s`: `C17.Inv` + machine bounds (`chunk_size` a `usize`, `position + remaining stream < 2^64`, so `position += 1` never overflows).
* `rs_ensure_buffer_eq`, `rs_increment_byte_eq`: `ensure_buffer` / `increment_byte` = `Buffered.ensure` / `incr` EXACTLY (no panic);
  `peek_cases`: the two outcomes of `ensure_buffer` + `current_buffer[current_byte]` + `increment_byte` in step with `Buffered.peek`.
* `Sim m p rel` (partial correctness), `TotalF k m` (no panic while fewer than `k` bytes remain) and their conjunction `SimT k m p rel`:
  what the other `Pgn*.lean` files prove method by method, by the combinators (`simT_bind`, `simT_try`, `simT_ite`, …; each proved once,
  for one run: `Agrees`) and, where the Rust code touches the buffer itself, by `simT_step` (the model's `Prog.step`).
* evaluation lemmas of the state monad `RsM` (`run_bind`, `bind_some`, …), deliberately not `rfl`-lemmas. -/

namespace Inkayaku.Translated
open Inkayaku.Pgn Inkayaku.C17

/-- a byte as the translation represents a `u8` -/
def byteI (b : UInt8) : Int := (b.toNat : Int)

def toRs (s : Buffered) : Rs.PgnRawParser Reader :=
  { reader := s.reader, chunk_size := (s.chunkSize : Int), eof_reached := s.eofReached, current_buffer := s.buf.map byteI,
    current_byte := (s.cur : Int), position := (s.position : Int) }

/-- MAPPING ASSUMPTION for `Read::read(&mut self.reader, &mut self.current_buffer)`: the call never fails, it writes
`n = min buf.len() (sched calls) rest.length` bytes to the front of the buffer (the rest of the buffer is unchanged) and returns `Ok(n)`,
exactly as the model's `Reader.read` -/
def readF {E : Type} (r : Reader) (buf : List Int) : Except E Int × Reader × List Int :=
  ((Except.ok (((r.read buf.length).1.length : Nat) : Int)), (r.read buf.length).2,
    (r.read buf.length).1.map byteI ++ buf.drop (r.read buf.length).1.length)

def ReadModel {E : Type} (rd : Reader → List Int → Except E Int × Reader × List Int) : Prop := ∀ r buf, rd r buf = readF r buf

/-- the states the theorems are about: the invariant of C17, machine-size bounds (`chunk_size: usize`, `position: u64` never overflows
while the rest of the stream is read) -/
structure Good (s : Buffered) : Prop where
  inv : Inv s
  chunk : s.chunkSize < 18446744073709551616
  pos : s.position + (stream s).length < 18446744073709551616

section
variable {σ α β : Type}
/-! evaluation lemmas of the state monad; deliberately NOT `rfl`-lemmas (`simp` would use those by definitional unfolding, and the kernel
then evaluates `chk` on 64-bit literals in unary) -/
theorem run_bind (m : Rs.RsM σ α) (f : α → Rs.RsM σ β) (s : σ) :
    (m >>= f) s = match m s with | none => none | some (a, s') => f a s' := by
  show Rs.RsM.bind' m f s = _
  unfold Rs.RsM.bind'
  rfl
theorem run_pure (a : α) (s : σ) : (pure a : Rs.RsM σ α) s = some (a, s) := by
  show Rs.RsM.pure' a s = _
  unfold Rs.RsM.pure'
  rfl
theorem run_get (s : σ) : (Rs.RsM.get : Rs.RsM σ σ) s = some (s, s) := by unfold Rs.RsM.get; rfl
theorem run_set (s t : σ) : (Rs.RsM.set t : Rs.RsM σ Unit) s = some ((), t) := by unfold Rs.RsM.set; rfl
theorem run_liftO (o : Option α) (s : σ) : (Rs.RsM.liftO o : Rs.RsM σ α) s = o.map (fun a => (a, s)) := by unfold Rs.RsM.liftO; rfl
theorem run_panic (s : σ) : (Rs.RsM.panic : Rs.RsM σ α) s = none := by unfold Rs.RsM.panic; rfl
theorem bind_some {m : Rs.RsM σ α} {f : α → Rs.RsM σ β} {s s' : σ} {a : α} (h : m s = some (a, s')) : (m >>= f) s = f a s' := by
  rw [run_bind, h]
theorem bind_none {m : Rs.RsM σ α} {f : α → Rs.RsM σ β} {s : σ} (h : m s = none) : (m >>= f) s = none := by
  rw [run_bind, h]
theorem omap_some {γ : Type} (f : α → γ) (a : α) : Option.map f (some a) = some (f a) := by unfold Option.map; rfl
theorem ite_true' (a b : α) : (if True then a else b) = a := if_pos trivial
theorem ite_false' (a b : α) : (if False then a else b) = b := if_neg id
theorem run_ite (c : Prop) [Decidable c] (m1 m2 : Rs.RsM σ α) (s : σ) : (if c then m1 else m2) s = if c then m1 s else m2 s := by
  split <;> rfl
end

theorem pure_bind_run {σ α β : Type} (a : α) (f : α → Rs.RsM σ β) : (pure a >>= f) = f a := by
  funext s; rw [run_bind, run_pure]

theorem vecResize_prefix {α : Type} (a b : List α) (d : α) : Rs.vecResize (a ++ b) ((a.length : Nat) : Int) d = a := by
  unfold Rs.vecResize
  rw [if_pos (by simp)]
  simp

/-- **`ensure_buffer` (translated) = the model's `Buffered.ensure`** (refill when the buffer is used up, short reads shrink the buffer,
`Ok(0)` clears it and sets `eof_reached`): same verdict, same state; no panic on a `Good` state (`bytes_read ≤ chunk_size`) -/
theorem rs_ensure_buffer_eq {E : Type} (rd : Reader → List Int → Except E Int × Reader × List Int) (hrd : ReadModel rd)
    (s : Buffered) (hg : Good s) :
    Rs.PgnRawParser.ensure_buffer rd (toRs s) = some (s.ensure.1, toRs s.ensure.2) := by
  have h2 := (read_spec s.reader s.buf.length hg.inv.sched_pos).2.1
  have hl := hg.inv.len_le
  unfold Rs.PgnRawParser.ensure_buffer Buffered.ensure
  -- evaluated, the translated body is the model's `if` tree: its tests on casts are the model's tests in `Nat`
  simp only [run_bind, run_get, run_ite, run_set, run_pure, run_panic, hrd _ _, readF, toRs, Rs.vecLen, List.length_map,
    decide_eq_true_eq, ge_iff_le, gt_iff_lt, Int.ofNat_le, Int.ofNat_lt, beq_iff_eq, Int.natCast_eq_zero]
  generalize s.reader.read s.buf.length = p at h2 ⊢
  obtain ⟨data, rdr⟩ := p
  simp only at h2 ⊢
  split
  · split
    · rfl
    · split
      · have := vecResize_prefix (data.map byteI) (List.drop data.length (s.buf.map byteI)) 0
        rw [List.length_map] at this
        simp only [this, List.take_left']
        rfl
      · rw [if_neg (by omega)]
        simp only [List.map_append, List.map_drop]
        rfl
  · rfl

theorem ensure_fields (s : Buffered) : s.ensure.2.chunkSize = s.chunkSize ∧ s.ensure.2.position = s.position := by
  unfold Buffered.ensure
  split
  · simp only []
    split
    · exact ⟨rfl, rfl⟩
    · split <;> exact ⟨rfl, rfl⟩
  · exact ⟨rfl, rfl⟩

theorem good_ensure (s : Buffered) (hg : Good s) : Good s.ensure.2 := by
  obtain ⟨h1, h2, _, _⟩ := ensure_spec s hg.inv
  obtain ⟨h3, h4⟩ := ensure_fields s
  exact ⟨h1, by rw [h3]; exact hg.chunk, by rw [h2, h4]; exact hg.pos⟩

theorem stream_pos {s : Buffered} (hlt : s.cur < s.buf.length) : 1 ≤ (stream s).length := by
  simp only [stream, List.length_append, List.length_drop]; omega

theorem good_incr (s : Buffered) (hg : Good s) (hlt : s.cur < s.buf.length) : Good s.incr := by
  obtain ⟨h1, h2⟩ := incr_spec s hg.inv hlt
  refine ⟨h1, hg.chunk, ?_⟩
  have hp := hg.pos
  have hne := stream_pos hlt
  rw [h2, List.length_tail]
  show s.position + 1 + _ < _
  omega

/-- **`increment_byte` (translated) = the model's `Buffered.incr`**; the two checked additions do not overflow on a `Good` state with
an unread byte in the buffer -/
theorem rs_increment_byte_eq {E : Type} (rd : Reader → List Int → Except E Int × Reader × List Int) (s : Buffered) (hg : Good s)
    (hlt : s.cur < s.buf.length) :
    Rs.PgnRawParser.increment_byte rd (toRs s) = some ((), toRs s.incr) := by
  unfold Rs.PgnRawParser.increment_byte
  have hl := hg.inv.len_le
  have hc := hg.chunk
  have hp := hg.pos
  have hne := stream_pos hlt
  have c1 : Rs.chk .usize ((toRs s).current_byte + 1) = some ((s.cur : Int) + 1) := by
    show Rs.chk .usize ((s.cur : Int) + 1) = _
    unfold Rs.chk; rw [if_pos]; simp only [Rs.Ty.lo, Rs.Ty.hi]; omega
  have c2 : Rs.chk .u64 ((toRs s).position + 1) = some ((s.position : Int) + 1) := by
    show Rs.chk .u64 ((s.position : Int) + 1) = _
    unfold Rs.chk; rw [if_pos]; simp only [Rs.Ty.lo, Rs.Ty.hi]; omega
  simp only [run_bind, run_get, run_set, run_liftO, c1, c2, Option.map_some]
  simp only [toRs, Buffered.incr, Int.natCast_add, Int.natCast_one]

theorem peek_cases {E : Type} (rd : Reader → List Int → Except E Int × Reader × List Int) (hrd : ReadModel rd)
    (s : Buffered) (hg : Good s) :
    (∃ b s1, s.peek = (some b, s1) ∧ Rs.PgnRawParser.ensure_buffer rd (toRs s) = some (true, toRs s1)
      ∧ Rs.vecIdx (toRs s1).current_buffer (toRs s1).current_byte = some (byteI b)
      ∧ Rs.PgnRawParser.increment_byte rd (toRs s1) = some ((), toRs s1.incr) ∧ Good s1 ∧ Good s1.incr)
    ∨ (∃ s1, s.peek = (none, s1) ∧ Rs.PgnRawParser.ensure_buffer rd (toRs s) = some (false, toRs s1) ∧ Good s1) := by
  have he := rs_ensure_buffer_eq rd hrd s hg
  have hg1 := good_ensure s hg
  obtain ⟨_, _, h3, _⟩ := ensure_spec s hg.inv
  unfold Buffered.peek
  generalize s.ensure = p at he hg1 h3 ⊢
  obtain ⟨ok, s1⟩ := p
  cases ok
  · exact Or.inr ⟨s1, rfl, he, hg1⟩
  · have hlt := h3 rfl
    simp only at hlt hg1 he ⊢
    refine Or.inl ⟨s1.buf[s1.cur], s1, ?_, he, ?_, rs_increment_byte_eq rd s1 hg1 hlt, hg1, good_incr s1 hg1 hlt⟩
    · rw [List.getElem?_eq_getElem hlt]
    · simp only [Rs.vecIdx, toRs, Int.toNat_natCast, List.getElem?_map, List.getElem?_eq_getElem hlt, Option.map_some]

/-- `m` (a translated `&mut self` method) simulates the model program `p`: whenever `m` returns (no panic, fuel not exhausted) on
the image of a `Good` model state, the model program ends in the corresponding state with a related result -/
def Sim {α β : Type} (m : Rs.RsM (Rs.PgnRawParser Reader) α) (p : Prog β) (rel : α → β → Prop) : Prop :=
  ∀ s a t, Good s → m (toRs s) = some (a, t) → t = toRs (run p s).2 ∧ rel a (run p s).1

def Total {α : Type} (m : Rs.RsM (Rs.PgnRawParser Reader) α) : Prop := ∀ s, Good s → m (toRs s) ≠ none

theorem good_run {α : Type} (p : Prog α) : ∀ s, Good s → Good (run p s).2 := by
  induction p with
  | ret a => intro s h; exact h
  | step inc k ih =>
    intro s hg
    rcases peek_cases (E := Unit) readF (fun _ _ => rfl) s hg with ⟨b, s1, h1, _, _, _, g1, g2⟩ | ⟨s1, h1, _, g1⟩
    · simp only [run, Source.peek, h1]
      split
      · exact ih _ _ g2
      · exact ih _ _ g1
    · simp only [run, Source.peek, h1]
      exact ih _ _ g1

/-- error kinds (the model drops the payloads `position` / `expected` / `actual`) -/
def pgnErrKind : Rs.PgnRawParserError → Err
  | .ReadingFromClosedRead => .closed
  | .IllegalConsume _ _ _ => .consume
  | .IllegalSymbol _ _ => .symbol

def relRes {α β : Type} (r : α → β → Prop) : Except Rs.PgnRawParserError α → Except Err β → Prop
  | .ok a, .ok b => r a b
  | .error e, .error e' => pgnErrKind e = e'
  | _, _ => False

def relByte (a : Int) (b : UInt8) : Prop := a = byteI b

theorem total_bind {α γ : Type} {β : Type} {m : Rs.RsM (Rs.PgnRawParser Reader) α} {f : α → Rs.RsM (Rs.PgnRawParser Reader) γ}
    {p : Prog β} {rel : α → β → Prop} (h0 : Total m) (h1 : Sim m p rel) (h2 : ∀ a, Total (f a)) : Total (m >>= f) := by
  intro s hg
  rw [run_bind]
  cases hm : m (toRs s) with
  | none => exact absurd hm (h0 s hg)
  | some x =>
    obtain ⟨a, s1⟩ := x
    obtain ⟨e1, _⟩ := h1 s a s1 hg hm
    subst e1
    exact h2 a _ (good_run p s hg)

/-! ### one run; simulation and no panic together

`Agrees k o p s rel` speaks of ONE run: the outcome `o` of a translated computation agrees with the model program `p` started in `s`,
and is not a panic (nor an exhausted loop counter) if fewer than `k` bytes are to come.  `SimT k m p rel` says so of every run of `m`
from a `Good` state; `Sim` alone is agreement at counter `0`.  The measure is the length of the remaining stream (`C17.stream`), which
no model program lengthens (`stream_run_le`); a loop at counter `k + 1` reaches counter `k` after a call that consumed a byte
(`simT_try_at`) or a `Prog.step` that did (`simT_step`). -/

def TotalF {α : Type} (fuel : Nat) (m : Rs.RsM (Rs.PgnRawParser Reader) α) : Prop :=
  ∀ s, Good s → (stream s).length < fuel → m (toRs s) ≠ none

theorem stream_run {α : Type} (p : Prog α) (s : Buffered) (hg : Good s) :
    (run p s).1 = (run p (stream s)).1 ∧ stream (run p s).2 = (run p (stream s)).2 := by
  obtain ⟨h1, _, h3⟩ := reader_bytes p s (stream s) ⟨hg.inv, rfl⟩
  exact ⟨h1, h3⟩

theorem stream_run_le {α : Type} (p : Prog α) (s : Buffered) (hg : Good s) : (stream (run p s).2).length ≤ (stream s).length := by
  rw [(stream_run p s hg).2]; exact run_length_le p _

def Agrees {α β : Type} (k : Nat) (o : Option (α × Rs.PgnRawParser Reader)) (p : Prog β) (s : Buffered) (rel : α → β → Prop) : Prop :=
  (∀ a t, o = some (a, t) → t = toRs (run p s).2 ∧ rel a (run p s).1) ∧ ((stream s).length < k → o ≠ none)

theorem sim_get_bind {β γ : Type} {f : Rs.PgnRawParser Reader → Rs.RsM (Rs.PgnRawParser Reader) γ} {p : Prog β} {rel : γ → β → Prop}
    (h : ∀ g, Sim (f g) p rel) : Sim (Rs.RsM.get >>= f) p rel := by
  intro s a t hg hm
  rw [bind_some (run_get _)] at hm
  exact h _ s a t hg hm

def SimT {α β : Type} (k : Nat) (m : Rs.RsM (Rs.PgnRawParser Reader) α) (p : Prog β) (rel : α → β → Prop) : Prop :=
  Sim m p rel ∧ TotalF k m

section
variable {α β γ δ : Type} {k k' : Nat} {m : Rs.RsM (Rs.PgnRawParser Reader) α} {f : α → Rs.RsM (Rs.PgnRawParser Reader) γ}
  {p p' : Prog β} {g : β → Prog δ} {rel : α → β → Prop} {rel' : γ → δ → Prop} {s s' : Buffered} {o : Option (α × Rs.PgnRawParser Reader)}

theorem SimT.at (h : SimT k m p rel) (hg : Good s) : Agrees k (m (toRs s)) p s rel :=
  ⟨fun a t e => h.1 s a t hg e, fun hl => h.2 s hg hl⟩

theorem simT_of_at (h : ∀ s, Good s → Agrees k (m (toRs s)) p s rel) : SimT k m p rel :=
  ⟨fun s a t hg e => (h s hg).1 a t e, fun s hg hl => (h s hg).2 hl⟩

theorem Sim.at (h : Sim m p rel) (hg : Good s) : Agrees 0 (m (toRs s)) p s rel :=
  ⟨fun a t e => h s a t hg e, fun hl => absurd hl (Nat.not_lt_zero _)⟩

theorem sim_of_at (h : ∀ s, Good s → Agrees 0 (m (toRs s)) p s rel) : Sim m p rel := fun s a t hg e => (h s hg).1 a t e

theorem Agrees.pure {a : α} {b : β} (h : rel a b) : Agrees k ((pure a : Rs.RsM (Rs.PgnRawParser Reader) α) (toRs s)) (Prog.ret b) s rel := by
  rw [run_pure]
  exact ⟨fun _ _ e => by cases e; exact ⟨rfl, h⟩, fun _ => Option.some_ne_none _⟩

theorem Agrees.of_run (h : Agrees k' o p' s' rel) (hr : run p s = run p' s') (hk : (stream s).length < k → (stream s').length < k') :
    Agrees k o p s rel :=
  ⟨fun a t e => hr ▸ h.1 a t e, fun hl => h.2 (hk hl)⟩

/-- sequencing, for one run: the continuation is met in the state and with the result the model reaches, at a counter `k'` of its
own that still exceeds the stream there -/
theorem Agrees.bind {t0 : Rs.PgnRawParser Reader} (h1 : Agrees k (m t0) p s rel)
    (h2 : ∀ a, rel a (run p s).1 → ∃ k', ((stream s).length < k → (stream (run p s).2).length < k') ∧
      Agrees k' (f a (toRs (run p s).2)) (g (run p s).1) (run p s).2 rel') :
    Agrees k ((m >>= f) t0) (Prog.bind p g) s rel' := by
  unfold Agrees
  rw [run_bind, run_pbind]
  cases hm : m t0 with
  | none => exact ⟨fun _ _ e => (nomatch e), fun hl => absurd hm (h1.2 hl)⟩
  | some x =>
    obtain ⟨a, t⟩ := x
    obtain ⟨rfl, e2⟩ := h1.1 a t hm
    obtain ⟨k', hk, h⟩ := h2 a e2
    exact ⟨h.1, fun hl => h.2 (hk hl)⟩

end

theorem sim_bind {α β γ δ : Type} {m : Rs.RsM (Rs.PgnRawParser Reader) α} {f : α → Rs.RsM (Rs.PgnRawParser Reader) γ}
    {p : Prog β} {g : β → Prog δ} {rel : α → β → Prop} {rel' : γ → δ → Prop}
    (h1 : Sim m p rel) (h2 : ∀ a b, rel a b → Sim (f a) (g b) rel') : Sim (m >>= f) (Prog.bind p g) rel' :=
  sim_of_at fun s hg => (h1.at hg).bind fun a hr => ⟨0, fun hl => absurd hl (Nat.not_lt_zero _), (h2 a _ hr).at (good_run p s hg)⟩

theorem sim_pure {α β : Type} {a : α} {b : β} {rel : α → β → Prop} (h : rel a b) : Sim (pure a) (Prog.ret b) rel :=
  sim_of_at fun _ _ => Agrees.pure h

section
variable {α β γ δ : Type} {k k' : Nat} {m : Rs.RsM (Rs.PgnRawParser Reader) α} {f : α → Rs.RsM (Rs.PgnRawParser Reader) γ}
  {p : Prog β} {g : β → Prog δ} {rel : α → β → Prop} {rel' : γ → δ → Prop}

theorem simT_mono (hk : k' ≤ k) (h : SimT k m p rel) : SimT k' m p rel :=
  ⟨h.1, fun s hg hl => h.2 s hg (Nat.lt_of_lt_of_le hl hk)⟩

theorem simT_pure {a : α} {b : β} (h : rel a b) : SimT k (pure a) (Prog.ret b) rel := simT_of_at fun _ _ => Agrees.pure h

/-- the loop counter has run out: the translation panics, and no state has fewer than `0` bytes to come -/
theorem simT_zero : SimT 0 (Rs.RsM.panic : Rs.RsM (Rs.PgnRawParser Reader) α) p rel := by
  refine ⟨fun s a t _ hm => ?_, fun _ _ hl => absurd hl (Nat.not_lt_zero _)⟩
  rw [run_panic] at hm
  cases hm

theorem simT_bind (h1 : SimT k m p rel) (h2 : ∀ a b, rel a b → SimT k (f a) (g b) rel') :
    SimT k (m >>= f) (Prog.bind p g) rel' :=
  simT_of_at fun s hg => (h1.at hg).bind fun a hr =>
    ⟨k, fun hl => Nat.lt_of_le_of_lt (stream_run_le p s hg) hl, (h2 a _ hr).at (good_run p s hg)⟩

/-- `if c { .. } else { .. }` on both sides, the translated test `c` a `bool` that decides the model's `d` -/
theorem simT_ite {c : Bool} {d : Prop} [Decidable d] {m1 m2 : Rs.RsM (Rs.PgnRawParser Reader) α} {p1 p2 : Prog β} (hcd : c = decide d)
    (h1 : d → SimT k m1 p1 rel) (h2 : ¬ d → SimT k m2 p2 rel) : SimT k (if c = true then m1 else m2) (if d then p1 else p2) rel := by
  subst hcd
  by_cases hd : d
  · rw [if_pos (decide_eq_true hd), if_pos hd]; exact h1 hd
  · rw [if_neg (by simp [hd]), if_neg hd]; exact h2 hd

/-- `if !c { break/return }`: the translation leaves where the model's `if d` has its `else` -/
theorem simT_ite_false {c : Bool} {d : Prop} [Decidable d] {m1 m2 : Rs.RsM (Rs.PgnRawParser Reader) α} {p1 p2 : Prog β} (hcd : c = decide d)
    (h1 : d → SimT k m2 p1 rel) (h2 : ¬ d → SimT k m1 p2 rel) : SimT k (if c = false then m1 else m2) (if d then p1 else p2) rel := by
  subst hcd
  by_cases hd : d
  · rw [if_neg (by simp [hd]), if_pos hd]; exact h1 hd
  · rw [if_pos (decide_eq_false hd), if_neg hd]; exact h2 hd

theorem simT_pure_bind {a : α} {p : Prog δ} (h : SimT k (f a) p rel') : SimT k (pure a >>= f) p rel' := by
  rw [pure_bind_run]; exact h

theorem simT_get_bind {f : Rs.PgnRawParser Reader → Rs.RsM (Rs.PgnRawParser Reader) γ} {p : Prog δ}
    (h : ∀ g, SimT k (f g) p rel') : SimT k (Rs.RsM.get >>= f) p rel' :=
  simT_of_at fun s hg => by rw [bind_some (run_get _)]; exact (h _).at hg
end

section
variable {α β γ δ : Type} {K : Nat} {m : Rs.RsM (Rs.PgnRawParser Reader) (Except Rs.PgnRawParserError α)}
  {F : Except Rs.PgnRawParserError α → Rs.RsM (Rs.PgnRawParser Reader) γ} {p : M β} {g : β → M δ} {r : α → β → Prop}
  {rel' : γ → Except Err δ → Prop}

/-- `let v = m?; ..`: `F` is the `match` of the translation (`Ok(v)` goes on, `Err(e)` returns `c`, which is `Err(e)` in a function
body and `Ctl.ret (Err(e))` inside a loop).  The `Ok` continuation is needed at a counter `kf b` above what is left of the stream after
an `Ok b` of the model program: the same counter if nothing is known, one lower after a call that consumed a byte (the fuel step of
every loop whose body is a call). -/
theorem simT_try_at {kf : β → Nat} (h1 : SimT K m p (relRes r))
    (hdec : ∀ s b, Good s → (stream s).length < K → (run p s).1 = .ok b → (stream (run p s).2).length < kf b)
    (herr : ∀ e, ∃ c, F (.error e) = pure c ∧ rel' c (.error (pgnErrKind e)))
    (hok : ∀ v b, r v b → SimT (kf b) (F (.ok v)) (g b) rel') : SimT K (m >>= F) (M.bind p g) rel' := by
  unfold M.bind
  refine simT_of_at fun s hg => (h1.at hg).bind fun a hr => ?_
  generalize hb : (run p s).1 = out at hr ⊢
  match a, out, hr with
  | .ok v, .ok b, hr => exact ⟨kf b, fun hl => hdec s b hg hl hb, (hok v b hr).at (good_run p s hg)⟩
  | .error e, .error e', hr =>
    obtain ⟨c, hF, hc⟩ := herr e
    rw [hF]
    subst hr
    exact ⟨_, fun _ => Nat.lt_succ_self _, Agrees.pure hc⟩

theorem simT_try (h1 : SimT K m p (relRes r)) (herr : ∀ e, ∃ c, F (.error e) = pure c ∧ rel' c (.error (pgnErrKind e)))
    (hok : ∀ v b, r v b → SimT K (F (.ok v)) (g b) rel') : SimT K (m >>= F) (M.bind p g) rel' :=
  simT_try_at (kf := fun _ => K) h1 (fun s _ hg hl _ => Nat.lt_of_le_of_lt (stream_run_le p s hg) hl) herr hok

/-- what a model program leaves of the stream, read off its run on the plain byte list -/
theorem stream_lt_of {n : Nat} {b : β} (s : Buffered) (hg : Good s) (hb : (run p s).1 = .ok b)
    (hp : ∀ l', run p (stream s) = (.ok b, l') → l'.length < n) : (stream (run p s).2).length < n := by
  obtain ⟨r1, r2⟩ := stream_run p s hg
  rw [r2]
  exact hp _ (Prod.ext (r1.symm.trans hb) rfl)
end


theorem total_of_simT {α β : Type} {m : Rs.RsM (Rs.PgnRawParser Reader) α} {p : Prog β} {rel : α → β → Prop}
    (h : ∀ k, SimT k m p rel) : Total m := fun s hg => (h _).2 s hg (Nat.lt_succ_self _)

theorem simT_exists {α β : Type} {m : Rs.RsM (Rs.PgnRawParser Reader) α} {p : Prog β} {rel : α → β → Prop}
    (h : ∀ k, SimT k m p rel) (s : Buffered) (hg : Good s) :
    ∃ a, m (toRs s) = some (a, toRs (run p s).2) ∧ rel a (run p s).1 := by
  cases hm : m (toRs s) with
  | none => exact absurd hm (total_of_simT h s hg)
  | some x =>
    obtain ⟨e1, e2⟩ := (h 0).1 s x.1 x.2 hg hm
    exact ⟨x.1, by rw [← e1], e2⟩

theorem bind_assoc_run {σ α β γ : Type} (m : Rs.RsM σ α) (f : α → Rs.RsM σ β) (g : β → Rs.RsM σ γ) :
    (m >>= f) >>= g = m >>= fun a => f a >>= g := by
  funext s
  simp only [run_bind]
  cases m s <;> rfl

/-- **the model's primitive against the translated `ensure_buffer(); ..`**: `F false` continues as `K none`; `F true`, run in the state
`s1` after `ensure_buffer` where `current_buffer[current_byte]` is `b` and `increment_byte` succeeds, continues as `K (some b)` from
`s1.incr` (a byte fewer: counter `k'`) or `s1`, as `inc` says.  Every byte-level fact of the reader is an instance. -/
theorem simT_step {E : Type} (rd : Reader → List Int → Except E Int × Reader × List Int) (hrd : ReadModel rd) {γ δ : Type} {k k' : Nat}
    {inc : Option UInt8 → Bool} {K : Option UInt8 → Prog δ} {F : Bool → Rs.RsM (Rs.PgnRawParser Reader) γ} {rel : γ → δ → Prop}
    (hk : k ≤ k' + 1) (hF : SimT k (F false) (K none) rel)
    (hT : ∀ b s1, Good s1 → Good s1.incr → Rs.vecIdx (toRs s1).current_buffer (toRs s1).current_byte = some (byteI b) →
      Rs.PgnRawParser.increment_byte rd (toRs s1) = some ((), toRs s1.incr) →
      Agrees (if inc (some b) then k' else k) (F true (toRs s1)) (K (some b)) (if inc (some b) then s1.incr else s1) rel) :
    SimT k (Rs.PgnRawParser.ensure_buffer rd >>= F) (Prog.step inc K) rel := by
  refine simT_of_at fun s hg => ?_
  obtain ⟨_, _, p3, p4⟩ := peek_spec s hg.inv
  rcases peek_cases rd hrd s hg with ⟨b, s1, h1, h2, h3, h4, g1, g2⟩ | ⟨s1, h1, h2, g1⟩
  · rw [h1] at p3 p4
    simp only at p3 p4
    rw [bind_some h2]
    refine (hT b s1 g1 g2 h3 h4).of_run (by simp only [run, Source.peek, h1]; rfl) (fun hl => ?_)
    have hlt := p4 b rfl
    have h5 := (incr_spec s1 g1.inv hlt).2
    have h6 := stream_pos hlt
    have h7 := congrArg List.length p3
    split
    · rw [h5, List.length_tail]; omega
    · omega
  · rw [h1] at p3
    rw [bind_some h2]
    exact (hF.at g1).of_run (by simp only [run, Source.peek, h1]) (fun hl => by rw [p3]; exact hl)

#print axioms rs_ensure_buffer_eq
#print axioms rs_increment_byte_eq
#print axioms peek_cases
#print axioms sim_bind

/-- non-vacuity: the initial state `with_chunk_size(reader, 3)` over a fragmenting reader is `Good` -/
example : Good (Buffered.new ⟨[91, 10], fun _ => 2, 0⟩ 3) :=
  ⟨(R_new 3 (fun _ => 2) [91, 10] (by decide) (fun _ => by decide)).1, by decide, by decide⟩

end Inkayaku.Translated
