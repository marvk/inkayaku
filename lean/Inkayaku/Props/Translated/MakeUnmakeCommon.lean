import Inkayaku.Model.Board
import Inkayaku.Gen.Rs.MakeUnmake
import Inkayaku.Props.Translated.MoveBits
import Inkayaku.Props.Translated.PlayerState
import Inkayaku.Props.Translated.Demo
import Inkayaku.Props.Translated.RefIndex
/-! What the proofs about `Bitboard::make` (`Make.lean`) and `Bitboard::unmake` (`Unmake.lean`) share; nothing here is about the
bodies of the two functions.

The generated `Bitboard.make` / `.unmake` take the six fields of the Rust `Bitboard` (`white`, `black` as regenerated
`PlayerState` structures = `toRsSide` of the model's sides) and the move word, and return the six new fields.
`get_active_and_passive_mut()` is translated as copy-in / write-back of the two borrowed fields, the `*x.pawns_ref() &= ..`
statements as bounds-checked array updates (`PlayerState::{occupancy_ref, kings_ref, rooks_ref, pawns_ref}` yield the
index), `make_castle(active, ..)` as a function returning the new `PlayerState`.

`Make.lean` and `Unmake.lean` do not import each other, so that a change of one Rust function leaves the theorems about the
other standing.
-/

namespace Inkayaku.Translated
open Inkayaku.Board Inkayaku.Gen Inkayaku.MoveBits Inkayaku.MakeUnmake

@[rs_eval] theorem occ_index (p : Nat) (hp : p < 7) : Rs.PlayerState.occupancy_ref_index p.toUInt64 = some (p : Int) := by
  have h64 : p < 18446744073709551616 := by omega
  unfold Rs.PlayerState.occupancy_ref_index
  simp only [rs_eval, h64]


/-- the square of the pawn taken en passant: `if is_white_turn { target << 8 } else { target >> 8 }` -/
@[rs_eval] theorem rs_ep_victim (c : Bool) (x : UInt64) :
    (if c = true then some (x <<< 8) else some (x >>> 8)) = some (epVictim c x) := by
  cases c <;> rfl

/-- the same square in `unmake`, where the test is on the turn after the move: `if is_white_turn { target >> 8 } else { target << 8 }` -/
@[rs_eval] theorem rs_ep_victim_opp (c : Bool) (x : UInt64) :
    (if c = true then some (x >>> 8) else some (x <<< 8)) = some (epVictim (!c) x) := by
  cases c <;> rfl

@[rs_eval] theorem castle_masks :
    Rs.A1_MASK = some (bitU A1) ∧ Rs.D1_MASK = some (bitU D1) ∧ Rs.F1_MASK = some (bitU F1) ∧ Rs.H1_MASK = some (bitU H1) ∧
    Rs.A8_MASK = some (bitU A8) ∧ Rs.D8_MASK = some (bitU D8) ∧ Rs.F8_MASK = some (bitU F8) ∧ Rs.H8_MASK = some (bitU H8) := by
  decide

/-! `get_active_and_passive_mut()`: the generated code borrows `(white, black)` or `(black, white)` by a test on the turn and
writes back by the same test; in the model that pair is `(b.active, b.passive)` -/

@[rs_eval] theorem pair_toRs (c : Bool) (x y : Side) :
    (if c = true then (toRsSide x, toRsSide y) else (toRsSide y, toRsSide x)) =
      (toRsSide (if c then x else y), toRsSide (if c then y else x)) := by
  cases c <;> rfl

theorem turn_flip (b : Board) : ((1 - b.turn : Nat) == 0) = !b.whiteTurn := Bits.other_beq_zero b.turn

theorem not_active (b : Board) : (if (!b.whiteTurn) = true then b.black else b.white) = b.active := by
  unfold Board.active
  cases b.whiteTurn <;> rfl

theorem not_passive (b : Board) : (if (!b.whiteTurn) = true then b.white else b.black) = b.passive := by
  unfold Board.passive
  cases b.whiteTurn <;> rfl

theorem write_back (c : Bool) (A P : Side) (t e fm hm : Nat) :
    ((if (!c) = true then toRsSide P else toRsSide A, if (!c) = true then toRsSide A else toRsSide P,
        (t : Int), (e : Int), (fm : Int), (hm : Int)) : Rs.PlayerState × Rs.PlayerState × Int × Int × Int × Int) =
      boardFields { white := if c then A else P, black := if c then P else A, turn := t, ep := e, fullmove := fm, halfmove := hm } := by
  cases c <;> rfl

/-- the two `if mv.is_.._lost_.._castle() { x.king_side_castle = v; }` statements on `toRsSide s` -/
@[rs_eval] theorem flags2 {β : Type} (s : Side) (k q v : Bool) (F : Rs.PlayerState → Option β) :
    ((if k = true then some (Rs.PlayerState.mk (toRsSide s).occupancy s.qs v) else some (toRsSide s)).bind
      fun a => (if q = true then some (Rs.PlayerState.mk a.occupancy v a.king_side_castle) else some a).bind F) =
    F (toRsSide (if v then giveRights s k q else dropRights s k q)) := by
  cases k <;> cases q <;> cases v <;> rfl

end Inkayaku.Translated
