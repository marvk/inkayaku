import Inkayaku.Gen.Rs.Board
import Inkayaku.Model.Board
import Inkayaku.Props.Translated.Basic

namespace Inkayaku.Translated
open Inkayaku.Rs Inkayaku.Board

/-! `Bitboard::ply_clock` (generated `Bitboard.ply_clock`) = `Board.plyClock`, under the exact no-overflow condition of the `u32`
arithmetic; outside it the Rust panics (`rs_ply_clock_panics`). -/
theorem rs_ply_clock_eq (b : Board) (hf : b.fullmove < 4294967296) (hno : 2 * (b.fullmove - 1) + b.turn < 4294967296) :
    Bitboard.ply_clock (b.turn : Int) (b.fullmove : Int) = some ((plyClock b : Nat) : Int) := by
  unfold Bitboard.ply_clock plyClock
  have hs : satSub .u32 (b.fullmove : Int) 1 = ((b.fullmove - 1 : Nat) : Int) := by
    simp only [satSub, Ty.lo, Ty.hi]; omega
  simp (disch := omega) only [hs, rs_eval, cast_u16_eq]
  exact congrArg some (by omega)

#print axioms rs_ply_clock_eq

/-- non-vacuity: move 1 black to move, and the largest full-move number that does not overflow -/
example : Bitboard.ply_clock 1 1 = some 1 := by decide
example : Bitboard.ply_clock 1 2147483648 = some 65535 := by decide

theorem rs_ply_clock_panics (b : Board) (hf : b.fullmove < 4294967296) (hno : ¬ 2 * (b.fullmove - 1) + b.turn < 4294967296) :
    Bitboard.ply_clock (b.turn : Int) (b.fullmove : Int) = none := by
  unfold Bitboard.ply_clock
  have hs : satSub .u32 (b.fullmove : Int) 1 = ((b.fullmove - 1 : Nat) : Int) := by
    simp only [satSub, Ty.lo, Ty.hi]; omega
  simp only [hs, Option.bind_eq_bind, Option.pure_def]
  by_cases h1 : 2 * ((b.fullmove - 1 : Nat) : Int) ≤ 4294967295
  · rw [chk_u32 (by omega) h1, Option.bind_some, chk_eq_none (by simp only [Ty.hi]; omega)]; rfl
  · rw [chk_eq_none (by simp only [Ty.hi]; omega)]; rfl

#print axioms rs_ply_clock_panics

/-- non-vacuity: `2 * (2^31 + 1 - 1)` does not fit `u32` -/
example : Bitboard.ply_clock 0 2147483649 = none := by decide

end Inkayaku.Translated
