import Inkayaku.Proofs.GenFacts
import Inkayaku.Model.FenBoard
/-!
# C06 for generated moves, unconditionally

`Props/C06.lean` proves the incremental Zobrist identities relative to the decidable hypothesis
`ZobristStep.HashMoveOK b m.f`.  `GenFacts.genPseudo_hashok` shows that this hypothesis holds for every move the
generator emits on a well-formed board, so here the identities are stated with no hypothesis other than
"`b` is a legal position (`wf`) and `m` was generated".  Any half-move clock `wf` allows; pseudo-legal moves included.
-/
namespace Inkayaku.C06Gen
open Inkayaku.Board Inkayaku.Zobrist

/-- **C06, position hash, every generated move**: XOR-ing `zobrist_xor(m).0` into the hash of `b` gives the hash
computed from scratch for the position after `m` -/
theorem hash_incremental_generated {b : Board} (hwf : WF.wf b = true) {m : Move} (hm : m ∈ genPseudo b) :
    Zobrist.hash (make b m) = Zobrist.hash b ^^^ (xorOf m.f).1 :=
  ZobristStep.hash_incremental (GenFacts.genPseudo_hashok hwf m hm)

/-- **C06, pawn hash, every generated move** -/
theorem pawnHash_incremental_generated {b : Board} (hwf : WF.wf b = true) {m : Move} (hm : m ∈ genPseudo b) :
    pawnHash (make b m) = pawnHash b ^^^ (xorOf m.f).2 :=
  ZobristStep.pawnHash_incremental (GenFacts.genPseudo_hashok hwf m hm)

theorem hash_incremental_legal {b : Board} (hwf : WF.wf b = true) {m : Move} (hm : m ∈ genLegal b) :
    Zobrist.hash (make b m) = Zobrist.hash b ^^^ (xorOf m.f).1 ∧ pawnHash (make b m) = pawnHash b ^^^ (xorOf m.f).2 :=
  ⟨hash_incremental_generated hwf (List.mem_filter.mp hm).1, pawnHash_incremental_generated hwf (List.mem_filter.mp hm).1⟩

theorem hash_incremental_nonQuiescent {b : Board} (hwf : WF.wf b = true) {m : Move} (hm : m ∈ genNonQuiescent b) :
    Zobrist.hash (make b m) = Zobrist.hash b ^^^ (xorOf m.f).1 ∧ pawnHash (make b m) = pawnHash b ^^^ (xorOf m.f).2 :=
  ⟨ZobristStep.hash_incremental (GenFacts.genNonQuiescent_hashok hwf m hm),
   ZobristStep.pawnHash_incremental (GenFacts.genNonQuiescent_hashok hwf m hm)⟩

#print axioms hash_incremental_generated
#print axioms pawnHash_incremental_generated
#print axioms hash_incremental_legal
#print axioms hash_incremental_nonQuiescent

/-! ## Non-vacuity: well-formed positions with generated moves of every kind -/

def bd (s : String) : Board :=
  match FenBoard.fromFenString s with
  | .ok b => b
  | .error _ => default

/-- castling, an e.p. capture, promotions with and without capture (taking the a8 rook, which costs black the
queen-side right), king and rook moves that lose the white right -/
def mixed := "r3k3/1P6/8/3pP3/8/8/8/4K2R w Kq d6 0 2"
def kiwipete := "r3k2r/p1ppqpb1/bn2pnp1/3PN3/1p2P3/2N2Q1p/PPPBBPPP/R3K2R w KQkq - 0 1"

example : WF.wf (bd mixed) = true ∧ (genPseudo (bd mixed)).length = 25 ∧ (genLegal (bd mixed)).length = 25 := by
  decide +kernel
example : WF.wf (bd kiwipete) = true ∧ (genPseudo (bd kiwipete)).length = 48 := by decide +kernel
-- `GenFacts` (decidable) evaluated directly on every generated move, independently of the proof
example : (genPseudo (bd mixed)).all (fun m => decide (GenFacts.GenFacts (bd mixed) m.f)) = true := by decide +kernel
example : (genPseudo (bd kiwipete)).all (fun m => decide (GenFacts.GenFacts (bd kiwipete) m.f)) = true := by
  decide +kernel

example (m : Move) (hm : m ∈ genPseudo (bd kiwipete)) :
    Zobrist.hash (make (bd kiwipete) m) = Zobrist.hash (bd kiwipete) ^^^ (xorOf m.f).1 :=
  hash_incremental_generated (by decide +kernel) hm

open Inkayaku.Gen

/-- the e.p. key of the CODE depends on the file of the square only (all 64 squares of the current build): this ties the
8-entry key list used by the model and by `hash_ep_file` to `Zobrist::en_passant_square_hash` -/
theorem ep_key_by_file :
    zobristEnPassantBySquare.length = 64 ∧
    (List.range 64).all (fun sq => zobristEnPassantBySquare.getD sq 0 == zobristEnPassant.getD (sq % 8) 0) = true := by
  decide +kernel

#print axioms ep_key_by_file

end Inkayaku.C06Gen
