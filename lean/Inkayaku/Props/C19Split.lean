import Inkayaku.Model.Json
import Inkayaku.Model.Lichess
import Inkayaku.Proofs.TextLemmas
/-!
# C19, `moves_split`: the space separated move string decodes to the move list, in order
-/
namespace Inkayaku.Props.C19
open Inkayaku.Json Inkayaku.Lichess

/-- `Lichess.splitOn` is the split function of the FEN model, `Lichess.joinWith` the join of the FEN specification: their
lemmas are those of `TextLemmas` -/
theorem splitOn_eq (sep : Char) : ∀ l : List Char, splitOn sep l = FenSyntax.splitOnChar sep l
  | [] => rfl
  | c :: cs => by
    rw [splitOn, FenSyntax.splitOnChar, splitOn_eq sep cs]
    split
    · rfl
    · cases FenSyntax.splitOnChar sep cs <;> rfl

theorem joinWith_eq (sep : Char) : ∀ l : List (List Char), joinWith sep l = FenText.joinWith sep l
  | [] => rfl
  | [_] => rfl
  | t :: u :: rest => by rw [joinWith, FenText.joinWith, joinWith_eq sep (u :: rest)]

theorem splitOn_joinWith (sep : Char) :
    ∀ (l : List (List Char)), l ≠ [] → (∀ t ∈ l, sep ∉ t) → splitOn sep (joinWith sep l) = l := by
  intro l hne h
  rw [splitOn_eq, joinWith_eq]
  exact Text.splitOnChar_joinWith hne h

def tokenOk (t : List Char) : Bool := !t.isEmpty && t.all (fun c => !isRustWs c && !needsEscape c)

/-- **C19 (moves), empty case**: the empty string (and any all-blank string) means "no moves" -/
theorem moves_split_empty : spaceSv [] = [] ∧ spaceSv [' '] = [] ∧ spaceSv [' ', ' ', ' '] = [] := by decide

/-- **C19 (moves)**: a non-empty list of tokens that contain no space, joined by single spaces, decodes to exactly that
list, in order -- provided the joined string is not all white space (Rust's `trim().is_empty()` test looks at Unicode
white space, so e.g. the one-token list `[" "]` decodes to `[]`). -/
theorem moves_split (ms : List (List Char)) (hne : ms ≠ []) (hsp : ∀ t ∈ ms, ' ' ∉ t)
    (hws : (joinWith ' ' ms).all isRustWs = false) : spaceSv (joinWith ' ' ms) = ms := by
  unfold spaceSv
  rw [hws]
  simpa using splitOn_joinWith ' ' ms hne hsp

#print axioms moves_split

theorem joinWith_head (sep : Char) (c : Char) (t : List Char) (rest : List (List Char)) :
    ∃ r, joinWith sep ((c :: t) :: rest) = c :: r := by
  cases rest with
  | nil => exact ⟨t, rfl⟩
  | cons u rest => exact ⟨t ++ sep :: joinWith sep (u :: rest), rfl⟩

theorem tokenOk_noSpace {t : List Char} (h : tokenOk t = true) : ' ' ∉ t := by
  intro hm
  simp only [tokenOk, Bool.and_eq_true, List.all_eq_true] at h
  have := h.2 ' ' hm
  simp [isRustWs] at this

/-- corollary for token lists as the API sends them (UCI moves: `[a-h][1-8][a-h][1-8][qrbn]?`) -/
theorem moves_split_tokens (ms : List (List Char)) (h : ms.all tokenOk = true) : spaceSv (joinWith ' ' ms) = ms := by
  cases ms with
  | nil => simp [joinWith, spaceSv]
  | cons t rest =>
    have hall : ∀ x ∈ t :: rest, tokenOk x = true := by simpa [List.all_eq_true] using h
    apply moves_split _ (by simp) (fun x hx => tokenOk_noSpace (hall x hx))
    have ht := hall t (by simp)
    cases t with
    | nil => simp [tokenOk] at ht
    | cons c t' =>
      obtain ⟨r, hr⟩ := joinWith_head ' ' c t' rest
      rw [hr]
      simp only [tokenOk, Bool.and_eq_true, List.all_eq_true] at ht
      have hc := ht.2 c (by simp)
      simp only [Bool.not_eq_true'] at hc
      simp [hc.1]

def isFile (c : Char) : Bool := 97 ≤ c.toNat && c.toNat ≤ 104     -- a..h
def isRank (c : Char) : Bool := 49 ≤ c.toNat && c.toNat ≤ 56      -- 1..8
def isPromo (c : Char) : Bool := c.toNat == 113 || c.toNat == 114 || c.toNat == 98 || c.toNat == 110   -- q r b n

/-- the shape of a UCI move as Lichess sends it: two squares and an optional promotion piece out of `q r b n`
(`inkayaku_uci::UciMove::from_str` accepts more, see Props/C19Moves) -/
def isUciShape (t : List Char) : Bool :=
  match t with
  | [a, b, c, d] => isFile a && isRank b && isFile c && isRank d
  | [a, b, c, d, p] => isFile a && isRank b && isFile c && isRank d && isPromo p
  | _ => false

theorem charOk_of_range {c : Char} (h : 49 ≤ c.toNat ∧ c.toNat ≤ 122) (h2 : c.toNat ≠ 92) :
    (!isRustWs c && !needsEscape c) = true := by
  have h34 : ¬ c = '"' := fun e => by subst e; simp at h
  have h92 : ¬ c = '\\' := fun e => by subst e; simp at h2
  have hw : isRustWs c = false := by
    simp only [isRustWs, Bool.or_eq_false_iff, Bool.and_eq_false_iff, beq_eq_false_iff_ne, decide_eq_false_iff_not, ne_eq]
    omega
  have he : needsEscape c = false := by
    simp only [needsEscape, Bool.or_eq_false_iff, beq_eq_false_iff_ne, decide_eq_false_iff_not, ne_eq]
    exact ⟨⟨h34, h92⟩, by omega⟩
  simp [hw, he]

theorem charOk_file {c : Char} (h : isFile c = true) : (!isRustWs c && !needsEscape c) = true := by
  simp only [isFile, Bool.and_eq_true, decide_eq_true_eq] at h
  exact charOk_of_range (by omega) (by omega)
theorem charOk_rank {c : Char} (h : isRank c = true) : (!isRustWs c && !needsEscape c) = true := by
  simp only [isRank, Bool.and_eq_true, decide_eq_true_eq] at h
  exact charOk_of_range (by omega) (by omega)
theorem charOk_promo {c : Char} (h : isPromo c = true) : (!isRustWs c && !needsEscape c) = true := by
  simp only [isPromo, Bool.or_eq_true, beq_iff_eq] at h
  exact charOk_of_range (by omega) (by omega)

theorem uciShape_tokenOk (t : List Char) (h : isUciShape t = true) : tokenOk t = true := by
  unfold isUciShape at h
  split at h
  · simp only [Bool.and_eq_true] at h
    simp [tokenOk, charOk_file h.1.1.1, charOk_rank h.1.1.2, charOk_file h.1.2, charOk_rank h.2]
  · simp only [Bool.and_eq_true] at h
    simp [tokenOk, charOk_file h.1.1.1.1, charOk_rank h.1.1.1.2, charOk_file h.1.1.2, charOk_rank h.1.2, charOk_promo h.2]
  · simp at h

/-- every list of UCI-shaped moves (any length, promotions and castling included) survives the wire format -/
theorem moves_split_uci (ms : List (List Char)) (h : ms.all isUciShape = true) : spaceSv (joinWith ' ' ms) = ms := by
  apply moves_split_tokens
  simp only [List.all_eq_true] at h ⊢
  exact fun t ht => uciShape_tokenOk t (h t ht)

#print axioms moves_split_uci

example : spaceSv "e2e4 e7e5 e1g1 a7a8q".toList = ["e2e4".toList, "e7e5".toList, "e1g1".toList, "a7a8q".toList] := by decide
/-- the quirk the model keeps: two spaces give an empty token (which `UciMove::from_str(..).unwrap()` then rejects) -/
example : spaceSv "e2e4  e7e5".toList = ["e2e4".toList, [], "e7e5".toList] := by decide
example : spaceSv [Char.ofNat 0xA0] = [] := by decide

end Inkayaku.Props.C19
