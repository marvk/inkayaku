import Inkayaku.Proofs.SearchPvRules
import Inkayaku.Proofs.SearchMate
import Inkayaku.Model.FenBoard
/-!
# C16 (PV part) and C08 (mate clause): the reported principal variation

"Every reported principal variation is a legal line from the searched position" (C16) and "whenever a positive `mate N`
is reported, the PV is a legal line of 2N−1 plies ending in checkmate" (C08), on the search model `Inkayaku.Search`.

## `pv_legal_line` — relative to a no-collision hypothesis, in two strengths

The transposition table is keyed by the 64-bit Zobrist hash alone and a hit returns the stored `ValuedMove` chain
unverified, so the statement can only hold relative to "no two different positions of this search share a hash".
The hypothesis is stated over `ReachLe s.board maxIter` = the positions at most `maxIter` legal moves below the root (the
positions that can be `negamax` nodes of a `go` with `maxIter` iterations; quiescence nodes neither probe nor store).
It is an idealisation about the key material (a real collision makes the engine print an illegal line), but it is
satisfiable and checkable for concrete roots (`Search.hashInjVis_of_check`, `hashInjCore_of_check`; examples below).
Quantifying it over ALL well-formed boards would be contradictory, hence make the theorem vacuous: the hash ignores the
clocks, so two boards differing in a clock only always collide.

* `pv_legal_line` (the PV clause of C16, literally): under `HashInjVis` (equal hash ⇒ equal visible position,
  CLOCKS INCLUDED) every reported PV is a `LegalLine`: each move is a member of `genPseudo` of the position reached and
  its successor passes `isValid`.  `HashInjVis` fails as soon as the search tree contains a transposition across a pawn
  move or capture (the two paths reset the half-move clock at different times) — for the demo position below at depth 3
  (`#guard` at the end).  In that case the engine really does report `Move` values whose undo field `prevHalfmove` is
  stale; what is printed (source, target, promotion) is still right:
* `pv_legal_line_rules`: under `HashInjCore` (equal hash ⇒ same position up to the two clocks — violated by real
  collisions only) every reported PV, abstracted move by move to (source, target, promotion), is a sequence of legal
  moves by the rules of chess (`Spec.legalMoves`/`Spec.apply`) from the searched position, and every move prints as the
  UCI text of its abstraction.

Both follow from one induction over the search (`Proofs/SearchPv.lean`) carrying `TTLegal` ("every stored chain is a line
of every reachable position with that hash"); the hash argument of every recursive call is the hash of the child by C06.

## `mate_pv` — no collision hypothesis

Checkmate values are never stored in the table, so a table hit never returns one; the fail-hard quiescence search returns
a mate-range value only when it hands back a window bound.  `Proofs/SearchMate.lean` shows: a mate-range value that is
none of the window bounds and not `±winScore` comes with a PV built by the move loops alone, ending in a position without
legal move whose mover is in check, with `value = ±(winScore − fullmove there)`.  At the root the window is
`(−winScore, winScore)`, and a reported `mate N` with `N > 0` excludes both bounds.  Hypotheses: clock budget, and
`fullmove + maxIter + 201 < maxFullMoves = 2^20` (beyond that `is_checkmate` itself fails to recognise mate values).
-/
namespace Inkayaku.C16Pv
open Inkayaku.Search Inkayaku.Board Inkayaku.WF Inkayaku.Eval Inkayaku.Abs

/-- **C16, literal form**: every PV reported by a `go` is a legal line from the searched
position — no hash collision among the positions within `maxIter` plies, clocks included -/
theorem pv_legal_line (s : St) (g : GoParams) (maxIter : Nat) (hinv : Inv (goBudget maxIter) s.board)
    (hinj : HashInjVis (ReachLe s.board maxIter))
    (d t : Option Nat) (n : Nat) (sc : Option Score) (pvl : List Move)
    (ho : Out.info d t n sc (some pvl) ∈ (goCmd s g maxIter).out) (hnew : Out.info d t n sc (some pvl) ∉ s.out) :
    LegalLine s.board pvl :=
  goCmd_pv_ok s legalLine_laws (legalLine_transfer hinj) g maxIter (fun _ n hn hr => ⟨n, hn, hr⟩) hinv _ ho hnew

/-- **C16, rules form**: every PV reported by a `go`, read as (source, target, promotion) triples — i.e. as the UCI text
that is printed — is a sequence of legal moves by the rules of chess from the searched position; no REAL hash collision
(different placement, side to move, castling rights or en-passant square) among the positions within `maxIter` plies -/
theorem pv_legal_line_rules (s : St) (g : GoParams) (maxIter : Nat) (hinv : Inv (goBudget maxIter) s.board)
    (hinj : HashInjCore (ReachLe s.board maxIter))
    (d t : Option Nat) (n : Nat) (sc : Option Score) (pvl : List Move)
    (ho : Out.info d t n sc (some pvl) ∈ (goCmd s g maxIter).out) (hnew : Out.info d t n sc (some pvl) ∉ s.out) :
    RulesLine (abs s.board) (pvl.map smove) ∧ ∀ m ∈ pvl, m.uci = (smove m).uci :=
  goCmd_pv_ok s rules_laws (rules_transfer hinj) g maxIter (fun _ n hn hr => ⟨n, hn, hr⟩) hinv _ ho hnew

/-- **C08, mate clause**: whenever a `go` reports `mate N` with `N > 0` together with a PV, that PV has `2N − 1` plies, is
a legal line from the searched position (literally generated moves), and the position after it has no valid generated
move and its mover is in check (`Mated`), which is checkmate by the rules (`Spec.isCheckmate`).  No collision hypothesis. -/
theorem mate_pv (s : St) (g : GoParams) (maxIter : Nat) (hinv : Inv (goBudget maxIter) s.board)
    (hfm : s.board.fullmove + goBudget maxIter < 1048576)
    (d t : Option Nat) (n : Nat) (N : Int) (pvl : List Move) (hN : N > 0)
    (ho : Out.info d t n (some (.mate N)) (some pvl) ∈ (goCmd s g maxIter).out)
    (hnew : Out.info d t n (some (.mate N)) (some pvl) ∉ s.out) :
    (pvl.length : Int) = 2 * N - 1 ∧ LegalLine s.board pvl ∧ Mated (pvl.foldl make s.board) ∧
    Spec.isCheckmate (abs (pvl.foldl make s.board)) = true := by
  obtain ⟨h1, h2, h3, h4⟩ := goCmd_mate_ok s g maxIter hinv hfm _ ho hnew hN
  exact ⟨h1, h2, h4, h4.isCheckmate h3⟩

#print axioms pv_legal_line
#print axioms pv_legal_line_rules
#print axioms mate_pv

/-- **one `negamax` call**: for a board with clock budget whose hash argument is its hash, lying `ply ≤ maxPly ≤ N` legal
moves below `root`, and a table all of whose stored chains are legal lines of every position of `S` with that hash
(`S` ⊇ the positions within `N` plies of `root`, no collision on `S`): the returned PV is a legal line of the board, and
the returned table has the property again (a store inserts the node's own result under the node's own hash) -/
theorem negamax_pv_legal {S : Board → Prop} (hinj : HashInjVis S) (root : Board) (N : Nat)
    (hS : ∀ b n, n ≤ N → Reach root n b → S b) (fuel : Nat) (s : St) (ply maxPly : Nat) (a b : Int) (isPv : Bool)
    (h ph : UInt64) (hinv : Inv fuel s.board) (hh : h = Zobrist.hash s.board) (hreach : Reach root ply s.board)
    (hply : ply ≤ maxPly) (hmax : maxPly ≤ N) (htt : TTLegal S LegalLine s.tt) :
    LegalLine s.board (negamax fuel s ply maxPly a b isPv h ph).1.pv ∧
    TTLegal S LegalLine (negamax fuel s ply maxPly a b isPv h ph).2.tt :=
  negamax_pv legalLine_laws (legalLine_transfer hinj) root N hS fuel s.board s ply maxPly a b isPv h ph hinv rfl ⟨hh, hreach, hply, hmax⟩ htt

/-- **one `quiescence` call**: the returned PV is a legal line of the board (captures and promotions are pseudo-legal
moves, C01); the table is neither read nor written -/
theorem quiescence_pv_legal (fuel : Nat) (s : St) (a b : Int) (hinv : Inv fuel s.board) :
    LegalLine s.board (quiescence fuel s a b).1.pv ∧ (quiescence fuel s a b).2.tt = s.tt :=
  ⟨quiescence_pv legalLine_laws fuel s.board s a b hinv rfl, quiescence_tt fuel s a b⟩

/-- **quiescence and mate values**: the fail-hard quiescence search returns a value in the `is_checkmate` range only by
handing back one of its window bounds -/
theorem quiescence_mate_value_is_bound (fuel : Nat) (s : St) (a b : Int)
    (h : isCheckmateValue (quiescence fuel s a b).1.value = true) :
    (quiescence fuel s a b).1.value = a ∨ (quiescence fuel s a b).1.value = b :=
  (quiescence_val fuel s a b).2 ((big_iff _).mp h)

/-- **one `negamax` call below the root and mate values**: if the table holds small values only (it does: checkmate values
are not stored) and the window bounds are static-evaluation or mate-range values, then a returned value in the
`is_checkmate` range that is none of `a`, `b`, `±winScore` comes with a PV that is a legal line through
well-formed boards ending in a position without legal move whose mover is in check, and the value is
`-(winScore - fullmove there)` negated once per ply (`MateLine`) -/
theorem negamax_mate_pv (fuel : Nat) (s : St) (ply maxPly : Nat) (a b : Int) (isPv : Bool) (h ph : UInt64)
    (hinv : Inv fuel s.board) (hfm : s.board.fullmove + fuel < 1048576) (htt : TTSmall s.tt) (ha : Val a) (hb : Val b)
    (hply : 0 < ply) (hB : isCheckmateValue (negamax fuel s ply maxPly a b isPv h ph).1.value = true)
    (ho : Outside (negamax fuel s ply maxPly a b isPv h ph).1.value a b) :
    MateLine s.board (negamax fuel s ply maxPly a b isPv h ph).1.pv (negamax fuel s ply maxPly a b isPv h ph).1.value := by
  rcases (negamax_mate fuel s.board s ply maxPly a b isPv h ph hinv rfl hfm htt ha hb).2.2.1 ((big_iff _).mp hB) ho with ⟨h0, -⟩ | h1
  · omega
  · exact h1

#print axioms negamax_pv_legal
#print axioms quiescence_pv_legal
#print axioms quiescence_mate_value_is_bound
#print axioms negamax_mate_pv

/-! ## non-vacuity -/

instance decLegalLine : ∀ (b : Board) (l : List Move), Decidable (LegalLine b l)
  | _, [] => isTrue trivial
  | b, m :: ms =>
    have := decLegalLine (make b m) ms
    inferInstanceAs (Decidable (m ∈ genPseudo b ∧ isValid (make b m) = true ∧ LegalLine (make b m) ms))

instance decRulesLine : ∀ (p : Spec.Pos) (l : List Spec.SMove), Decidable (RulesLine p l)
  | _, [] => isTrue trivial
  | p, m :: ms =>
    have := decRulesLine (Spec.apply p m) ms
    inferInstanceAs (Decidable (m ∈ Spec.legalMoves p ∧ RulesLine (Spec.apply p m) ms))

instance (b : Board) : Decidable (Mated b) :=
  inferInstanceAs (Decidable ((∀ m ∈ genPseudo b, isValid (make b m) = false) ∧ isCurrentInCheck b = true))

def bd (s : String) : Board :=
  match FenBoard.fromFenString s with
  | .ok b => b
  | .error _ => default

/-- White mates in two: 1. Ra6 bxa6 2. b7# (or 1. … B any 2. Rxa7#) -/
def mateIn2 : Board := bd "kbK5/pp6/1P6/8/8/8/8/R7 w - - 0 1"

/-- the hypotheses of all three theorems hold for this root (any `maxIter ≤ 2` for the literal no-collision hypothesis) -/
theorem mateIn2_inv : Inv (goBudget 8) mateIn2 ∧ mateIn2.fullmove + goBudget 8 < 1048576 := by
  have hwf : wf mateIn2 = true := by decide +kernel
  have hh : mateIn2.halfmove = 0 := by decide +kernel
  have hf : mateIn2.fullmove = 1 := by decide +kernel
  exact ⟨⟨hwf, by rw [hh]; decide, by rw [hf]; decide⟩, by rw [hf]; decide⟩

/-- no two of the 144 positions within two plies of the root (16 + 127 successors) share a hash: kernel-evaluated -/
theorem mateIn2_noCollision : HashInjVis (ReachLe mateIn2 2) :=
  hashInjVis_of_checkH mateIn2 2 (Inv_mono (by decide) mateIn2_inv.1) (by decide +kernel)

def start2 : St := { Search.initial with board := mateIn2 }

example (g : GoParams) (d t : Option Nat) (n : Nat) (sc : Option Score) (pvl : List Move)
    (ho : Out.info d t n sc (some pvl) ∈ (goCmd start2 g 2).out) :
    LegalLine mateIn2 pvl ∧ RulesLine (abs mateIn2) (pvl.map smove) :=
  have hinv : Inv (goBudget 2) mateIn2 := Inv_mono (by decide) mateIn2_inv.1
  ⟨pv_legal_line start2 g 2 hinv mateIn2_noCollision d t n sc pvl ho (by simp [start2, Search.initial]),
   (pv_legal_line_rules start2 g 2 hinv mateIn2_noCollision.core d t n sc pvl ho (by simp [start2, Search.initial])).1⟩

def demo : St := goCmd start2 { depth := some 3 } 8

def lastInfo (s : St) : Option (Option Score × List Move) :=
  s.out.findSome? fun | .info (some _) _ _ sc (some pv) => some (sc, pv) | _ => none

#guard (lastInfo demo).map (fun x => (x.1, x.2.map Move.uci)) == some (some (.mate 2), ["a1a6", "b7a6", "b6b7"])
-- the conclusions of `mate_pv`, evaluated: 2·2 − 1 plies, legal line, ends in checkmate (model and rules)
#guard match lastInfo demo with
  | some (some (.mate N), pv) =>
    N == 2 && (pv.length : Int) == 2 * N - 1 && decide (LegalLine mateIn2 pv) && decide (Mated (pv.foldl make mateIn2))
      && Spec.isCheckmate (abs (pv.foldl make mateIn2)) && decide (RulesLine (abs mateIn2) (pv.map smove))
  | _ => false
#guard demo.out.all fun | .info _ _ _ _ (some pv) => decide (LegalLine mateIn2 pv) | _ => true
-- the 2096 positions within three plies: the literal hypothesis FAILS (1. bxa7 … 2. Kd7 and 1. Kd7 … 2. bxa7 reach the
-- same placement with different half-move clocks, same hash), the rules-level hypothesis holds
#guard (reachList mateIn2 3).length == 2096
#guard injCheck vis (reachList mateIn2 3) == false
#guard injCheck coreB (reachList mateIn2 3) == true
#guard (goCmd Search.initial { depth := some 3 } 8).out.all fun
  | .info _ _ _ _ (some pv) => decide (LegalLine FenBoard.startBoard pv) | _ => true

end Inkayaku.C16Pv
