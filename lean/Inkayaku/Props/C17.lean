import Inkayaku.Model.Pgn
import Inkayaku.Spec.PgnLayout
/-!
# C17 – PGN stream reader (`pgn/src/reader.rs`, model `Inkayaku.Pgn`, layout `Inkayaku.PgnLayout`)

Part 1: through `ensure_buffer`/`increment_byte` the parser sees exactly the input bytes, for every chunk size ≥ 1 and
every fragmentation of the reads (`reader_bytes`, `chunk_independent`; `Inv`: the buffer is never longer than the chunk
size, and empty only once the underlying reader is exhausted), and the loop fuel `input.length + 1` never runs out
(`fuel_adequate`).  Part 2: reading the printed database of a well-formed list of games yields exactly the games
(`parse_render`); `c17` is both together.  The SAN tokens are yielded verbatim; replaying them on a board is
`C17Replay.pgn_replay`.

Both parts rest on one description of the six byte-level loops, valid on every input: with enough fuel each is
`takeWhile`/`dropWhile` (`scan_spec`).  Part 2 then follows the printer piece by piece, one `Reads` fact per piece.
-/
namespace Inkayaku.C17
open Inkayaku.Pgn

def stream (s : Buffered) : List UInt8 := s.buf.drop s.cur ++ s.reader.rest

/-- invariant of `PgnRawParser` over a reader whose schedule entries are ≥ 1 -/
structure Inv (s : Buffered) : Prop where
  chunk_pos : 1 ≤ s.chunkSize
  sched_pos : ∀ k, 1 ≤ s.reader.sched k
  /-- hence `bytes_read > chunk_size` (the `panic!` branch) is unreachable -/
  len_le : s.buf.length ≤ s.chunkSize
  nonempty : 1 ≤ s.buf.length ∨ s.reader.rest = []

theorem read_spec (r : Reader) (n : Nat) (hs : ∀ k, 1 ≤ r.sched k) :
    (r.read n).1 ++ (r.read n).2.rest = r.rest ∧ (r.read n).1.length ≤ n ∧
    ((r.read n).1.length = 0 → n = 0 ∨ r.rest = []) ∧ (r.read n).2.sched = r.sched := by
  have := hs r.calls
  simp only [Reader.read, List.take_append_drop, List.length_take, true_and]
  refine ⟨by omega, ?_, trivial⟩
  intro h
  rcases Nat.eq_zero_or_pos n with h0 | h0
  · exact Or.inl h0
  · exact Or.inr (List.eq_nil_of_length_eq_zero (by omega))

theorem ensure_spec (s : Buffered) (h : Inv s) :
    Inv s.ensure.2 ∧ stream s.ensure.2 = stream s ∧
    (s.ensure.1 = true → s.ensure.2.cur < s.ensure.2.buf.length) ∧
    (s.ensure.1 = false → stream s = []) := by
  obtain ⟨hc, hs, hl, hne⟩ := h
  unfold Buffered.ensure
  split
  · rename_i hcur
    have hdrop : s.buf.drop s.cur = [] := List.drop_eq_nil_of_le hcur
    have hst : stream s = s.reader.rest := by simp [stream, hdrop]
    obtain ⟨h1, h2, h3, h4⟩ := read_spec s.reader s.buf.length hs
    generalize s.reader.read s.buf.length = p at h1 h2 h3 h4 ⊢
    obtain ⟨data, rd⟩ := p
    simp only at h1 h2 h3 h4 ⊢
    have hs' : ∀ k, 1 ≤ rd.sched k := by rw [h4]; exact hs
    split
    · rename_i hk0
      have hd : data = [] := List.eq_nil_of_length_eq_zero hk0
      have hrest : s.reader.rest = [] := by
        rcases h3 hk0 with h5 | h5
        · rcases hne with h6 | h6
          · omega
          · exact h6
        · exact h5
      have hrd : rd.rest = [] := by simpa [hd, hrest] using h1
      refine ⟨⟨hc, hs', by simp, Or.inr hrd⟩, ?_, by simp, ?_⟩
      · simp [stream, hrest, hrd, hdrop]
      · intro _; simp [hst, hrest]
    · rename_i hk0
      split
      · rename_i hlt
        have htake : (data ++ s.buf.drop data.length).take data.length = data := by simp
        refine ⟨⟨hc, hs', ?_, Or.inl ?_⟩, ?_, ?_, by simp⟩
        · simp only [htake]; omega
        · simp only [htake]; omega
        · simp only [stream, htake, hdrop, List.drop_zero, List.nil_append]; exact h1
        · intro _; simp only [htake]; omega
      · rename_i hge
        have hdr : s.buf.drop data.length = [] := List.drop_eq_nil_of_le (by omega)
        refine ⟨⟨hc, hs', ?_, Or.inl ?_⟩, ?_, ?_, by simp⟩
        · simp only [hdr, List.append_nil]; omega
        · simp only [hdr, List.append_nil]; omega
        · simp only [stream, hdr, hdrop, List.append_nil, List.drop_zero, List.nil_append]; exact h1
        · intro _; simp only [hdr, List.append_nil]; omega
  · rename_i hcur
    exact ⟨⟨hc, hs, hl, hne⟩, rfl, fun _ => by simp only; omega, fun h => by simp at h⟩

theorem peek_spec (s : Buffered) (h : Inv s) :
    s.peek.1 = (stream s).head? ∧ Inv s.peek.2 ∧ stream s.peek.2 = stream s ∧
    (∀ b, s.peek.1 = some b → s.peek.2.cur < s.peek.2.buf.length) := by
  obtain ⟨h1, h2, h3, h4⟩ := ensure_spec s h
  unfold Buffered.peek
  generalize s.ensure = p at h1 h2 h3 h4 ⊢
  obtain ⟨ok, s'⟩ := p
  cases ok
  · simp only at h1 h2 h3 h4 ⊢
    exact ⟨by simp [h4 trivial], h1, h2, fun b hb => by simp at hb⟩
  · simp only at h1 h2 h3 h4 ⊢
    have hlt := h3 trivial
    refine ⟨?_, h1, h2, fun _ _ => hlt⟩
    rw [← h2, stream, List.head?_append, List.head?_drop, List.getElem?_eq_getElem hlt]; rfl

theorem incr_spec (s : Buffered) (h : Inv s) (hlt : s.cur < s.buf.length) :
    Inv s.incr ∧ stream s.incr = (stream s).tail := by
  obtain ⟨hc, hs, hl, hne⟩ := h
  refine ⟨⟨hc, hs, hl, hne⟩, ?_⟩
  simp only [stream, Buffered.incr]
  rw [List.tail_append_of_ne_nil (by simp; omega), List.tail_drop]

def R (s : Buffered) (l : List UInt8) : Prop := Inv s ∧ stream s = l

/-- every program sees through `ensure_buffer`/`increment_byte` exactly the bytes of the stream -/
theorem reader_bytes {α : Type} (p : Prog α) : ∀ (s : Buffered) (l : List UInt8), R s l →
    (run p s).1 = (run p l).1 ∧ R (run p s).2 (run p l).2 := by
  induction p with
  | ret a => intro s l h; exact ⟨rfl, h⟩
  | step inc k ih =>
    intro s l ⟨hinv, hst⟩
    obtain ⟨h1, h2, h3, h4⟩ := peek_spec s hinv
    simp only [run, Source.peek]
    generalize s.peek = p at h1 h2 h3 h4 ⊢
    obtain ⟨b, s'⟩ := p
    simp only at h1 h2 h3 h4 ⊢
    rw [hst] at h1 h3
    cases l with
    | nil =>
      simp only [List.head?_nil] at h1 ⊢
      subst h1
      exact ih none s' [] ⟨h2, h3⟩
    | cons c t =>
      simp only [List.head?_cons] at h1 ⊢
      subst h1
      simp only
      by_cases hi : inc (some c) = true
      · simp only [hi, if_true, Source.incr, List.tail_cons]
        obtain ⟨h5, h6⟩ := incr_spec s' h2 (h4 c rfl)
        exact ih (some c) s'.incr t ⟨h5, by rw [h6, h3]; rfl⟩
      · simp only [hi]
        exact ih (some c) s' (c :: t) ⟨h2, h3⟩

theorem R_new (chunk : Nat) (sched : Nat → Nat) (input : List UInt8) (hchunk : 1 ≤ chunk)
    (hsched : ∀ k, 1 ≤ sched k) : R (Buffered.new ⟨input, sched, 0⟩ chunk) input := by
  refine ⟨⟨hchunk, hsched, by simp [Buffered.new], Or.inl (by simp [Buffered.new]; exact hchunk)⟩, ?_⟩
  simp [stream, Buffered.new]

theorem run_buffered_eq {α : Type} (p : Prog α) (input : List UInt8) (chunk : Nat) (sched : Nat → Nat)
    (hchunk : 1 ≤ chunk) (hsched : ∀ k, 1 ≤ sched k) :
    (run p (Buffered.new ⟨input, sched, 0⟩ chunk)).1 = (run p input).1 :=
  (reader_bytes p _ _ (R_new chunk sched input hchunk hsched)).1

theorem chunk_independent (input : List UInt8) (chunk : Nat) (sched : Nat → Nat)
    (hchunk : 1 ≤ chunk) (hsched : ∀ k, 1 ≤ sched k) :
    readAllBuffered chunk sched input = readAll input :=
  run_buffered_eq _ input chunk sched hchunk hsched

theorem chunk_independent' (input : List UInt8) (c₁ c₂ : Nat) (s₁ s₂ : Nat → Nat)
    (h₁ : 1 ≤ c₁) (h₂ : 1 ≤ c₂) (hs₁ : ∀ k, 1 ≤ s₁ k) (hs₂ : ∀ k, 1 ≤ s₂ k) :
    readAllBuffered c₁ s₁ input = readAllBuffered c₂ s₂ input := by
  rw [chunk_independent input c₁ s₁ h₁ hs₁, chunk_independent input c₂ s₂ h₂ hs₂]

#print axioms reader_bytes
#print axioms chunk_independent
#print axioms chunk_independent'

theorem sched215_pos (k : Nat) : 1 ≤ [2, 1, 5].getD (k % 3) 1 :=
  (by decide : ∀ j < 3, 1 ≤ [2, 1, 5].getD j 1) (k % 3) (Nat.mod_lt k (by decide))

/-- the hypotheses are satisfiable by a non-trivial value: chunk 3, reads of 2,1,5,2,1,5,… bytes -/
example : readAllBuffered 3 (fun k => [2, 1, 5].getD (k % 3) 1) "[a \"b\"]\n\ne4 *".toUTF8.toList
    = readAll "[a \"b\"]\n\ne4 *".toUTF8.toList :=
  chunk_independent _ 3 _ (by decide) sched215_pos

abbrev Bytes := List UInt8

@[simp] theorem run_ret {α : Type} (a : α) (l : Bytes) : run (Prog.ret a) l = (a, l) := rfl
theorem run_step_nil {α : Type} (inc : Option UInt8 → Bool) (k : Option UInt8 → Prog α) :
    run (Prog.step inc k) ([] : Bytes) = run (k none) ([] : Bytes) := rfl
theorem run_step_cons {α : Type} (inc : Option UInt8 → Bool) (k : Option UInt8 → Prog α) (b : UInt8) (t : Bytes) :
    run (Prog.step inc k) (b :: t) = run (k (some b)) (if inc (some b) then t else b :: t) := rfl

theorem run_pbind {σ : Type} [Source σ] {α β : Type} (p : Prog α) (f : α → Prog β) :
    ∀ s : σ, run (p.bind f) s = run (f (run p s).1) (run p s).2 := by
  induction p with
  | ret a => intro s; rfl
  | step inc k ih =>
    intro s
    simp only [Prog.bind, run]
    split <;> simp [ih]

@[simp] theorem run_mpure {α : Type} (a : α) (l : Bytes) : run (M.pure a : M α) l = (.ok a, l) := rfl
@[simp] theorem run_throw {α : Type} (e : Err) (l : Bytes) : run (M.throw e : M α) l = (.error e, l) := rfl

theorem run_mbind {α β : Type} (p : M α) (f : α → M β) (l : Bytes) :
    run (p >>=ₑ f) l = match run p l with
      | (.ok a, l') => run (f a) l'
      | (.error e, l') => (.error e, l') := by
  show run (Prog.bind p _) l = _
  rw [run_pbind]
  generalize run p l = r
  obtain ⟨r, l'⟩ := r
  cases r <;> rfl

@[simp] theorem run_peekByte_nil : run peekByte ([] : Bytes) = (.error .closed, []) := rfl
@[simp] theorem run_peekByte_cons (b : UInt8) (t : Bytes) : run peekByte (b :: t) = (.ok b, b :: t) := rfl
@[simp] theorem run_popByte_nil : run popByte ([] : Bytes) = (.error .closed, []) := rfl
@[simp] theorem run_popByte_cons (b : UInt8) (t : Bytes) : run popByte (b :: t) = (.ok b, t) := rfl
@[simp] theorem run_skipByte_nil : run skipByte ([] : Bytes) = (.error .closed, []) := rfl
@[simp] theorem run_skipByte_cons (b : UInt8) (t : Bytes) : run skipByte (b :: t) = (.ok (), t) := rfl

theorem run_consume_nil (c : UInt8) : run (consume c) ([] : Bytes) = (.error .closed, []) := by
  simp [consume, run_mbind]
theorem run_consume_cons (c b : UInt8) (t : Bytes) :
    run (consume c) (b :: t) = (if b = c then .ok () else .error .consume, t) := by
  simp only [consume, run_mbind, run_popByte_cons]
  split <;> simp

theorem run_mbind_ok {α β : Type} {p : M α} {f : α → M β} {l l' : Bytes} {a : α}
    (h : run p l = (.ok a, l')) : run (p >>=ₑ f) l = run (f a) l' := by
  rw [run_mbind, h]
theorem run_mbind_err {α β : Type} {p : M α} {f : α → M β} {l l' : Bytes} {e : Err}
    (h : run p l = (.error e, l')) : run (p >>=ₑ f) l = (.error e, l') := by
  rw [run_mbind, h]

theorem run_attempt {α : Type} (p : M α) (l : Bytes) :
    run (M.attempt p) l = (.ok (run p l).1, (run p l).2) := by
  simp [M.attempt, run_pbind]

theorem run_length_le {α : Type} (p : Prog α) : ∀ l : Bytes, (run p l).2.length ≤ l.length := by
  induction p with
  | ret a => intro l; simp
  | step inc k ih =>
    intro l
    cases l with
    | nil => rw [run_step_nil]; exact ih none []
    | cons b t =>
      rw [run_step_cons]
      split
      · exact Nat.le_trans (ih _ t) (by simp)
      · exact ih _ _

theorem length_le_of_run {α : Type} {p : Prog α} {l l' : Bytes} {r : α} (h : run p l = (r, l')) :
    l'.length ≤ l.length := by
  have := run_length_le p l
  rwa [h] at this

theorem run_mbind_ok_inv {α β : Type} {p : M α} {f : α → M β} {l l' : Bytes} {b : β}
    (h : run (p >>=ₑ f) l = (.ok b, l')) : ∃ a l1, run p l = (.ok a, l1) ∧ run (f a) l1 = (.ok b, l') := by
  rw [run_mbind] at h
  generalize run p l = r at h
  obtain ⟨r, l1⟩ := r
  cases r with
  | error e => cases h
  | ok a => exact ⟨a, l1, rfl, h⟩

def isSp (c : UInt8) : Bool := c = SP
def isNl (c : UInt8) : Bool := c = NL
def isBlank (c : UInt8) : Bool := c = NL || c = SP
def notNl (c : UInt8) : Bool := c ≠ NL

/-- The one induction behind the six loops.  A loop with fuel that walks over the bytes satisfying `p`, collecting them
in `acc`: at the end of the input it answers `eof acc`, at the first other byte `stop acc rest`.  With fuel above the
length it is `takeWhile`/`dropWhile`; an instance only says what one round does. -/
theorem scan_spec {β : Type} (loop : Nat → Bytes → Bytes → β) (p : UInt8 → Bool) (eof : Bytes → β)
    (stop : Bytes → Bytes → β)
    (hnil : ∀ n acc, loop (n + 1) acc [] = eof acc)
    (hcons : ∀ n acc b t, loop (n + 1) acc (b :: t) = if p b then loop n (acc ++ [b]) t else stop acc (b :: t)) :
    ∀ (n : Nat) (acc l : Bytes), l.length < n →
      loop n acc l = if l.dropWhile p = [] then eof (acc ++ l) else stop (acc ++ l.takeWhile p) (l.dropWhile p) := by
  intro n
  induction n with
  | zero => intro acc l h; omega
  | succ n ih =>
    intro acc l h
    cases l with
    | nil => simp [hnil]
    | cons b t =>
      rw [hcons]
      by_cases hb : p b = true
      · rw [if_pos hb, ih _ t (by simpa using h)]
        simp [hb]
      · simp [hb]

theorem skip_spec (loop : Nat → M Unit) (p : UInt8 → Bool)
    (hnil : ∀ n, run (loop (n + 1)) ([] : Bytes) = (.error .closed, []))
    (hcons : ∀ n b (t : Bytes), run (loop (n + 1)) (b :: t) = if p b then run (loop n) t else (.ok (), b :: t))
    (n : Nat) (l : Bytes) (h : l.length < n) :
    run (loop n) l = if l.dropWhile p = [] then (.error .closed, []) else (.ok (), l.dropWhile p) :=
  scan_spec (fun n _ l => run (loop n) l) p (fun _ => (.error .closed, [])) (fun _ r => (.ok (), r))
    (fun n _ => hnil n) (fun n _ => hcons n) n [] l h

theorem skipSpaces_spec : ∀ (n : Nat) (l : Bytes), l.length < n →
    run (skipSpaces n) l = if l.dropWhile isSp = [] then (.error .closed, []) else (.ok (), l.dropWhile isSp) :=
  skip_spec skipSpaces isSp (fun n => by simp [skipSpaces, run_mbind]) fun n b t => by
    simp only [skipSpaces, run_mbind, run_peekByte_cons, isSp]
    by_cases hb : b = SP <;> simp [hb, run_mbind]

theorem skipBlankLines_spec : ∀ (n : Nat) (l : Bytes), l.length < n →
    run (skipBlankLines n) l = if l.dropWhile isNl = [] then (.error .closed, []) else (.ok (), l.dropWhile isNl) :=
  skip_spec skipBlankLines isNl (fun n => by simp [skipBlankLines, run_mbind]) fun n b t => by
    simp only [skipBlankLines, run_mbind, run_peekByte_cons, isNl]
    by_cases hb : b = NL <;> simp [hb, run_mbind]

/-- the second peek of `skip_blank_lines_and_spaces` sees the same byte as the first -/
theorem skipBLS_spec : ∀ (n : Nat) (l : Bytes), l.length < n →
    run (skipBlankLinesAndSpaces n) l =
      if l.dropWhile isBlank = [] then (.error .closed, []) else (.ok (), l.dropWhile isBlank) :=
  skip_spec skipBlankLinesAndSpaces isBlank (fun n => by simp [skipBlankLinesAndSpaces, run_mbind]) fun n b t => by
    simp only [skipBlankLinesAndSpaces, run_mbind, run_peekByte_cons, isBlank]
    by_cases hb : b = NL
    · simp [hb, run_mbind]
    · rw [if_neg hb]
      simp only [run_mbind, run_peekByte_cons]
      by_cases hb2 : b = SP <;> simp [hb, hb2, run_mbind]

theorem skipToNextLine_spec (n : Nat) (l : Bytes) (h : l.length < n) :
    run (skipToNextLine n) l =
      if l.dropWhile notNl = [] then (.error .closed, []) else (.ok (), (l.dropWhile notNl).tail) :=
  scan_spec (fun n _ l => run (skipToNextLine n) l) notNl (fun _ => (.error .closed, [])) (fun _ r => (.ok (), r.tail))
    (fun n _ => by simp [skipToNextLine, run_mbind])
    (fun n _ b t => by
      simp only [skipToNextLine, run_mbind, run_popByte_cons, notNl]
      by_cases hb : b = NL <;> simp [hb]) n [] l h

theorem readUntil_spec (c : UInt8) (n : Nat) (l : Bytes) (h : l.length < n) :
    run (readUntil n c) l =
      if l.dropWhile (· ≠ c) = [] then (.error .closed, []) else (.ok (l.takeWhile (· ≠ c)), l.dropWhile (· ≠ c)) := by
  -- the loop carries the byte it has peeked: it is always the head of what is left
  have := scan_spec
    (fun n acc l => match l with
      | [] => ((.error .closed, []) : Except Err Bytes × Bytes)
      | b :: t => run (readUntilLoop c n acc b) (b :: t))
    (· ≠ c) (fun _ => (.error .closed, [])) (fun acc r => (.ok acc, r)) (fun _ _ => rfl)
    (fun n acc b t => by
      by_cases hb : b = c
      · simp [readUntilLoop, hb]
      · cases t <;> simp [readUntilLoop, hb, run_mbind]) n [] l h
  simp only [List.nil_append] at this
  rw [← this]
  cases l <;> simp [readUntil, run_mbind]

theorem readToken_spec (n : Nat) (l : Bytes) (h : l.length < n) :
    run (readToken n) l = (.ok (l.takeWhile (fun c => !isBlank c)), l.dropWhile (fun c => !isBlank c)) := by
  have := scan_spec (fun n acc l => run (readTokenLoop n acc) l) (fun c => !isBlank c) (fun acc => (acc, []))
    (fun acc r => (acc, r)) (fun n acc => by simp [readTokenLoop, run_step_nil])
    (fun n acc b t => by
      simp only [readTokenLoop, run_step_cons, isBlank]
      by_cases h1 : b = NL <;> by_cases h2 : b = SP <;> simp [h1, h2]) n [] l h
  have e := List.takeWhile_append_dropWhile (p := fun c => !isBlank c) (l := l)
  simp only [readToken, run_pbind, this, List.nil_append]
  split <;> simp_all

def Stable {α : Type} (p : Nat → Prog α) : Prop :=
  ∀ (l : Bytes) (n m : Nat), l.length < n → l.length < m → run (p n) l = run (p m) l

theorem stable_const {α : Type} (p : Prog α) : Stable (fun _ => p) := fun _ _ _ _ _ => rfl

theorem stable_pbind {α β : Type} {p : Nat → Prog α} {q : Nat → α → Prog β}
    (hp : Stable p) (hq : ∀ a, Stable (fun n => q n a)) : Stable (fun n => (p n).bind (q n)) := by
  intro l n m hn hm
  simp only [run_pbind]
  rw [hp l n m hn hm]
  have := run_length_le (p m) l
  exact hq _ _ n m (by omega) (by omega)

theorem stable_mbind {α β : Type} {p : Nat → M α} {q : Nat → α → M β}
    (hp : Stable p) (hq : ∀ a, Stable (fun n => q n a)) : Stable (fun n => p n >>=ₑ q n) := by
  unfold M.bind
  refine stable_pbind hp ?_
  intro r
  cases r with
  | error e => exact stable_const _
  | ok a => exact hq a

theorem stable_ite {α : Type} (c : Prop) [Decidable c] {p q : Nat → Prog α}
    (hp : Stable p) (hq : Stable q) : Stable (fun n => if c then p n else q n) := by
  by_cases h : c
  · simpa [h] using hp
  · simpa [h] using hq

theorem stable_attempt {α : Type} {p : Nat → M α} (hp : Stable p) : Stable (fun n => M.attempt (p n)) :=
  stable_pbind hp fun _ => stable_const _

theorem Stable.of_spec {α : Type} {p : Nat → Prog α} {F : Bytes → α × Bytes}
    (h : ∀ (n : Nat) (l : Bytes), l.length < n → run (p n) l = F l) : Stable p :=
  fun l n m hn hm => (h n l hn).trans (h m l hm).symm

theorem stable_skipSpaces : Stable skipSpaces := .of_spec skipSpaces_spec
theorem stable_skipBlankLines : Stable skipBlankLines := .of_spec skipBlankLines_spec
theorem stable_skipBLS : Stable skipBlankLinesAndSpaces := .of_spec skipBLS_spec
theorem stable_skipToNextLine : Stable skipToNextLine := .of_spec skipToNextLine_spec
theorem stable_readUntil (c : UInt8) : Stable (fun n => readUntil n c) := .of_spec (readUntil_spec c)
theorem stable_readToken : Stable readToken := .of_spec readToken_spec

/-- the shape shared by `read_tag_value`, `read_braced_annotation`, `read_semicolon_annotation`: an opening byte, the
bytes up to the closing byte, the closing byte -/
def delimited (o c : UInt8) (fuel : Nat) : M (List UInt8) :=
  consume o >>ₑ M.attempt (readUntil fuel c) >>=ₑ fun r => consume c >>ₑ Prog.ret r

theorem readTagValue_eq : readTagValue = delimited 34 34 := rfl
theorem readBraced_eq : readBracedAnnotation = delimited 123 125 := rfl
theorem readSemicolon_eq : readSemicolonAnnotation = delimited 59 NL := rfl

theorem stable_delimited (o c : UInt8) : Stable (delimited o c) :=
  stable_mbind (stable_const _) fun _ =>
  stable_mbind (stable_attempt (stable_readUntil c)) fun _ => stable_const _

theorem stable_readTagPairLine : Stable readTagPairLine :=
  stable_mbind (stable_const _) fun _ =>
  stable_mbind (stable_readUntil SP) fun _ =>
  stable_mbind (stable_const _) fun _ =>
  stable_mbind (readTagValue_eq ▸ stable_delimited 34 34) fun _ => stable_const _

theorem stable_readMove : Stable readMove :=
  stable_mbind stable_skipBLS fun _ =>
  stable_mbind stable_readToken fun _ =>
  stable_ite _ (stable_const _) <|
  stable_mbind (stable_ite _ (stable_mbind stable_skipSpaces fun _ => stable_readToken) (stable_const _)) fun _ =>
  stable_mbind stable_skipSpaces fun _ =>
  stable_mbind (stable_const _) fun _ =>
  stable_mbind
    (stable_ite _ (stable_mbind (readBraced_eq ▸ stable_delimited 123 125) fun _ => stable_const _) <|
     stable_ite _ (stable_mbind (readSemicolon_eq ▸ stable_delimited 59 NL) fun _ => stable_const _) (stable_const _))
    fun _ => stable_const _

/-- A composite reader inherits `Consumes` through `>>=ₑ` from either side, so it is enough to name the piece that
consumes; the outer loops need it to see that a round uses up a byte. -/
def Consumes {α : Type} (B : Nat) (p : M α) : Prop :=
  ∀ (l l' : Bytes) (a : α), l.length < B → run p l = (.ok a, l') → l'.length < l.length

theorem Consumes.bind_left {α β : Type} {B : Nat} {p : M α} {f : α → M β} (h : Consumes B p) : Consumes B (p >>=ₑ f) := by
  intro l l' b hB hr
  obtain ⟨a, l1, h1, h2⟩ := run_mbind_ok_inv hr
  exact Nat.lt_of_le_of_lt (length_le_of_run h2) (h l l1 a hB h1)

theorem Consumes.bind_right {α β : Type} {B : Nat} {p : M α} {f : α → M β} (h : ∀ a, Consumes B (f a)) :
    Consumes B (p >>=ₑ f) := by
  intro l l' b hB hr
  obtain ⟨a, l1, h1, h2⟩ := run_mbind_ok_inv hr
  have := length_le_of_run h1
  exact Nat.lt_of_lt_of_le (h a l1 l' b (by omega) h2) this

theorem consumes_consume (B : Nat) (c : UInt8) : Consumes B (consume c) := by
  intro l l' _ _ h
  cases l with
  | nil => rw [run_consume_nil] at h; cases h
  | cons b t =>
    rw [run_consume_cons] at h
    cases (Prod.mk.inj h).2
    exact Nat.lt_succ_self _

theorem readTagPairLine_decreases (N : Nat) (l l' : Bytes) (kv : Bytes × Bytes)
    (h : run (readTagPairLine N) l = (.ok kv, l')) : l'.length < l.length :=
  (consumes_consume (l.length + 1) 91).bind_left l l' kv (Nat.lt_succ_self _) h

theorem stable_readTagPairsLoop : ∀ (k k' N N' : Nat) (acc : List (Bytes × Bytes)) (l : Bytes),
    l.length < k → l.length < k' → l.length < N → l.length < N' →
    run (readTagPairsLoop N k acc) l = run (readTagPairsLoop N' k' acc) l := by
  intro k
  induction k with
  | zero => intro k' N N' acc l h; omega
  | succ k ih =>
    intro k' N N' acc l hk hk' hN hN'
    cases k' with
    | zero => omega
    | succ k' =>
      cases l with
      | nil => simp [readTagPairsLoop, run_mbind]
      | cons b t =>
        simp only [readTagPairsLoop, run_mbind, run_peekByte_cons]
        by_cases hb : b = 91
        · simp only [hb, if_true, run_mbind]
          rw [← hb, stable_readTagPairLine (b :: t) N N' hN hN']
          generalize hr : run (readTagPairLine N') (b :: t) = r
          obtain ⟨r, l'⟩ := r
          cases r with
          | error e => rfl
          | ok kv =>
            have hd := readTagPairLine_decreases _ _ _ _ hr
            simp only [List.length_cons] at hd hk hk' hN hN'
            exact ih k' N N' _ l' (by omega) (by omega) (by omega) (by omega)
        · simp [hb]

theorem stable_readTagPairs : Stable readTagPairs := fun l n m hn hm =>
  stable_readTagPairsLoop n m n m [] l hn hm hn hm

theorem dropWhile_isBlank_head (l : Bytes) (c : UInt8) (t : Bytes) (h : l.dropWhile isBlank = c :: t) :
    isBlank c = false := by
  have := List.head_dropWhile_not isBlank (l := l) (by simp [h])
  simpa [h] using this

/-- whatever `read_move` answers, it has read a token, and the token after the blanks is not empty -/
theorem consumes_readMove (N : Nat) : Consumes N (readMove N) := by
  intro l l' m hN h
  unfold readMove at h
  rw [run_mbind, skipBLS_spec N l hN] at h
  generalize hd : l.dropWhile isBlank = d at h
  cases d with
  | nil => simp at h
  | cons c t =>
    have hc := dropWhile_isBlank_head l c t hd
    have hlen : (c :: t).length ≤ l.length := by rw [← hd]; exact (List.dropWhile_sublist _).length_le
    simp only [reduceCtorEq, if_false] at h
    obtain ⟨tok, l2, h3, h4⟩ := run_mbind_ok_inv h
    rw [readToken_spec N (c :: t) (by omega)] at h3
    cases h3
    have h3 := length_le_of_run h4
    have h2 : ((c :: t).dropWhile (fun c => !isBlank c)).length ≤ t.length := by
      simp only [List.dropWhile_cons, hc, Bool.not_false, if_true]
      exact (List.dropWhile_sublist _).length_le
    simp only [List.length_cons] at hlen h3 ⊢
    omega

theorem readMove_decreases (N : Nat) (l l' : Bytes) (mv : RawMove) (hN : l.length < N)
    (h : run (readMove N) l = (.ok (some mv), l')) : l'.length < l.length :=
  consumes_readMove N l l' (some mv) hN h

theorem stable_readMovesLoop : ∀ (k k' N N' : Nat) (acc : List RawMove) (l : Bytes),
    l.length < k → l.length < k' → l.length < N → l.length < N' →
    run (readMovesLoop N k acc) l = run (readMovesLoop N' k' acc) l := by
  intro k
  induction k with
  | zero => intro k' N N' acc l h; omega
  | succ k ih =>
    intro k' N N' acc l hk hk' hN hN'
    cases k' with
    | zero => omega
    | succ k' =>
      simp only [readMovesLoop, run_mbind]
      rw [stable_readMove l N N' hN hN']
      generalize hr : run (readMove N') l = r
      obtain ⟨r, l'⟩ := r
      cases r with
      | error e => rfl
      | ok m =>
        cases m with
        | none => rfl
        | some mv =>
          have hd := readMove_decreases _ _ _ _ hN' hr
          exact ih k' N N' _ l' (by omega) (by omega) (by omega) (by omega)

theorem stable_readMoves : Stable readMoves :=
  stable_mbind (fun l n m hn hm => stable_readMovesLoop n m n m [] l hn hm hn hm) fun _ =>
  stable_mbind (stable_attempt stable_skipToNextLine) fun _ => stable_const _

theorem stable_readPgn : Stable readPgn :=
  stable_mbind stable_readTagPairs fun _ =>
  stable_mbind stable_skipBlankLines fun _ =>
  stable_mbind stable_readMoves fun _ => stable_const _

theorem stable_next : Stable next := by
  unfold next
  refine stable_pbind stable_skipBLS ?_
  intro r
  match r with
  | .ok () => exact stable_pbind stable_readPgn fun _ => stable_const _
  | .error .closed => exact stable_const _
  | .error .consume => exact stable_const _
  | .error .symbol => exact stable_const _

/-- a game uses up a byte because its movetext does: `read_moves` calls `read_move` at least once -/
theorem consumes_readPgn (N : Nat) : Consumes N (readPgn N) :=
  .bind_right fun _ => .bind_right fun _ => .bind_left <| .bind_left <| by
    cases N with
    | zero => intro l _ _ h; omega
    | succ N => exact (consumes_readMove (N + 1)).bind_left

theorem next_decreases (N : Nat) (l l' : Bytes) (g : RawGame) (hN : l.length < N)
    (h : run (next N) l = (some (.ok g), l')) : l'.length < l.length := by
  unfold next at h
  rw [run_pbind] at h
  generalize hs : run (skipBlankLinesAndSpaces N) l = r at h
  obtain ⟨r, l0⟩ := r
  have h0 := length_le_of_run hs
  -- after an error of the skip `next` answers `none` or `some (.error _)`, never `some (.ok g)`: those arms close by themselves
  match r, h with
  | .ok (), h =>
    simp only [run_pbind, run_ret] at h
    generalize hg : run (readPgn N) l0 = r at h
    obtain ⟨r, l1⟩ := r
    simp only [Prod.mk.injEq, Option.some.injEq] at h
    rw [h.1, h.2] at hg
    exact Nat.lt_of_lt_of_le (consumes_readPgn N l0 l' g (by omega) hg) h0

theorem stable_readAllLoop : ∀ (k k' N N' : Nat) (acc : List Item) (l : Bytes),
    l.length < k → l.length < k' → l.length < N → l.length < N' →
    run (readAllLoop N k acc) l = run (readAllLoop N' k' acc) l := by
  intro k
  induction k with
  | zero => intro k' N N' acc l h; omega
  | succ k ih =>
    intro k' N N' acc l hk hk' hN hN'
    cases k' with
    | zero => omega
    | succ k' =>
      simp only [readAllLoop, run_pbind]
      rw [stable_next l N N' hN hN']
      generalize hr : run (next N') l = r
      obtain ⟨r, l'⟩ := r
      match r, hr with
      | none, _ => rfl
      | some (.error e), _ => rfl
      | some (.ok g), hr =>
        have hd := next_decreases _ _ _ _ hN' hr
        exact ih k' N N' _ l' (by omega) (by omega) (by omega) (by omega)

/-- the fuel `input.length + 1` used by `readAll` never runs out – every larger fuel gives
the same items -/
theorem fuel_adequate (input : Bytes) (fuel : Nat) (h : input.length < fuel) :
    (run (readAllProg fuel) input).1 = readAll input := by
  unfold readAll readAllProg
  rw [stable_readAllLoop fuel (input.length + 1) fuel (input.length + 1) [] input h (by omega) h (by omega)]

open Inkayaku.PgnLayout

@[simp] theorem SP_eq : SP = 32 := rfl
@[simp] theorem NL_eq : NL = 10 := rfl

theorem takeWhile_append_stop (p : UInt8 → Bool) (pre r : Bytes) (hpre : ∀ a ∈ pre, p a = true)
    (hr : ∀ b, r.head? = some b → p b = false) :
    (pre ++ r).takeWhile p = pre ∧ (pre ++ r).dropWhile p = r := by
  rw [List.takeWhile_append_of_pos hpre, List.dropWhile_append_of_pos hpre]
  cases r with
  | nil => simp
  | cons b r' => simp [hr b rfl]

/-- The bound is asked of the whole input only: what is left after a step is never longer (`run_length_le`), so
`Reads.bind` hands it on. -/
def Reads {α : Type} (N : Nat) (p : M α) (l : Bytes) (a : α) (l' : Bytes) : Prop :=
  l.length < N → run p l = (.ok a, l')

theorem Reads.bind {α β : Type} {N : Nat} {p : M α} {q : α → M β} {l l1 l2 : Bytes} {a : α} {b : β}
    (hp : Reads N p l a l1) (hq : Reads N (q a) l1 b l2) : Reads N (p >>=ₑ q) l b l2 := by
  intro hN
  have h1 := hp hN
  rw [run_mbind_ok h1]
  exact hq (Nat.lt_of_le_of_lt (length_le_of_run h1) hN)

theorem Reads.of_run {α : Type} {N : Nat} {p : M α} {l l' : Bytes} {a : α} (h : run p l = (.ok a, l')) :
    Reads N p l a l' := fun _ => h

theorem Reads.pure {α : Type} {N : Nat} {l : Bytes} {a : α} : Reads N (M.pure a) l a l := fun _ => rfl

theorem Reads.attempt {α : Type} {N : Nat} {p : M α} {l l' : Bytes} {a : α} (h : Reads N p l a l') :
    Reads N (M.attempt p) l (.ok a) l' := fun hN => by rw [run_attempt, h hN]

theorem reads_consume {N : Nat} (c : UInt8) (t : Bytes) : Reads N (consume c) (c :: t) () t :=
  .of_run (by simp [run_consume_cons])

def Starts (P : UInt8 → Prop) (l : Bytes) : Prop := ∃ c t, l = c :: t ∧ P c

theorem Starts.append {P : UInt8 → Prop} {l : Bytes} (h : Starts P l) (r : Bytes) : Starts P (l ++ r) := by
  obtain ⟨c, t, rfl, hc⟩ := h
  exact ⟨c, t ++ r, rfl, hc⟩

theorem Starts.imp {P Q : UInt8 → Prop} {l : Bytes} (h : Starts P l) (hpq : ∀ c, P c → Q c) : Starts Q l := by
  obtain ⟨c, t, e, hc⟩ := h
  exact ⟨c, t, e, hpq c hc⟩

/-- neither blank nor the start of an annotation -/
def Plain (c : UInt8) : Prop := c ≠ 32 ∧ c ≠ 10 ∧ c ≠ 123 ∧ c ≠ 59
instance (c : UInt8) : Decidable (Plain c) := by unfold Plain; infer_instance

theorem Plain.not_blank {c : UInt8} (h : Plain c) : isBlank c = false := by simp [isBlank, h.1, h.2.1]

def EndsToken (r : Bytes) : Prop := ∀ b, r.head? = some b → isBlank b = true

theorem endsToken_sp (r : Bytes) : EndsToken (32 :: r) := fun b hb => by cases hb; rfl

theorem readUntil_reads (c : UInt8) (N : Nat) (pre r : Bytes) (hpre : c ∉ pre) :
    Reads N (readUntil N c) (pre ++ c :: r) pre (c :: r) := by
  intro hN
  obtain ⟨h1, h2⟩ := takeWhile_append_stop (· ≠ c) pre (c :: r)
    (fun a ha => by simp; intro h; exact hpre (h ▸ ha)) (fun b hb => by simp at hb; simp [hb])
  rw [readUntil_spec c N _ hN, h1, h2]; simp

theorem readToken_reads (N : Nat) (tok r : Bytes) (htok : ∀ a ∈ tok, isBlank a = false) (hr : EndsToken r) :
    Reads N (readToken N) (tok ++ r) tok r := by
  intro hN
  obtain ⟨h1, h2⟩ := takeWhile_append_stop (fun c => !isBlank c) tok r
    (fun a ha => by simp [htok a ha]) (fun b hb => by simp [hr b hb])
  rw [readToken_spec N _ hN, h1, h2]

theorem skipBLS_reads (N : Nat) (pre l : Bytes) (hpre : ∀ a ∈ pre, isBlank a = true) (hl : Starts Plain l) :
    Reads N (skipBlankLinesAndSpaces N) (pre ++ l) () l := by
  obtain ⟨c, t, rfl, hc⟩ := hl
  intro hN
  rw [skipBLS_spec N _ hN, List.dropWhile_append_of_pos hpre]
  simp [hc.not_blank]

theorem skipSpaces_reads (N : Nat) (l : Bytes) (hl : Starts (· ≠ 32) l) : Reads N (skipSpaces N) (32 :: l) () l := by
  obtain ⟨c, t, rfl, hc⟩ := hl
  intro hN
  rw [skipSpaces_spec N _ hN]
  simp [isSp, hc]

theorem skipBlankLines_reads (N : Nat) (l : Bytes) (hl : Starts Plain l) :
    Reads N (skipBlankLines N) (10 :: l) () l := by
  obtain ⟨c, t, rfl, hc⟩ := hl
  intro hN
  rw [skipBlankLines_spec N _ hN]
  simp [isNl, hc.2.1]

theorem delimited_reads (o c : UInt8) (N : Nat) (v rest : Bytes) (hv : c ∉ v) :
    Reads N (delimited o c N) (o :: (v ++ c :: rest)) v rest :=
  (reads_consume o _).bind <| (readUntil_reads c N v rest hv).attempt.bind <| (reads_consume c rest).bind fun _ => rfl

theorem readTagPairLine_reads (N : Nat) (k v rest : Bytes) (hk : (32 : UInt8) ∉ k) (hv : (34 : UInt8) ∉ v) :
    Reads N (readTagPairLine N) (renderTag (k, v) ++ rest) (k, v) rest := by
  rw [show renderTag (k, v) ++ rest = 91 :: (k ++ 32 :: 34 :: (v ++ 34 :: 93 :: 10 :: rest)) by simp [renderTag]]
  exact (reads_consume 91 _).bind <| (readUntil_reads 32 N k _ hk).bind <| (reads_consume 32 _).bind <|
    (delimited_reads 34 34 N v _ hv).bind <| (reads_consume 93 _).bind <| (reads_consume 10 _).bind .pure

theorem tagInsert_fresh (k v : Bytes) : ∀ (acc : List (Bytes × Bytes)), k ∉ acc.map (·.1) →
    tagInsert k v acc = acc ++ [(k, v)] := by
  intro acc
  induction acc with
  | nil => intro _; rfl
  | cons a acc ih =>
    intro h
    simp only [List.map_cons, List.mem_cons, not_or] at h
    obtain ⟨k', v'⟩ := a
    simp only [tagInsert]
    rw [if_neg (fun h' => h.1 h'.symm), ih h.2]
    rfl

theorem readTagPairsLoop_reads (N : Nat) (rest : Bytes) : ∀ (ts : List (Bytes × Bytes)) (k : Nat)
    (acc : List (Bytes × Bytes)), (∀ t ∈ ts, (32 : UInt8) ∉ t.1 ∧ (34 : UInt8) ∉ t.2) →
    ((acc ++ ts).map (·.1)).Nodup → (renderTags ts ++ 10 :: rest).length < k →
    Reads N (readTagPairsLoop N k acc) (renderTags ts ++ 10 :: rest) (acc ++ ts) (10 :: rest)
  | [], k + 1, acc, _, _, _ => by
    unfold readTagPairsLoop
    exact (Reads.of_run (run_peekByte_cons 10 rest)).bind (by simpa using Reads.pure)
  | (tk, tv) :: ts, k + 1, acc, hwf, hnd, hk => by
    intro hN
    rw [show renderTags ((tk, tv) :: ts) = renderTag (tk, tv) ++ renderTags ts by simp [renderTags],
      List.append_assoc] at hk hN ⊢
    have hw := hwf (tk, tv) (by simp)
    have h1 := readTagPairLine_reads N tk tv (renderTags ts ++ 10 :: rest) hw.1 hw.2 hN
    -- a round has consumed a byte, so the `k` rounds that are left suffice for what remains
    have hd := readTagPairLine_decreases _ _ _ _ h1
    have hfresh : tk ∉ acc.map (·.1) := fun hmem => by
      simp only [List.map_append, List.map_cons] at hnd
      exact (List.nodup_append.mp hnd).2.2 tk hmem tk (by simp) rfl
    have ih := readTagPairsLoop_reads N rest ts k (acc ++ [(tk, tv)]) (fun t ht => hwf t (by simp [ht]))
      (by simpa using hnd) (by omega) (by omega)
    unfold readTagPairsLoop
    rw [run_mbind_ok (a := 91) (l' := renderTag (tk, tv) ++ (renderTags ts ++ 10 :: rest)) (by simp [renderTag]),
      if_pos rfl, run_mbind_ok h1, tagInsert_fresh tk tv acc hfresh]
    simpa using ih

def toRawMove (m : Move) : RawMove := ⟨m.san, m.comment⟩
def toRaw (g : Game) : RawGame := ⟨g.tags, g.moves.map toRawMove⟩

/-- a token as `read_move` meets it: no blank in it, and its first byte does not open an annotation.  SAN tokens,
move-number tokens and result tokens are words; they differ in what `read_move` does after reading them. -/
structure Word (w : Bytes) : Prop where
  noBlank : ∀ a ∈ w, isBlank a = false
  starts : Starts Plain w

theorem Word.of_plain {w : Bytes} (hne : w ≠ []) (h : ∀ a ∈ w, Plain a) : Word w := by
  cases w with
  | nil => exact absurd rfl hne
  | cons c r => exact ⟨fun a ha => (h a ha).not_blank, c, r, rfl, h c (by simp)⟩

theorem decimalAux_plain : ∀ (fuel n : Nat) (acc : Bytes), (∀ a ∈ acc, Plain a) →
    (∀ a ∈ decimalAux fuel n acc, Plain a) ∧ (acc ≠ [] ∨ 0 < fuel → decimalAux fuel n acc ≠ []) := by
  intro fuel
  induction fuel with
  | zero => intro n acc h; exact ⟨h, fun h' => by simpa [decimalAux] using h'⟩
  | succ f ih =>
    intro n acc h
    have hacc' : ∀ a ∈ UInt8.ofNat (48 + n % 10) :: acc, Plain a := by
      simp only [List.mem_cons, forall_eq_or_imp]
      exact ⟨(by decide : ∀ d, d < 10 → Plain (UInt8.ofNat (48 + d))) _ (Nat.mod_lt _ (by decide)), h⟩
    simp only [decimalAux]
    split
    · exact ⟨hacc', fun _ => by simp⟩
    · exact ⟨(ih _ _ hacc').1, fun _ => (ih _ _ hacc').2 (Or.inl (by simp))⟩

/-- a move-number token: digits, then one or three `.` -/
theorem word_number (n : Nat) (dots : Bytes) (hd : dots = [46] ∨ dots = [46, 46, 46]) :
    Word (decimal n ++ dots) ∧ (decimal n ++ dots).contains 46 = true := by
  obtain ⟨h1, h2⟩ := decimalAux_plain (n + 1) n [] (by simp)
  refine ⟨.of_plain (by simp [decimal, h2 (Or.inr (by omega))]) fun a ha => ?_, by rcases hd with h' | h' <;> simp [h']⟩
  rcases List.mem_append.mp ha with h | h
  · exact h1 a h
  · have : a = 46 := by rcases hd with h' | h' <;> simp [h'] at h <;> exact h
    rw [this]; decide

theorem numberPrefix_cases (nb : Bool) (i : Nat) :
    numberPrefix nb i = [] ∨ ∃ t, numberPrefix nb i = t ++ [32] ∧ Word t ∧ t.contains 46 = true := by
  unfold numberPrefix
  cases nb with
  | false => exact Or.inl rfl
  | true =>
    simp only [if_true]
    split
    · exact Or.inr ⟨decimal (i / 2 + 1) ++ [46], by simp, word_number _ _ (Or.inl rfl)⟩
    · exact Or.inr ⟨decimal (i / 2 + 1) ++ [46, 46, 46], by simp, word_number _ _ (Or.inr rfl)⟩

def afterSan (m : Move) (more : Bytes) : Bytes :=
  match m.comment with
  | none => more
  | some c => 123 :: (c ++ 125 :: 32 :: more)

theorem renderMove_eq (i : Nat) (m : Move) (more : Bytes) :
    renderMove i m ++ more = numberPrefix m.numbered i ++ (m.san ++ 32 :: afterSan m more) := by
  unfold renderMove afterSan renderComment
  cases m.comment <;> simp

theorem isResultToken_no_dot (t : Bytes) (h : t.contains 46 = true) : isResultToken t = false := by
  cases hr : isResultToken t with
  | false => rfl
  | true =>
    simp only [isResultToken, Bool.or_eq_true, decide_eq_true_eq] at hr
    rcases hr with ((h1 | h1) | h1) | h1 <;> (rw [h1] at h; exact absurd h (by decide))

theorem word_san {s : Bytes} (h : WFSan s) : Word s ∧ isResultToken s = false ∧ s.contains 46 = false := by
  obtain ⟨h1, h2, h3, h4, h5, h6, h7⟩ := h
  have hb : ∀ a ∈ s, isBlank a = false := fun a ha => by
    have ha1 : a ≠ 32 := fun h' => h2 (h' ▸ ha)
    have ha2 : a ≠ 10 := fun h' => h3 (h' ▸ ha)
    simp [isBlank, ha1, ha2]
  refine ⟨⟨hb, ?_⟩, ?_, by simpa using h4⟩
  · cases s with
    | nil => exact absurd rfl h1
    | cons c r =>
      exact ⟨c, r, rfl, fun h' => h2 (by simp [h']), fun h' => h3 (by simp [h']), fun h' => h6 (by simp [h']),
        fun h' => h7 (by simp [h'])⟩
  · simp only [resultTokens, Result.token, List.mem_cons, List.not_mem_nil, or_false, not_or] at h5
    simp [isResultToken, h5.1, h5.2.1, h5.2.2.1, h5.2.2.2]

theorem replicate_blank (j : Nat) (b : UInt8) (hb : isBlank b = true) :
    ∀ a ∈ List.replicate j b, isBlank a = true := by
  intro a ha
  rw [(List.mem_replicate.mp ha).2]; exact hb

theorem word_result (res : Result) : Word res.token ∧ isResultToken res.token = true := by
  cases res <;> exact ⟨.of_plain (by decide) (by decide), by decide⟩

/-- the part of `read_move` after the SAN token `mv` has been read -/
theorem readMove_tail_reads (N : Nat) (mv : Bytes) (m : Move) (more : Bytes)
    (hc : (125 : UInt8) ∉ m.comment.getD []) (hmore : Starts Plain more) :
    Reads N (skipSpaces N >>ₑ
      peekByte >>=ₑ fun byte =>
      (if byte = 123 then readBracedAnnotation N >>=ₑ fun a => M.pure (some a)
       else if byte = 59 then readSemicolonAnnotation N >>=ₑ fun a => M.pure (some a)
       else M.pure none) >>=ₑ fun annotation =>
      M.pure (some (⟨mv, annotation⟩ : RawMove))) (32 :: afterSan m more)
      (some ⟨mv, m.comment⟩) (if m.comment.isSome then 32 :: more else more) := by
  unfold afterSan
  cases hcm : m.comment with
  | none =>
    obtain ⟨c, t, rfl, hp⟩ := hmore
    refine (skipSpaces_reads N _ ⟨c, t, rfl, hp.1⟩).bind ((Reads.of_run (run_peekByte_cons c t)).bind ?_)
    rw [if_neg hp.2.2.1, if_neg hp.2.2.2]
    exact fun _ => rfl
  | some cm =>
    rw [hcm] at hc
    refine (skipSpaces_reads N _ ⟨123, _, rfl, by decide⟩).bind ((Reads.of_run (run_peekByte_cons 123 _)).bind ?_)
    rw [if_pos rfl, readBraced_eq]
    exact Reads.bind (Reads.bind (delimited_reads 123 125 N cm (32 :: more) hc) .pure) .pure

theorem readMove_move_reads (N j i : Nat) (m : Move) (more : Bytes) (hm : WFMove m) (hmore : Starts Plain more) :
    Reads N (readMove N) (List.replicate j 32 ++ (renderMove i m ++ more)) (some (toRawMove m))
      (if m.comment.isSome then 32 :: more else more) := by
  obtain ⟨hw, hs2, hs3⟩ := word_san hm.1
  have hsan := hw.starts
  have htok := readToken_reads N m.san _ hw.noBlank (endsToken_sp (afterSan m more))
  have htail := readMove_tail_reads N m.san m more hm.2 hmore
  have hsp := replicate_blank j 32 (by decide)
  rw [renderMove_eq]
  unfold readMove
  rcases numberPrefix_cases m.numbered i with hp | ⟨t, hp, ht, hdot⟩
  · rw [hp, List.nil_append]
    refine (skipBLS_reads N _ _ hsp (hsan.append _)).bind (htok.bind ?_)
    simp only [hs2, hs3, Bool.false_eq_true, if_false]
    exact Reads.pure.bind htail
  · rw [hp, List.append_assoc, List.singleton_append]
    refine (skipBLS_reads N _ _ hsp (ht.starts.append _)).bind
      ((readToken_reads N t _ ht.noBlank (endsToken_sp _)).bind ?_)
    simp only [isResultToken_no_dot t hdot, hdot, Bool.false_eq_true, if_false, if_true]
    exact ((skipSpaces_reads N _ ((hsan.append _).imp fun _ h => h.1)).bind htok).bind htail

theorem readMove_result_reads (N j : Nat) (res : Result) (tail : Bytes) (htail : EndsToken tail) :
    Reads N (readMove N) (List.replicate j 32 ++ (res.token ++ tail)) none tail := by
  unfold readMove
  refine (skipBLS_reads N _ _ (replicate_blank j 32 (by decide)) ((word_result res).1.starts.append _)).bind
    ((readToken_reads N res.token tail (word_result res).1.noBlank htail).bind ?_)
  rw [if_pos (word_result res).2]
  exact .pure

theorem starts_moves (res : Result) (tail : Bytes) : ∀ (ms : List Move) (i : Nat), (∀ m ∈ ms, WFMove m) →
    Starts Plain (renderMoves i ms ++ (res.token ++ tail))
  | [], _, _ => (word_result res).1.starts.append tail
  | m :: ms, i, hms => by
    simp only [renderMoves, List.append_assoc]
    rw [renderMove_eq]
    rcases numberPrefix_cases m.numbered i with hp | ⟨t, hp, ht, -⟩
    · rw [hp]; exact (word_san (hms m (by simp)).1).1.starts.append _
    · rw [hp, List.append_assoc]; exact ht.starts.append _

theorem readMovesLoop_reads (N : Nat) (res : Result) (tail : Bytes) (htail : EndsToken tail) :
    ∀ (ms : List Move) (i j k : Nat) (acc : List RawMove), (∀ m ∈ ms, WFMove m) →
    (List.replicate j 32 ++ (renderMoves i ms ++ (res.token ++ tail))).length < k →
    Reads N (readMovesLoop N k acc) (List.replicate j 32 ++ (renderMoves i ms ++ (res.token ++ tail)))
      (acc ++ ms.map toRawMove) tail
  | [], i, j, k + 1, acc, _, _ => by
    unfold readMovesLoop
    exact (readMove_result_reads N j res tail htail).bind (by simpa using Reads.pure)
  | m :: ms, i, j, k + 1, acc, hms, hk => by
    intro hN
    simp only [renderMoves, List.append_assoc] at hk hN ⊢
    have h1 := readMove_move_reads N j i m _ (hms m (by simp))
      (starts_moves res tail ms (i + 1) fun m' h' => hms m' (by simp [h'])) hN
    have hd := readMove_decreases _ _ _ _ hN h1
    have ih := fun j' => readMovesLoop_reads N res tail htail ms (i + 1) j' k (acc ++ [toRawMove m])
      (fun m' h' => hms m' (by simp [h']))
    unfold readMovesLoop
    rw [run_mbind_ok h1]
    cases hcm : m.comment with
    | none =>
      simp only [hcm, Option.isSome_none, Bool.false_eq_true, if_false] at hd
      simpa using ih 0 (by rw [List.length_append, List.length_replicate]; omega)
        (by rw [List.length_append, List.length_replicate]; omega)
    | some cm =>
      simp only [hcm, Option.isSome_some, if_true, List.length_cons] at hd
      simpa using ih 1 (by rw [List.length_append, List.length_replicate]; omega)
        (by rw [List.length_append, List.length_replicate]; omega)

theorem endsToken_nl {tail : Bytes} (h : ∀ b, tail.head? = some b → b = 10) : EndsToken tail :=
  fun b hb => by rw [h b hb]; rfl

theorem readMoves_reads (N : Nat) (res : Result) (tail : Bytes) (ms : List Move)
    (htail : ∀ b, tail.head? = some b → b = 10) (hms : ∀ m ∈ ms, WFMove m) :
    Reads N (readMoves N) (renderMoves 0 ms ++ (res.token ++ tail)) (ms.map toRawMove) tail.tail := by
  intro hN
  have h := readMovesLoop_reads N res tail (endsToken_nl htail) ms 0 0 N [] hms (by simpa using hN) (by simpa using hN)
  simp only [List.replicate_zero, List.nil_append] at h
  unfold readMoves
  rw [run_mbind_ok h, run_mbind, run_attempt, skipToNextLine_spec N tail (Nat.lt_of_le_of_lt (length_le_of_run h) hN)]
  cases tail with
  | nil => rfl
  | cons b t => cases htail b rfl; simp [notNl]

theorem renderGame_eq (g : Game) (rest : Bytes) :
    renderGame g ++ rest = renderTags g.tags ++
      10 :: (renderMoves 0 g.moves ++ (g.result.token ++ (List.replicate g.trailing 10 ++ rest))) := by
  simp [renderGame]

theorem replicate_nl_append (n : Nat) (rest : Bytes) (h : 1 ≤ n ∨ rest = []) :
    (∀ b, (List.replicate n (10 : UInt8) ++ rest).head? = some b → b = 10) ∧
    (List.replicate n (10 : UInt8) ++ rest).tail = List.replicate (n - 1) 10 ++ rest := by
  cases n with
  | zero =>
    have hr : rest = [] := h.resolve_left (by omega)
    subst hr
    exact ⟨fun b hb => (by cases hb), rfl⟩
  | succ n =>
    refine ⟨fun b hb => ?_, by simp [List.replicate_succ]⟩
    simp only [List.replicate_succ, List.cons_append, List.head?_cons, Option.some.injEq] at hb
    exact hb.symm

theorem readPgn_reads (N : Nat) (g : Game) (rest : Bytes) (hg : WFGame g) (hrest : 1 ≤ g.trailing ∨ rest = []) :
    Reads N (readPgn N) (renderGame g ++ rest) (toRaw g) (List.replicate g.trailing 10 ++ rest).tail := by
  obtain ⟨_, htags, hnd, hms⟩ := hg
  rw [renderGame_eq]
  unfold readPgn readTagPairs
  exact Reads.bind (fun hN => readTagPairsLoop_reads N _ g.tags N [] htags (by simpa using hnd) hN hN) <|
    (skipBlankLines_reads N _ (starts_moves g.result _ g.moves 0 hms)).bind <|
    (readMoves_reads N g.result _ g.moves (replicate_nl_append g.trailing rest hrest).1 hms).bind .pure

theorem renderGame_head (g : Game) (hg : WFGame g) (rest : Bytes) : ∃ t, renderGame g ++ rest = 91 :: t := by
  obtain ⟨hne, _⟩ := hg
  rw [renderGame_eq]
  cases htg : g.tags with
  | nil => exact absurd htg hne
  | cons a as => exact ⟨_, by simp [renderTags, renderTag]; rfl⟩

theorem starts_game (g : Game) (hg : WFGame g) (rest : Bytes) : Starts Plain (renderGame g ++ rest) := by
  obtain ⟨t, ht⟩ := renderGame_head g hg rest
  exact ⟨91, t, ht, by decide, by decide, by decide, by decide⟩

theorem next_game (N j : Nat) (g : Game) (rest : Bytes) (hg : WFGame g)
    (hrest : 1 ≤ g.trailing ∨ rest = []) (hN : (List.replicate j 10 ++ (renderGame g ++ rest)).length < N) :
    run (next N) (List.replicate j 10 ++ (renderGame g ++ rest))
      = (some (.ok (toRaw g)), (List.replicate g.trailing 10 ++ rest).tail) := by
  have h1 := skipBLS_reads N _ _ (replicate_blank j 10 (by decide)) (starts_game g hg rest) hN
  unfold next
  rw [run_pbind, h1]
  simp only [run_pbind, readPgn_reads N g rest hg hrest (Nat.lt_of_le_of_lt (length_le_of_run h1) hN), run_ret]

theorem render_cons (g : Game) (gs : List Game) : render (g :: gs) = renderGame g ++ render gs := by
  simp [render]

theorem WFGames_cons (g : Game) (gs : List Game) :
    WFGames (g :: gs) ↔ WFGame g ∧ (1 ≤ g.trailing ∨ gs = []) ∧ WFGames gs := by
  cases gs with
  | nil => exact ⟨fun h => ⟨h, Or.inr rfl, trivial⟩, fun h => h.1⟩
  | cons g' gs' =>
    exact ⟨fun h => ⟨h.1, Or.inl h.2.1, h.2.2⟩, fun h => ⟨h.1, h.2.1.resolve_right (List.cons_ne_nil _ _), h.2.2⟩⟩

theorem readAllLoop_games (N : Nat) : ∀ (gs : List Game) (j k : Nat) (acc : List Item), WFGames gs →
    (List.replicate j 10 ++ render gs).length < N → (List.replicate j 10 ++ render gs).length < k →
    (run (readAllLoop N k acc) (List.replicate j 10 ++ render gs)).1 = acc ++ gs.map (fun g => Item.game (toRaw g))
  | [], j, k + 1, acc, _, hN, _ => by
    simp only [render, List.map_nil, List.flatten_nil, List.append_nil] at hN ⊢
    unfold readAllLoop next
    rw [run_pbind, run_pbind, skipBLS_spec N _ hN, List.dropWhile_replicate]
    simp [isBlank]
  | g :: gs, j, k + 1, acc, hwf, hN, hk => by
    obtain ⟨hg, hlast, hwf'⟩ := (WFGames_cons g gs).mp hwf
    have hrest : 1 ≤ g.trailing ∨ render gs = [] := hlast.imp_right fun e => by rw [e]; rfl
    rw [render_cons] at hN hk ⊢
    have h1 := next_game N j g (render gs) hg hrest hN
    have hd := next_decreases _ _ _ _ hN h1
    rw [(replicate_nl_append g.trailing (render gs) hrest).2] at h1 hd
    unfold readAllLoop
    rw [run_pbind, h1]
    simp only
    rw [readAllLoop_games N gs (g.trailing - 1) k _ hwf' (by omega) (by omega)]
    simp

/-- reading a rendered well-formed database yields exactly its games, in order, each with all
tag pairs (in order) and all SAN moves with their comments (the bytes between the braces, untrimmed) -/
theorem parse_render (gs : List Game) (h : WFGames gs) :
    readAll (render gs) = gs.map (fun g => Item.game (toRaw g)) := by
  have := readAllLoop_games ((render gs).length + 1) gs 0 ((render gs).length + 1) [] h (by simp) (by simp)
  simpa [readAll, readAllProg] using this

#print axioms fuel_adequate
#print axioms parse_render

/-- **C17** for the real reader: for every well-formed database in the Lichess layout, every chunk size ≥ 1 and
every fragmentation of the underlying reads, `PgnRawParser` yields exactly the games – in order, with all tag
pairs and all SAN tokens (castling or not, first game or not) with their comments, and no error item.
The SAN tokens are yielded verbatim (`toRawMove`); replaying them on a board is `C17Replay.pgn_replay`. -/
theorem c17 (gs : List Game) (h : WFGames gs) (chunk : Nat) (sched : Nat → Nat)
    (hchunk : 1 ≤ chunk) (hsched : ∀ k, 1 ≤ sched k) :
    readAllBuffered chunk sched (render gs) = gs.map (fun g => Item.game (toRaw g)) := by
  rw [chunk_independent _ chunk sched hchunk hsched, parse_render gs h]

theorem fuel_adequate_buffered (input : Bytes) (fuel : Nat) (h : input.length < fuel) (chunk : Nat)
    (sched : Nat → Nat) (hchunk : 1 ≤ chunk) (hsched : ∀ k, 1 ≤ sched k) :
    (run (readAllProg fuel) (Buffered.new ⟨input, sched, 0⟩ chunk)).1 = readAllBuffered chunk sched input := by
  rw [run_buffered_eq _ input chunk sched hchunk hsched, fuel_adequate input fuel h,
    chunk_independent input chunk sched hchunk hsched]

#print axioms c17
#print axioms fuel_adequate_buffered

/-! ## Concrete checks (kernel evaluation of the model, independent of the proofs above) -/

def B (s : String) : Bytes := s.toUTF8.data.toList

def mv (san : String) : RawMove := ⟨B san, none⟩
def mvc (san c : String) : RawMove := ⟨B san, some (B c)⟩

/-- 1: the real Lichess export (clock comments, `1...` after a comment, three line breaks after each game);
both sides castle; the second game is read like the first -/
def text1 : Bytes := B ("[Event \"Rated Blitz game\"]\n[Site \"https://lichess.org/abc\"]\n\n" ++
  "1. e4 { [%clk 0:03:00] } 1... e5 { [%clk 0:03:00] } 2. Nf3 Nc6 3. Bc4 Bc5 4. O-O Nf6 5. d3 O-O 1/2-1/2\n\n\n" ++
  "[Event \"x\"]\n\n1. d4 d5 2. Nc3 Nc6 3. Bf4 Bf5 4. Qd2 Qd7 5. O-O-O O-O-O 1-0\n\n\n")

def items1 : List Item := [
  .game ⟨[(B "Event", B "Rated Blitz game"), (B "Site", B "https://lichess.org/abc")],
    [mvc "e4" " [%clk 0:03:00] ", mvc "e5" " [%clk 0:03:00] ", mv "Nf3", mv "Nc6", mv "Bc4", mv "Bc5",
     mv "O-O", mv "Nf6", mv "d3", mv "O-O"]⟩,
  .game ⟨[(B "Event", B "x")],
    [mv "d4", mv "d5", mv "Nc3", mv "Nc6", mv "Bf4", mv "Bf5", mv "Qd2", mv "Qd7", mv "O-O-O", mv "O-O-O"]⟩]

example : readAll text1 = items1 := by decide +kernel

/-- 2: black `O-O` / `O-O-O` without move number, the result token directly followed by `\n\n[` of the next
game, an empty comment, the last game without trailing newline -/
def text2 : Bytes := B ("[White \"a\"]\n[Black \"b\"]\n\n1. e4 e5 2. Nf3 Nf6 3. Bc4 Bc5 4. O-O O-O 0-1\n\n" ++
  "[White \"c\"]\n\n1. d4 {} d5 { book } 2. Nc3 Nc6 3. Bf4 Bf5 4. Qd2 Qd7 5. O-O-O O-O-O *\n\n" ++
  "[White \"d\"]\n\n1. e4 1-0")

def items2 : List Item := [
  .game ⟨[(B "White", B "a"), (B "Black", B "b")],
    [mv "e4", mv "e5", mv "Nf3", mv "Nf6", mv "Bc4", mv "Bc5", mv "O-O", mv "O-O"]⟩,
  .game ⟨[(B "White", B "c")],
    [mvc "d4" "", mvc "d5" " book ", mv "Nc3", mv "Nc6", mv "Bf4", mv "Bf5", mv "Qd2", mv "Qd7",
     mv "O-O-O", mv "O-O-O"]⟩,
  .game ⟨[(B "White", B "d")], [mv "e4"]⟩]

example : readAll text2 = items2 := by decide +kernel

/-- the same through the buffered reader: chunk 3 with reads of 2,1,5,… bytes (the buffer shrinks to 2, then 1),
chunk 1, and one big chunk -/
example : readAllBuffered 3 (fun k => [2, 1, 5].getD (k % 3) 1) text2 = items2 := by decide +kernel
example : readAllBuffered 1 (fun _ => 1) text2 = items2 := by decide +kernel
example : readAllBuffered 8192 (fun _ => 8192) text2 = items2 := by decide +kernel

/-- 3: no move numbers at all, three games, a game without moves, one line break between games, `*` and `0-1` -/
def text3 : Bytes := B ("[E \"1\"]\n\ne4 e5 Nf3 Nc6 Bb5 a6 O-O { castles } Be7 *\n" ++
  "[E \"2\"]\n\n0-1\n" ++
  "[E \"3\"]\n[R \"1/2-1/2\"]\n\nd4 { [%clk 0:01:00] } d5 { [%clk 0:00:59] } 1/2-1/2\n")

def items3 : List Item := [
  .game ⟨[(B "E", B "1")],
    [mv "e4", mv "e5", mv "Nf3", mv "Nc6", mv "Bb5", mv "a6", mvc "O-O" " castles ", mv "Be7"]⟩,
  .game ⟨[(B "E", B "2")], []⟩,
  .game ⟨[(B "E", B "3"), (B "R", B "1/2-1/2")], [mvc "d4" " [%clk 0:01:00] ", mvc "d5" " [%clk 0:00:59] "]⟩]

example : readAll text3 = items3 := by decide +kernel
example : readAllBuffered 4 (fun k => [3, 1].getD (k % 2) 1) text3 = items3 := by decide +kernel

/-- the three texts are what the layout printer produces for well-formed databases, so `parse_render` (and
`c17`) apply to them; the kernel evaluations above agree with the theorem -/
def games2 : List Game := [
  ⟨[(B "White", B "a"), (B "Black", B "b")],
    Numbering.white.apply [(B "e4", none), (B "e5", none), (B "Nf3", none), (B "Nf6", none), (B "Bc4", none),
      (B "Bc5", none), (B "O-O", none), (B "O-O", none)], .blackWins, 2⟩,
  ⟨[(B "White", B "c")],
    Numbering.white.apply [(B "d4", some []), (B "d5", some (B " book ")), (B "Nc3", none), (B "Nc6", none),
      (B "Bf4", none), (B "Bf5", none), (B "Qd2", none), (B "Qd7", none), (B "O-O-O", none), (B "O-O-O", none)],
    .unknown, 2⟩,
  ⟨[(B "White", B "d")], Numbering.white.apply [(B "e4", none)], .whiteWins, 0⟩]

theorem render_games2 : render games2 = text2 := by decide +kernel
theorem wf_games2 : WFGames games2 := by decide +kernel
theorem raw_games2 : games2.map (fun g => Item.game (toRaw g)) = items2 := by decide +kernel

example : render games2 = text2 := render_games2
example : WFGames games2 := wf_games2
example : games2.map (fun g => Item.game (toRaw g)) = items2 := raw_games2
example : readAll text2 = items2 := by
  have h := parse_render games2 wf_games2
  rw [render_games2, raw_games2] at h
  exact h

def games1 : List Game := [
  ⟨[(B "Event", B "Rated Blitz game"), (B "Site", B "https://lichess.org/abc")],
    Numbering.lichess.apply [(B "e4", some (B " [%clk 0:03:00] ")), (B "e5", some (B " [%clk 0:03:00] ")),
      (B "Nf3", none), (B "Nc6", none), (B "Bc4", none), (B "Bc5", none), (B "O-O", none), (B "Nf6", none),
      (B "d3", none), (B "O-O", none)], .draw, 3⟩,
  ⟨[(B "Event", B "x")],
    Numbering.lichess.apply [(B "d4", none), (B "d5", none), (B "Nc3", none), (B "Nc6", none), (B "Bf4", none),
      (B "Bf5", none), (B "Qd2", none), (B "Qd7", none), (B "O-O-O", none), (B "O-O-O", none)], .whiteWins, 3⟩]

example : render games1 = text1 ∧ LichessGames games1 := by decide +kernel

def games3 : List Game := [
  ⟨[(B "E", B "1")],
    Numbering.none.apply [(B "e4", none), (B "e5", none), (B "Nf3", none), (B "Nc6", none), (B "Bb5", none),
      (B "a6", none), (B "O-O", some (B " castles ")), (B "Be7", none)], .unknown, 1⟩,
  ⟨[(B "E", B "2")], [], .blackWins, 1⟩,
  ⟨[(B "E", B "3"), (B "R", B "1/2-1/2")],
    Numbering.none.apply [(B "d4", some (B " [%clk 0:01:00] ")), (B "d5", some (B " [%clk 0:00:59] "))], .draw, 1⟩]

example : render games3 = text3 ∧ WFGames games3 := by decide +kernel

/-- the hypotheses of `c17` are satisfiable by a non-trivial value -/
example : readAllBuffered 3 (fun k => [2, 1, 5].getD (k % 3) 1) (render games2) = items2 := by
  rw [c17 games2 wf_games2 3 _ (by decide) sched215_pos]
  exact raw_games2

/-- `WFGames` is not vacuous in the other direction: the conditions are needed.  A SAN token that is a result
token ends the game early, and a game without trailing line break in the middle swallows the next tag line. -/
example : readAll (B "[a \"b\"]\n\ne4 1-0[c \"d\"]\n\nd4 *") ≠
    [.game ⟨[(B "a", B "b")], [mv "e4"]⟩, .game ⟨[(B "c", B "d")], [mv "d4"]⟩] := by decide +kernel

end Inkayaku.C17
