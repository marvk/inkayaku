import Inkayaku.Proofs.MoveText
import Inkayaku.Proofs.SanProofs
import Inkayaku.Model.FenBoard
/-!
# C13 — moves given as text are applied exactly when legal; a rejected text changes nothing

"Given a move in UCI notation, the board applies it exactly when it denotes a legal move of the current position
(promotion letter required exactly for promotions) and then reaches the successor position the rules define; any other
string is reported as an error and leaves the position exactly as it was.  Applying a list of moves is all-or-nothing:
if any move of the list is rejected the position is the one before the call.  The same no-side-effect guarantee holds
for SAN conversion of an illegal or unknown move."

Models (`Inkayaku.Model.San`, each returns the board it leaves behind): `findUci` = `Bitboard::find_uci`,
`makeUci` = `make_uci`, `makeAllUci` = `make_all_uci` (with its rollback list), `uciToSan` = `uci_to_pgn`,
`sanToMove` = `pgn_to_bb`.  "Legal position" = `WF.wf b = true`; "the position" = `WF.vis b` (everything except the
two scratch occupancy words; see `C03.vis_eq_iff`); "legal move" = member of `genLegal b`; "successor position" =
`make b m` (that `make` follows the rules of chess is property C02, not this one).

* `findUci_pure` — EVERY string (accepted, unknown, not valid) leaves the position as it was.
* `findUci_ok_iff` — accepted iff the FIRST pseudo-legal move with that (trimmed) text does not leave the own king
  attacked; `findUci_ok_iff_legal` — with pairwise different move texts (`UciNodup`, part of C01, a hypothesis here):
  accepted iff the text denotes a legal move, and that move is returned.  `findUci_err_kinds` — which error.
* `uci_text_length` — the text of a generated move has a fifth character exactly when it carries a promotion piece
  (so the four-character text never matches a promotion and the five-character text never matches a non-promotion).
* `makeUci_spec` — `make_uci`.
* `makeAllUci_all_or_nothing` — lists of any length, rejection at any index.  Hypothesis `WfStep` (a legal move keeps
  a well-formed board well-formed while both clocks stay in range; `Closure.wfStep` proves it, and
  `Closure.makeAllUci_all_or_nothing_wf` is the statement without it); side condition: the clocks have room for the list.
* `makeAllUci_after_rejection`, `findUci_idempotent` — repeated calls on the same board.
* `uciToSan_pure`, `uciToSan_err_iff` — SAN conversion.  `sanToMove_legal` — `pgn_to_bb` returns legal moves only.
-/
namespace Inkayaku.C13
open Inkayaku.Board Inkayaku.WF Inkayaku.San Inkayaku.Util Inkayaku.MoveText

/-- `find_uci` leaves the position exactly as it was, for every string and every outcome -/
theorem findUci_pure (b : Board) (hwf : wf b = true) (s : String) : vis (findUci b s).2 = vis b :=
  MoveText.findUci_pure hwf s

/-- … including both position hashes -/
theorem findUci_pure_hash (b : Board) (hwf : wf b = true) (s : String) :
    Zobrist.hash (findUci b s).2 = Zobrist.hash b ∧ Zobrist.pawnHash (findUci b s).2 = Zobrist.pawnHash b :=
  C03.hash_congr (MoveText.findUci_pure hwf s)

/-- accepted with result `m` iff `m` is the first pseudo-legal move (generator order) whose text is the trimmed string,
and making it does not leave the own king attacked.  (Holds for every board; `FirstWithText` already contains the
membership and the text, they are repeated for readability.) -/
theorem findUci_ok_iff (b : Board) (s : String) (m : Move) :
    (findUci b s).1 = .ok m ↔
      m ∈ genPseudo b ∧ m.uci = rustTrim s ∧ isValid (make b m) = true ∧ FirstWithText b (rustTrim s) m := by
  rw [findUci_ok_iff_first]
  constructor
  · rintro ⟨hf, hv⟩; exact ⟨hf.mem, hf.text, hv, hf⟩
  · rintro ⟨-, -, hv, hf⟩; exact ⟨hf, hv⟩

/-- with pairwise different move texts: the string is accepted with result `m` iff `m` is a legal move with that text -/
theorem findUci_ok_iff_legal (b : Board) (hnd : UciNodup b) (s : String) (m : Move) :
    (findUci b s).1 = .ok m ↔ m ∈ genLegal b ∧ m.uci = rustTrim s :=
  MoveText.findUci_ok_iff_legal hnd s m

/-- with pairwise different move texts: accepted iff the string denotes a legal move -/
theorem findUci_accepts_iff (b : Board) (hnd : UciNodup b) (s : String) :
    (∃ m, (findUci b s).1 = .ok m) ↔ ∃ m ∈ genLegal b, m.uci = rustTrim s := by
  constructor
  · rintro ⟨m, h⟩; exact ⟨m, (MoveText.findUci_ok_iff_legal hnd s m).1 h⟩
  · rintro ⟨m, h⟩; exact ⟨m, (MoveText.findUci_ok_iff_legal hnd s m).2 h⟩

/-- without `UciNodup`: an accepted move is always a legal move with that text -/
theorem findUci_ok_legal (b : Board) (s : String) (m : Move) (h : (findUci b s).1 = .ok m) :
    m ∈ genLegal b ∧ m.uci = rustTrim s := MoveText.findUci_ok_legal h

/-- the two errors: "does not exist" iff no pseudo-legal move has that text; "not valid" iff the first pseudo-legal
move with that text leaves the own king attacked; and there is no fourth outcome -/
theorem findUci_err_kinds (b : Board) (s : String) :
    ((findUci b s).1 = .error .notExist ↔ ∀ m ∈ genPseudo b, m.uci ≠ rustTrim s) ∧
    ((findUci b s).1 = .error .notValid ↔ ∃ m, FirstWithText b (rustTrim s) m ∧ isValid (make b m) = false) ∧
    ((∃ m, (findUci b s).1 = .ok m) ∨ (findUci b s).1 = .error .notExist ∨ (findUci b s).1 = .error .notValid) :=
  ⟨findUci_notExist_iff b s, findUci_notValid_iff b s, findUci_cases b s⟩

/-- with pairwise different move texts "not valid" means: the text denotes a pseudo-legal move that is not legal -/
theorem findUci_notValid_iff_nodup (b : Board) (hnd : UciNodup b) (s : String) :
    (findUci b s).1 = .error .notValid ↔
      ∃ m ∈ genPseudo b, m.uci = rustTrim s ∧ isValid (make b m) = false := by
  rw [findUci_notValid_iff]
  constructor
  · rintro ⟨m, hf, hv⟩; exact ⟨m, hf.mem, hf.text, hv⟩
  · rintro ⟨m, hm, ht, hv⟩; exact ⟨m, (first_iff_of_nodup hnd _ m).2 ⟨hm, ht⟩, hv⟩

/-- promotion letter exactly for promotions: the text of a generated move is four characters, plus a fifth exactly
when the promotion field holds a piece -/
theorem uci_text_length (b : Board) (hwf : wf b = true) (m : Move) (hm : m ∈ genPseudo b) :
    m.uci.length = 4 + (if 1 ≤ m.f.promotion ∧ m.f.promotion ≤ 6 then 1 else 0) := by
  have h := (GenOK.genPseudo_ok hwf m hm).1
  exact uci_length m.f h.2.2.1 h.2.2.2.1

/-- success: the string was accepted by `find_uci` and the board holds the successor position;
error: it is the error of `find_uci` and the position is unchanged -/
theorem makeUci_spec (b : Board) (hwf : wf b = true) (s : String) (b' : Board) :
    (makeUci b s = (.ok (), b') → ∃ m, (findUci b s).1 = .ok m ∧ vis b' = vis (make b m)) ∧
    (∀ e, makeUci b s = (.error e, b') → (findUci b s).1 = .error e ∧ vis b' = vis b) :=
  ⟨makeUci_ok hwf, fun _ => makeUci_err hwf⟩

/-- `make_uci` succeeds exactly when `find_uci` does -/
theorem makeUci_fst (b : Board) (s : String) :
    (makeUci b s).1 = match (findUci b s).1 with | .ok _ => .ok () | .error e => .error e := by
  rw [makeUci_eq]; cases (findUci b s).1 <;> rfl

/-!
`Accepts b ss ms`: the strings `ss` are accepted one after the other starting from `b` and denote the moves `ms`
(each in the position reached by the previous ones).  `RejectedAt b ss e`: some prefix of `ss` is accepted and the next
string is rejected with `e` in the position reached.  `C03.makeLine b ms` makes the moves first to last. -/

/-- for every list (any length, rejection at any index): on error the position is the one before the call and the error
is that of the first rejected string; on success every string was accepted and the position is the one reached by
making the accepted moves in order -/
theorem makeAllUci_all_or_nothing (hstep : WfStep) (b : Board) (ss : List String) (hwf : wf b = true)
    (hclk : b.halfmove + ss.length ≤ 4095 ∧ b.fullmove + ss.length < 2147483648) :
    match (makeAllUci b ss).1 with
    | .error e => vis (makeAllUci b ss).2 = vis b ∧ RejectedAt b ss e
    | .ok _ => ∃ ms, Accepts b ss ms ∧ vis (makeAllUci b ss).2 = vis (C03.makeLine b ms) :=
  MoveText.makeAllUci_all_or_nothing hstep b ss hwf hclk

/-- the same started in the middle of the loop, with an arbitrary rollback list `made` that leads back to `b0` -/
theorem makeAllUciAux_all_or_nothing (hstep : WfStep) (ss : List String) (b : Board) (made : List Move) (b0 : Board)
    (hinv : MoveText.Inv ss.length b) (hu : Undoes made b b0) :
    match (makeAllUciAux b ss made).1 with
    | .error e => vis (makeAllUciAux b ss made).2 = vis b0 ∧ RejectedAt b ss e
    | .ok _ => ∃ ms, Accepts b ss ms ∧ vis (makeAllUciAux b ss made).2 = vis (C03.makeLine b ms) :=
  makeAllUciAux_spec hstep ss b b made b0 rfl hinv hu

/-- the two outcomes exclude each other and determine the moves -/
theorem accepts_facts {b : Board} {ss : List String} {ms : List Move} (h : Accepts b ss ms) :
    ms.length = ss.length ∧ (∀ ms', Accepts b ss ms' → ms' = ms) ∧ ∀ e, ¬ RejectedAt b ss e :=
  ⟨h.length, fun _ h' => h'.unique h, fun _ => h.not_rejected⟩

/-- an earlier `find_uci` (any string, any outcome) does not change what a later one answers, nor the position -/
theorem findUci_idempotent (b : Board) (hwf : wf b = true) (s s' : String) :
    (findUci (findUci b s).2 s').1 = (findUci b s').1 ∧ vis (findUci (findUci b s).2 s').2 = vis b :=
  MoveText.findUci_idempotent hwf s s'

/-- after a rejected list, a further list is treated exactly as on the board before the first call -/
theorem makeAllUci_after_rejection (hstep : WfStep) (b : Board) (ss ss' : List String) (hwf : wf b = true)
    (hclk : b.halfmove + ss.length ≤ 4095 ∧ b.fullmove + ss.length < 2147483648)
    (hclk' : b.halfmove + ss'.length ≤ 4095 ∧ b.fullmove + ss'.length < 2147483648)
    (e : UciErr) (hrej : (makeAllUci b ss).1 = .error e) :
    (makeAllUci (makeAllUci b ss).2 ss').1 = (makeAllUci b ss').1 ∧
    match (makeAllUci b ss').1 with
    | .error _ => vis (makeAllUci (makeAllUci b ss).2 ss').2 = vis b
    | .ok _ => ∃ ms, Accepts b ss' ms ∧ vis (makeAllUci (makeAllUci b ss).2 ss').2 = vis (C03.makeLine b ms) := by
  -- the board left by the rejected call shows the position of `b`, so `makeAllUciAux_spec` speaks of it in terms of `b`
  have hv := MoveText.makeAllUci_all_or_nothing hstep b ss hwf hclk
  rw [hrej] at hv
  have hfst := makeAllUciAux_fst_congr ss' (makeAllUci b ss).2 b [] [] hv.1
  have h2 := makeAllUciAux_spec hstep ss' b (makeAllUci b ss).2 [] b hv.1 ⟨hwf, hclk'⟩ (Undoes.nil b)
  rw [hfst] at h2
  refine ⟨hfst, ?_⟩
  unfold makeAllUci
  revert h2
  cases (makeAllUciAux b ss' []).1 with
  | error _ => exact fun h => h.1
  | ok _ => exact id

/-- `uci_to_pgn` leaves the position as it was for every string -/
theorem uciToSan_pure (b : Board) (hwf : wf b = true) (s : String) : vis (uciToSan b s).2 = vis b :=
  MoveText.uciToSan_pure hwf s

/-- `uci_to_pgn` reports an error exactly when `find_uci` does, and the same one; it leaves the very same board -/
theorem uciToSan_err_iff (b : Board) (s : String) :
    (∀ e, (uciToSan b s).1 = .error e ↔ (findUci b s).1 = .error e) ∧
    ((∃ t, (uciToSan b s).1 = .ok t) ↔ ∃ m, (findUci b s).1 = .ok m) ∧
    (uciToSan b s).2 = (findUci b s).2 :=
  ⟨(uciToSan_eq_findUci b s).2.1, (uciToSan_eq_findUci b s).2.2, (uciToSan_eq_findUci b s).1⟩

/-- `pgn_to_bb` (a pure function in the model: all its probes are `is_move_legal` on generated moves, restored by C03)
answers legal moves only -/
theorem sanToMove_legal (b : Board) (san : String) (m : Move) (h : sanToMove b san = some m) : m ∈ genLegal b := by
  obtain ⟨_, _, _, hm, _⟩ := SanProofs.sanToMove_sound h
  exact hm

#print axioms findUci_pure
#print axioms findUci_pure_hash
#print axioms findUci_ok_iff
#print axioms findUci_ok_iff_legal
#print axioms findUci_accepts_iff
#print axioms findUci_ok_legal
#print axioms findUci_err_kinds
#print axioms findUci_notValid_iff_nodup
#print axioms uci_text_length
#print axioms makeUci_spec
#print axioms makeUci_fst
#print axioms makeAllUci_all_or_nothing
#print axioms makeAllUciAux_all_or_nothing
#print axioms accepts_facts
#print axioms findUci_idempotent
#print axioms makeAllUci_after_rejection
#print axioms uciToSan_pure
#print axioms uciToSan_err_iff
#print axioms sanToMove_legal

/-! ## Non-vacuity: concrete positions through the FEN reader, evaluated by the kernel -/

section Examples

def onFen (fen : String) (p : Board → Bool) : Bool :=
  match FenBoard.fromFenString fen with
  | .ok b => p b
  | .error _ => false

def isErr {α : Type} (r : Except UciErr α) (e : UciErr) : Bool :=
  match r with
  | .error e' => e' == e
  | .ok _ => false

def isOk {α : Type} (r : Except UciErr α) : Bool :=
  match r with
  | .error _ => false
  | .ok _ => true

def okMove (r : Except UciErr Move) (p : Move → Bool) : Bool :=
  match r with
  | .error _ => false
  | .ok m => p m

def sameVis (b c : Board) : Bool := decide (vis b = vis c)

def startFen : String := "rnbqkbnr/pppppppp/8/8/8/8/PPPPPPPP/RNBQKBNR w KQkq - 0 1"

-- pinned bishop (rook h1 pins g2 against the king f1): "g2f3" exists but is not valid; the board is unchanged;
-- "g2h1" (capturing the pinning rook) is accepted; the SAN conversion answers the same
set_option maxRecDepth 100000 in
example : onFen "4k3/8/8/8/8/8/6B1/5K1r w - - 0 1" (fun b =>
    wf b && isErr (findUci b "g2f3").1 .notValid && sameVis (findUci b "g2f3").2 b
    && isErr (makeUci b "g2f3").1 .notValid && sameVis (makeUci b "g2f3").2 b
    && isErr (uciToSan b "g2f3").1 .notValid && sameVis (uciToSan b "g2f3").2 b
    && isOk (findUci b "g2h1").1 && sameVis (findUci b "g2h1").2 b
    && decide ((uciToSan b "g2h1").1.toOption = some "Bxh1") && sameVis (uciToSan b "g2h1").2 b) = true := by
  decide +kernel

-- promotion: "e7e8" is refused (no such move), "e7e8q" accepted (and is a promotion to a queen), "e7e8k" refused;
-- surrounding white space is trimmed; other text is refused; the board is unchanged every time
set_option maxRecDepth 100000 in
example : onFen "7k/4P3/8/8/8/8/8/4K3 w - - 0 1" (fun b =>
    wf b && isErr (findUci b "e7e8").1 .notExist && sameVis (findUci b "e7e8").2 b
    && okMove (findUci b "e7e8q").1 (fun m => m.f.promotion == QUEEN && m.f.source == 12 && m.f.target == 4)
    && sameVis (findUci b "e7e8q").2 b
    && okMove (findUci b " \te7e8n\n").1 (fun m => m.f.promotion == KNIGHT)
    && isErr (findUci b "e7e8k").1 .notExist && isErr (findUci b "e7e8Q").1 .notExist
    && isErr (findUci b "").1 .notExist && isErr (findUci b "e1e2q").1 .notExist && isOk (findUci b "e1e2").1
    && isErr (findUci b "0000").1 .notExist && sameVis (findUci b "0000").2 b
    && decide ((uciToSan b "e7e8q").1.toOption = some "e8=Q+")
    && isErr (uciToSan b "e7e8").1 .notExist && sameVis (uciToSan b "e7e8").2 b) = true := by
  decide +kernel

-- `make_uci`: the successor position is reached on success, nothing changes on error
set_option maxRecDepth 100000 in
example : onFen startFen (fun b =>
    wf b && isOk (makeUci b "e2e4").1
    && okMove (findUci b "e2e4").1 (fun m => sameVis (makeUci b "e2e4").2 (make b m))
    && !sameVis (makeUci b "e2e4").2 b
    && isErr (makeUci b "e2e5").1 .notExist && sameVis (makeUci b "e2e5").2 b) = true := by
  decide +kernel

-- `make_all_uci`: rejected at index 0, 2 and 3 (unknown move / move that leaves the king in check) → position before
-- the call; accepted list → the moves are on the board
set_option maxRecDepth 100000 in
example : onFen startFen (fun b =>
    isErr (makeAllUci b ["e2e5", "e7e5"]).1 .notExist && sameVis (makeAllUci b ["e2e5", "e7e5"]).2 b
    && isErr (makeAllUci b ["e2e4", "e7e5", "e1e3"]).1 .notExist
    && sameVis (makeAllUci b ["e2e4", "e7e5", "e1e3"]).2 b
    && isErr (makeAllUci b ["e2e4", "d7d5", "f1b5", "e8d7", "g1f3"]).1 .notValid
    && sameVis (makeAllUci b ["e2e4", "d7d5", "f1b5", "e8d7", "g1f3"]).2 b
    && isOk (makeAllUci b ["e2e4", "d7d5", "f1b5", "c7c6"]).1
    && !sameVis (makeAllUci b ["e2e4", "d7d5", "f1b5", "c7c6"]).2 b
    -- a second call after the rejection behaves as on the fresh board
    && sameVis (makeAllUci (makeAllUci b ["e2e4", "e7e5", "e1e3"]).2 ["e2e4"]).2 (makeAllUci b ["e2e4"]).2) = true := by
  decide +kernel

-- hypotheses: `UciNodup` holds in the start position and in a position with promotions, castling and en passant
set_option maxRecDepth 100000 in
example : UciNodup C03.exStart ∧ UciNodup C03.exAllKinds := by
  unfold UciNodup; decide +kernel

-- hypotheses: `Inv` with room for a list, and the instance of `WfStep` for 1. e4
set_option maxRecDepth 100000 in
example : MoveText.Inv 1 C03.exStart ∧ MoveText.Inv 0 (make C03.exStart ⟨encode C03.exE2E4, 0⟩) := by
  unfold MoveText.Inv; decide +kernel

-- `Accepts` / `RejectedAt` are inhabited
theorem ok_of_okMove {r : Except UciErr Move} {m : Move} (h : okMove r (fun x => x == m) = true) : r = .ok m := by
  cases r with
  | error e => cases h
  | ok x => simp only [okMove, beq_iff_eq] at h; rw [h]

theorem err_of_isErr {α : Type} {r : Except UciErr α} {e : UciErr} (h : isErr r e = true) : r = .error e := by
  cases r with
  | error e' => simp only [isErr, beq_iff_eq] at h; rw [h]
  | ok x => cases h

theorem exStart_e2e4 : (findUci C03.exStart "e2e4").1 = .ok ⟨encode C03.exE2E4, 0⟩ :=
  ok_of_okMove (by decide +kernel)

set_option maxRecDepth 100000 in
example : Accepts C03.exStart ["e2e4", " e7e5 "] [⟨encode C03.exE2E4, 0⟩, ⟨encode C03.exE7E5, 0⟩] :=
  .cons exStart_e2e4 (.cons (ok_of_okMove (by decide +kernel)) (.nil _))

set_option maxRecDepth 100000 in
example : RejectedAt C03.exStart ["e2e4", "e7e4", "d2d4"] .notExist :=
  ⟨["e2e4"], "e7e4", ["d2d4"], [⟨encode C03.exE2E4, 0⟩], rfl, .cons exStart_e2e4 (.nil _), err_of_isErr (by decide +kernel)⟩

end Examples

end Inkayaku.C13
