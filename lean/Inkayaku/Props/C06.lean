import Inkayaku.Proofs.ZobristStep
import Inkayaku.Proofs.ListFacts
import Inkayaku.Model.WF
import Inkayaku.Model.FenBoard
/-!
# C06 — Zobrist hashing

"For every position and every legal move, updating the position hash and the pawn hash incrementally with the move's
hash delta gives exactly the hash computed from scratch for the resulting position. The hash depends only on placement,
side to move, castling rights and en-passant file — so the same position reached along different move orders, or with
different clocks, hashes identically — and changing any single one of those components changes the hash."

* `hash_incremental`, `pawnHash_incremental` : the incremental update is exact for every move that fits the board
  (`ZobristStep.HashMoveOK`, decidable; checked below on all generated moves of concrete positions).
* `hash_congr`, `hash_vis`, `hash_clocks` : the hashes are a function of `HashKey` (12 piece words, side to move, 4 rights,
  e.p. file / e.p. absent) — neither clocks, nor the scratch words, nor the way the position was reached can matter.
* `keys_good` : the 781 keys of the current build are non-zero and pairwise distinct (kernel-evaluated on `Gen.Zobrist`).
* `hash_side`, `hash_toggles_right`, `hash_ep_file`, `hash_moves_piece`, `hash_changes_kind` : changing exactly one
  component changes the hash.
-/
namespace Inkayaku.C06
open Inkayaku.Board Inkayaku.Zobrist Inkayaku.ZobristLinear Inkayaku.ZobristStep

theorem hash_incremental (b : Board) (m : Move) (h : HashMoveOK b m.f) :
    Zobrist.hash (make b m) = Zobrist.hash b ^^^ (xorOf m.f).1 :=
  ZobristStep.hash_incremental h

theorem pawnHash_incremental (b : Board) (m : Move) (h : HashMoveOK b m.f) :
    pawnHash (make b m) = pawnHash b ^^^ (xorOf m.f).2 :=
  ZobristStep.pawnHash_incremental h

#print axioms hash_incremental
#print axioms pawnHash_incremental

/- `HashMoveOK` holds for every move the generator emits on a well-formed board (`GenFacts.genPseudo_hashok`); the
   unconditional forms `WF.wf b → m ∈ genLegal b → …` are in `Props/C06Gen`.  The examples at the end of this file also
   evaluate it on every pseudo-legal move of eight positions that exercise all branches. -/

structure HashData where
  whitePawns : UInt64
  whiteKnights : UInt64
  whiteBishops : UInt64
  whiteRooks : UInt64
  whiteQueens : UInt64
  whiteKings : UInt64
  blackPawns : UInt64
  blackKnights : UInt64
  blackBishops : UInt64
  blackRooks : UInt64
  blackQueens : UInt64
  blackKings : UInt64
  turn : Nat
  whiteQueenSide : Bool
  whiteKingSide : Bool
  blackQueenSide : Bool
  blackKingSide : Bool
  /-- file of the e.p. square (meaningless when `epNone`) -/
  epFile : Nat
  epNone : Bool
deriving DecidableEq, Repr

/-- placement (12 words), side to move, the four rights, e.p. file and e.p. presence — no clocks, no scratch words -/
def HashKey (b : Board) : HashData :=
  { whitePawns := b.white.pawns, whiteKnights := b.white.knights, whiteBishops := b.white.bishops,
    whiteRooks := b.white.rooks, whiteQueens := b.white.queens, whiteKings := b.white.kings,
    blackPawns := b.black.pawns, blackKnights := b.black.knights, blackBishops := b.black.bishops,
    blackRooks := b.black.rooks, blackQueens := b.black.queens, blackKings := b.black.kings,
    turn := b.turn,
    whiteQueenSide := b.white.qs, whiteKingSide := b.white.ks, blackQueenSide := b.black.qs, blackKingSide := b.black.ks,
    epFile := b.ep % 8, epNone := b.ep == 0 }

/-- two boards with the same `HashKey` have the same hashes, however they were reached and whatever their clocks are -/
theorem hash_congr {b b' : Board} (h : HashKey b = HashKey b') :
    Zobrist.hash b = Zobrist.hash b' ∧ pawnHash b = pawnHash b' := by
  simp only [HashKey, HashData.mk.injEq] at h
  obtain ⟨h1, h2, h3, h4, h5, h6, h7, h8, h9, h10, h11, h12, h13, h14, h15, h16, h17, h18, h19⟩ := h
  have e0 : (b.ep != 0) = (b'.ep != 0) := by simp only [bne, h19]
  have hp : pawnHash b = pawnHash b' := by
    simp only [pawnHash, enPassant, h1, h7, h13, h18, e0]
  refine ⟨?_, hp⟩
  simp only [Zobrist.hash, hp, h2, h3, h4, h5, h6, h8, h9, h10, h11, h12, h14, h15, h16, h17]

/-- the scratch words are not hashed -/
theorem hash_vis (b : Board) : Zobrist.hash b = Zobrist.hash (WF.vis b) ∧ pawnHash b = pawnHash (WF.vis b) :=
  hash_congr rfl

/-- the clocks are not hashed -/
theorem hash_clocks (b : Board) (fm hm : Nat) :
    Zobrist.hash { b with fullmove := fm, halfmove := hm } = Zobrist.hash b
      ∧ pawnHash { b with fullmove := fm, halfmove := hm } = pawnHash b :=
  hash_congr rfl

#print axioms hash_congr
#print axioms hash_vis
#print axioms hash_clocks

/-- names of the 12·64 + 8 + 4 + 1 keys -/
inductive KeyId
  | piece (color piece sq : Nat)
  | ep (file : Nat)
  | castle (side color : Nat)
  | side
deriving DecidableEq, Repr

def keyVal : KeyId → UInt64
  | .piece c p s => pieceSquare p s c
  | .ep f => enPassant f
  | .castle sd c => castle sd c
  | .side => blackToMove

def allIds : List KeyId :=
  ([0, 1].flatMap fun c => [1, 2, 3, 4, 5, 6].flatMap fun p => (List.range 64).map fun s => KeyId.piece c p s)
    ++ (List.range 8).map KeyId.ep
    ++ [.castle QUEEN 0, .castle KING 0, .castle QUEEN 1, .castle KING 1] ++ [.side]

/-- one run of the radix check: with `0` in front of the list, distinctness also says that no key is zero -/
theorem keys_distinct : radixDistinct 64 0 (0 :: allIds.map (fun k => (keyVal k).toNat)) = true := by decide +kernel
theorem allIds_length : allIds.length = 781 := by decide +kernel

theorem keys_good :
    allIds.length = 781 ∧ (∀ k, k ∈ allIds → keyVal k ≠ 0) ∧ (allIds.map keyVal).Pairwise (· ≠ ·) := by
  have h := List.pairwise_cons.mp (radixDistinct_sound 64 0 _ keys_distinct)
  refine ⟨allIds_length, fun k hk h0 => h.1 _ (List.mem_map_of_mem (f := fun k => (keyVal k).toNat) hk) (by rw [h0]; rfl), ?_⟩
  have h2 := h.2
  rw [List.pairwise_map] at h2 ⊢
  exact h2.imp (fun hne heq => hne (congrArg UInt64.toNat heq))

#print axioms keys_good

theorem keyVal_ne_zero {k : KeyId} (hk : k ∈ allIds) : keyVal k ≠ 0 := keys_good.2.1 k hk

theorem keyVal_inj {k k' : KeyId} (hk : k ∈ allIds) (hk' : k' ∈ allIds) (h : keyVal k = keyVal k') : k = k' :=
  ListFacts.eq_of_nodup_map _ keys_good.2.2 hk hk' h

theorem piece_mem {c p s : Nat} (hc : c ≤ 1) (hp1 : 1 ≤ p) (hp6 : p ≤ 6) (hs : s < 64) : KeyId.piece c p s ∈ allIds := by
  simp only [allIds, List.mem_append, List.mem_flatMap, List.mem_map, List.mem_range, List.mem_cons,
    KeyId.piece.injEq, List.not_mem_nil, or_false]
  refine Or.inl (Or.inl (Or.inl ⟨c, by omega, p, by omega, s, hs, rfl, rfl, rfl⟩))

theorem ep_mem {f : Nat} (hf : f < 8) : KeyId.ep f ∈ allIds := by
  simp only [allIds, List.mem_append, List.mem_map, List.mem_range]
  exact Or.inl (Or.inl (Or.inr ⟨f, hf, rfl⟩))

theorem side_mem : KeyId.side ∈ allIds := by simp [allIds]
theorem castle_mem {sd c : Nat} (hsd : sd = QUEEN ∨ sd = KING) (hc : c ≤ 1) : KeyId.castle sd c ∈ allIds := by
  have : c = 0 ∨ c = 1 := by omega
  rcases hsd with rfl | rfl <;> rcases this with rfl | rfl <;> simp [allIds]

theorem blackToMove_ne_zero : blackToMove ≠ 0 := keyVal_ne_zero side_mem

theorem castle_ne_zero {sd c : Nat} (hsd : sd = QUEEN ∨ sd = KING) (hc : c ≤ 1) : castle sd c ≠ 0 :=
  keyVal_ne_zero (castle_mem hsd hc)

theorem enPassant_mod (e : Nat) : enPassant e = enPassant (e % 8) := by
  unfold enPassant; rw [Nat.mod_mod]

theorem enPassant_ne_zero (e : Nat) : enPassant e ≠ 0 := by
  rw [enPassant_mod]; exact keyVal_ne_zero (ep_mem (Nat.mod_lt _ (by decide)))

theorem enPassant_ne {e e' : Nat} (h : e % 8 ≠ e' % 8) : enPassant e ≠ enPassant e' := by
  rw [enPassant_mod e, enPassant_mod e']
  intro heq
  have := keyVal_inj (ep_mem (Nat.mod_lt e (by decide))) (ep_mem (Nat.mod_lt e' (by decide))) heq
  exact h (KeyId.ep.inj this)

theorem pieceSquare_ne {c p s c' p' s' : Nat} (hc : c ≤ 1) (hp1 : 1 ≤ p) (hp6 : p ≤ 6) (hs : s < 64)
    (hc' : c' ≤ 1) (hp1' : 1 ≤ p') (hp6' : p' ≤ 6) (hs' : s' < 64) (hne : ¬ (c = c' ∧ p = p' ∧ s = s')) :
    pieceSquare p s c ≠ pieceSquare p' s' c' := by
  intro heq
  have := keyVal_inj (piece_mem hc hp1 hp6 hs) (piece_mem hc' hp1' hp6' hs') heq
  exact hne (by simpa using this)

theorem xor_delta_ne {h d : UInt64} (hd : d ≠ 0) : h ^^^ d ≠ h := fun e =>
  hd ((UInt64.xor_right_inj h).mp (e.trans UInt64.xor_zero.symm))

theorem xor_ne_zero {a b : UInt64} (h : a ≠ b) : a ^^^ b ≠ 0 := fun e => h (UInt64.xor_eq_zero_iff.mp e)

/-- (side to move) two boards that differ only in the side to move hash differently -/
theorem hash_side (b : Board) {t t' : Nat} (ht : t ≤ 1) (ht' : t' ≤ 1) (hne : t ≠ t') :
    Zobrist.hash { b with turn := t } ≠ Zobrist.hash { b with turn := t' } := by
  have key : Zobrist.hash { b with turn := 0 } = Zobrist.hash { b with turn := 1 } ^^^ blackToMove := by
    rw [ZobristStep.hash_eq, ZobristStep.hash_eq { b with turn := 1 }, pawnHash_eq, pawnHash_eq { b with turn := 1 }]
    simp only [sideKey, Nat.reduceBEq, beq_self_eq_true, if_true, if_false, Bool.false_eq_true, UInt64.xor_zero]
    ac_rfl
  have : (t = 0 ∧ t' = 1) ∨ (t = 1 ∧ t' = 0) := by omega
  rcases this with ⟨rfl, rfl⟩ | ⟨rfl, rfl⟩
  · rw [key]; exact xor_delta_ne blackToMove_ne_zero
  · rw [key]; exact (xor_delta_ne blackToMove_ne_zero).symm

inductive Right | whiteQueen | whiteKing | blackQueen | blackKing
deriving DecidableEq, Repr

def setRight (b : Board) : Right → Bool → Board
  | .whiteQueen, v => { b with white := { b.white with qs := v } }
  | .whiteKing, v => { b with white := { b.white with ks := v } }
  | .blackQueen, v => { b with black := { b.black with qs := v } }
  | .blackKing, v => { b with black := { b.black with ks := v } }

theorem npHash_qs (s : Side) (v : Bool) (c : Nat) : npHash { s with qs := v } c = npHash s c := rfl
theorem npHash_ks (s : Side) (v : Bool) (c : Nat) : npHash { s with ks := v } c = npHash s c := rfl
theorem pwHash_qs (s : Side) (v : Bool) (c : Nat) : pwHash { s with qs := v } c = pwHash s c := rfl
theorem pwHash_ks (s : Side) (v : Bool) (c : Nat) : pwHash { s with ks := v } c = pwHash s c := rfl
theorem rightsHash_qs (s : Side) (c : Nat) :
    rightsHash { s with qs := true } c = rightsHash { s with qs := false } c ^^^ castle QUEEN c := by
  simp only [rightsHash, if_true, if_false, Bool.false_eq_true, UInt64.zero_xor]
  exact UInt64.xor_comm _ _
theorem rightsHash_ks (s : Side) (c : Nat) :
    rightsHash { s with ks := true } c = rightsHash { s with ks := false } c ^^^ castle KING c := by
  simp only [rightsHash, if_true, if_false, Bool.false_eq_true, UInt64.xor_zero]

def rightKey : Right → UInt64
  | .whiteQueen => castle QUEEN 0
  | .whiteKing => castle KING 0
  | .blackQueen => castle QUEEN 1
  | .blackKing => castle KING 1

theorem hash_setRight (b : Board) (r : Right) :
    Zobrist.hash (setRight b r true) = Zobrist.hash (setRight b r false) ^^^ rightKey r := by
  cases r
  all_goals
    simp only [setRight, rightKey]
    rw [ZobristStep.hash_eq, ZobristStep.hash_eq, pawnHash_eq, pawnHash_eq]
    simp only [npHash_qs, npHash_ks, pwHash_qs, pwHash_ks, rightsHash_qs, rightsHash_ks]
    ac_rfl

/-- (castling rights) two boards that differ only in one castling right hash differently -/
theorem hash_toggles_right (b : Board) (r : Right) :
    Zobrist.hash (setRight b r true) ≠ Zobrist.hash (setRight b r false) := by
  rw [hash_setRight]
  apply xor_delta_ne
  cases r
  · exact castle_ne_zero (Or.inl rfl) (by decide)
  · exact castle_ne_zero (Or.inr rfl) (by decide)
  · exact castle_ne_zero (Or.inl rfl) (by decide)
  · exact castle_ne_zero (Or.inr rfl) (by decide)

def epComponent (ep : Nat) : Option Nat := if ep = 0 then none else some (ep % 8)

/-- (en passant) two boards that differ only in the e.p. square hash differently as soon as the e.p. FILE differs or
one has an e.p. square and the other has none -/
theorem hash_ep_file (b : Board) {e e' : Nat} (hne : epComponent e ≠ epComponent e') :
    Zobrist.hash { b with ep := e } ≠ Zobrist.hash { b with ep := e' } := by
  have key : Zobrist.hash { b with ep := e } = Zobrist.hash { b with ep := e' } ^^^ (epKey e ^^^ epKey e') := by
    rw [ZobristStep.hash_eq, ZobristStep.hash_eq { b with ep := e' }, pawnHash_eq, pawnHash_eq { b with ep := e' },
      UInt64.xor_comm (epKey e)]
    apply xor_exchange
    dsimp only
    ac_rfl
  rw [key]
  apply xor_delta_ne
  apply xor_ne_zero
  unfold epComponent at hne
  unfold epKey
  by_cases h0 : e = 0
  · by_cases h0' : e' = 0
    · subst h0 h0'; exact absurd rfl hne
    · subst h0
      have : (e' != 0) = true := by simpa using h0'
      simp only [this, if_true]
      exact (enPassant_ne_zero e').symm
  · have h1 : (e != 0) = true := by simpa using h0
    by_cases h0' : e' = 0
    · subst h0'
      simp only [h1, if_true]
      exact enPassant_ne_zero e
    · have h1' : (e' != 0) = true := by simpa using h0'
      simp only [h1, h1', if_true]
      rw [if_neg h0, if_neg h0'] at hne
      exact enPassant_ne (fun h => hne (congrArg some h))

def word (b : Board) (c p : Nat) : UInt64 := (if c = 0 then b.white else b.black).get p

def setWord (b : Board) (c p : Nat) (v : UInt64) : Board :=
  if c = 0 then { b with white := b.white.set p v } else { b with black := b.black.set p v }

theorem hash_setWord (b : Board) {c p : Nat} (hc : c ≤ 1) (hp : p ≤ 6) (v : UInt64) :
    Zobrist.hash (setWord b c p v) = Zobrist.hash b ^^^ (hashOcc (word b c p) p c ^^^ hashOcc v p c) := by
  have : c = 0 ∨ c = 1 := by omega
  rcases this with rfl | rfl
  · simp only [setWord, word, if_true]
    rw [ZobristStep.hash_eq, ZobristStep.hash_eq b, pawnHash_eq, pawnHash_eq b]
    simp only []
    rw [npHash_set _ hp, pwHash_set _ hp, rightsHash_congr (MakeUnmake.qs_set b.white p v) (MakeUnmake.ks_set b.white p v)]
    split <;> simp only [UInt64.xor_zero] <;> ac_rfl
  · simp only [setWord, word, Nat.succ_ne_self, if_false]
    rw [ZobristStep.hash_eq, ZobristStep.hash_eq b, pawnHash_eq, pawnHash_eq b]
    simp only []
    rw [npHash_set _ hp, pwHash_set _ hp, rightsHash_congr (MakeUnmake.qs_set b.black p v) (MakeUnmake.ks_set b.black p v)]
    split <;> simp only [UInt64.xor_zero] <;> ac_rfl

/-- (placement, square) moving one piece of colour `c` and kind `p` from `s` to a different square `t` that does not
hold such a piece changes the hash -/
theorem hash_moves_piece (b : Board) {c p s t : Nat} (hc : c ≤ 1) (hp1 : 1 ≤ p) (hp6 : p ≤ 6)
    (hs : testU (word b c p) s = true) (ht : t < 64) (hclear : testU (word b c p) t = false) :
    Zobrist.hash (setWord b c p (clearBit (word b c p) (bitU s) ||| bitU t)) ≠ Zobrist.hash b := by
  have hst : s ≠ t := by intro e; subst e; rw [hs] at hclear; exact Bool.noConfusion hclear
  rw [hash_setWord b hc hp6, hashOcc_moveBit hs ht hclear, UInt64.xor_assoc (hashOcc _ _ _), xor_cancel_left]
  apply xor_delta_ne
  apply xor_ne_zero
  exact pieceSquare_ne hc hp1 hp6 (Bits.testU_lt hs) hc hp1 hp6 ht (fun h => hst h.2.2)

theorem word_setWord_ne (b : Board) {c p c' p' : Nat} (hc : c ≤ 1) (hc' : c' ≤ 1) (hne : ¬ (c = c' ∧ p = p'))
    (v : UInt64) : word (setWord b c p v) c' p' = word b c' p' := by
  have h1 : c = 0 ∨ c = 1 := by omega
  have h2 : c' = 0 ∨ c' = 1 := by omega
  rcases h1 with rfl | rfl <;> rcases h2 with rfl | rfl
  · simp only [word, setWord, if_true]
    exact MakeUnmake.get_set_ne _ (fun e => hne ⟨rfl, e⟩) _
  · simp [word, setWord]
  · simp [word, setWord]
  · simp only [word, setWord, Nat.succ_ne_self, if_false]
    exact MakeUnmake.get_set_ne _ (fun e => hne ⟨rfl, e⟩) _

/-- (placement, kind/colour) replacing the piece (`c`, `p`) on square `s` by a piece of another kind or colour
(`c'`, `p'`) changes the hash -/
theorem hash_changes_kind (b : Board) {c p c' p' s : Nat} (hc : c ≤ 1) (hp1 : 1 ≤ p) (hp6 : p ≤ 6)
    (hc' : c' ≤ 1) (hp1' : 1 ≤ p') (hp6' : p' ≤ 6) (hne : ¬ (c = c' ∧ p = p'))
    (hs : testU (word b c p) s = true) (hs' : testU (word b c' p') s = false) :
    Zobrist.hash (setWord (setWord b c p (clearBit (word b c p) (bitU s))) c' p' (word b c' p' ||| bitU s))
      ≠ Zobrist.hash b := by
  have hs64 := Bits.testU_lt hs
  rw [hash_setWord _ hc' hp6', word_setWord_ne b hc hc' hne, hash_setWord b hc hp6, hashOcc_clearBit hs,
    hashOcc_setBit hs64 hs', xor_cancel_left, xor_cancel_left, UInt64.xor_assoc]
  apply xor_delta_ne
  apply xor_ne_zero
  exact pieceSquare_ne hc hp1 hp6 hs64 hc' hp1' hp6' hs64 (fun h => hne ⟨h.1, h.2.1⟩)

#print axioms hash_side
#print axioms hash_toggles_right
#print axioms hash_ep_file
#print axioms hash_moves_piece
#print axioms hash_changes_kind

/-! ## Non-vacuity and sanity on concrete positions (kernel-evaluated) -/

def bd (s : String) : Board :=
  match FenBoard.fromFenString s with
  | .ok b => b
  | .error _ => default

def allMovesOK (fen : String) (n : Nat) : Bool :=
  (genPseudo (bd fen)).length == n && (genPseudo (bd fen)).all (fun m => decide (HashMoveOK (bd fen) m.f))

theorem allMovesOK_legal {fen : String} {n : Nat} (h : allMovesOK fen n = true) (m : Move)
    (hm : m ∈ genLegal (bd fen)) : HashMoveOK (bd fen) m.f := by
  simp only [allMovesOK, Bool.and_eq_true, List.all_eq_true, decide_eq_true_eq] at h
  exact h.2 m (List.mem_filter.mp hm).1

def startFen := "rnbqkbnr/pppppppp/8/8/8/8/PPPPPPPP/RNBQKBNR w KQkq - 0 1"
/-- castling both ways, captures, quiet moves, rights lost by rook/king moves and by captures on the corners -/
def kiwipeteW := "r3k2r/p1ppqpb1/bn2pnp1/3PN3/1p2P3/2N2Q1p/PPPBBPPP/R3K2R w KQkq - 0 1"
def kiwipeteB := "r3k2r/p1ppqpb1/bn2pnp1/3PN3/1p2P3/2N2Q1p/PPPBBPPP/R3K2R b KQkq - 0 1"
/-- en passant available for white (f6) / for black (e3) -/
def epW := "rnbqkbnr/ppp1p1pp/8/3pPp2/8/8/PPPP1PPP/RNBQKBNR w KQkq f6 0 3"
def epB := "rnbqkbnr/ppp1p1pp/8/8/3pPp2/8/PPPP1PPP/RNBQKBNR b KQkq e3 0 3"
/-- promotions with and without capture -/
def promoW := "r3k2r/Pppp1ppp/1b3nbN/nP6/BBP1P3/q4N2/Pp1P2PP/R2Q1RK1 w kq - 0 1"
def promoB := "r2q1rk1/pP1p2pp/Q4n2/bbp1p3/Np6/1B3NBn/pPPP1PPP/R3K2R b KQ - 0 1"
/-- a small position with a castling move, an e.p. capture, promotions with and without capture (taking the a8 rook,
which costs black the queen-side right), king and rook moves that lose the white right -/
def mixed := "r3k3/1P6/8/3pP3/8/8/8/4K2R w Kq d6 0 2"

/-- the parsed start position written out: the examples below that only need the board rewrite with it first, so
that the kernel does not parse the FEN once more for each of them -/
theorem bd_startFen : bd startFen =
    { white := { pawns := 0x00FF000000000000, knights := 0x4200000000000000, bishops := 0x2400000000000000,
                 rooks := 0x8100000000000000, queens := 0x0800000000000000, kings := 0x1000000000000000,
                 qs := true, ks := true }
      black := { pawns := 0xFF00, knights := 0x42, bishops := 0x24, rooks := 0x81, queens := 0x08, kings := 0x10,
                 qs := true, ks := true }
      turn := 0, ep := 0, fullmove := 1, halfmove := 0 } := by decide +kernel

-- `HashMoveOK` holds for every generated move of these positions (so the hypothesis of `hash_incremental` is satisfiable, for every
-- branch: castle, en passant, promotion, capture, quiet)
example : allMovesOK startFen 20 = true := by decide +kernel
theorem kiwipeteW_ok : allMovesOK kiwipeteW 48 = true := by decide +kernel
example : allMovesOK kiwipeteB 43 = true := by decide +kernel
example : allMovesOK epW 31 = true := by decide +kernel
example : allMovesOK epB 31 = true := by decide +kernel
example : allMovesOK promoW 38 = true := by decide +kernel
example : allMovesOK promoB 38 = true := by decide +kernel
example : allMovesOK mixed 25 = true := by decide +kernel

-- hence the incremental identities for every legal move of e.g. the castling-rich position
example (m : Move) (hm : m ∈ genLegal (bd kiwipeteW)) :
    Zobrist.hash (make (bd kiwipeteW) m) = Zobrist.hash (bd kiwipeteW) ^^^ (xorOf m.f).1
      ∧ pawnHash (make (bd kiwipeteW) m) = pawnHash (bd kiwipeteW) ^^^ (xorOf m.f).2 :=
  have h := allMovesOK_legal kiwipeteW_ok m hm
  ⟨hash_incremental _ m h, pawnHash_incremental _ m h⟩

-- independent evaluation of both sides of the identities by the kernel (model sanity, not using the theorems)
example : (genPseudo (bd mixed)).all (fun m =>
    Zobrist.hash (make (bd mixed) m) == Zobrist.hash (bd mixed) ^^^ (xorOf m.f).1
      && pawnHash (make (bd mixed) m) == pawnHash (bd mixed) ^^^ (xorOf m.f).2) = true := by decide +kernel

def playUci : Board → List String → Board
  | b, [] => b
  | b, u :: us =>
    match (genPseudo b).find? (fun m => m.uci == u) with
    | some m => playUci (make b m) us
    | none => b

-- the same position reached along two move orders (clocks differ from a direct set-up, too): equal `HashKey`, so
-- equal hashes
theorem transposition_key : HashKey (playUci (bd startFen) ["g1f3", "g8f6", "b1c3", "b8c6"])
    = HashKey (playUci (bd startFen) ["b1c3", "b8c6", "g1f3", "g8f6"]) := by
  rw [bd_startFen]
  decide +kernel
example : Zobrist.hash (playUci (bd startFen) ["g1f3", "g8f6", "b1c3", "b8c6"])
    = Zobrist.hash (playUci (bd startFen) ["b1c3", "b8c6", "g1f3", "g8f6"]) :=
  (hash_congr transposition_key).1
-- the same placement with other clocks: different boards, equal hashes
example : bd "r1bqkb1r/pppppppp/2n2n2/8/8/2N2N2/PPPPPPPP/R1BQKB1R w KQkq - 4 3"
    ≠ bd "r1bqkb1r/pppppppp/2n2n2/8/8/2N2N2/PPPPPPPP/R1BQKB1R w KQkq - 17 40" :=
  fun h => absurd (congrArg Board.halfmove h) (by decide +kernel)
example : Zobrist.hash (bd "r1bqkb1r/pppppppp/2n2n2/8/8/2N2N2/PPPPPPPP/R1BQKB1R w KQkq - 4 3")
    = Zobrist.hash (bd "r1bqkb1r/pppppppp/2n2n2/8/8/2N2N2/PPPPPPPP/R1BQKB1R w KQkq - 17 40") :=
  (hash_congr (by decide +kernel)).1
def roundTrip (b : Board) (u : String) : Board :=
  match (genPseudo b).find? (fun m => m.uci == u) with
  | some m => unmake (make b m) m
  | none => b
-- the scratch words do get scribbled on (by `unmake` of a quiet move), so `hash_vis` says something
example : (roundTrip (bd startFen) "e2e4").black.o0 ≠ 0 ∧ roundTrip (bd startFen) "e2e4" ≠ bd startFen
    ∧ WF.vis (roundTrip (bd startFen) "e2e4") = bd startFen := by
  rw [bd_startFen]
  decide +kernel

example : Zobrist.hash { bd startFen with turn := 0 } ≠ Zobrist.hash { bd startFen with turn := 1 } :=
  hash_side _ (by decide) (by decide) (by decide)
example : Zobrist.hash (setRight (bd startFen) .blackKing true) ≠ Zobrist.hash (setRight (bd startFen) .blackKing false) :=
  hash_toggles_right _ _
example : setRight (bd startFen) .blackKing true = bd startFen := by
  rw [bd_startFen]
  rfl
-- e.p. square e3 (44) vs d3 (43) vs none; but e3 (44) and e6 (20) are the same file: only the file is hashed
example : Zobrist.hash { bd epB with ep := 44 } ≠ Zobrist.hash { bd epB with ep := 43 } := hash_ep_file _ (by decide)
example : Zobrist.hash { bd epB with ep := 44 } ≠ Zobrist.hash { bd epB with ep := 0 } := hash_ep_file _ (by decide)
example : Zobrist.hash { bd epB with ep := 44 } = Zobrist.hash { bd epB with ep := 20 } := (hash_congr (by decide +kernel)).1
example : { bd epB with ep := 44 } = bd epB := by decide +kernel
-- the white knight g1 (62) goes to f3 (45)
example : Zobrist.hash (setWord (bd startFen) 0 KNIGHT
    (clearBit (word (bd startFen) 0 KNIGHT) (bitU 62) ||| bitU 45)) ≠ Zobrist.hash (bd startFen) :=
  hash_moves_piece _ (by decide) (by decide) (by decide) (by rw [bd_startFen]; decide) (by decide)
    (by rw [bd_startFen]; decide)
-- the white knight g1 is replaced by a black queen / by a white bishop
example : Zobrist.hash (setWord (setWord (bd startFen) 0 KNIGHT (clearBit (word (bd startFen) 0 KNIGHT) (bitU 62)))
    1 QUEEN (word (bd startFen) 1 QUEEN ||| bitU 62)) ≠ Zobrist.hash (bd startFen) :=
  hash_changes_kind _ (by decide) (by decide) (by decide) (by decide) (by decide) (by decide) (by decide)
    (by rw [bd_startFen]; decide) (by rw [bd_startFen]; decide)
example : Zobrist.hash (setWord (setWord (bd startFen) 0 KNIGHT (clearBit (word (bd startFen) 0 KNIGHT) (bitU 62)))
    0 BISHOP (word (bd startFen) 0 BISHOP ||| bitU 62)) ≠ Zobrist.hash (bd startFen) :=
  hash_changes_kind _ (by decide) (by decide) (by decide) (by decide) (by decide) (by decide) (by decide)
    (by rw [bd_startFen]; decide) (by rw [bd_startFen]; decide)

end Inkayaku.C06
