import Inkayaku.Proofs.SearchDepth1
import Inkayaku.Proofs.WfStepProof
import Inkayaku.Proofs.StartBoard
import Inkayaku.Model.FenBoard
/-!
# C07 — every search is answered by exactly one legal bestmove

"Whenever the engine is asked to search a position that has at least one legal move — under any finite limit (depth,
movetime, clock times with or without increment, including zero increment and near-zero time), with or without
searchmoves, or under go infinite followed by stop — it answers with exactly one bestmove, that move is legal in the
position given by the last position command (and is one of searchmoves when given), and it is never the null move.
When the position has no legal move it answers with the null move instead of crashing or hanging."

Model: `Inkayaku.Search.goCmd`.  All theorems quantify over every state `s` (poll period, pending messages = the
`stop` of "go infinite; stop", virtual clock, flags, transposition table, previous PV, killers) and every parameter set
`g : GoParams` (depth, movetime, wtime/btime, winc/binc incl. `some 0`, searchmoves), so "any finite limit" and
"near-zero time" are instances.  `goCmd` is a total function: the modelled search cannot crash; hanging is excluded up
to the model's iteration bound `maxIter` (the engine's own bound is 999 999 iterations) and the recursion fuel.

Hypotheses: the two facts about `make`/`unmake` the search proofs rest on are theorems (`Search.unmake_make_of_generated`,
`Search.boardLaws` — see C09); what remains is the side condition `Inv (goBudget maxIter) s.board`: the position held is
well-formed and its clocks leave room for the deepest line the search can reach (`wf s.board`,
`halfmove + maxIter + 201 ≤ 4095`, `fullmove + maxIter + 201 < 2^31`; real limits of the engine: the 12-bit undo field of
the half-move clock).  The transposition-table invariant `TTRootFresh` (no entry deep enough to answer the root) holds in
every iteration of every `go` (`Search.iters_legal`).

Proved here: exactly one bestmove; the move is legal and in searchmoves; null move when there is no legal move; the first
iteration cannot be interrupted (`depth1_not_interrupted`); the move is never null when a legal move exists, given a
value-range hypothesis on the depth-1 child searches and a bound on the move count (`depth1_completes_partial`).
`Props/C07Final.lean` discharges both (`depth1_completes`, `go_answers_legal_move`).
-/
namespace Inkayaku.C07
open Inkayaku.Search Inkayaku.Board Inkayaku.WF

/-- **exactly one bestmove**, after infos only -/
theorem go_exactly_one_bestmove (s : St) (g : GoParams) (maxIter : Nat) (h0 : s.out = []) :
    ∃ best ponder infos, (goCmd s g maxIter).out = .bestMove best ponder :: infos ∧ bestMoves infos = [] := by
  obtain ⟨best, ponder, news, h, hb, -⟩ := goCmd_answer s g maxIter
  rw [h0, List.append_nil] at h
  exact ⟨best, ponder, news, h, hb⟩

/-- **the bestmove is legal in the position held and is one of `searchmoves` when given** -/
theorem bestmove_legal (s : St) (g : GoParams) (maxIter : Nat) (hwf : Inv (goBudget maxIter) s.board)
    (m : Move) (ponder : Option Move) (rest : List Out)
    (h : (goCmd s g maxIter).out = .bestMove (some m) ponder :: rest) :
    m ∈ genPseudo s.board ∧ isValid (make s.board m) = true ∧ (g.searchMoves ≠ [] → m.uci ∈ g.searchMoves) :=
  go_bestmove_legal boardLaws s g maxIter hwf m (goCmd_head h).1

/-- the root search of every iteration returns a legal move or none, for every iteration of every `go`
(this is where `TTRootFresh` is discharged) -/
theorem every_iteration_legal (s : St) (g : GoParams) (maxIter : Nat) (hwf : Inv (goBudget maxIter) s.board)
    (r : VM × St) (hr : r ∈ goIterations s g maxIter) (m : Move) (hm : r.1.mv = some m) :
    LegalRoot s.board g.searchMoves m :=
  iters_legal boardLaws s.board g.searchMoves _ (goPrep s g) 1 _ none none (rootInv_goPrep s g maxIter hwf)
    (goPrep_searchMoves s g) r hr m hm

/-- a root search that is not answered from the transposition table returns `none` or a legal move of the
(searchmoves-filtered) buffer -/
theorem root_move_from_buffer (fuel : Nat) (s : St) (maxPly : Nat) (α β : Int) (isPv : Bool)
    (hash ph : UInt64) (hwf : Inv fuel s.board) (hpos : 0 < maxPly) (hfresh : TTRootFresh s hash maxPly) (m : Move)
    (hm : (negamax fuel s 0 maxPly α β isPv hash ph).1.mv = some m) :
    m ∈ genPseudo s.board ∧ (s.go.searchMoves ≠ [] → m.uci ∈ s.go.searchMoves) ∧ isValid (make s.board m) = true := by
  obtain ⟨h1, h2⟩ := Search.root_move_from_buffer boardLaws fuel s maxPly α β isPv hash ph hwf hpos hfresh m hm
  obtain ⟨h3, h4⟩ := mem_rootBuffer.mp h1
  exact ⟨h3, h4 rfl, h2⟩

/-- **no legal move (among `searchmoves`): the answer is the null move, without ponder move** -/
theorem nolegal_null (s : St) (g : GoParams) (maxIter : Nat) (hwf : Inv (goBudget maxIter) s.board) (h0 : s.out = [])
    (hno : ∀ m, ¬ LegalRoot s.board g.searchMoves m) :
    ∃ infos, (goCmd s g maxIter).out = .bestMove none none :: infos ∧ bestMoves infos = [] := by
  obtain ⟨best, ponder, infos, h, hb, rfl, hp⟩ := goCmd_answer s g maxIter
  rw [h0, List.append_nil] at h
  cases hm : bestMoveOf (goDeepen s g maxIter).1 with
  | some m => exact absurd (go_bestmove_legal boardLaws s g maxIter hwf m hm) (hno m)
  | none => rw [hp hm, hm] at h; exact ⟨infos, h, hb⟩

#print axioms go_exactly_one_bestmove
#print axioms bestmove_legal
#print axioms every_iteration_legal
#print axioms root_move_from_buffer
#print axioms nolegal_null

/-- **iteration 1 cannot be interrupted**: `go` zeroes the node counter and clears the stop flag; if the pseudo-legal move
list of the position is shorter than the poll period (the engine's is 100 000), no node of iteration 1 polls the
flags, so — whatever waits in the channel, whatever the time limit — iteration 1 ends with the stop flag clear and
the channel untouched.  (`goPrep s g` is the state in which iteration 1 starts, `rootSearch · 1` its root search.) -/
theorem depth1_not_interrupted (s : St) (g : GoParams) (hwf : Inv (fuelFor 1) s.board)
    (hpoll : (genPseudo s.board).length < s.pollPeriod) :
    (rootSearch (goPrep s g) 1).2.stop = false ∧ (rootSearch (goPrep s g) 1).2.pending = s.pending :=
  Search.depth1_not_interrupted boardLaws s g hwf hpoll

/-- **a position with a legal move never gets the null move**, under any limit and any interruption — given that the move
list is shorter than the poll period and the value-range fact `ChildBelowWin` (every depth-1 child search of the
position, started from any state whose table has no entry under the child's key, with window `[lossScore, β]`, returns a
value `< winScore`).  Both hold: `C07.depth1_completes` (`Props/C07Final.lean`) is this theorem with them discharged. -/
theorem depth1_completes_partial (s : St) (g : GoParams) (maxIter : Nat) (hwf : Inv (fuelFor 1) s.board)
    (hiter : 1 ≤ maxIter) (hpoll : (genPseudo s.board).length < s.pollPeriod)
    (hlegal : ∃ m, LegalRoot s.board g.searchMoves m)
    (hval : ChildBelowWin s.board (fuelFor 1 - 1)) (h0 : s.out = []) :
    ∃ m ponder infos, (goCmd s g maxIter).out = .bestMove (some m) ponder :: infos := by
  have hne := Search.depth1_completes_partial boardLaws s g maxIter hwf hiter hpoll hlegal hval
  obtain ⟨m, hm⟩ := Option.ne_none_iff_exists'.mp hne
  obtain ⟨_, ponder, news, h, -, rfl, -⟩ := goCmd_answer s g maxIter
  rw [h0, List.append_nil, hm] at h
  exact ⟨m, ponder, news, h⟩

#print axioms depth1_not_interrupted
#print axioms depth1_completes_partial

/-! ## non-vacuity -/

example : Inv (goBudget 64) Search.initial.board := initial_inv (by decide)
example : Inv (fuelFor 1) Search.initial.board := initial_inv (by decide)
example : Search.initial.out = [] := rfl

def d1 : St := goCmd Search.initial { depth := some 1 } 4
#guard (bestMoves d1.out).length == 1
#guard match d1.out with
  | .bestMove (some m) _ :: _ => (genPseudo Search.initial.board).contains m && isValid (make Search.initial.board m)
  | _ => false

def dsm : St := goCmd Search.initial { depth := some 2, searchMoves := ["a2a3", "h2h4"] } 4
#guard match dsm.out with
  | .bestMove (some m) _ :: _ => ["a2a3", "h2h4"].contains m.uci
  | _ => false

/-- near-zero time, zero increment: iteration 1 completes and is kept -/
def dzero : St := goCmd { Search.initial with nsPerNode := some 1000000 } { wtime := some 1, btime := some 1, winc := some 0, binc := some 0 } 8
#guard match dzero.out with
  | .bestMove (some _) _ :: _ => true
  | _ => false

/-- go infinite, `stop` already waiting -/
def dinf : St := goCmd { Search.initial with pollPeriod := 400, pending := [.stop] } {} 8
#guard match dinf.out with
  | .bestMove (some _) _ :: _ => true
  | _ => false

/-- a searchmoves list without any legal move: the hypothesis of `nolegal_null` is satisfiable; the answer is null -/
def dnone : St := goCmd Search.initial { depth := some 2, searchMoves := ["e2e5"] } 4
#guard match dnone.out with
  | .bestMove none none :: _ => true
  | _ => false

/-- the hypotheses of `depth1_completes_partial` on the start position: 20 pseudo-legal moves; every depth-1 child
value is below `winScore` (evaluated for the children the search visits) -/
def childValuesBelowWin (b : Board) : Bool :=
  (genLegal b).all fun m =>
    (negamax 200 { Search.initial with board := make b m, negamaxNodes := 1 } 1 1 Eval.lossScore Gen.winScore false
      (Zobrist.hash (make b m)) (Zobrist.pawnHash (make b m))).1.value < Gen.winScore
#guard (genPseudo Search.initial.board).length == 20
#guard childValuesBelowWin Search.initial.board

end Inkayaku.C07
