import Inkayaku.Proofs.EvalFlip
import Inkayaku.Proofs.BoardCongr
import Inkayaku.Model.FenBoard
/-!
# C11 – colour-flip symmetry of the static evaluation, terminal scores, mate ordering

Models: `Inkayaku.Eval` (`Heuristic::evaluate`, `score_from_value`, `is_checkmate`, `SimpleHeuristic`), tables and
thresholds of the CURRENT build (`Gen.Eval`), `Generate.flipBoard` (mirror vertically, swap colours, side to move and
castling rights, mirror the e.p. square; the clocks are kept).  Helper lemmas: `Proofs/EvalFlip.lean`.

The evaluation of an ongoing game is negated by the flip for EVERY board; `evaluate` as a whole (fifty-move draw, mate,
stalemate) for every board with `turn ≤ 1` and one king of the side to move, the terminal case through C04 (magic lookup =
ray attack).  The rest is arithmetic on the terminal scores and on `score_from_value` for both root colours.

The search half of C11 (`search_flip`) is in `Props/C11Search.lean`.
-/
namespace Inkayaku.C11
open Inkayaku.Board Inkayaku.Gen Inkayaku.Eval Inkayaku.Generate Inkayaku.EvalFlip

/-- `mirror sq = 8 * (7 - sq / 8) + sq % 8`; `bEntry`/`wEntry stage piece sq` are
`((blackTables/whiteTables.getD stage []).getD piece []).getD sq 0`, the reads of `pieceSquareValue` -/
theorem black_tables_mirror {stage piece sq : Nat} (hs : stage < 3) (hp : piece < 6) (hq : sq < 64) :
    ((blackTables.getD stage []).getD piece []).getD (8 * (7 - sq / 8) + sq % 8) 0
      = - ((whiteTables.getD stage []).getD piece []).getD sq 0 :=
  EvalFlip.black_tables_mirror hs hp hq

/-- 3 stages × 6 pieces × 64 squares: none of the `getD` above falls back to its default -/
theorem tables_shape :
    (whiteTables.length = 3 ∧ ∀ st ∈ whiteTables, st.length = 6 ∧ ∀ row ∈ st, row.length = 64) ∧
    (blackTables.length = 3 ∧ ∀ st ∈ blackTables, st.length = 6 ∧ ∀ row ∈ st, row.length = 64) := by
  have h := EvalFlip.tables_shape
  unfold shapeOk at h
  simp only [Bool.and_eq_true, beq_iff_eq, List.all_eq_true] at h
  exact h

theorem eval_flip (b : Board) : evaluateOngoing (flipBoard b) = - evaluateOngoing b := EvalFlip.eval_flip b

theorem gameStage_flip (b : Board) : gameStage (flipBoard b) = gameStage b := EvalFlip.gameStage_flip b

theorem isCurrentInCheck_flip (b : Board) (ht : b.turn ≤ 1) (hk : popcount b.active.kings = 1) :
    isCurrentInCheck (flipBoard b) = isCurrentInCheck b := EvalFlip.isCurrentInCheck_flip b ht hk

/-- `Heuristic::evaluate` (fifty-move draw, checkmate, stalemate, ongoing) is negated by the colour flip -/
theorem evaluate_flip (b : Board) (lm : Bool) (ht : b.turn ≤ 1) (hk : popcount b.active.kings = 1) :
    evaluate (flipBoard b) lm = - evaluate b lm := EvalFlip.evaluate_flip b lm ht hk

theorem evaluate_flip_wf (b : Board) (lm : Bool) (h : WF.wf b = true) :
    evaluate (flipBoard b) lm = - evaluate b lm :=
  EvalFlip.evaluate_flip b lm (wf_turn_king b h).1 (wf_turn_king b h).2

/-- from the mover's point of view (`Search::evaluate` = `calculate_heuristic_factor(color) * evaluate`) the
leaf value is unchanged -/
theorem evaluate_flip_mover (b : Board) (lm : Bool) (ht : b.turn ≤ 1) (hk : popcount b.active.kings = 1) :
    factor (flipBoard b).turn * evaluate (flipBoard b) lm = factor b.turn * evaluate b lm := by
  rw [evaluate_flip b lm ht hk]
  have e : (flipBoard b).turn = 1 - b.turn := rfl
  rw [e]
  have : b.turn = 0 ∨ b.turn = 1 := by omega
  rcases this with h | h <;> rw [h] <;> simp [factor]

/-- a side to move that is in check and has no legal move (`legal_moves_remaining = false`): its own score is
`-(winScore - fullmove)`, negative, the mating side's score is positive, and the value is a mate value in the sense of
`is_checkmate` as long as `fullmove < MAX_FULL_MOVES` -/
theorem terminal_sign (b : Board) (ht : b.turn ≤ 1) (hc : isCurrentInCheck b = true)
    (hf : (b.fullmove : Int) < maxFullMoves) :
    factor b.turn * evaluate b false = - (winScore - (b.fullmove : Int))
    ∧ factor b.turn * evaluate b false < 0
    ∧ 0 < - (factor b.turn * evaluate b false)
    ∧ isCheckmateValue (evaluate b false) = true
    ∧ isCheckmateValue (factor b.turn * evaluate b false) = true := by
  have hv := terminal_value b ht hc
  rw [maxFullMoves_val] at hf
  have hw := winScore_val
  have hm := maxFullMoves_val
  refine ⟨hv, by omega, by omega, ?_, ?_⟩
  · rw [isCheckmateValue_iff]
    have : b.turn = 0 ∨ b.turn = 1 := by omega
    rcases this with h | h <;> rw [h] at hv <;> simp only [factor] at hv <;> omega
  · rw [isCheckmateValue_iff]; omega

/-- `legal_moves_remaining` as the search computes it at a leaf is `false` exactly when there is no legal move -/
theorem noLegal_iff (b : Board) : isAnyMoveLegal b (genPseudo b) = false ↔ genLegal b = [] := by
  rw [BoardCongr.isAnyMoveLegal_genPseudo, Bool.not_eq_false', List.isEmpty_iff]

/-- checkmate in the chess sense (no legal move, in check), through the value the search passes -/
theorem checkmate_sign (b : Board) (ht : b.turn ≤ 1) (hmate : genLegal b = []) (hc : isCurrentInCheck b = true)
    (hf : (b.fullmove : Int) < maxFullMoves) :
    factor b.turn * evaluate b (isAnyMoveLegal b (genPseudo b)) = - (winScore - (b.fullmove : Int))
    ∧ factor b.turn * evaluate b (isAnyMoveLegal b (genPseudo b)) < 0 := by
  rw [(noLegal_iff b).mpr hmate]
  exact ⟨(terminal_sign b ht hc hf).1, (terminal_sign b ht hc hf).2.1⟩

/-- stalemate (no legal move, not in check) scores as a draw, and the draw score of this build is 0 for both sides -/
theorem stalemate_draw (b : Board) (hstale : genLegal b = []) (hc : isCurrentInCheck b = false) :
    evaluate b (isAnyMoveLegal b (genPseudo b)) = drawScore ∧ drawScore = 0
    ∧ factor b.turn * evaluate b (isAnyMoveLegal b (genPseudo b)) = 0 := by
  rw [(noLegal_iff b).mpr hstale]
  have h := stalemate_value b hc
  refine ⟨h.1, h.2, ?_⟩
  rw [h.1, h.2]; omega

/-- two checkmated positions, the first at an earlier full move: for the mating side (minus the mated mover's
score) the earlier mate is strictly better, for the mated side the later one -/
theorem nearer_mate_better (b₁ b₂ : Board) (ht₁ : b₁.turn ≤ 1) (ht₂ : b₂.turn ≤ 1)
    (hc₁ : isCurrentInCheck b₁ = true) (hc₂ : isCurrentInCheck b₂ = true) (hlt : b₁.fullmove < b₂.fullmove) :
    - (factor b₁.turn * evaluate b₁ false) > - (factor b₂.turn * evaluate b₂ false)
    ∧ factor b₁.turn * evaluate b₁ false < factor b₂.turn * evaluate b₂ false := by
  rw [terminal_value b₁ ht₁ hc₁, terminal_value b₂ ht₂ hc₂]
  omega

theorem nearer_mate_better_arith (f₁ f₂ : Nat) (h : f₁ < f₂) :
    winScore - (f₁ : Int) > winScore - (f₂ : Int) ∧ - (winScore - (f₁ : Int)) < - (winScore - (f₂ : Int)) := by
  omega

/-! ## `score_from_value`

The root value is mover-centric (negamax).  `make` increments the full-move number after a black move, so

* root white to move at full move `f`: white's N-th move is made at full move `f + N - 1` and leaves black to move at
  the SAME number; black's N-th move leaves white to move at `f + N`;
* root black to move at full move `f`: black's N-th move leaves white to move at `f + N`; white's N-th move leaves
  black to move at `f + N`. -/

/-- white to move mates in N: leaf = black to move, checkmated, at full move `f + N - 1`; root value
`winScore - (f + N - 1)`; the `offset` of `score_from_value` is 1 -/
theorem score_mate_white (r : Board) (N : Nat) (ht : r.turn = 0)
    (hb : (r.fullmove : Int) + N < maxFullMoves) :
    scoreFromValue (winScore - ((r.fullmove : Int) + N - 1)) r = .mate N := by
  rw [maxFullMoves_val] at hb
  have hw := winScore_val
  rw [scoreFromValue_pos _ _ (by omega)]
  simp only [ht, beq_self_eq_true, if_true]
  congr 1; omega

/-- black to move mates in N: leaf = white to move, checkmated, at full move `f + N`; white-centric value
`-(winScore - (f + N))`, root (black's) value `winScore - (f + N)`; offset 0 -/
theorem score_mate_black (r : Board) (N : Nat) (ht : r.turn = 1)
    (hb : (r.fullmove : Int) + N < maxFullMoves) :
    scoreFromValue (winScore - ((r.fullmove : Int) + N)) r = .mate N := by
  rw [maxFullMoves_val] at hb
  have hw := winScore_val
  rw [scoreFromValue_pos _ _ (by omega)]
  simp only [ht, Nat.reduceBEq, Bool.false_eq_true, if_false]
  congr 1; omega

/-- the side to move gets mated in N (the opponent's N-th move): leaf = the same side to move at full move `f + N`, value
`-(winScore - (f + N))`, whichever side it is -/
theorem score_mated (r : Board) (N : Nat) (hb : (r.fullmove : Int) + N < maxFullMoves) :
    scoreFromValue (- (winScore - ((r.fullmove : Int) + N))) r = .mate (- (N : Int)) := by
  rw [maxFullMoves_val] at hb
  have hw := winScore_val
  rw [scoreFromValue_neg _ _ (by omega)]
  congr 1; omega

/-- white to move gets mated in N (black's N-th move): leaf = white to move at full move `f + N`, value
`-(winScore - (f + N))` -/
theorem score_mated_white (r : Board) (N : Nat) (_ht : r.turn = 0)
    (hb : (r.fullmove : Int) + N < maxFullMoves) :
    scoreFromValue (- (winScore - ((r.fullmove : Int) + N))) r = .mate (- (N : Int)) := score_mated r N hb

/-- black to move gets mated in N (white's N-th move): leaf = black to move at full move `f + N`, white-centric value
`winScore - (f + N)`, root (black's) value `-(winScore - (f + N))` -/
theorem score_mated_black (r : Board) (N : Nat) (_ht : r.turn = 1)
    (hb : (r.fullmove : Int) + N < maxFullMoves) :
    scoreFromValue (- (winScore - ((r.fullmove : Int) + N))) r = .mate (- (N : Int)) := score_mated r N hb

theorem score_cp (v : Int) (b : Board) (hv : (v.natAbs : Int) ≤ winScore / 2) : scoreFromValue v b = .cp v :=
  EvalFlip.score_cp v b hv

/-- the same four cases with the leaf value computed by `evaluate` on a checkmated leaf `m` and carried to the root
by negamax (odd ply: negated, even ply: as is) -/
theorem score_mate_leaf (r m : Board) (N : Nat) (hr : r.turn ≤ 1) (hm : m.turn = 1 - r.turn)
    (hc : isCurrentInCheck m = true)
    (hfull : m.fullmove + (1 - r.turn) = r.fullmove + N)    -- f + N - 1 for a white root, f + N for a black root
    (hb : (r.fullmove : Int) + N < maxFullMoves) :
    scoreFromValue (- (factor m.turn * evaluate m false)) r = .mate N := by
  rw [terminal_value m (by omega) hc]
  have : r.turn = 0 ∨ r.turn = 1 := by omega
  rcases this with h | h
  · have e : (m.fullmove : Int) = (r.fullmove : Int) + N - 1 := by omega
    rw [e, Int.neg_neg]
    exact score_mate_white r N h hb
  · have e : (m.fullmove : Int) = (r.fullmove : Int) + N := by omega
    rw [e, Int.neg_neg]
    exact score_mate_black r N h hb

theorem score_mated_leaf (r m : Board) (N : Nat) (hr : r.turn ≤ 1) (hm : m.turn = r.turn)
    (hc : isCurrentInCheck m = true) (hfull : m.fullmove = r.fullmove + N)
    (hb : (r.fullmove : Int) + N < maxFullMoves) :
    scoreFromValue (factor m.turn * evaluate m false) r = .mate (- (N : Int)) := by
  rw [terminal_value m (by omega) hc]
  have e : (m.fullmove : Int) = (r.fullmove : Int) + N := by omega
  rw [e]
  exact score_mated r N hb

/-- "mate in N" is reported identically for a root and its colour flip, although the RAW root values differ by one
(`winScore - (f + N - 1)` with white to move, `winScore - (f + N)` with black to move, because `flipBoard` keeps the
full-move number while `make` advances it only after black's move); "mated in N" has the same raw value. -/
theorem mate_score_flip (r : Board) (N : Nat) (ht : r.turn = 0) (hb : (r.fullmove : Int) + N < maxFullMoves) :
    scoreFromValue (winScore - ((r.fullmove : Int) + N - 1)) r
      = scoreFromValue (winScore - (((flipBoard r).fullmove : Int) + N)) (flipBoard r)
    ∧ scoreFromValue (- (winScore - ((r.fullmove : Int) + N))) r
      = scoreFromValue (- (winScore - (((flipBoard r).fullmove : Int) + N))) (flipBoard r) := by
  have e : (flipBoard r).fullmove = r.fullmove := rfl
  have t : (flipBoard r).turn = 1 := by show 1 - r.turn = 1; omega
  rw [score_mate_white r N ht hb, score_mate_black (flipBoard r) N t (by rw [e]; exact hb),
    score_mated r N hb, score_mated (flipBoard r) N (by rw [e]; exact hb)]
  exact ⟨rfl, rfl⟩

/-! ## non-vacuity: concrete positions through the FEN reader, evaluated by the kernel -/

def onFen (fen : String) (p : Board → Bool) : Bool :=
  match FenBoard.fromFenString fen with
  | .ok b => p b
  | .error _ => false

-- "Kiwipete": well-formed, mid game, value 105 for white; the flip is well-formed too and has value -105
example : onFen "r3k2r/p1ppqpb1/bn2pnp1/3PN3/1p2P3/2N2Q1p/PPPBBPPP/R3K2R w KQkq - 0 1" (fun b =>
    WF.wf b && WF.wf (flipBoard b) && gameStage b == 1 && evaluateOngoing b == 105
    && evaluateOngoing (flipBoard b) == -105 && evaluate b true == 105 && evaluate (flipBoard b) true == -105
    && b.turn ≤ 1 && popcount b.active.kings == 1) = true := by decide +kernel

-- an endgame position (stage LATE = 2) with black to move and an e.p. square
example : onFen "8/8/8/2k5/2pP4/8/B7/4K3 b - d3 0 3" (fun b =>
    WF.wf b && gameStage b == 2 && gameStage (flipBoard b) == 2
    && evaluateOngoing (flipBoard b) == - evaluateOngoing b && evaluateOngoing b != 0) = true := by decide +kernel

-- fifty-move branch: halfmove 130 ≥ 100, both the position and its flip are draws
example : onFen "4k3/8/8/8/8/8/8/4K2R w K - 130 70" (fun b =>
    evaluate b true == 0 && evaluate (flipBoard b) true == 0 && evaluateOngoing b != 0) = true := by decide +kernel

-- fool's mate: white to move is checkmated at full move 3 (hypotheses of `checkmate_sign`), and so is black in the flip
example : onFen "rnb1kbnr/pppp1ppp/8/4p3/6Pq/5P2/PPPPP2P/RNBQKBNR w KQkq - 1 3" (fun b =>
    WF.wf b && (genLegal b).isEmpty && isCurrentInCheck b && b.turn == 0
    && evaluate b false == -(16777216 - 3) && isCheckmateValue (evaluate b false)
    && (genLegal (flipBoard b)).isEmpty && isCurrentInCheck (flipBoard b)
    && evaluate (flipBoard b) false == 16777216 - 3) = true := by decide +kernel

-- stalemate: black to move, no legal move, not in check (hypotheses of `stalemate_draw`)
example : onFen "7k/5Q2/6K1/8/8/8/8/8 b - - 0 1" (fun b =>
    WF.wf b && (genLegal b).isEmpty && !isCurrentInCheck b && evaluate b (isAnyMoveLegal b (genPseudo b)) == 0)
    = true := by decide +kernel

-- mate in 1 for white (Ra8#) at full move 1: the leaf after Ra8 is a checkmated black at full move 1 = 1 + 1 - 1;
-- hypotheses of `score_mate_leaf`/`score_mate_white` with N = 1, and the reported score is `mate 1`
example : onFen "6k1/5ppp/8/8/8/8/8/R3K3 w Q - 0 1" (fun r =>
    onFen "R5k1/5ppp/8/8/8/8/8/4K3 b - - 1 1" (fun m =>
      r.turn == 0 && m.turn == 1 && isCurrentInCheck m && (genLegal m).isEmpty
      && m.fullmove + (1 - r.turn) == r.fullmove + 1
      && (genLegal r).any (fun mv => WF.vis (make r mv) == WF.vis m)
      && - (factor m.turn * evaluate m false) == winScore - 1
      && scoreFromValue (- (factor m.turn * evaluate m false)) r == .mate 1)) = true := by decide +kernel

-- the same mate with colours flipped (black to move at full move 1 mates by its first move, leaf at full move 2):
-- the raw root value is one less, the reported score is the same
example : onFen "6k1/5ppp/8/8/8/8/8/R3K3 w Q - 0 1" (fun r0 =>
    onFen "R5k1/5ppp/8/8/8/8/8/4K3 b - - 1 2" (fun m0 =>
      let r := flipBoard r0
      let m := flipBoard m0
      r.turn == 1 && m.turn == 0 && isCurrentInCheck m && (genLegal m).isEmpty
      && m.fullmove + (1 - r.turn) == r.fullmove + 1
      && (genLegal r).any (fun mv => WF.vis (make r mv) == WF.vis m)
      && - (factor m.turn * evaluate m false) == winScore - 2
      && scoreFromValue (- (factor m.turn * evaluate m false)) r == .mate 1)) = true := by decide +kernel

-- centipawn values and the mate thresholds
example : scoreFromValue 105 FenBoard.startBoard = .cp 105 ∧ scoreFromValue (-8388608) FenBoard.startBoard = .cp (-8388608)
    ∧ isCheckmateValue 8388609 = false ∧ isCheckmateValue (winScore - 1048575) = true := by decide +kernel

-- a table entry and its mirror: white pawn on e7 (sq 12, stage 1) = 50, black pawn on e2 (sq 52) = -50
example : wEntry 1 0 12 = 50 ∧ bEntry 1 0 52 = -50 ∧ mirror 12 = 52 := by decide +kernel

#print axioms black_tables_mirror
#print axioms tables_shape
#print axioms eval_flip
#print axioms gameStage_flip
#print axioms isCurrentInCheck_flip
#print axioms evaluate_flip
#print axioms evaluate_flip_wf
#print axioms evaluate_flip_mover
#print axioms terminal_sign
#print axioms checkmate_sign
#print axioms stalemate_draw
#print axioms nearer_mate_better
#print axioms nearer_mate_better_arith
#print axioms score_mate_white
#print axioms score_mate_black
#print axioms score_mated_white
#print axioms score_mated_black
#print axioms score_cp
#print axioms score_mate_leaf
#print axioms score_mated_leaf
#print axioms mate_score_flip

end Inkayaku.C11
