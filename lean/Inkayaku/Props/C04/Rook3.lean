import Inkayaku.Gen.Magic
import Inkayaku.Proofs.MagicLift
namespace Inkayaku.C04
open Inkayaku.Rays Inkayaku.Gen Inkayaku.MagicLift

theorem rook_ok_48 : (List.range' 48 16).all (fun sq => tableOk (rookCfg sq) sq rookDirs) = true := by
  decide +kernel

end Inkayaku.C04
