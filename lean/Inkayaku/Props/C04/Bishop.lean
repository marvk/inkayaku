import Inkayaku.Gen.Magic
import Inkayaku.Proofs.MagicLift
namespace Inkayaku.C04
open Inkayaku.Rays Inkayaku.Gen Inkayaku.MagicLift

theorem bishop_ok_0 : (List.range' 0 64).all (fun sq => tableOk (bishopCfg sq) sq bishopDirs) = true := by
  decide +kernel

end Inkayaku.C04
