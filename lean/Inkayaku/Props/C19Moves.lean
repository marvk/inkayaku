import Inkayaku.Props.C19
import Inkayaku.Model.Uci
import Inkayaku.Proofs.CharRange
/-!
# C19 (clause "each of which the UCI move parser accepts")

"… the space separated move string decodes to the move list, in order, each of which the UCI move parser accepts."

`C19.moves_split_uci` shows that a list of UCI-shaped tokens survives the wire format (`from_space_sv`).  This file adds
that every UCI-shaped token is accepted by the model of `inkayaku_uci::UciMove::from_str` (`Uci.UciMove.parse`), and
that the parsed move prints back (`Display`) to the very same token — so the move the bot plays on its board is the
move Lichess sent.

`C19.isUciShape` is `[a-h][1-8][a-h][1-8]` plus an optional promotion letter out of **`q r b n`** (what Lichess
sends).  The parser accepts more (`k`, `p`, upper-case letters, and it ignores everything after the fifth character);
the statement below is about the tokens of the documented shape only.
-/
namespace Inkayaku.Props.C19Moves
open Inkayaku.Props.C19 Inkayaku.Lichess
open Inkayaku.Uci (UciMove Piece squareFromChars squareFen)

theorem promo_mem {c : Char} (h : isPromo c = true) : c ∈ "qrbn".toList := by
  simp only [isPromo, Bool.or_eq_true, beq_iff_eq] at h
  rcases h with ((e | e) | e) | e <;> (rw [CharRange.char_of_toNat e]; decide)

/-- a file letter and a rank digit are the two characters that `squareFen` prints for the square
`(a - 'a') + ('8' - b) * 8`, so the table of all 64 squares (`Text.square_roundtrip`: `Square::from_chars` reads back
what `Square.fen` prints) applies -/
theorem square_ok {a b : Char} (ha : isFile a = true) (hb : isRank b = true) :
    ∃ s, s < 64 ∧ squareFromChars a b = some s ∧ squareFen s = [a, b] := by
  simp only [isFile, isRank, Bool.and_eq_true, decide_eq_true_eq] at ha hb
  have h1 : Char.ofNat (97 + ((a.toNat - 97) + (56 - b.toNat) * 8) % 8) = a := by
    rw [show 97 + ((a.toNat - 97) + (56 - b.toNat) * 8) % 8 = a.toNat by omega, Char.ofNat_toNat]
  have h2 : Char.ofNat (56 - ((a.toNat - 97) + (56 - b.toNat) * 8) / 8) = b := by
    rw [show 56 - ((a.toNat - 97) + (56 - b.toNat) * 8) / 8 = b.toNat by omega, Char.ofNat_toNat]
  have h := Text.square_roundtrip ((a.toNat - 97) + (56 - b.toNat) * 8) (by omega)
  rw [h1, h2] at h
  exact ⟨_, by omega, h, by rw [squareFen, h1, h2]⟩

theorem promo_table : ∀ p ∈ "qrbn".toList,
    (match Piece.fromChar p with
     | some pc => decide (pc.fen = p)
     | none => false) = true := by decide

theorem promo_ok {p : Char} (hp : isPromo p = true) : ∃ pc, Piece.fromChar p = some pc ∧ pc.fen = p := by
  have := promo_table p (promo_mem hp)
  cases h : Piece.fromChar p with
  | none => rw [h] at this; simp at this
  | some pc =>
    rw [h] at this
    simp only [decide_eq_true_eq] at this
    exact ⟨pc, rfl, this⟩

/-- **every token of UCI shape is accepted by the UCI move parser**, denotes two squares of the board, and is the
text of the move it parses to -/
theorem uci_shape_parses (t : List Char) (h : isUciShape t = true) :
    ∃ m, UciMove.parse t = .ok m ∧ UciMove.render m = t ∧ m.source < 64 ∧ m.target < 64 := by
  unfold isUciShape at h
  split at h
  · rename_i a b c d
    simp only [Bool.and_eq_true] at h
    obtain ⟨s, hs, e1, f1⟩ := square_ok h.1.1.1 h.1.1.2
    obtain ⟨u, hu, e2, f2⟩ := square_ok h.1.2 h.2
    refine ⟨⟨s, u, none⟩, ?_, ?_, hs, hu⟩
    · simp [UciMove.parse, e1, e2]
    · simp [UciMove.render, f1, f2]
  · rename_i a b c d p
    simp only [Bool.and_eq_true] at h
    obtain ⟨s, hs, e1, f1⟩ := square_ok h.1.1.1.1 h.1.1.1.2
    obtain ⟨u, hu, e2, f2⟩ := square_ok h.1.1.2 h.1.2
    obtain ⟨pc, e3, f3⟩ := promo_ok h.2
    refine ⟨⟨s, u, some pc⟩, ?_, ?_, hs, hu⟩
    · simp [UciMove.parse, e1, e2, e3]
    · simp [UciMove.render, f1, f2, f3]
  · simp at h

#print axioms uci_shape_parses

theorem uci_shape_parses_unique (t : List Char) (h : isUciShape t = true) :
    ∃ m, UciMove.parse t = .ok m ∧ ∀ m', UciMove.parse t = .ok m' → m' = m := by
  obtain ⟨m, hm, -⟩ := uci_shape_parses t h
  exact ⟨m, hm, fun m' h' => by rw [hm] at h'; injection h' with h'; exact h'.symm⟩

/-- **C19, moves**: for a move list of UCI shape (any length, promotions included), decoding the joined string
(`from_space_sv`) yields exactly that list, in order, and every element of the decoded list is accepted by the UCI
move parser and is the text of the parsed move -/
theorem moves_decode_and_parse (ms : List (List Char)) (h : ms.all isUciShape = true) :
    spaceSv (joinWith ' ' ms) = ms ∧
    ∀ t ∈ spaceSv (joinWith ' ' ms),
      ∃ m, UciMove.parse t = .ok m ∧ UciMove.render m = t ∧ m.source < 64 ∧ m.target < 64 := by
  have hs := moves_split_uci ms h
  refine ⟨hs, ?_⟩
  rw [hs]
  intro t ht
  exact uci_shape_parses t (List.all_eq_true.mp h t ht)

/-- the same as one equation: parsing the decoded tokens one by one succeeds everywhere and gives a list of moves whose
texts are the original tokens -/
theorem moves_decode_parse_all (ms : List (List Char)) (h : ms.all isUciShape = true) :
    ∃ mvs : List UciMove, (spaceSv (joinWith ' ' ms)).map UciMove.parse = mvs.map Except.ok ∧
      mvs.map UciMove.render = ms ∧ mvs.length = ms.length := by
  rw [moves_split_uci ms h]
  induction ms with
  | nil => exact ⟨[], rfl, rfl, rfl⟩
  | cons t ts ih =>
    simp only [List.all_cons, Bool.and_eq_true] at h
    obtain ⟨m, hm, hr, -⟩ := uci_shape_parses t h.1
    obtain ⟨mvs, h1, h2, h3⟩ := ih h.2
    exact ⟨m :: mvs, by simp [hm, h1], by simp [hr, h2], by simp [h3]⟩

#print axioms moves_decode_and_parse
#print axioms moves_decode_parse_all

/-! ## non-vacuity -/

example : ["e2e4".toList, "e7e5".toList, "e1g1".toList, "a7a8q".toList, "h2h1n".toList].all isUciShape = true := by decide
example : joinWith ' ' ["e2e4".toList, "e7e5".toList, "e1g1".toList, "a7a8q".toList] = "e2e4 e7e5 e1g1 a7a8q".toList := by
  decide
/-- the theorem on a concrete wire string: castling (`e1g1`) and a promotion included -/
example : spaceSv "e2e4 e7e5 e1g1 a7a8q".toList = ["e2e4".toList, "e7e5".toList, "e1g1".toList, "a7a8q".toList] ∧
    ∀ t ∈ spaceSv "e2e4 e7e5 e1g1 a7a8q".toList,
      ∃ m, UciMove.parse t = .ok m ∧ UciMove.render m = t ∧ m.source < 64 ∧ m.target < 64 :=
  moves_decode_and_parse ["e2e4".toList, "e7e5".toList, "e1g1".toList, "a7a8q".toList] (by decide)
example : UciMove.parse "a7a8q".toList = .ok ⟨8, 0, some .queen⟩ ∧ UciMove.render ⟨8, 0, some .queen⟩ = "a7a8q".toList :=
  ⟨rfl, by decide⟩
/-- shapes outside `isUciShape` that the parser nevertheless accepts (so the converse is false) -/
example : isUciShape "a7a8k".toList = false ∧ UciMove.parse "a7a8k".toList = .ok ⟨8, 0, some .king⟩ := ⟨by decide, rfl⟩
example : isUciShape "e2e4xyz".toList = false ∧ UciMove.parse "e2e4xyz".toList = .error () := ⟨by decide, rfl⟩
example : isUciShape "e2e4qxyz".toList = false ∧ UciMove.parse "e2e4qxyz".toList = .ok ⟨52, 36, some .queen⟩ :=
  ⟨by decide, rfl⟩
/-- the empty token of the double-space quirk is not a move -/
example : isUciShape [] = false ∧ UciMove.parse [] = .error () := ⟨by decide, rfl⟩

end Inkayaku.Props.C19Moves
