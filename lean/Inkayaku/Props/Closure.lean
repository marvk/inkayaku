import Inkayaku.Props.C01
import Inkayaku.Props.C02
import Inkayaku.Props.C05
import Inkayaku.Props.C13
import Inkayaku.Props.C14
import Inkayaku.Proofs.WfStepProof
/-!
# Closing the cross-property hypotheses

Some property theorems are stated relative to a named hypothesis that is the conclusion of another property's theorem.
The four below are those theorems with the hypothesis discharged, so that they depend on `WF.wf` (and the explicit clock
budget) only:

* C01 `genLegal_eq_rules`   := C01.genLegal_eq_spec  with `hsucc`  := C02.make_eq_apply
* C05 `no_moves_iff_rules`  := C05.no_moves_iff      with `hlegal` from `genLegal_eq_rules`
* C13 `findUci_ok_iff_legal_wf` := C13.findUci_ok_iff_legal with `UciNodup` := C01.genPseudo_nodup
* C13 `makeAllUci_all_or_nothing_wf` := C13.makeAllUci_all_or_nothing with `WfStep` := `wfStep` (from Search.make_inv)

`C13.makeAllUciAux_all_or_nothing` and `C13.makeAllUci_after_rejection` keep their `WfStep` argument; `wfStep` is what
to pass.
-/
namespace Inkayaku.Closure
open Inkayaku.Board Inkayaku.WF Inkayaku.Abs Inkayaku.San Inkayaku.Util

/-- **C01.** On every well-formed board the moves offered as legal are exactly the legal moves of the rules of chess
(as (source, target, promotion) triples; `C01.uci_agree` / `uci_injective` transfer it to UCI strings, `C01.genLegal_nodup`
excludes duplicates). -/
theorem genLegal_eq_rules {b : Board} (h : wf b = true) (sm : Spec.SMove) :
    sm ∈ (genLegal b).map (absMove ∘ Move.f) ↔ sm ∈ Spec.legalMoves (abs b) :=
  C01.genLegal_eq_spec h (fun _ hm => C02.make_eq_apply h hm) sm

theorem genLegal_isEmpty_iff {b : Board} (h : wf b = true) :
    (genLegal b).isEmpty = (Spec.legalMoves (abs b)).isEmpty := by
  have key := genLegal_eq_rules h
  rw [Bool.eq_iff_iff, List.isEmpty_iff, List.isEmpty_iff, List.eq_nil_iff_forall_not_mem, List.eq_nil_iff_forall_not_mem]
  constructor
  · intro hg sm hs
    obtain ⟨m, hm, -⟩ := List.mem_map.mp ((key sm).mpr hs)
    exact hg m hm
  · intro hs m hm
    exact hs _ ((key _).mp (List.mem_map_of_mem hm))

/-- **C05.** no legal move ⇔ checkmate or stalemate by the rules, never both; the in-check test decides which. -/
theorem no_moves_iff_rules (b : Board) (h : wf b = true) :
    ((genLegal b).isEmpty && isCurrentInCheck b) = Spec.isCheckmate (abs b) ∧
    ((genLegal b).isEmpty && !isCurrentInCheck b) = Spec.isStalemate (abs b) ∧
    (genLegal b = [] ↔ (Spec.isCheckmate (abs b) = true ∨ Spec.isStalemate (abs b) = true)) ∧
    ¬ (Spec.isCheckmate (abs b) = true ∧ Spec.isStalemate (abs b) = true) :=
  C05.no_moves_iff b h (genLegal_isEmpty_iff h)

theorem wfStep : MoveText.WfStep :=
  fun k b m hinv hm hv => Search.make_inv k b m hinv (Or.inl hm) hv

/-- **C13.** a move string is accepted iff (trimmed) it is the UCI text of a legal move -/
theorem findUci_ok_iff_legal_wf (b : Board) (h : wf b = true) (s : String) (m : Move) :
    (findUci b s).1 = .ok m ↔ m ∈ genLegal b ∧ m.uci = rustTrim s :=
  C13.findUci_ok_iff_legal b (C01.genPseudo_nodup h) s m

/-- **C13.** applying a list of moves is all-or-nothing (within the clock budget of the undo field) -/
theorem makeAllUci_all_or_nothing_wf (b : Board) (ss : List String) (hwf : wf b = true)
    (hclk : b.halfmove + ss.length ≤ 4095 ∧ b.fullmove + ss.length < 2147483648) :
    match (makeAllUci b ss).1 with
    | .error e => vis (makeAllUci b ss).2 = vis b ∧ MoveText.RejectedAt b ss e
    | .ok _ => ∃ ms, MoveText.Accepts b ss ms ∧ vis (makeAllUci b ss).2 = vis (C03.makeLine b ms) :=
  C13.makeAllUci_all_or_nothing wfStep b ss hwf hclk

#print axioms genLegal_eq_rules
#print axioms no_moves_iff_rules
#print axioms wfStep
#print axioms findUci_ok_iff_legal_wf
#print axioms makeAllUci_all_or_nothing_wf

end Inkayaku.Closure
