import Inkayaku.Proofs.RepSpecGame
import Inkayaku.Proofs.RepSpecOcc
import Inkayaku.Props.C10Search
/-!
# C10, the executable specification WITH the repetition rule (`Model/RepSpec.lean`) and its link to the search model

Property C10 (quoted in `Props/C10Search.lean`).  `RepSpec.repSearch` is the oracle of the perpetual-check corpus (`corpus/perpetuals.txt`, depth 4).  This file proves what it
computes and ties it to the search model at depth 1.  Helper files: `Proofs/RepSpecGame.lean`, `Proofs/RepSpecOcc.lean`.

1. `rep_search_eq_mm`, `repSearch_eq_mm`, `repSearch_value` – the value of `repSearch depth b0 ucis only` is
   `Minimax.mm RepSpec.repGame depth ⟨b, only, 0, before⟩`: the exact, path-dependent minimax value of the game with the rule
   (`(b, before) = playHistory b0 ucis []`: the last board and the keys of the earlier positions, newest first);
   `repSearch_order_irrelevant` – any move order and any capture order give that value.
2. The rule in words: `rule_never_at_root`, `rule_value` (a node below the root whose position has occurred three times is worth
   `drawScore + contempt` at even and `drawScore − contempt` at odd plies, at every depth), `rule_otherwise` (otherwise the maximum
   over the children, each with the key of the node's own position prepended to its path), `rule_horizon`, `rule_terminal`.
3. `occurrences_agree` – `RepSpec.occurrences` (keys newest first, even distances, window `take halfmove`) and
   `C10Search`'s `SearchRep.occurrences` (boards oldest first, `HashKey`, last `halfmove` positions) are the same number for a
   position that continues a line of legal moves.
4. `playHistory_of_game` (the history walked by the oracle is the game of `SearchRep.gameBoards`), `mm_root1_eq_repValue1`
   (`Proofs/SearchRepRoot.lean`: the depth-1 value of the specification = `SearchRep.repValue1`), and the end-to-end statements
   `go_depth1_eq_repSpec` (ENGINE MODEL: `go depth 1` after `position <b0> moves …` reports `scoreFromValue` of the value
   component of `repSearch 1 b0 ucis []`, and the announced move attains it) and `go_depth1_searchmoves_eq_repSpec`
   (`go depth 1 searchmoves m`: the value component of `repSearch 1 b0 ucis [m.uci]`), under the hypotheses
   `SearchRep.RootHyp` / `C10Search.GameHyp` of `Props/C10Search.lean`: `C10Search.go_depth1_game` and `go_searchmoves` with the
   value rewritten by `mm_root1`, `mm_child_eq_childExact`.
5. Non-vacuity: the K+Q shuffle of `C10Search.Example`, and a corpus position at depth 2.

Deeper than one ply: `Props/C10Deep.lean`.
-/
namespace Inkayaku.C10Rep
open Inkayaku.Board Inkayaku.Eval Inkayaku.WF Inkayaku.BoardCongr Inkayaku.Minimax Inkayaku.SpecSearch Inkayaku.Search
open Inkayaku.SearchSim Inkayaku.History Inkayaku.SearchRep Inkayaku.C10Search
open Inkayaku.C06 (HashKey)
open Inkayaku.RepSpec (RPos Key key repGame repChess byMvvLvaR repSearch playHistory isRepetition repetitionValue)

/-- **alpha-beta on the game with the repetition rule = its minimax**, any move order, any capture order, every node -/
theorem rep_search_eq_mm (order qorder : RPos → List Move → List Move)
    (ho : ∀ p l, (order p l).Perm l) (hq : ∀ p l, (qorder p l).Perm l) (d : Nat) (p : RPos) :
    (ab (repChess.game qorder) order d p lossScore (-lossScore)).1 = mm repGame d p :=
  RepSpec.rep_search_eq_mm order qorder ho hq d p

/-- **the value component of `repSearch`** is `mm repGame depth ⟨b, only, 0, before⟩` where `(b, before)` is what the history
walk returns; `repSearch` fails exactly when the history walk fails (a rejected UCI string) -/
theorem repSearch_value (depth : Nat) (b0 : Board) (ucis only : List String) :
    (repSearch depth b0 ucis only).map (fun r => (r.1, r.2.1)) =
      (playHistory b0 ucis []).map (fun hb => (hb.1, mm repGame depth ⟨hb.1, only, 0, hb.2⟩)) := by
  cases h : playHistory b0 ucis [] with
  | none => rw [RepSpec.repSearch_none h]; rfl
  | some hb =>
    obtain ⟨b, before⟩ := hb
    rw [RepSpec.repSearch_of_history h]
    simp only [Option.map_some]
    rw [show (ab repGame byMvvLvaR depth ⟨b, only, 0, before⟩ lossScore (-lossScore)).1 = mm repGame depth ⟨b, only, 0, before⟩
      from RepSpec.rep_search_eq_mm byMvvLvaR byMvvLvaR RepSpec.isOrder_byMvvLvaR RepSpec.isOrder_byMvvLvaR depth _]

theorem repSearch_eq_mm {depth : Nat} {b0 : Board} {ucis only : List String} {b : Board} {before : List Key}
    (h : playHistory b0 ucis [] = some (b, before)) :
    ∃ bm, repSearch depth b0 ucis only = some (b, mm repGame depth ⟨b, only, 0, before⟩, bm) := by
  refine ⟨(ab repGame byMvvLvaR depth ⟨b, only, 0, before⟩ lossScore (-lossScore)).2, ?_⟩
  rw [RepSpec.repSearch_of_history h,
    show (ab repGame byMvvLvaR depth ⟨b, only, 0, before⟩ lossScore (-lossScore)).1 = mm repGame depth ⟨b, only, 0, before⟩
      from RepSpec.rep_search_eq_mm byMvvLvaR byMvvLvaR RepSpec.isOrder_byMvvLvaR RepSpec.isOrder_byMvvLvaR depth _]

/-- natural order, MVV-LVA order, any order of moves and captures: the value the oracle computes -/
theorem repSearch_order_irrelevant (order qorder : RPos → List Move → List Move)
    (ho : ∀ p l, (order p l).Perm l) (hq : ∀ p l, (qorder p l).Perm l) (d : Nat) (p : RPos) :
    (ab (repChess.game qorder) order d p lossScore (-lossScore)).1 = (ab repGame byMvvLvaR d p lossScore (-lossScore)).1 := by
  rw [rep_search_eq_mm order qorder ho hq,
    show (ab repGame byMvvLvaR d p lossScore (-lossScore)).1 = mm repGame d p
      from RepSpec.rep_search_eq_mm byMvvLvaR byMvvLvaR RepSpec.isOrder_byMvvLvaR RepSpec.isOrder_byMvvLvaR d p]

/-- the move the oracle returns attains the value (value strictly inside the score range) -/
theorem repSearch_best_move_optimal (order qorder : RPos → List Move → List Move)
    (ho : ∀ p l, (order p l).Perm l) (hq : ∀ p l, (qorder p l).Perm l) (d : Nat) (p : RPos)
    (hne : (repGame.moves p).isEmpty = false)
    (hlo : lossScore < mm repGame (d + 1) p) (hhi : mm repGame (d + 1) p < -lossScore) :
    ∃ m, (ab (repChess.game qorder) order (d + 1) p lossScore (-lossScore)).2 = some m ∧ m ∈ repGame.moves p ∧
      - mm repGame d (repGame.child p m) = mm repGame (d + 1) p := by
  have e : ∀ d p, mm (repChess.game qorder) d p = mm repGame d p :=
    fun d p => searchGame_mm_qorder repChess qorder byMvvLvaR d p
  obtain ⟨m, h1, h2, h3⟩ := Minimax.best_move_optimal (repChess.game qorder) order ho (RepSpec.rep_leafOk qorder hq) d p hne
    (by rw [e]; exact hlo) (by rw [e]; exact hhi)
  rw [e, e] at h3
  exact ⟨m, h1, h2, h3⟩

#print axioms rep_search_eq_mm
#print axioms repSearch_value
#print axioms repSearch_eq_mm
#print axioms repSearch_order_irrelevant
#print axioms repSearch_best_move_optimal

/-- **at the root the rule is never applied**, whatever the history -/
theorem rule_never_at_root (b : Board) (only : List String) (before : List Key) :
    isRepetition ⟨b, only, 0, before⟩ = false := RepSpec.isRepetition_root _ rfl

theorem rule_applies_iff (p : RPos) : isRepetition p = true ↔ 0 < p.ply ∧ 3 ≤ RepSpec.occurrences p :=
  RepSpec.isRepetition_iff p

/-- **such a node is worth `drawScore + contempt` (even ply) / `drawScore − contempt` (odd ply) at every depth** – a constant:
no material, no piece-square term -/
theorem rule_value (d : Nat) (p : RPos) (h : isRepetition p = true) :
    mm repGame d p = if p.ply % 2 = 0 then Gen.drawScore + Gen.contempt else Gen.drawScore - Gen.contempt :=
  (RepSpec.mm_repetition d p h).trans (repValue_eq p.ply)

/-- **otherwise: the usual maximum over the children**; a child is one ply deeper, carries no `searchmoves` restriction and has
the key of the node's own position prepended to its path -/
theorem rule_otherwise (d : Nat) (p : RPos) (h : isRepetition p = false) (hn : rootMoves p.board p.only ≠ []) :
    mm repGame (d + 1) p =
      mmFold (mm repGame d) lossScore
        ((rootMoves p.board p.only).map fun m =>
          ({ board := make p.board m, only := [], ply := p.ply + 1, before := key p.board :: p.before } : RPos)) :=
  RepSpec.mm_succ_norep d p h hn

/-- … at the horizon: the horizon value of the board (capture resolution or static evaluation) -/
theorem rule_horizon (p : RPos) (h : isRepetition p = false) (hn : rootMoves p.board p.only ≠ []) :
    mm repGame 0 p = game.leafExact (p.board, p.only) := RepSpec.mm_zero_norep p h hn

/-- … without a legal move: mate or stalemate -/
theorem rule_terminal (d : Nat) (p : RPos) (h : isRepetition p = false) (hn : rootMoves p.board p.only = []) :
    mm repGame d p = Search.evalFor p.board p.board.turn false := RepSpec.mm_norep_terminal d p h hn

theorem rule_root (d : Nat) (b : Board) (only : List String) (before : List Key) (hn : rootMoves b only ≠ []) :
    mm repGame (d + 1) ⟨b, only, 0, before⟩ =
      mmFold (mm repGame d) lossScore
        ((rootMoves b only).map fun m => ({ board := make b m, only := [], ply := 1, before := key b :: before } : RPos)) :=
  RepSpec.mm_succ_norep d ⟨b, only, 0, before⟩ (RepSpec.isRepetition_root _ rfl) hn

#print axioms rule_never_at_root
#print axioms rule_applies_iff
#print axioms rule_value
#print axioms rule_otherwise
#print axioms rule_horizon
#print axioms rule_terminal
#print axioms rule_root

/-- **agreement of the counts.**  Direction conventions: `L` lists the earlier positions OLDEST FIRST (as the lines of
`Props/C10Search.lean`: game history, then the search line), `c` is the position reached after them, and `L ++ [c]` is a line of
legal moves; the specification node holds the keys of `L` NEWEST FIRST, i.e. `L.reverse.map key`.  `searchmoves` and ply are
irrelevant to the count.  No well-formedness hypothesis. -/
theorem occurrences_agree (L : List Board) (c : Board) (hl : IsLine (L ++ [c])) (only : List String) (ply : Nat) :
    RepSpec.occurrences ⟨c, only, ply, L.reverse.map key⟩ = SearchRep.occurrences L c :=
  RepSpec.occurrences_agree L c hl only ply

theorem isRepetition_iff_occurrences (L : List Board) (c : Board) (hl : IsLine (L ++ [c])) (only : List String) (ply : Nat)
    (hply : 0 < ply) :
    isRepetition ⟨c, only, ply, L.reverse.map key⟩ = true ↔ 3 ≤ SearchRep.occurrences L c :=
  RepSpec.isRepetition_iff_occurrences L c hl only ply hply

#print axioms occurrences_agree
#print axioms isRepetition_iff_occurrences

theorem playHistory_cons (b : Board) (u : String) (us : List String) (acc : List Key) :
    playHistory b (u :: us) acc =
      match playUci b u with
      | some b' => playHistory b' us (key b :: acc)
      | none => none := by
  rcases hf : San.findUci b u with ⟨r, bb⟩
  cases r with
  | error e => simp only [RepSpec.playHistory, playUci, hf]
  | ok m => simp only [RepSpec.playHistory, playUci, hf]

theorem playHistory_eq (ucis : List String) (b0 : Board) : ∀ acc : List Key,
    playHistory b0 ucis acc = (gameBoards b0 ucis).bind fun
      | b :: T => some (lastBoard b T, histKeys b T ++ acc)
      | [] => none :=
  gameBoards_induct (motive := fun b0 ucis r => ∀ acc : List Key, playHistory b0 ucis acc = r.bind fun
      | b :: T => some (lastBoard b T, histKeys b T ++ acc)
      | [] => none)
    (fun _ _ => rfl)
    (fun b u us hp acc => by rw [playHistory_cons, hp]; rfl)
    (fun b u us b' hp ih acc => by rw [playHistory_cons, hp]; exact ih _)
    (fun b u us b' T hp ih acc => by
      rw [playHistory_cons, hp]
      show playHistory b' us (key b :: acc) = _
      rw [ih]
      show some (lastBoard b' T, _) = some (lastBoard b' T, _)
      congr 2
      unfold histKeys
      rw [List.dropLast_cons_cons]
      simp)
    ucis b0

/-- **the history walked by the oracle is the game**: last board, and the keys of the earlier positions newest first -/
theorem playHistory_of_game {b0 : Board} {ucis : List String} {T : List Board} (h : gameBoards b0 ucis = some (b0 :: T)) :
    playHistory b0 ucis [] = some (lastBoard b0 T, histKeys b0 T) := by
  rw [playHistory_eq, h]
  show some (lastBoard b0 T, histKeys b0 T ++ []) = _
  rw [List.append_nil]

/-- a rejected string: the oracle fails, as the engine keeps its old state (`C10Search.setPosition_rejected`) -/
theorem playHistory_rejected : ∀ (ucis : List String) (b0 : Board) (acc : List Key), gameBoards b0 ucis = none →
    playHistory b0 ucis acc = none := fun ucis b0 acc h => by rw [playHistory_eq, h]; rfl

/-- **`go depth 1` after `position <b0> moves u1 … un` reports the value of the executable specification.**
`repSearch 1 b0 ucis []` succeeds on the last game position with value `v = mm repGame 1 (rootNode …)`; the search model's
`info depth 1` line carries `scoreFromValue v`, and the announced move `m` is a legal move whose node in the specification game
has the exact value `−v` and heads the PV.  Hypotheses: those of `C10Search.go_depth1_game`. -/
theorem go_depth1_eq_repSpec {b0 : Board} {ucis : List String} {T : List Board} (H : RootHyp b0 T)
    (hgame : gameBoards b0 ucis = some (b0 :: T)) (s₀ : St) (maxIter : Nat) (hmi : 1 ≤ maxIter)
    (hlegal : genLegal (lastBoard b0 T) ≠ []) (hpoll : (genPseudo (lastBoard b0 T)).length < s₀.pollPeriod) :
    ∃ v bm, repSearch 1 b0 ucis [] = some (lastBoard b0 T, v, bm) ∧ v = mm repGame 1 (rootNode b0 T []) ∧
      ∃ t nodes m pv,
        (goCmd (setPosition s₀ b0 ucis) { depth := some 1 } maxIter).out =
          .bestMove (some m) (pv[1]?) ::
          .info (some 1) t nodes (some (scoreFromValue v (lastBoard b0 T))) (some pv) :: s₀.out ∧
        m ∈ genLegal (lastBoard b0 T) ∧ - mm repGame 0 (childNode b0 T m) = v ∧ pv[0]? = some m := by
  obtain ⟨bm, hrs⟩ := repSearch_eq_mm (depth := 1) (only := []) (playHistory_of_game hgame)
  obtain ⟨t, nodes, m, pv, hout, hm, hval, hpv⟩ := go_depth1_game H hgame s₀ maxIter hmi hlegal hpoll
  rw [← mm_root1_eq_repValue1 H.line hlegal] at hout hval
  exact ⟨_, bm, hrs, rfl, t, nodes, m, pv, hout, hm, by rw [mm_child_eq_childExact H.line hm]; exact hval, hpv⟩

/-- **`go depth 1 searchmoves m`** after a game: the reported score is `scoreFromValue` of the value component of
`repSearch 1 b0 ucis [m.uci]`, whether `m` completes a threefold (then it is `cp (contempt − drawScore)` whatever the material) or
not (then it is the horizon value of the position after `m`); best move `m`, PV `m :: pv'`, ponder move `pv'[0]?`.
Hypotheses: those of `C10Search.go_searchmoves`. -/
theorem go_depth1_searchmoves_eq_repSpec {b0 : Board} {ucis : List String} {T : List Board} {m : Move}
    (H : GameHyp b0 ucis T m) (s₀ : St) (maxIter : Nat) (hmi : 1 ≤ maxIter) (hpp : 1 < s₀.pollPeriod)
    (hmat : material (lastBoard b0 T) ≤ 64) :
    ∃ v bm, repSearch 1 b0 ucis [m.uci] = some (lastBoard b0 T, v, bm) ∧ v = mm repGame 1 (rootNode b0 T [m.uci]) ∧
      v = - mm repGame 0 (childNode b0 T m) ∧
      ∃ t nodes pv',
        (goCmd (setPosition s₀ b0 ucis) { depth := some 1, searchMoves := [m.uci] } maxIter).out =
          .bestMove (some m) (pv'[0]?) ::
          .info (some 1) t nodes (some (scoreFromValue v (lastBoard b0 T))) (some (m :: pv')) :: s₀.out := by
  have hmv : rootMoves (lastBoard b0 T) [m.uci] = [m] := rootMoves_single H.last.2.wf H.legal
  have hb := (childExact_bounds (H.move fun _ => hmat) H.legal).1
  -- the one root move is `m`: the maximum over it is its own negated value
  have hv : mm repGame 1 (rootNode b0 T [m.uci]) = - mm repGame 0 (childNode b0 T m) := by
    rw [mm_root1 H.last.1 [m.uci] (by rw [hmv]; simp), hmv, mm_child_eq_childExact H.last.1 H.legal]
    exact Int.max_eq_right (Int.le_of_lt hb)
  obtain ⟨bm, hrs⟩ := repSearch_eq_mm (depth := 1) (only := [m.uci]) (playHistory_of_game H.game)
  obtain ⟨t, nodes, pv', hout, -⟩ := go_searchmoves H s₀ maxIter hmi hpp fun _ => hmat
  rw [← mm_child_eq_childExact H.last.1 H.legal, ← hv] at hout
  exact ⟨_, bm, hrs, rfl, hv, t, nodes, pv', hout⟩

#print axioms playHistory_of_game
#print axioms playHistory_rejected
#print axioms mm_child_eq_childExact
#print axioms mm_root1
#print axioms mm_root1_eq_repValue1
#print axioms go_depth1_eq_repSpec
#print axioms go_depth1_searchmoves_eq_repSpec

/-! ## non-vacuity

The king-and-queen shuffle of `C10Search.Example`: `7k/8/8/8/8/8/8/KQ6 w - - 0 1`, `Qb1-b3 Kh8-g7 Qb3-b1 Kg7-h8 Qb1-b3 Kh8-g7 Qb3-b1`;
`Kg7-h8` (`back`) reaches the root position for the third time, `Kg7-f7` (`aside`) does not.  The hypotheses `RootHyp` / `GameHyp`
are evaluated in the kernel there (`kq_root`, `kq_back`, `kq_aside`); the theorems of this file are instantiated on them.  The
specification itself (merge sort, strings) is run by the compiler (`#guard`). -/
namespace Example
open Inkayaku.C10Search.Example

-- `kqT` is sealed: against an expected type `IsLine (kq :: kqT …)` the elaborator unfolds the game to see which equation of
-- `IsLine` applies.  `kqLast` must still unfold: `childNode kq kqT m` is stated over `lastBoard kq kqT`.
seal kqT

/-- `go_depth1_eq_repSpec` applies to the shuffle -/
example : ∃ v bm, repSearch 1 kq shuffle [] = some (kqLast, v, bm) ∧ v = mm repGame 1 (rootNode kq kqT []) ∧
    ∃ t nodes m pv,
      (goCmd (setPosition initial kq shuffle) { depth := some 1 } 64).out =
        [.bestMove (some m) (pv[1]?), .info (some 1) t nodes (some (scoreFromValue v kqLast)) (some pv)] ∧
      m ∈ genLegal kqLast ∧ - mm repGame 0 (childNode kq kqT m) = v ∧ pv[0]? = some m :=
  go_depth1_eq_repSpec kq_root.1 kq_root.2 initial 64 (by decide) (by decide +kernel) (by decide +kernel)

/-- `go_depth1_searchmoves_eq_repSpec` applies to both kinds of root move -/
example : ∃ v bm, repSearch 1 kq shuffle [back.uci] = some (kqLast, v, bm) ∧ v = mm repGame 1 (rootNode kq kqT [back.uci]) ∧
    v = - mm repGame 0 (childNode kq kqT back) ∧
    ∃ t nodes pv',
      (goCmd (setPosition initial kq shuffle) { depth := some 1, searchMoves := [back.uci] } 64).out =
        [.bestMove (some back) (pv'[0]?), .info (some 1) t nodes (some (scoreFromValue v kqLast)) (some (back :: pv'))] :=
  go_depth1_searchmoves_eq_repSpec kq_back initial 64 (by decide) (by decide) (by decide +kernel)

example : ∃ v bm, repSearch 1 kq shuffle [aside.uci] = some (kqLast, v, bm) ∧ v = mm repGame 1 (rootNode kq kqT [aside.uci]) ∧
    v = - mm repGame 0 (childNode kq kqT aside) ∧
    ∃ t nodes pv',
      (goCmd (setPosition initial kq shuffle) { depth := some 1, searchMoves := [aside.uci] } 64).out =
        [.bestMove (some aside) (pv'[0]?), .info (some 1) t nodes (some (scoreFromValue v kqLast)) (some (aside :: pv'))] :=
  go_depth1_searchmoves_eq_repSpec kq_aside initial 64 (by decide) (by decide) (by decide +kernel)

/-- the history walk of the oracle on the shuffle (`playHistory_of_game`), hence `repSearch_eq_mm` applies -/
theorem kq_history : playHistory kq shuffle [] = some (kqLast, histKeys kq kqT) := playHistory_of_game kq_root.2

example : ∃ bm, repSearch 4 kq shuffle [] = some (kqLast, mm repGame 4 ⟨kqLast, [], 0, histKeys kq kqT⟩, bm) :=
  repSearch_eq_mm kq_history

theorem kq_line_back : IsLine ((kq :: kqT) ++ [make kqLast back]) := isLine_child kq_root.1.line kq_back.legal
theorem kq_line_aside : IsLine ((kq :: kqT) ++ [make kqLast aside]) := isLine_child kq_root.1.line kq_aside.legal

/-- `occurrences_agree` on the shuffle: three and one -/
example : RepSpec.occurrences (childNode kq kqT back) = 3 :=
  (occurrences_agree (kq :: kqT) _ kq_line_back [] 1).trans kq_back_third

example : RepSpec.occurrences (childNode kq kqT aside) = 1 :=
  (occurrences_agree (kq :: kqT) _ kq_line_aside [] 1).trans kq_aside_first

/-- the hypothesis of `rule_value` is satisfiable: the node below `Kg7-h8` is a repetition node, worth `drawScore − contempt`
at every depth; the node below `Kg7-f7` is not -/
theorem kq_back_rep : isRepetition (childNode kq kqT back) = true :=
  (isRepetition_iff_occurrences (kq :: kqT) _ kq_line_back [] 1 (by decide)).mpr (by
    rw [kq_back_third]; decide)

example (d : Nat) : mm repGame d (childNode kq kqT back) = Gen.drawScore - Gen.contempt := by
  rw [rule_value d _ kq_back_rep]; rfl

example : isRepetition (childNode kq kqT aside) = false := by
  cases h : isRepetition (childNode kq kqT aside) with
  | false => rfl
  | true =>
    have := (isRepetition_iff_occurrences (kq :: kqT) _ kq_line_aside [] 1 (by decide)).mp h
    rw [kq_aside_first] at this
    exact absurd this (by decide)

/-- the hypotheses of `rule_otherwise` / `rule_root` are satisfiable: the root of the shuffle -/
example : mm repGame 1 (rootNode kq kqT []) =
    mmFold (mm repGame 0) lossScore
      ((rootMoves kqLast []).map fun m => ({ board := make kqLast m, only := [], ply := 1, before := key kqLast :: histKeys kq kqT } : RPos)) :=
  rule_root 0 kqLast [] (histKeys kq kqT) (by decide +kernel)

/-! the same by running the specification and the search model -/

/-- `go depth d` of the search model after `position <b0> moves …` reports the value of `repSearch d` -/
def agreesRep (d : Nat) (b0 : Board) (ucis : List String) : Bool :=
  let s := goCmd (setPosition initial b0 ucis) { depth := some d }
  match repSearch d b0 ucis [] with
  | some (b, v, _) => lastInfo s.out == some (d, scoreFromValue v b)
  | none => false

-- Black, a queen down, takes the repetition: value 50 = `contempt − drawScore`, the `repValue1` of `C10Search`
#guard (repSearch 1 kq shuffle []).map (fun r => (r.2.1, r.2.2.map Move.uci)) == some (50, some "g7h8")
#guard (repSearch 1 kq shuffle []).map (fun r => r.2.1) == some (repValue1 (kq :: kqT) kqLast)
-- `searchmoves g7f7`: material decides
#guard (repSearch 1 kq shuffle ["g7f7"]).map (fun r => r.2.1) == some (-840) && RepSpec.plainValue 1 kqLast ["g7f7"] == -840
-- without the rule Black is simply lost
#guard RepSpec.plainValue 1 kqLast [] == -820
-- the two counts (`occurrences_agree`), computed
#guard RepSpec.occurrences (childNode kq kqT back) == 3 && SearchRep.occurrences (kq :: kqT) (make kqLast back) == 3
#guard (genLegal kqLast).all fun m =>
  RepSpec.occurrences (childNode kq kqT m) == SearchRep.occurrences (kq :: kqT) (make kqLast m)
-- the history walk: last board, keys newest first
#guard (playHistory kq shuffle []).map (fun r => r.2) == some (histKeys kq kqT) && (histKeys kq kqT).length == 7
-- a rejected string
#guard (repSearch 1 kq ["b1b3", "h8g7", "b3b9"] []).isNone
-- the search model reports the specification's value: depth 1 (`go_depth1_eq_repSpec`) …
#guard agreesRep 1 kq shuffle && agreesRep 1 kq (shuffle.take 6) && agreesRep 1 kq []
-- … and deeper (`Props/C10Deep.lean`)
#guard agreesRep 2 kq (shuffle.take 6) && agreesRep 2 kq (shuffle.take 5) && agreesRep 3 kq (shuffle.take 5)

/-! a position of `corpus/perpetuals.txt` (`5Q2/7k/q7/8/1r6/8/2P4K/8 w - - 0 40`, cycle `Qf8-f7+ Kh7-h8 Qf7-f8+ Kh8-h7`; depth 4 in the
corpus).  With the cycle played once and its first half again, the third occurrence of the root of the cycle is two plies below
the root: the rule decides the depth-2 value (`cp50`; without the rule `cp120`).  One ply earlier it decides the depth-3 value. -/

def perp : Board := boardOf "5Q2/7k/q7/8/1r6/8/2P4K/8 w - - 0 40"

#guard RepSpec.handleRepSearch ["5Q2/7k/q7/8/1r6/8/2P4K/8_w_-_-_0_40", "2", "f8f7", "h7h8", "f7f8", "h8h7", "f8f7", "h7h8"]
  == "cp50 cp120"
#guard RepSpec.handleRepSearch ["5Q2/7k/q7/8/1r6/8/2P4K/8_w_-_-_0_40", "3", "f8f7", "h7h8", "f7f8", "h8h7", "f8f7"] == "cp50 cp-100"
-- no repetition within two plies of the cycle played once: both values agree
#guard RepSpec.handleRepSearch ["5Q2/7k/q7/8/1r6/8/2P4K/8_w_-_-_0_40", "2", "f8f7", "h7h8", "f7f8", "h8h7"] == "cp100 cp100"
-- the search model agrees at depth 2 and 3
#guard agreesRep 2 perp ["f8f7", "h7h8", "f7f8", "h8h7", "f8f7", "h7h8"] && agreesRep 3 perp ["f8f7", "h7h8", "f7f8", "h8h7", "f8f7"]

end Example

end Inkayaku.C10Rep
