import Inkayaku.Proofs.SanSpec
/-!
# C14 — the literal equation: the SAN text of `uci_to_pgn` is `Spec.san`

Property text: *For every legal position and legal move, the SAN text produced for the move is the standard algebraic
notation of that move …*

`Props/C14.lean` describes the text part by part (`C14.shape_piece`, `SanProofs.shape_pawn`, `SanProofs.shape_castle`,
`C14.check_mark_rules`); here it is compared with the executable reference as a whole, using
`Closure.genLegal_eq_rules` (C01), `C02.make_eq_apply` (C02),
`Closure.no_moves_iff_rules` / `C05.current_in_check` (C05) and `Search.make_wf`.

Objects: `San.uciToSan` = `uci_to_pgn` (model of board/src/board.rs, `Model/San.lean`); `Spec.san` = standard algebraic
notation written on the independent mailbox rules model (`Spec/Chess.lean`: piece letter, disambiguation by the OTHER
LEGAL moves of the rules, capture mark incl. en passant, promotion, castling, `#` for `Spec.isCheckmate` and `+` for
`Spec.inCheck` of the successor `Spec.apply`); `Abs.abs`, `Abs.absMove` = the abstraction maps; `WF.wf` = "legal
position".  Proof: `Proofs/SanSpec.lean`.

Hypotheses besides "legal position" and "legal move": `b.halfmove < 4095` and `b.fullmove + 1 < 2147483648`.  The check
mark is computed on the position AFTER the move; that position is compared with the rules through `WF.wf`, which bounds
both clocks (12-bit undo field, 31-bit move counter), so there must be room for one more ply.  Every position reachable
in a game under the 75-move rule, and every FEN with clocks below these bounds, satisfies them.  Nothing else is assumed.
-/
namespace Inkayaku.C14Spec
open Inkayaku.Board Inkayaku.San Inkayaku.Abs

/-- **C14 (literal form).**  Legal position with room for one more ply in both clocks, legal move `m`: whatever
`uci_to_pgn` answers for the UCI text of `m` is `Spec.san` of the move — every move class (castling, pawn pushes,
pawn captures incl. en passant, promotions, piece moves with every disambiguation) and every suffix (`+`, `#`, none). -/
theorem san_eq_spec {b : Board} (hwf : WF.wf b = true) (hhm : b.halfmove < 4095) (hfm : b.fullmove + 1 < 2147483648)
    {m : Move} (hm : m ∈ genLegal b) {s : String} (h : (uciToSan b m.uci).1 = .ok s) :
    s = Spec.san (abs b) (absMove m.f) :=
  SanSpec.san_eq_spec hwf hhm hfm hm h

/-- … and it does answer: for every legal move `uci_to_pgn` returns exactly `Spec.san` of the move -/
theorem uciToSan_eq_spec {b : Board} (hwf : WF.wf b = true) (hhm : b.halfmove < 4095)
    (hfm : b.fullmove + 1 < 2147483648) {m : Move} (hm : m ∈ genLegal b) :
    (uciToSan b m.uci).1 = .ok (Spec.san (abs b) (absMove m.f)) := by
  have hs := SanProofs.uciToSan_legal (C14.uciNodup_of_wf hwf) hm
  rw [hs, san_eq_spec hwf hhm hfm hm hs]

/-- the characters of `Spec.san` are the rendering of `shapeOfMove` (`C14.shape_piece`, `SanProofs.shape_pawn`,
`SanProofs.shape_castle`), so everything proved about that shape holds for `Spec.san` -/
theorem spec_san_shape {b : Board} (hwf : WF.wf b = true) (hhm : b.halfmove < 4095) (hfm : b.fullmove + 1 < 2147483648)
    {m : Move} (hm : m ∈ genLegal b) :
    (Spec.san (abs b) (absMove m.f)).toList = Spec.SanGrammar.renderSan (SanProofs.shapeOfMove b m) :=
  SanSpec.san_toList hwf hhm hfm hm

/-- the ingredient about disambiguation, on its own: the squares of `others` in `Spec.san` (other legal moves of the
RULES, same kind and colour of piece, same target) are the model's candidate sources without the mover -/
theorem others_eq_candidates {b : Board} (hwf : WF.wf b = true) {m : Move} (hm : m ∈ genLegal b) (P : Nat → Bool) :
    ((Spec.legalMoves (abs b)).filter fun o =>
        o.tgt == m.f.target && o.src != m.f.source &&
          (abs b).at o.src == some ⟨b.whiteTurn, kindOf m.f.pieceMoved⟩).all (fun o => P o.src) =
      ((SanProofs.candSources b (genPseudo b) m.f).filter (· != m.f.source)).all P :=
  SanSpec.others_all hwf (SanProofs.mem_genPseudo_of_legal hm) P

#print axioms san_eq_spec
#print axioms uciToSan_eq_spec
#print axioms spec_san_shape
#print axioms others_eq_candidates

/-! ## Non-vacuity and sanity: concrete positions, evaluated by the kernel (independently of the theorems) -/

section Examples
set_option maxRecDepth 100000
open Inkayaku.C14 (bd sanOf mv)

def agreesOn (fen u san : String) : Bool :=
  let b := bd fen
  match (genLegal b).find? (fun m => m.uci == u) with
  | some m =>
    WF.wf b && decide (b.halfmove < 4095) && decide (b.fullmove + 1 < 2147483648) &&
      (match (uciToSan b m.uci).1 with
       | .ok s => s == san
       | .error _ => false) &&
      Spec.san (abs b) (absMove m.f) == san
  | none => false

-- two knights that can both reach d2: file letters (disambiguation by the other LEGAL move of the rules)
example : agreesOn "4k3/8/8/8/8/5N2/8/1N2K3 w - - 0 1" "b1d2" "Nbd2" = true := by decide +kernel
-- two rooks on one file: rank digit; three queens: file and rank
example : agreesOn "4k3/8/8/R7/8/8/8/R3K3 w - - 0 1" "a1a3" "R1a3" = true := by decide +kernel
example : agreesOn "1k6/8/8/8/4Q2Q/8/8/K6Q w - - 0 1" "h4e1" "Qh4e1" = true := by decide +kernel
-- capture-promotion with check
example : agreesOn "3rk3/4P3/8/8/8/8/8/4K3 w - - 0 1" "e7d8q" "exd8=Q+" = true := by decide +kernel
-- en passant, a push, castling with check (both sides), mate and the stalemating move
example : agreesOn "4k3/8/8/3pP3/8/8/8/4K3 w - d6 0 2" "e5d6" "exd6" = true := by decide +kernel
example : agreesOn "4k3/8/8/3pP3/8/8/8/4K3 w - d6 0 2" "e5e6" "e6" = true := by decide +kernel
example : agreesOn "5k2/8/8/8/8/8/8/4K2R w K - 0 1" "e1g1" "O-O+" = true := by decide +kernel
example : agreesOn "3k4/8/8/8/8/8/8/R3K3 w Q - 0 1" "e1c1" "O-O-O+" = true := by decide +kernel
example : agreesOn "7k/8/5K2/8/8/8/6Q1/8 w - - 0 1" "g2g7" "Qg7#" = true := by decide +kernel
example : agreesOn "7k/8/5K2/8/8/8/6Q1/8 w - - 0 1" "g2g6" "Qg6" = true := by decide +kernel

-- Black to move: en passant, capture-promotion towards rank 1 with check, under-promotion, castling
example : let fen := "4k2r/8/8/8/3pP3/8/6p1/4K2R b Kk e3 0 1"
    agreesOn fen "d4e3" "dxe3" = true ∧ agreesOn fen "g2h1q" "gxh1=Q+" = true ∧ agreesOn fen "g2g1n" "g1=N" = true ∧
      agreesOn fen "e8g8" "O-O" = true := by decide +kernel

theorem knights_wf : WF.wf (bd "4k3/8/8/8/8/5N2/8/1N2K3 w - - 0 1") = true := by decide +kernel
example (m : Move) (hm : m ∈ genLegal (bd "4k3/8/8/8/8/5N2/8/1N2K3 w - - 0 1")) :
    (uciToSan (bd "4k3/8/8/8/8/5N2/8/1N2K3 w - - 0 1") m.uci).1 =
      .ok (Spec.san (abs (bd "4k3/8/8/8/8/5N2/8/1N2K3 w - - 0 1")) (absMove m.f)) :=
  uciToSan_eq_spec knights_wf (by decide +kernel) (by decide +kernel) hm

end Examples

end Inkayaku.C14Spec
