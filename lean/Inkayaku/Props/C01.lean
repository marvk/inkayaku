import Inkayaku.Proofs.GenSpecStruct
import Inkayaku.Model.FenBoard
/-!
# C01 — the moves the board offers are exactly the moves of the rules

Property text: *For every legal chess position, the set of moves the board offers as legal (written in UCI
long-algebraic form, promotions included) is exactly the set of moves the FIDE rules allow: nothing missing, nothing
extra, no duplicates.  The same holds for the pseudo-legal generator followed by the make/validity filter that the
search and perft use, and the capture/promotion-only generator yields exactly the capture-or-promotion subset.*

Objects: `Board.genPseudo` = `generate_pseudo_legal_moves`, `Board.genNonQuiescent` =
`generate_pseudo_legal_non_quiescent_moves`, `Board.genLegal` = `generate_legal_moves`, `Board.perft` (models of
board/src/board.rs), `Spec.pseudoMoves` / `Spec.pawnMoves` / `Spec.castleMoves` / `Spec.legalMoves` (the rules,
`Spec/Chess.lean`), `Abs.abs` / `Abs.absMove` (bitboard ↦ mailbox position, packed move ↦ (source, target, promotion)),
`WF.wf` ("legal position").  Proofs: `Proofs/GenSpec*.lean`; they rest on C04 (magic lookups = ray walks for all
occupancies), C05 (`occupancy_in_check`, `move_legal`), `GenOK` (every generated move fits the packed word) and
kernel-evaluated checks, square by square, of the CURRENT rank, file and castling masks against the Spec's file/rank arithmetic.

Scope notes:
* `genLegal_eq_spec` / `legal_moves_exact` take the successor property `hsucc` (property C02:
  `abs (make b m) = Spec.apply (abs b) (absMove m.f)` for the pseudo-legal moves of `b`) as an explicit hypothesis.
  That `make` keeps the piece words disjoint with one king per side (needed by `C05.move_legal`) is
  `GenSpec.struct_make` (from `MakeWf.step_disj` / `step_kings`); `genLegal_eq_spec_explicit` takes it as a second
  hypothesis and does not rest on `MakeWf`.  `Props/Closure.lean` discharges `hsucc` by C02.
* `genNonQuiescent_eq_filter` needs `wf b`: it is false for arbitrary values of the model's unbounded fields
  (`b.halfmove ≥ 2^24` spills into the promotion field) and for an e.p. square with no pawn behind it
  (`pawnAttacks` ignores the `nq` flag); see `Proofs/GenSpecNoisy.lean`.
-/
namespace Inkayaku.C01
open Inkayaku.Board Inkayaku.Gen Inkayaku.Abs Inkayaku.Spec

/-- squares a8 = 0 … h8 = 7, a1 = 56, b1 = 57, c1 = 58, d1 = 59, e1 = 60, f1 = 61, g1 = 62, h1 = 63.
Between king and rook empty: b1 c1 d1 / f1 g1 / b8 c8 d8 / f8 g8; king's start, crossing and landing square not
attacked: c1 d1 e1 / e1 f1 g1 / c8 d8 e8 / e8 f8 g8. -/
theorem castle_masks_eq_fide :
    bitsAsc whiteQueenSideCastleEmpty.toUInt64 = [57, 58, 59] ∧
    bitsAsc whiteKingSideCastleEmpty.toUInt64 = [61, 62] ∧
    bitsAsc blackQueenSideCastleEmpty.toUInt64 = [1, 2, 3] ∧
    bitsAsc blackKingSideCastleEmpty.toUInt64 = [5, 6] ∧
    bitsAsc whiteQueenSideCastleCheck.toUInt64 = [58, 59, 60] ∧
    bitsAsc whiteKingSideCastleCheck.toUInt64 = [60, 61, 62] ∧
    bitsAsc blackQueenSideCastleCheck.toUInt64 = [2, 3, 4] ∧
    bitsAsc blackKingSideCastleCheck.toUInt64 = [4, 5, 6] ∧
    (∀ m ∈ [whiteQueenSideCastleEmpty, whiteKingSideCastleEmpty, blackQueenSideCastleEmpty, blackKingSideCastleEmpty,
        whiteQueenSideCastleCheck, whiteKingSideCastleCheck, blackQueenSideCastleCheck, blackKingSideCastleCheck,
        rank1, rank2, rank3, rank4, rank5, rank6, rank7, rank8,
        fileA, fileB, fileC, fileD, fileE, fileF, fileG, fileH], m < 2 ^ 64) ∧
    (Geometry.between 60 56 = [59, 58, 57] ∧ Geometry.between 60 63 = [61, 62] ∧
      Geometry.between 4 0 = [3, 2, 1] ∧ Geometry.between 4 7 = [5, 6]) ∧
    (castleSquares true false = (60, 58, 56, 59) ∧ castleSquares true true = (60, 62, 63, 61) ∧
      castleSquares false false = (4, 2, 0, 3) ∧ castleSquares false true = (4, 6, 7, 5)) ∧
    (∀ s, s < 64 →
      rank8.testBit s = decide (s / 8 = 0) ∧ rank7.testBit s = decide (s / 8 = 1) ∧
      rank6.testBit s = decide (s / 8 = 2) ∧ rank5.testBit s = decide (s / 8 = 3) ∧
      rank4.testBit s = decide (s / 8 = 4) ∧ rank3.testBit s = decide (s / 8 = 5) ∧
      rank2.testBit s = decide (s / 8 = 6) ∧ rank1.testBit s = decide (s / 8 = 7) ∧
      fileA.testBit s = decide (s % 8 = 0) ∧ fileB.testBit s = decide (s % 8 = 1) ∧
      fileC.testBit s = decide (s % 8 = 2) ∧ fileD.testBit s = decide (s % 8 = 3) ∧
      fileE.testBit s = decide (s % 8 = 4) ∧ fileF.testBit s = decide (s % 8 = 5) ∧
      fileG.testBit s = decide (s % 8 = 6) ∧ fileH.testBit s = decide (s % 8 = 7)) :=
  GenSpec.castle_masks_eq_fide

theorem genNonQuiescent_eq_filter {b : Board} (h : WF.wf b = true) :
    genNonQuiescent b = (genPseudo b).filter (fun m => m.isAttack || m.isPromotion) :=
  GenSpec.genNonQuiescent_eq_filter h

/-- queens, rooks and bishops (`k` one of the three; queens are generated in two passes, both covered) -/
theorem sliding_iff {b : Board} (h : WF.wf b = true) (k : Kind) (hk : k = .queen ∨ k = .rook ∨ k = .bishop)
    (s t : Nat) :
    (∃ m ∈ genPseudo b, m.f.pieceMoved = kindCode k ∧ m.f.castle = false ∧ absMove m.f = ⟨s, t, none⟩) ↔
      (s < 64 ∧ t < 64 ∧ (abs b).at s = some ⟨(abs b).whiteToMove, k⟩ ∧
        Spec.attacksGeom (abs b) k (abs b).whiteToMove s t = true ∧
        (match (abs b).at t with | some o => o.white != (abs b).whiteToMove | none => true) = true) :=
  GenSpec.step_iff h k (by rcases hk with rfl | rfl | rfl <;> decide) s t

theorem knight_iff {b : Board} (h : WF.wf b = true) (s t : Nat) :
    (∃ m ∈ genPseudo b, m.f.pieceMoved = KNIGHT ∧ m.f.castle = false ∧ absMove m.f = ⟨s, t, none⟩) ↔
      (s < 64 ∧ t < 64 ∧ (abs b).at s = some ⟨(abs b).whiteToMove, .knight⟩ ∧
        Spec.attacksGeom (abs b) .knight (abs b).whiteToMove s t = true ∧
        (match (abs b).at t with | some o => o.white != (abs b).whiteToMove | none => true) = true) :=
  GenSpec.step_iff h .knight (by decide) s t

/-- king steps; castling (also a move of the king, with the castle flag set) is `castle_iff` -/
theorem king_iff {b : Board} (h : WF.wf b = true) (s t : Nat) :
    (∃ m ∈ genPseudo b, m.f.pieceMoved = KING ∧ m.f.castle = false ∧ absMove m.f = ⟨s, t, none⟩) ↔
      (s < 64 ∧ t < 64 ∧ (abs b).at s = some ⟨(abs b).whiteToMove, .king⟩ ∧
        Spec.attacksGeom (abs b) .king (abs b).whiteToMove s t = true ∧
        (match (abs b).at t with | some o => o.white != (abs b).whiteToMove | none => true) = true) :=
  GenSpec.step_iff h .king (by decide) s t

/-- pawns: pushes, double pushes, captures, en passant, all four promotions (with and without capture) -/
theorem pawn_iff {b : Board} (h : WF.wf b = true) (sm : SMove) :
    (∃ m ∈ genPseudo b, m.f.pieceMoved = PAWN ∧ absMove m.f = sm) ↔
      (∃ s, s < 64 ∧ (abs b).at s = some ⟨(abs b).whiteToMove, .pawn⟩ ∧
        sm ∈ Spec.pawnMoves (abs b) (abs b).whiteToMove s) :=
  GenSpec.pawn_iff h sm

/-- castling: right present, squares between king and rook empty, king's start, crossing and landing squares not
attacked; king and rook on their home squares follows from the right on legal positions (conjunct (5) of `wf`) -/
theorem castle_iff {b : Board} (h : WF.wf b = true) (sm : SMove) :
    (∃ m ∈ genPseudo b, m.f.castle = true ∧ absMove m.f = sm) ↔
      sm ∈ Spec.castleMoves (abs b) (abs b).whiteToMove :=
  GenSpec.castle_iff h sm

/-- **pseudo-legal moves: nothing missing, nothing extra** -/
theorem genPseudo_iff {b : Board} (h : WF.wf b = true) (sm : SMove) :
    sm ∈ (genPseudo b).map (absMove ∘ Move.f) ↔ sm ∈ Spec.pseudoMoves (abs b) :=
  GenSpec.genPseudo_iff h sm

theorem genPseudo_uci_iff {b : Board} (h : WF.wf b = true) (s : String) :
    s ∈ (genPseudo b).map Move.uci ↔ s ∈ (Spec.pseudoMoves (abs b)).map SMove.uci := by
  rw [GenSpec.map_uci_genPseudo h, List.mem_map, List.mem_map]
  constructor
  · rintro ⟨sm, hsm, rfl⟩; exact ⟨sm, (GenSpec.genPseudo_iff h sm).mp hsm, rfl⟩
  · rintro ⟨sm, hsm, rfl⟩; exact ⟨sm, (GenSpec.genPseudo_iff h sm).mpr hsm, rfl⟩

theorem genPseudo_nodup {b : Board} (h : WF.wf b = true) : ((genPseudo b).map Move.uci).Nodup :=
  GenSpec.genPseudo_nodup h

theorem genLegal_nodup {b : Board} (h : WF.wf b = true) : ((genLegal b).map Move.uci).Nodup :=
  GenSpec.genLegal_nodup h

/-- generated moves satisfy the bounds: `GenSpec.gen_bounds` -/
theorem uci_agree (f : MoveF) (hs : f.source < 64) (ht : f.target < 64) (hp : f.promotion ≤ 6) :
    f.uci = (absMove f).uci :=
  GenSpec.uci_agree f hs ht hp

theorem uci_injective {a c : SMove} (ha : a.src < 64 ∧ a.tgt < 64) (hc : c.src < 64 ∧ c.tgt < 64)
    (h : a.uci = c.uci) : a = c :=
  GenSpec.uci_injective ha hc h

/-- `hsucc` = property C02 for the pseudo-legal moves of `b` -/
theorem genLegal_eq_spec {b : Board} (h : WF.wf b = true)
    (hsucc : ∀ m ∈ genPseudo b, abs (make b m) = Spec.apply (abs b) (absMove m.f)) (sm : SMove) :
    sm ∈ (genLegal b).map (absMove ∘ Move.f) ↔ sm ∈ Spec.legalMoves (abs b) :=
  GenSpec.genLegal_eq_spec_of_succ h hsucc sm

/-- variant with both facts about `make` as hypotheses (does not rest on `MakeWf`) -/
theorem genLegal_eq_spec_explicit {b : Board} (h : WF.wf b = true)
    (hsucc : ∀ m ∈ genPseudo b, abs (make b m) = Spec.apply (abs b) (absMove m.f))
    (hstruct : ∀ m ∈ genPseudo b, Check.Struct (make b m)) (sm : SMove) :
    sm ∈ (genLegal b).map (absMove ∘ Move.f) ↔ sm ∈ Spec.legalMoves (abs b) :=
  GenSpec.genLegal_eq_spec h hsucc hstruct sm

/-- the perft / search path: pseudo-legal generation, `make`, `is_valid` — visits exactly `genLegal b`, in order -/
theorem perft_moves (b : Board) (depth : Nat) : (perft b depth).map Prod.fst = genLegal b := by
  unfold perft genLegal
  exact GenSpec.filterMap_fst (genPseudo b) (fun m => isValid (make b m)) (fun m => perftCount (make b m) (depth - 1))

theorem search_filter (b : Board) : (genPseudo b).filter (fun m => isValid (make b m)) = genLegal b := rfl

/-- **C01.**  For every legal position (given the successor property C02 for its pseudo-legal moves):
the UCI strings of the moves offered as legal are exactly the UCI strings of the legal moves of the rules, without
duplicates; the perft/search path (pseudo-legal generation + make/validity filter) yields the same list; the
capture/promotion-only generator yields exactly the capture-or-promotion sublist of the pseudo-legal moves. -/
theorem legal_moves_exact {b : Board} (h : WF.wf b = true)
    (hsucc : ∀ m ∈ genPseudo b, abs (make b m) = Spec.apply (abs b) (absMove m.f)) :
    (∀ s : String, s ∈ (genLegal b).map Move.uci ↔ s ∈ (Spec.legalMoves (abs b)).map SMove.uci) ∧
    ((genLegal b).map Move.uci).Nodup ∧
    (∀ depth, (perft b depth).map Prod.fst = genLegal b) ∧
    (genPseudo b).filter (fun m => isValid (make b m)) = genLegal b ∧
    genNonQuiescent b = (genPseudo b).filter (fun m => m.isAttack || m.isPromotion) :=
  ⟨GenSpec.genLegal_uci_eq_spec h hsucc (fun _ hm => GenSpec.struct_make h hm), GenSpec.genLegal_nodup h, perft_moves b, rfl,
    GenSpec.genNonQuiescent_eq_filter h⟩

#print axioms castle_masks_eq_fide
#print axioms genNonQuiescent_eq_filter
#print axioms sliding_iff
#print axioms knight_iff
#print axioms king_iff
#print axioms pawn_iff
#print axioms castle_iff
#print axioms genPseudo_iff
#print axioms genPseudo_uci_iff
#print axioms genPseudo_nodup
#print axioms genLegal_nodup
#print axioms uci_agree
#print axioms uci_injective
#print axioms genLegal_eq_spec
#print axioms genLegal_eq_spec_explicit
#print axioms perft_moves
#print axioms legal_moves_exact

/-! ## Non-vacuity and sanity: concrete positions, both sides evaluated independently by the kernel -/

def bd (s : String) : Board :=
  match FenBoard.fromFenString s with
  | .ok b => b
  | .error _ => default

def sameSet (l1 l2 : List SMove) : Bool := l1.all (fun x => l2.contains x) && l2.all (fun x => l1.contains x)

def agreePseudo (fen : String) (n : Nat) : Bool :=
  let b := bd fen
  WF.wf b
  && ((genPseudo b).length == n) && ((Spec.pseudoMoves (abs b)).length == n)
  && sameSet ((genPseudo b).map (absMove ∘ Move.f)) (Spec.pseudoMoves (abs b))
  && (genNonQuiescent b == (genPseudo b).filter (fun m => m.isAttack || m.isPromotion))

/-- legal level: the hypothesis `hsucc` of `genLegal_eq_spec` holds and both sides give the same `n` legal moves -/
def agreeLegal (fen : String) (n : Nat) : Bool :=
  let b := bd fen
  WF.wf b
  && (genPseudo b).all (fun m => abs (make b m) == Spec.apply (abs b) (absMove m.f))
  && ((genLegal b).length == n) && ((Spec.legalMoves (abs b)).length == n)
  && sameSet ((genLegal b).map (absMove ∘ Move.f)) (Spec.legalMoves (abs b))

/-- the perft position ("kiwipete"): castling both sides, captures, pins -/
def kiwipete : String := "r3k2r/p1ppqpb1/bn2pnp1/3PN3/1p2P3/2N2Q1p/PPPBBPPP/R3K2R w KQkq - 0 1"

example : WF.wf (bd kiwipete) = true := by decide +kernel
example : agreePseudo kiwipete 48 = true := by decide +kernel
-- white: en passant (e5xd6), promotion (b7-b8) and capturing promotion (b7xa8), castling both sides: 36 moves
example : agreePseudo "r3k2r/1P6/8/3pP3/8/8/8/R3K2R w KQkq d6 0 2" 36 = true := by decide +kernel
-- black: en passant (e4xd3), promotion (b2-b1) and capturing promotion (b2xa1), castling both sides: 36 moves
example : agreePseudo "r3k2r/8/8/8/3Pp3/8/1p6/R3K2R b KQkq d3 0 2" 36 = true := by decide +kernel
-- `hsucc` is satisfiable and the legal sets agree: king in check by an unprotected rook, 3 of 5 king moves are legal
example : agreeLegal "4k3/8/8/8/8/8/4r3/4K3 w - - 0 1" 3 = true := by decide +kernel
-- a promotion position, black to move: 5 king moves + 4 promotions, all legal
example : agreeLegal "4k3/8/8/8/8/8/1p6/4K3 b - - 0 1" 9 = true := by decide +kernel

end Inkayaku.C01
