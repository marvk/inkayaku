import Inkayaku.Props.C10Deep
/-!
# C10 below the root: why exactness cannot extend beyond the hypotheses of `C10Deep.go_depth_eq_repSpec` — a graph-history witness

`Props/C10Deep.lean` proves that `go depth d` after a game reports the exact path-dependent minimax `mm repGame d` (the value of
`RepSpec.repSearch`) for every `d` under `RHyp b0 T d`, whose line-dependent part `RHashInj b0 T d` is a theorem for `d ≤ 3`.
This file exhibits a game on which, at depth 5, the search model's value DIFFERS from the specification although the same position searched WITHOUT the
history agrees with it — so the deviation is caused by the history, not by the draft effects of the table that limit C08 to depth 3.

`8/8/2Q5/k2Kq3/6R1/8/8/8 w - - 0 31`, then `Kd5-c4 Qe5-c3+ Kc4-d5`; Black (queen against queen and rook) to move at the root `R`.
Black has the perpetual `Qc3-e5+ Kd5-c4 Qe5-c3+ Kc4-d5`: its first move reaches the FEN position (second occurrence), its fourth
move reaches `R` again (second occurrence, no draw), and `Qc3-e5+` at ply 5 would be the THIRD occurrence of the FEN position: a
draw.  The specification sees it: value `cp 0`.  The search model reports `cp -75`: in iteration 5 the node at ply 4 has the
position of the root; its repetition test counts two occurrences, so the table is probed, and the ROOT ENTRY stored by iteration 4
(draft 4 ≥ remaining 1, bound exact) answers with the value the position had at the root — where the FEN position below it was only
a second occurrence.  One table entry, stored on one line, used on another line with a different repetition status: graph-history
interaction.  Without the history (`position <R>` alone) both values are `cp -75`.

* `ghiWitness` (`#guard`, the search runs on `Std.HashMap` and is evaluated by the compiler): the two values with the history
  differ, the two values without it agree; `ghiWitnessKings`: the same mechanism with bare kings (`cp 10` against `cp 20`);
* `root_recurs`, `not_rhashInj` (kernel): the hypothesis `RHashInj` of the conditional theorem fails on this game at depth 5 — a
  node at ply 4 has the hash (indeed the placement, side, rights and e.p. file) of the root, a node at which the search stores.
-/
namespace Inkayaku.C10DeepGhi
open Inkayaku.Board Inkayaku.Eval Inkayaku.WF Inkayaku.Search Inkayaku.Minimax
open Inkayaku.SearchSim Inkayaku.SearchRep Inkayaku.SearchRepDeep
open Inkayaku.RepSpec (repGame repSearch key)
open Inkayaku.C10Search.Example (boardOf tailOf moveOf lastInfo)

def fenBoard : Board := boardOf "8/8/2Q5/k2Kq3/6R1/8/8/8 w - - 0 31"
def history : List String := ["d5c4", "e5c3", "c4d5"]
def histT : List Board := tailOf fenBoard history
def root : Board := lastBoard fenBoard histT

/-- depth and score of the last iteration the search model reports for `go depth d` after `position <b0> moves …` -/
def engineScore (d : Nat) (b0 : Board) (ucis : List String) : Option (Nat × Score) :=
  lastInfo (goCmd (setPosition initial b0 ucis) { depth := some d }).out

def specScore (d : Nat) (b0 : Board) (ucis : List String) : Option (Nat × Score) :=
  (repSearch d b0 ucis []).map fun r => (d, scoreFromValue r.2.1 r.1)

def ghiWitness : Bool :=
  engineScore 5 fenBoard history == some (5, .cp (-75)) && specScore 5 fenBoard history == some (5, .cp 0) &&
  engineScore 5 root [] == some (5, .cp (-75)) && specScore 5 root [] == some (5, .cp (-75))

#guard ghiWitness
-- (model driver: `rep-search 8/8/2Q5/k2Kq3/6R1/8/8/8_w_-_-_0_31 5 d5c4 e5c3 c4d5` answers `cp0 cp-75`: the rule decides the value;
--  `session pos 8/8/2Q5/k2Kq3/6R1/8/8/8_w_-_-_0_31 d5c4 e5c3 c4d5 ; go depth 5` ends with `D:5:cp-75`)

/-! ## the same with bare kings

`8/8/8/3K1k2/8/8/8/8 b - - 0 30`, then `Kf5-g4 Kd5-d4 Kg4-f5`; White to move at the root `R` (Kd4, kf5).  `A = R + Kd4-d5` is the FEN
position (one occurrence in the game).  The line `Kd4-d5 Kf5-f4 Kd5-d4 Kf4-f5` reaches `R` at ply 4 (second occurrence); there
`Kd4-d5` would complete the threefold of `A` (worth `+50` to the root side by the contempt convention), so Black must avoid
`Kf4-f5` and the exact value is `cp 20`.  The search model answers the ply-4 node from the root entry of iteration 4 (value `cp 10`)
and reports `cp 10`.  Without the history both say `cp 10`; at depth 4 both say `cp 10` with the history. -/

def kings : Board := boardOf "8/8/8/3K1k2/8/8/8/8 b - - 0 30"
def kingsHistory : List String := ["f5g4", "d5d4", "g4f5"]
def kingsRoot : Board := lastBoard kings (tailOf kings kingsHistory)

def ghiWitnessKings : Bool :=
  engineScore 5 kings kingsHistory == some (5, .cp 10) && specScore 5 kings kingsHistory == some (5, .cp 20) &&
  engineScore 5 kingsRoot [] == some (5, .cp 10) && specScore 5 kingsRoot [] == some (5, .cp 10) &&
  engineScore 4 kings kingsHistory == some (4, .cp 10) && specScore 4 kings kingsHistory == some (4, .cp 10)

#guard ghiWitnessKings

def m1 : Move := moveOf root "c3e5"
def p1 : Board := make root m1
def m2 : Move := moveOf p1 "d5c4"
def p2 : Board := make p1 m2
def m3 : Move := moveOf p2 "e5c3"
def p3 : Board := make p2 m3
def m4 : Move := moveOf p3 "c4d5"
def p4 : Board := make p3 m4

theorem game_ok : gameBoards fenBoard history = some (fenBoard :: histT) ∧ Inv histT.length fenBoard := by
  unfold Search.Inv
  decide +kernel

-- `histT` is sealed: against an expected type `IsLine (fenBoard :: histT)` or `RNode fenBoard histT …` the elaborator unfolds the game.
seal histT

theorem isLine : IsLine (fenBoard :: histT) := gameBoards_line (B := 0) game_ok.1 game_ok.2

/-- **a node at ply 4 shows the position of the root** (the four moves are legal; kernel evaluation) -/
theorem root_recurs : ∃ Lb, RNode fenBoard histT 4 Lb p4 ∧ C06.HashKey p4 = C06.HashKey root ∧
    Zobrist.hash p4 = Zobrist.hash root := by
  -- one conjunction: the kernel shares `root`, `p1`, … within one evaluation
  have hall : m1 ∈ genLegal root ∧ m2 ∈ genLegal p1 ∧ m3 ∈ genLegal p2 ∧ m4 ∈ genLegal p3 ∧
      C06.HashKey p4 = C06.HashKey root := by decide +kernel
  obtain ⟨a1, a2, a3, a4, hk⟩ := hall
  have h0 : RNode fenBoard histT 0 (fenBoard :: histT).dropLast root := RNode.root isLine
  exact ⟨_, (((h0.child a1).child a2).child a3).child a4, hk, (C06.hash_congr hk).1⟩

/-- **`RHashInj` fails at depth 5 on this game**: the root (ply 0, a node at which the search stores) and the node at ply 4 have
the same hash but not the same ply -/
theorem not_rhashInj : ¬ RHashInj fenBoard histT 5 := by
  intro h
  obtain ⟨Lb, hn, _, he⟩ := root_recurs
  have := (h 0 4 _ _ _ _ (by omega) (by omega) (RNode.root isLine) hn he.symm).1
  omega

#print axioms root_recurs
#print axioms not_rhashInj

end Inkayaku.C10DeepGhi
