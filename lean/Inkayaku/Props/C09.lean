import Inkayaku.Proofs.SearchRoot
import Inkayaku.Proofs.SearchCongr
import Inkayaku.Proofs.WfStepProof
import Inkayaku.Proofs.StartBoard
import Inkayaku.Model.FenBoard
/-!
# C09 — an interrupted search leaves the position alone and still answers once

"Interrupting a search at any point — by stop, by quit, or because the move time ran out in the middle of an
iteration — does not alter the position the engine holds: a following go without a new position command searches
the same position as before (…).  An interrupted search still answers with exactly one bestmove taken from the last
completed iteration."

Model: `Inkayaku.Search` (Model/Search.lean).  The interruption mechanisms are (a) a `stop`/`quit` message found in
the channel at a flag poll, (b) the move time exceeded at a flag poll; a poll happens on entering a negamax node whose
node counter is a positive multiple of `pollPeriod`.  All theorems below hold for EVERY state `s` — in particular
every `pollPeriod`, every list `pending` of waiting messages, every clock `nsPerNode`, every stop/quit flag, every
transposition table — and every `go` parameter set (depth, movetime, clock times), so every interruption point at
every ply and in every iteration, and every timing of stop or move-time expiry, is covered.

What the theorems rest on in the board layer (all theorems, none a hypothesis here).
* `unmake ∘ make` restores the visible position of a well-formed board for every generated move
  (`Search.unmake_make_of_generated`, from C03).
* The well-formedness step with clock budget (`Search.boardLaws`, `Proofs/WfStepProof.lean`, resting on `Proofs/MakeWf.lean`, `Proofs/Successor.lean` and `Proofs/GenFacts.lean`): a
  generated move that passes `isValid` takes a board with `Inv (k+1)` to a board with `Inv k`, where
  `Inv k b := wf b ∧ b.halfmove + k ≤ 4095 ∧ b.fullmove + k < 2^31`.
  (The unbudgeted form `wf b → wf (make b m)` is FALSE: `wf` bounds the half-move clock by the 12-bit undo field of the
  packed move and the full-move counter by 2^31; a quiet move from `halfmove = 4095` leaves the well-formed boards.)
* Every board function the search uses depends on the visible position `WF.vis` only:
  `BoardCongr.genPseudo_congr`, `genNonQuiescent_congr`, `isValid_congr`, `wf_congr`, `make_congr`, `unmake_congr`,
  `evaluate_congr`, `hash_congr`, `pawnHash_congr`, `plyClock_congr`, and lifted to the whole search:
  `Search.goCmd_congr` (states that differ in the scratch words only produce the same output).

Side conditions (real limits of the engine).  A node searched with recursion fuel `fuel` needs `Inv fuel s.board`: the
search may go `fuel` plies deep and every ply advances the clocks.  A `go` whose deepest iteration has depth ≤ `maxIter`
searches with fuel ≤ `maxIter + 200`, so it needs `Inv (goBudget maxIter) s.board`, `goBudget maxIter = maxIter + 201`,
i.e. `wf s.board`, `s.board.halfmove + maxIter + 201 ≤ 4095` and `s.board.fullmove + maxIter + 201 < 2^31`.

The position is compared through `WF.vis` (the board without the two scratch occupancy words `occupancy[NO_PIECE]`
that `make`/`unmake` scribble on, which no function ever reads back into the position).
-/
namespace Inkayaku.C09
open Inkayaku.Search Inkayaku.Board Inkayaku.WF

/-- `search_quiescence`, every exit path -/
theorem quiescence_board (fuel : Nat) (s : St) (α β : Int) (hwf : Inv fuel s.board) :
    vis (quiescence fuel s α β).2.board = vis s.board :=
  quiescence_ok boardLaws fuel s α β hwf

/-- the move loop of `search_quiescence`, entered with any list of generated moves -/
theorem quiescenceLoop_board (fuel : Nat) (s : St) (moves : List Move) (α β : Int) (bm : Option Move)
    (bc : Option VM) (hwf : Inv (fuel + 1) s.board) (hmoves : ∀ m ∈ moves, m ∈ genPseudo s.board ∨ m ∈ genNonQuiescent s.board) :
    vis (quiescenceLoop fuel s moves α β bm bc).2.board = vis s.board :=
  qLoop_board boardLaws fuel s.board hwf moves hmoves s α β bm bc rfl

/-- `search_negamax`, every exit path: illegal move, cut-off, abort by flag at any node, time-out return,
transposition-table return, repetition return, out of fuel -/
theorem negamax_board (fuel : Nat) (s : St) (ply maxPly : Nat) (α β : Int) (isPv : Bool) (h ph : UInt64)
    (hwf : Inv fuel s.board) :
    vis (negamax fuel s ply maxPly α β isPv h ph).2.board = vis s.board :=
  negamax_ok boardLaws fuel s ply maxPly α β isPv h ph hwf

/-- the move loop of `search_negamax`, entered with any list of generated moves and any accumulator -/
theorem negamaxLoop_board (fuel : Nat) (s : St) (moves : List Move) (ply maxPly : Nat) (β : Int)
    (isPv : Bool) (pvMove : Option Move) (h ph : UInt64) (rem : Nat) (acc : LoopAcc) (hwf : Inv (fuel + 1) s.board)
    (hmoves : ∀ m ∈ moves, m ∈ genPseudo s.board ∨ m ∈ genNonQuiescent s.board) :
    vis (negamaxLoop fuel s moves ply maxPly β isPv pvMove h ph rem acc).2.2.board = vis s.board :=
  nLoop_board boardLaws fuel s.board hwf moves hmoves s ply maxPly β isPv pvMove h ph rem acc rfl

/-- the iterative deepening loop of `best_move`, any number of iterations from any depth -/
theorem deepen_board (n : Nat) (s : St) (d maxThinking : Nat) (best : Option VM)
    (uciPv : Option (List Move)) (score : Option Eval.Score) (hwf : Inv (fuelFor d + n) s.board) :
    vis (deepen n s d maxThinking best uciPv score).2.board = vis s.board :=
  Search.deepen_board boardLaws n s d maxThinking best uciPv score hwf

/-- **a `go` — completed or interrupted at any point — does not alter the position the engine holds** -/
theorem go_preserves_board (s : St) (g : GoParams) (maxIter : Nat)
    (hwf : wf s.board = true) (hhalf : s.board.halfmove + (maxIter + 201) ≤ 4095)
    (hfull : s.board.fullmove + (maxIter + 201) < 2147483648) :
    vis (goCmd s g maxIter).board = vis s.board :=
  Search.go_preserves_board boardLaws s g maxIter ⟨hwf, hhalf, hfull⟩

theorem go_preserves_board' (s : St) (g : GoParams) (maxIter : Nat) (hinv : Inv (goBudget maxIter) s.board) :
    vis (goCmd s g maxIter).board = vis s.board :=
  Search.go_preserves_board boardLaws s g maxIter hinv

/-- … and the position stays well-formed, so the next `go` starts under the same hypotheses -/
theorem go_preserves_inv (s : St) (g : GoParams) (maxIter : Nat) (k : Nat)
    (hinv : Inv (goBudget maxIter) s.board) (hk : Inv k s.board) :
    Inv k (goCmd s g maxIter).board :=
  Inv_congr (Search.go_preserves_board boardLaws s g maxIter hinv).symm hk

/-- **any number of consecutive (possibly interrupted) searches without a position command**: between two searches
anything may happen to the search thread that does not touch the board (`GoStep.env`: messages arrive, `ucinewgame`,
poll period / clock / pending messages change) -/
theorem session_preserves_board (xs : List GoStep) (s : St)
    (hinv : ∀ x ∈ xs, Inv (goBudget x.maxIter) s.board) :
    vis (runGos s xs).board = vis s.board :=
  Search.session_preserves_board boardLaws xs s hinv

/-- **the following `go` searches the same position as before**: after a first search (completed or interrupted in any
way) a second `go` without a position command produces exactly the output it would produce if the board were reset to
the board held before the first search, and it again leaves that position in place.  (`Search.goCmd_congr`: the search
depends on the visible position only, so the scratch words left behind by the first search are irrelevant.) -/
theorem next_go_searches_same_position (s : St) (g1 g2 : GoParams) (n1 n2 : Nat)
    (hinv1 : Inv (goBudget n1) s.board) (hinv2 : Inv (goBudget n2) s.board) :
    (goCmd (goCmd s g1 n1) g2 n2).out = (goCmd { goCmd s g1 n1 with board := s.board } g2 n2).out ∧
    vis (goCmd (goCmd s g1 n1) g2 n2).board = vis s.board := by
  have h1 := Search.go_preserves_board boardLaws s g1 n1 hinv1
  have he : Eqv { goCmd s g1 n1 with board := s.board } (goCmd s g1 n1) := ⟨(goCmd s g1 n1).board, h1, rfl⟩
  refine ⟨(goCmd_congr he g2 n2).1, ?_⟩
  rw [Search.go_preserves_board boardLaws _ g2 n2 (Inv_congr h1.symm hinv2), h1]

/-- **exactly one `bestmove`**: whatever interrupts the search, the output of a `go` is a block of infos followed by
one `bestmove` (`bestMoves` lists the `bestmove` items of an output, newest first) -/
theorem go_one_bestmove (s : St) (g : GoParams) (maxIter : Nat) :
    ∃ best ponder infos, (goCmd s g maxIter).out = .bestMove best ponder :: (infos ++ s.out) ∧ bestMoves infos = [] := by
  obtain ⟨best, ponder, news, h, hb, -⟩ := goCmd_answer s g maxIter
  exact ⟨best, ponder, news, h, hb⟩

theorem go_one_bestmove' (s : St) (g : GoParams) (maxIter : Nat) (h0 : s.out = []) :
    (bestMoves (goCmd s g maxIter).out).length = 1 := by
  rw [goCmd_bestMoves, h0]; rfl

/-- **… taken from the last completed iteration**: `goIterations` lists the root results of the iterations that were
run, `completed` keeps those that were not aborted (`stop` flag clear and a move found); the announced best move is
the move of the last of them, and it is the null move (`none`) iff there is none. -/
theorem bestmove_from_last_completed_iteration (s : St) (g : GoParams) (maxIter : Nat) (h0 : s.out = []) :
    bestMoves (goCmd s g maxIter).out =
      [(match (completed (goIterations s g maxIter)).getLast? with
        | some r => r.1.mv
        | none => none,
        ponderOf (goDeepen s g maxIter).1 (goDeepen s g maxIter).2)] := by
  rw [goCmd_bestMoves, h0, goDeepen_best]
  cases (completed (goIterations s g maxIter)).getLast? <;> rfl

theorem bestmove_none_iff_no_completed_iteration (s : St) (g : GoParams) (maxIter : Nat) :
    bestMoveOf (goDeepen s g maxIter).1 = none ↔ completed (goIterations s g maxIter) = [] :=
  goDeepen_none_iff s g maxIter

#print axioms quiescence_board
#print axioms quiescenceLoop_board
#print axioms negamax_board
#print axioms negamaxLoop_board
#print axioms deepen_board
#print axioms go_preserves_board
#print axioms go_preserves_board'
#print axioms go_preserves_inv
#print axioms Search.unmake_make_of_generated
#print axioms Search.boardLaws
#print axioms session_preserves_board
#print axioms next_go_searches_same_position
#print axioms Search.goCmd_congr
#print axioms go_one_bestmove
#print axioms go_one_bestmove'
#print axioms bestmove_from_last_completed_iteration
#print axioms bestmove_none_iff_no_completed_iteration
#print axioms BoardCongr.genPseudo_congr
#print axioms BoardCongr.genNonQuiescent_congr
#print axioms BoardCongr.isValid_congr
#print axioms BoardCongr.wf_congr
#print axioms BoardCongr.make_congr
#print axioms BoardCongr.unmake_congr
#print axioms BoardCongr.evaluate_congr
#print axioms BoardCongr.hash_congr

/-! ## non-vacuity -/

/-- the side conditions hold for the initial state: budget for iterations up to depth 64 -/
example : Inv (goBudget 64) Search.initial.board := initial_inv (by decide)
example : wf Search.initial.board = true ∧ Search.initial.board.halfmove + (64 + 201) ≤ 4095 ∧
    Search.initial.board.fullmove + (64 + 201) < 2147483648 := initial_inv (k := 64 + 201) (by decide)
/-- … and for every go of the session `threeGos` below -/
example : ∀ k, k ≤ 3000 → Inv k Search.initial.board := fun _ hk => initial_inv (by omega)

def lawsHoldAt (b : Board) : Bool :=
  (genPseudo b ++ genNonQuiescent b).all fun m =>
    vis (unmake (make b m) m) == vis b && (!isValid (make b m) || wf (make b m))

#guard lawsHoldAt Search.initial.board
example (m : Move) (hm : m ∈ genPseudo Search.initial.board) (hv : isValid (make Search.initial.board m) = true) :
    Inv 3000 (make Search.initial.board m) :=
  boardLaws.make_inv 3000 _ m (initial_inv (by decide)) (Or.inl hm) hv

def interrupted : St := goCmd { Search.initial with pollPeriod := 5, pending := [.stop] } { depth := some 4 } 8

#guard interrupted.stop
#guard vis interrupted.board == vis Search.initial.board
#guard (bestMoves interrupted.out).length == 1
-- the scratch word is the reason for comparing through `vis`: after a search the raw boards differ
#guard (goCmd Search.initial { depth := some 2 } 4).board != Search.initial.board
-- move time running out in the middle of an iteration (1 ms per node, 3 ms move time, polled every 2 nodes)
def timedOutGo : St :=
  goCmd { Search.initial with pollPeriod := 2, nsPerNode := some 1000000 } { moveTime := some 3000000 } 8
#guard timedOutGo.stop
#guard vis timedOutGo.board == vis Search.initial.board
#guard (bestMoves timedOutGo.out).length == 1
def threeGos : List GoStep :=
  [ { env := fun s => { s with pollPeriod := 3, pending := [.stop] }, env_board := fun _ => rfl, go := { depth := some 3 }, maxIter := 4 },
    { env := fun s => { s with pollPeriod := 7, pending := [.quit] }, env_board := fun _ => rfl, go := {}, maxIter := 4 },
    { env := fun s => { s with pollPeriod := 2, nsPerNode := some 1000000 }, env_board := fun _ => rfl,
      go := { moveTime := some 2000000 }, maxIter := 4 } ]
#guard vis (runGos Search.initial threeGos).board == vis Search.initial.board
#guard (bestMoves (runGos Search.initial threeGos).out).length == 3
-- after an interrupted search, a depth-2 search answers as from the untouched start position
#guard bestMoves (goCmd { interrupted with out := [], pending := [], pollPeriod := 100000 } { depth := some 2 } 4).out
  == bestMoves (goCmd { Search.initial with pv := interrupted.pv, killers := interrupted.killers } { depth := some 2 } 4).out

def bd (s : String) : Board := match FenBoard.fromFenString s with | .ok b => b | .error _ => Search.initial.board
/-- the WF step evaluated on every legal move of positions that exercise castling (both sides, both wings), en passant,
promotions with and without capture, and captures of rooks on their home squares -/
def stepHoldsAt (fen : String) : Bool :=
  let b := bd fen
  wf b && (genPseudo b ++ genNonQuiescent b).all fun m => !isValid (make b m) || wf (make b m)
#guard stepHoldsAt "r3k2r/p1ppqpb1/bn2pnp1/3PN3/1p2P3/2N2Q1p/PPPBBPPP/R3K2R w KQkq - 0 1"
#guard stepHoldsAt "r3k2r/p1ppqpb1/bn2pnp1/3PN3/1p2P3/2N2Q1p/PPPBBPPP/R3K2R b KQkq - 0 1"
#guard stepHoldsAt "rnbqkbnr/ppp1p1pp/8/3pPp2/8/8/PPPP1PPP/RNBQKBNR w KQkq f6 0 3"
#guard stepHoldsAt "r3k2r/Pppp1ppp/1b3nbN/nP6/BBP1P3/q4N2/Pp1P2PP/R2Q1RK1 w kq - 0 1"
#guard stepHoldsAt "r3k3/1P6/8/3pP3/8/8/8/4K2R w Kq d6 0 2"
-- the clock bounds are real: at half-move clock 4095 a quiet move leaves the well-formed boards
#guard (let b := { bd "4k3/8/8/8/8/8/8/4K2R w K - 0 1" with halfmove := 4095 }
        wf b && (genPseudo b).any fun m => isValid (make b m) && !wf (make b m))

end Inkayaku.C09
