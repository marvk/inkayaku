import Inkayaku.Proofs.AlphaBeta
import Inkayaku.Proofs.SearchCongr
import Inkayaku.Proofs.SearchRel
import Inkayaku.Proofs.WfStepProof
/-!
# C08 simulation: `Search.quiescence` computes the abstract fail-hard quiescence `Minimax.q`

`qorder` is the engine's capture order (the legal ones among `sortMoves (genNonQuiescent b) none none none`) as an `IsOrder`
of the abstract game; `QDepth k b` says that capture sequences from `b` are at most `k` long.  The concrete function returns
`alpha` when it runs out of fuel while the abstract one stands pat: the two agree (`quiescence_sim`) because `QDepth k` with
`k < fuel` means the fuel never runs out.
-/
namespace Inkayaku.SearchSim
open Inkayaku.Board Inkayaku.Eval Inkayaku.WF Inkayaku.BoardCongr Inkayaku.Minimax Inkayaku.SpecSearch Inkayaku.Search

/-- the legal captures / promotions of `b` in the order in which `search_quiescence` tries them -/
def engineCaptures (b : Board) : List Move :=
  (sortMoves (genNonQuiescent b) none none none).filter (isMoveLegal b)

theorem engineCaptures_perm (b : Board) : (engineCaptures b).Perm (legalCaptures b) :=
  (List.mergeSort_perm _ _).filter _

/-- the capture order of the engine (on the capture list of the position; the identity on any other list) -/
def qorder : Pos → List Move → List Move := fun p l =>
  if (engineCaptures p.1).Perm l then engineCaptures p.1 else l

theorem isOrder_qorder : IsOrder qorder := by
  intro p l
  unfold qorder
  split
  · assumption
  · exact List.Perm.refl l

theorem qorder_captures (p : Pos) : qorder p (chess.qgame.captures p) = engineCaptures p.1 := by
  show qorder p (legalCaptures p.1) = _
  unfold qorder
  rw [if_pos (engineCaptures_perm p.1)]

theorem evalFor_vis {b b' : Board} (h : vis b = vis b') (l : Bool) :
    evalFor b b.turn l = evalFor b' b'.turn l := by
  rw [turn_congr h]
  exact evalFor_congr h _ _

theorem filter_legal_congr {b b' : Board} (h : vis b = vis b') (l : List Move) :
    l.filter (isMoveLegal b) = l.filter (isMoveLegal b') :=
  List.filter_congr fun m _ => isMoveLegal_congr h m

theorem legalCaptures_congr {b b' : Board} (h : vis b = vis b') : legalCaptures b = legalCaptures b' := by
  unfold legalCaptures
  rw [genNonQuiescent_congr h, filter_legal_congr h]

theorem genLegal_congr {b b' : Board} (h : vis b = vis b') : genLegal b = genLegal b' := by
  unfold genLegal
  rw [genPseudo_congr h, filter_legal_congr h]

theorem noisy_congr {b b' : Board} (h : vis b = vis b') : noisy b = noisy b' := by
  unfold noisy
  rw [genPseudo_congr h]

theorem Qexact_congr (n : Nat) : ∀ (p p' : Pos), vis p.1 = vis p'.1 →
    Qexact chess.qgame n p = Qexact chess.qgame n p' :=
  Qexact_hom chess.qgame chess.qgame (fun _ p p' => vis p.1 = vis p'.1) (fun _ _ _ h => evalFor_vis h true)
    (fun _ _ p' h m hm => ⟨m, (legalCaptures_congr h ▸ hm : m ∈ legalCaptures p'.1), make_congr h m⟩)
    (fun _ p _ h m hm => ⟨m, (legalCaptures_congr h ▸ hm : m ∈ legalCaptures p.1), make_congr h m⟩) n

theorem leafExact_congr {p p' : Pos} (h : vis p.1 = vis p'.1) : game.leafExact p = game.leafExact p' := by
  show (if noisy p.1 then Qexact chess.qgame chess.fuel p else evalFor p.1 p.1.turn true) =
    (if noisy p'.1 then Qexact chess.qgame chess.fuel p' else evalFor p'.1 p'.1.turn true)
  rw [noisy_congr h, Qexact_congr _ p p' h, evalFor_vis h]

theorem mm_congr (d : Nat) (b b' : Board) (only : List String) (h : vis b = vis b') :
    mm game d (b, only) = mm game d (b', only) := by
  refine mm_bisim game (fun p p' => vis p.1 = vis p'.1 ∧ p.2 = p'.2) ?_ (fun p p' h m _ => ⟨make_congr h.1 m, rfl⟩)
    d _ _ ⟨h, rfl⟩
  intro p p' ⟨hv, ho⟩
  refine ⟨?_, evalFor_vis hv false, leafExact_congr hv⟩
  show rootMoves p.1 p.2 = rootMoves p'.1 p'.2
  unfold rootMoves
  rw [genLegal_congr hv, ho]

def QDepth : Nat → Board → Prop
  | 0, b => legalCaptures b = []
  | k + 1, b => ∀ m ∈ legalCaptures b, QDepth k (make b m)

theorem QDepth_congr (k : Nat) : ∀ {b b' : Board}, vis b = vis b' → QDepth k b → QDepth k b' := by
  induction k with
  | zero => intro b b' h hq; show legalCaptures b' = []; rw [← legalCaptures_congr h]; exact hq
  | succ k ih =>
    intro b b' h hq m hm
    rw [← legalCaptures_congr h] at hm
    exact ih (make_congr h m) (hq m hm)

theorem QDepth_succ (k : Nat) : ∀ {b : Board}, QDepth k b → QDepth (k + 1) b := by
  induction k with
  | zero => intro b h m hm; rw [show legalCaptures b = [] from h] at hm; cases hm
  | succ k ih => intro b h m hm; exact ih (h m hm)

theorem QDepth_mono {k k' : Nat} (h : k ≤ k') {b : Board} (hq : QDepth k b) : QDepth k' b := by
  induction h with
  | refl => exact hq
  | step _ ih => exact QDepth_succ _ ih

theorem q_no_captures (n : Nat) (p : Pos) (h : legalCaptures p.1 = []) (α β : Int) :
    q chess.qgame qorder n p α β =
      if evalFor p.1 p.1.turn true ≥ β then β else max α (evalFor p.1 p.1.turn true) := by
  cases n with
  | zero => rfl
  | succ n =>
    simp only [q]
    have hcap : chess.qgame.captures p = [] := h
    have : qorder p (chess.qgame.captures p) = [] := by
      have := isOrder_qorder p (chess.qgame.captures p)
      rw [hcap] at this ⊢
      exact List.Perm.eq_nil this
    rw [this]
    rfl

theorem VM_mk_value (v : Int) (m : Option Move) (c : Option VM) : (VM.mk v m c).value = v := rfl
theorem VM_leaf_value (v : Int) : (VM.leaf v).value = v := rfl

/-- **`search_quiescence` = the abstract fail-hard quiescence** on the board instance, capture order `qorder`: at a node with
position `b0` the value is that of `q` at `b0`, and the capture loop over generated moves of `b0` is the abstract loop over the
legal ones among them -/
theorem quiescence_value_at (fuel : Nat) (b0 : Board) (s : St) (α β : Int) (hinv : Inv fuel b0) (hs : vis s.board = vis b0)
    (k n : Nat) (hq : QDepth k b0) (hk : k < fuel) (hn : k ≤ n) :
    (quiescence fuel s α β).1.value = q chess.qgame qorder n (b0, []) α β := by
  refine (quiescence_walk boardLaws
    (QP := fun f b0 _ a b res => ∀ k n, QDepth k b0 → k < f → k ≤ n → res.1.value = q chess.qgame qorder n (b0, []) a b)
    (QL := fun f b0 moves _ a b _ _ res => ∀ k n, (∀ m ∈ moves, isMoveLegal b0 m = true → QDepth k (make b0 m) ∧ k < f) →
      k ≤ n → res.1.value =
        qLoop (q chess.qgame qorder n) (fun m => ((make b0 m, []) : Pos)) (moves.filter (isMoveLegal b0)) a b)
    ?zero ?pat ?loop ?nil ?skip ?child).1 fuel b0 s α β hinv hs |>.1 k n hq hk hn
  case zero => exact fun _ _ _ hk => absurd hk (Nat.not_lt_zero _)
  case pat =>
    intro _ b0 _ a b hge k n hq _ _
    cases n with
    | zero => exact (if_pos hge).symm
    | succ n => exact (if_pos hge).symm
  case loop =>
    intro f b0 _ a b res _ hlt hl k n hq hk hn
    cases k with
    | zero =>
      have hnil : legalCaptures b0 = [] := hq
      have hfil : (sortMoves (genNonQuiescent b0) none none none).filter (isMoveLegal b0) = [] :=
        List.Perm.eq_nil (hnil ▸ engineCaptures_perm b0)
      have := hl 0 n (fun m hm hl' => by
        have : m ∈ legalCaptures b0 := List.mem_filter.mpr ⟨mem_sortMoves.mp hm, hl'⟩
        rw [hnil] at this; cases this) (Nat.zero_le _)
      rw [hfil] at this
      rw [q_no_captures n (b0, []) hnil, this]
      exact (if_neg hlt).symm
    | succ k =>
      cases n with
      | zero => omega
      | succ n =>
        have := hl k n (fun m hm hl' => ⟨hq m (List.mem_filter.mpr ⟨mem_sortMoves.mp hm, hl'⟩), by omega⟩) (by omega)
        rw [this]
        show _ = if evalFor b0 b0.turn true ≥ b then b
          else qLoop (q chess.qgame qorder n) (chess.qgame.child (b0, []))
            (qorder (b0, []) (chess.qgame.captures (b0, []))) (max a (evalFor b0 b0.turn true)) b
        rw [qorder_captures, if_neg hlt]
        rfl
  case nil => exact fun _ _ _ _ => rfl
  case skip =>
    intro _ b0 m _ _ _ _ _ _ _ hbad ih k n hq hn
    rw [List.filter_cons_of_neg (by simp [isMoveLegal, hbad])]
    exact ih k n (fun x hx => hq x (List.mem_cons_of_mem _ hx)) hn
  case child =>
    intro f b0 m rest _ a b _ _ r _ _ hv hc
    replace hv : isMoveLegal b0 m = true := hv
    have hr : ∀ k n, (∀ x ∈ m :: rest, isMoveLegal b0 x = true → QDepth k (make b0 x) ∧ k < f) → k ≤ n →
        r.1.value = q chess.qgame qorder n (make b0 m, []) (-b) (-a) := fun k n hq hn =>
      hc k n (hq m List.mem_cons_self hv).1 (hq m List.mem_cons_self hv).2 hn
    refine ⟨fun hge k n hq hn => ?_, fun hlt hgt res ih k n hq hn => ?_, fun hlt hgt res ih k n hq hn => ?_⟩
    all_goals
      rw [List.filter_cons_of_pos hv]
      simp only [qLoop]
      rw [← hr k n hq hn]
    · exact (if_pos hge).symm
    · rw [if_neg hlt, if_pos hgt]
      exact ih k n (fun x hx => hq x (List.mem_cons_of_mem _ hx)) hn
    · rw [if_neg hlt, if_neg hgt]
      exact ih k n (fun x hx => hq x (List.mem_cons_of_mem _ hx)) hn

theorem quiescence_value (fuel k n : Nat) (s : St) (α β : Int) (hinv : Inv fuel s.board) (hq : QDepth k s.board) (hk : k < fuel)
    (hn : k ≤ n) : (quiescence fuel s α β).1.value = q chess.qgame qorder n (s.board, []) α β :=
  quiescence_value_at fuel s.board s α β hinv rfl k n hq hk hn

/-- `Inv fuel` is the clock budget of `Proofs/WfStep.lean` (well-formed, both clocks have room for `fuel` plies). -/
theorem quiescence_sim (fuel k n : Nat) (s : St) (α β : Int) (hinv : Inv fuel s.board) (hq : QDepth k s.board)
    (hk : k < fuel) (hn : k ≤ n) :
    (quiescence fuel s α β).1.value = q chess.qgame qorder n (s.board, []) α β ∧
    vis (quiescence fuel s α β).2.board = vis s.board ∧
    ∃ b' qn, (quiescence fuel s α β).2 = { s with board := b', quiescenceNodes := qn } :=
  ⟨quiescence_value fuel k n s α β hinv hq hk hn, quiescence_ok boardLaws fuel s α β hinv,
    quiescence_quiet fuel s α β⟩

end Inkayaku.SearchSim
