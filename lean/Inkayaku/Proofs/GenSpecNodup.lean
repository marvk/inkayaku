import Inkayaku.Proofs.GenSpecPawn
/-!
# No triple is generated twice

Inside one loop: distinct source bits, distinct target bits, four distinct promotion pieces, single ≠ double step.
Across loops every call is a site, and two sites from the same square move the same piece (`piece_of_src`, the words of the
mover are exclusive); that leaves three pairs of loops: the two queen passes (rook rays / bishop rays never share a target), a
pawn's capture squares are not its push squares, a king step never is a castling move.
-/
namespace Inkayaku.GenSpec
open Inkayaku.Board Inkayaku.Gen Inkayaku.Bits Inkayaku.Geometry Inkayaku.Attack Inkayaku.Abs Inkayaku.Spec Inkayaku.GenOK

def NoDup (l : List Call) : Prop := l.Pairwise fun c d => c.key.mv ≠ d.key.mv
def Disj (l1 l2 : List Call) : Prop := ∀ c ∈ l1, ∀ d ∈ l2, c.key.mv ≠ d.key.mv

theorem noDup_append {l1 l2 : List Call} : NoDup (l1 ++ l2) ↔ NoDup l1 ∧ NoDup l2 ∧ Disj l1 l2 :=
  List.pairwise_append

theorem disj_append_left {l1 l2 l3 : List Call} : Disj (l1 ++ l2) l3 ↔ Disj l1 l3 ∧ Disj l2 l3 := by
  simp only [Disj, List.mem_append, or_imp, forall_and]

/-- a `flatMap` over distinct indices whose elements remember their index (`proj` = source or target) -/
theorem noDup_flatMap {l : List Nat} (hl : l.Nodup) {f : Nat → List Call} (proj : SMove → Nat)
    (hproj : ∀ s ∈ l, ∀ c ∈ f s, proj c.key.mv = s) (hin : ∀ s ∈ l, NoDup (f s)) : NoDup (l.flatMap f) := by
  unfold NoDup
  rw [List.pairwise_flatMap]
  refine ⟨hin, List.Pairwise.imp_of_mem ?_ hl⟩
  intro a c ha hc hac x hx y hy he
  apply hac
  rw [← hproj a ha x hx, ← hproj c hc y hy, he]

theorem nodup_bitsAsc (x : UInt64) : (bitsAsc x).Nodup := List.Pairwise.filter _ List.nodup_range

theorem noDup_piecesC (pieceOcc act : UInt64) (att : Nat → UInt64) (piece : Nat) :
    NoDup (piecesC pieceOcc act att piece) := by
  refine noDup_flatMap (nodup_bitsAsc _) SMove.src ?_ ?_
  · intro s _ c hc
    obtain ⟨t, -, rfl⟩ := List.mem_map.mp hc
    rfl
  · intro s _
    unfold NoDup
    rw [List.pairwise_map]
    refine List.Pairwise.imp ?_ (nodup_bitsAsc _)
    intro t t' hne he
    exact hne (congrArg SMove.tgt he)

theorem noDup_promotionsC (s t : Nat) : NoDup (promotionsC s t) := by
  simp [NoDup, promotionsC, Call.key, promoOf, QUEEN, ROOK, BISHOP, KNIGHT, kindOf]

theorem noDup_captureCalls (b : Board) : NoDup (captureCalls b) := by
  refine noDup_flatMap (nodup_bitsAsc _) SMove.src ?_ ?_
  · intro s _ c hc
    obtain ⟨t, ht, hc⟩ := List.mem_flatMap.mp hc
    obtain ⟨promo, -, rfl⟩ := (mem_pawnAttackC (testU_lt ((mem_bitsAsc _ _).mp ht))).mp hc
    rfl
  · intro s _
    refine noDup_flatMap (nodup_bitsAsc _) SMove.tgt ?_ ?_
    · intro t ht c hc
      obtain ⟨promo, -, rfl⟩ := (mem_pawnAttackC (testU_lt ((mem_bitsAsc _ _).mp ht))).mp hc
      rfl
    · intro t _
      unfold pawnAttackC
      split
      · exact noDup_promotionsC s t
      · exact List.pairwise_singleton _ _

theorem noDup_pushes (full : UInt64) (s t1 t2 : Nat) (cc : Bool) (hne : cc = true → t1 ≠ t2) :
    NoDup (if testU full t1 then [] else if lastRank t1 then promotionsC s t1
      else ({ src := s, tgt := t1, piece := PAWN } : Call) ::
        (if cc && !testU full t2 then [{ src := s, tgt := t2, piece := PAWN, epOpp := t1 }] else [])) := by
  split
  · exact List.Pairwise.nil
  · split
    · exact noDup_promotionsC ..
    · split
      · next hc =>
        simp only [Bool.and_eq_true] at hc
        simp [NoDup, Call.key, hne hc.1]
      · exact List.pairwise_singleton _ _

theorem noDup_pushCalls {b : Board} (hw : WFacts b) : NoDup (pushCalls b) := by
  refine noDup_flatMap (nodup_bitsAsc _) SMove.src ?_ ?_
  · intro s hs c hc
    obtain ⟨h8, h56⟩ := pawn_mid' hw hs
    rw [pawnStepC_eq b _ s h8 h56] at hc
    obtain ⟨-, ⟨promo, -, rfl⟩ | ⟨-, -, -, rfl⟩⟩ := mem_pushes.mp hc <;> rfl
  · intro s hs
    obtain ⟨h8, h56⟩ := pawn_mid' hw hs
    rw [pawnStepC_eq b _ s h8 h56]
    apply noDup_pushes
    intro hc
    cases hwt : b.whiteTurn <;> simp only [hwt, if_true, Bool.false_eq_true, if_false, decide_eq_true_eq] at hc ⊢ <;>
      omega

theorem noDup_castleCalls (b : Board) : NoDup (castleCalls b) := by
  unfold castleCalls castleC
  split <;> split <;> split <;> simp [NoDup, castleCall, Call.key, E1, C1, G1, E8, C8, G8]

theorem Site.hasSrc {b : Board} {src tgt piece : Nat} {castle ep : Bool} {promo epOpp : Nat}
    (h : Site b src tgt piece castle ep promo epOpp) :
    (1 ≤ piece ∧ piece ≤ 6) ∧ testU (b.active.get piece) src = true := by
  cases h with
  | piece hp2 hp6 hs => exact ⟨⟨Nat.le_of_succ_le hp2, hp6⟩, hs⟩
  | capture hs => exact ⟨by decide, hs⟩
  | push hs => exact ⟨by decide, hs⟩
  | double hs => exact ⟨by decide, hs⟩
  | castle kingSide hc hright hsrc htgt hrs hrt hk => exact ⟨by decide, hk⟩

theorem piece_of_src {b : Board} (hact : Holds b.active b.active.pieceAt) {c d : Call}
    (hc : c.Site b) (hd : d.Site b) (h : c.src = d.src) : c.piece = d.piece := by
  obtain ⟨⟨h1, h6⟩, hs⟩ := Site.hasSrc hc
  obtain ⟨⟨h1', h6'⟩, hs'⟩ := Site.hasSrc hd
  rw [← hact.code h1 h6 hs, h, hact.code h1' h6' hs']

def Pieces (b : Board) (ps : List Nat) (l : List Call) : Prop := ∀ c ∈ l, c.Site b ∧ c.piece ∈ ps

theorem Pieces.append {b : Board} {ps1 ps2 : List Nat} {l1 l2 : List Call} (h1 : Pieces b ps1 l1)
    (h2 : Pieces b ps2 l2) : Pieces b (ps1 ++ ps2) (l1 ++ l2) := by
  intro c hc
  rcases List.mem_append.mp hc with hc | hc
  · exact ⟨(h1 c hc).1, List.mem_append_left _ (h1 c hc).2⟩
  · exact ⟨(h2 c hc).1, List.mem_append_right _ (h2 c hc).2⟩

theorem disj_of_pieces {b : Board} (hact : Holds b.active b.active.pieceAt) {ps : List Nat} {p : Nat}
    {l1 l2 : List Call} (h1 : Pieces b ps l1) (h2 : Pieces b [p] l2) (hp : p ∉ ps) : Disj l1 l2 := by
  intro c hc d hd he
  have e := piece_of_src hact (h1 c hc).1 (h2 d hd).1 (congrArg SMove.src he)
  have hd2 : d.piece = p := List.mem_singleton.mp (h2 d hd).2
  exact hp (hd2 ▸ e ▸ (h1 c hc).2)

theorem disj_queen (pieceOcc act full : UInt64) :
    Disj (piecesC pieceOcc act (sliderAtt true full) QUEEN) (piecesC pieceOcc act (sliderAtt false full) QUEEN) := by
  intro c hc d hd he
  obtain ⟨s, t, hs, ha, -, rfl⟩ := mem_piecesC.mp hc
  obtain ⟨s', t', -, ha', -, rfl⟩ := mem_piecesC.mp hd
  have e1 : s = s' := congrArg SMove.src he
  have e2 : t = t' := congrArg SMove.tgt he
  subst e1 e2
  exact line_disj s t ⟨((rookAttacks_fwd s t _ (testU_lt hs) (testU_lt ha)).mp ha).1,
    ((bishopAttacks_fwd s t _ (testU_lt hs) (testU_lt ha)).mp ha').1⟩

theorem disj_pawn {b : Board} (hw : WFacts b) : Disj (captureCalls b) (pushCalls b) := by
  intro c hc d hd he
  obtain ⟨s, t, promo, hs, ha, -, rfl⟩ := mem_captureCalls.mp hc
  have hg : pawnGeom b.whiteTurn s t = true := by
    rw [← pawnLookup_eq b.whiteTurn s t (testU_lt hs) (testU_lt ha)]
    exact ((testU_pawnAttSet hw.basic).mp ha).1
  obtain ⟨s', -, ⟨h8, h56⟩, -, ⟨p, -, rfl⟩ | ⟨hcc, -, rfl⟩⟩ := (mem_pushCalls hw).mp hd
  · have e1 : s = s' := congrArg SMove.src he
    have e2 : t = _ := congrArg SMove.tgt he
    subst e1
    obtain ⟨a1, a2, -, -⟩ := push_not_cap b.whiteTurn hg h8
    cases hwt : b.whiteTurn <;> simp only [hwt, fwd, if_true, Bool.false_eq_true, if_false] at e2
    · exact a2 e2
    · exact a1 e2
  · have e1 : s = s' := congrArg SMove.src he
    have e2 : t = _ := congrArg SMove.tgt he
    subst e1
    obtain ⟨-, -, a3, a4⟩ := push_not_cap b.whiteTurn hg h8
    cases hwt : b.whiteTurn <;> simp only [hwt, fwd, if_true, Bool.false_eq_true, if_false, decide_eq_true_eq] at e2 hcc
    · exact a4 e2
    · exact a3 hcc e2

theorem disj_king (b : Board) :
    Disj (piecesC b.active.kings b.active.full (leaperAttacks kingTable) KING) (castleCalls b) := by
  intro c hc d hd he
  obtain ⟨s, t, hs, ha, -, rfl⟩ := mem_piecesC.mp hc
  obtain ⟨kingSide, -, rfl⟩ := mem_castleCalls.mp hd
  have e1 : s = _ := congrArg SMove.src he
  have e2 : t = _ := congrArg SMove.tgt he
  rw [kingLookup_eq _ _ (testU_lt hs) (testU_lt ha), e1, e2] at ha
  revert ha
  cases b.whiteTurn <;> cases kingSide <;> decide

theorem noDup_calls {b : Board} (hp : PawnWF b) : NoDup (calls b) := by
  have hw := hp.facts
  have hact := hp.disjoint.holds.1
  have site : ∀ {c : Call}, c ∈ calls b → c.Site b := (mem_calls hw).mp
  have pc : ∀ {pieceOcc : UInt64} {att : Nat → UInt64} {piece : Nat},
      (∀ c ∈ piecesC pieceOcc b.active.full att piece, c ∈ calls b) →
      Pieces b [piece] (piecesC pieceOcc b.active.full att piece) := by
    intro pieceOcc att piece hsub c hc
    obtain ⟨s, t, -, -, -, rfl⟩ := mem_piecesC.mp hc
    exact ⟨site (hsub _ hc), List.mem_singleton.mpr rfl⟩
  have kQ1 : Pieces b [QUEEN] _ := pc (att := sliderAtt true (b.active.full ||| b.passive.full))
    (pieceOcc := b.active.queens) (fun c hc => by simp [calls, pieceCalls, hc])
  have kQ2 : Pieces b [QUEEN] _ := pc (att := sliderAtt false (b.active.full ||| b.passive.full))
    (pieceOcc := b.active.queens) (fun c hc => by simp [calls, pieceCalls, hc])
  have kB : Pieces b [BISHOP] _ := pc (att := sliderAtt false (b.active.full ||| b.passive.full))
    (pieceOcc := b.active.bishops) (fun c hc => by simp [calls, pieceCalls, hc])
  have kR : Pieces b [ROOK] _ := pc (att := sliderAtt true (b.active.full ||| b.passive.full))
    (pieceOcc := b.active.rooks) (fun c hc => by simp [calls, pieceCalls, hc])
  have kN : Pieces b [KNIGHT] _ := pc (att := leaperAttacks knightTable) (pieceOcc := b.active.knights)
    (fun c hc => by simp [calls, pieceCalls, hc])
  have kK : Pieces b [KING] _ := pc (att := leaperAttacks kingTable) (pieceOcc := b.active.kings)
    (fun c hc => by simp [calls, pieceCalls, hc])
  have kPA : Pieces b [PAWN] (captureCalls b) := by
    intro c hc
    refine ⟨site (by simp [calls, hc]), ?_⟩
    obtain ⟨s, t, promo, -, -, -, rfl⟩ := mem_captureCalls.mp hc
    exact List.mem_singleton.mpr rfl
  have kPM : Pieces b [PAWN] (pushCalls b) := by
    intro c hc
    refine ⟨site (by simp [calls, hc]), ?_⟩
    obtain ⟨s, -, -, -, ⟨p, -, rfl⟩ | ⟨-, -, rfl⟩⟩ := (mem_pushCalls hw).mp hc <;> exact List.mem_singleton.mpr rfl
  have kC : Pieces b [KING] (castleCalls b) := by
    intro c hc
    refine ⟨site (by simp [calls, hc]), ?_⟩
    obtain ⟨kingSide, -, rfl⟩ := mem_castleCalls.mp hc
    exact List.mem_singleton.mpr rfl
  -- piece codes of the growing prefix
  have k2 := kQ1.append kQ2
  have k3 := k2.append kB
  have k4 := k3.append kR
  have k5 := k4.append kN
  have k6 := k5.append kK
  unfold calls pieceCalls
  refine noDup_append.mpr ⟨noDup_append.mpr ⟨noDup_append.mpr ⟨noDup_append.mpr ⟨noDup_append.mpr ⟨noDup_append.mpr
    ⟨noDup_append.mpr ⟨noDup_append.mpr ⟨noDup_piecesC .., noDup_piecesC .., disj_queen _ _ _⟩,
      noDup_piecesC .., disj_of_pieces hact k2 kB (by decide)⟩,
      noDup_piecesC .., disj_of_pieces hact k3 kR (by decide)⟩,
      noDup_piecesC .., disj_of_pieces hact k4 kN (by decide)⟩,
      noDup_piecesC .., disj_of_pieces hact k5 kK (by decide)⟩,
      noDup_captureCalls b, disj_of_pieces hact k6 kPA (by decide)⟩,
      noDup_pushCalls hw, ?_⟩, noDup_castleCalls b, ?_⟩
  · exact disj_append_left.mpr ⟨disj_of_pieces hact k6 kPM (by decide), disj_pawn hw⟩
  · exact disj_append_left.mpr ⟨disj_append_left.mpr ⟨disj_append_left.mpr ⟨disj_of_pieces hact k5 kC (by decide),
      disj_king b⟩, disj_of_pieces hact kPA kC (by decide)⟩, disj_of_pieces hact kPM kC (by decide)⟩

end Inkayaku.GenSpec
