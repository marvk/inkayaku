import Inkayaku.Model.Eval
/-!
# The range of the static evaluation

Bounds for `Eval.pieceValue`, `squareSum`, `sideSquareSum`, `pieceSquareValue`, for piece-square tables whose entries lie
within `±B`.  The bound is a variable, so that the search (entries within ±50, hence `|evaluateOngoing| ≤ 176000`) and the translated
Rust (entries within ±1000, hence no `i32` overflow) read the same lemmas.
-/
namespace Inkayaku.Eval
open Inkayaku.Board Inkayaku.Gen

theorem winScore_val : winScore = 16777216 := by decide
theorem drawScore_val : drawScore = 0 := by decide

theorem popcount_le (x : UInt64) : popcount x ≤ 64 := by
  unfold popcount bitsAsc
  have := List.length_filter_le (testU x) (List.range 64)
  simpa using this

theorem pieceValue_bound (s : Side) : 0 ≤ pieceValue s ∧ pieceValue s ≤ 137600 := by
  unfold pieceValue
  simp only [queenValue, rookValue, bishopValue, knightValue, pawnValue]
  have h1 := popcount_le s.queens
  have h2 := popcount_le s.rooks
  have h3 := popcount_le s.bishops
  have h4 := popcount_le s.knights
  have h5 := popcount_le s.pawns
  omega

theorem getD_mem_or {α : Type} (l : List α) (i : Nat) (d : α) : l.getD i d = d ∨ l.getD i d ∈ l := by
  rw [List.getD_eq_getElem?_getD]
  cases h : l[i]? with
  | none => left; rfl
  | some x => right; exact List.mem_of_getElem? h

/-- all entries of a stage × piece × square table within `±B` -/
def Within (B : Int) (T : List (List (List Int))) : Prop := ∀ a ∈ T, ∀ t ∈ a, ∀ x ∈ t, -B ≤ x ∧ x ≤ B

instance (B : Int) (T : List (List (List Int))) : Decidable (Within B T) := by unfold Within; exact inferInstance

section
variable {B : Int} (hB : 0 ≤ B)
include hB

theorem getD_bound {t : List Int} (ht : ∀ x ∈ t, -B ≤ x ∧ x ≤ B) (k : Nat) : -B ≤ t.getD k 0 ∧ t.getD k 0 ≤ B := by
  rcases getD_mem_or t k 0 with h | h
  · rw [h]; omega
  · exact ht _ h

theorem squareSum_bound (occ : UInt64) {t : List Int} (ht : ∀ x ∈ t, -B ≤ x ∧ x ≤ B) :
    -(64 * B) ≤ squareSum occ t ∧ squareSum occ t ≤ 64 * B := by
  have key : ∀ (l : List Nat) (a : Int), a - B * l.length ≤ l.foldl (fun acc s => acc + t.getD s 0) a ∧
      l.foldl (fun acc s => acc + t.getD s 0) a ≤ a + B * l.length := by
    intro l
    induction l with
    | nil => intro a; simp
    | cons x xs ih =>
      intro a
      have := ih (a + t.getD x 0)
      have := getD_bound hB ht x
      simp only [List.foldl_cons, List.length_cons, Int.natCast_succ, Int.mul_add, Int.mul_one]
      omega
  have := key (bitsAsc occ) 0
  have hl : ((bitsAsc occ).length : Int) ≤ 64 := Int.ofNat_le.mpr (popcount_le occ)
  have := Int.mul_le_mul_of_nonneg_left hl hB
  unfold squareSum
  omega

omit hB in
theorem getD_row_bound {T : List (List Int)} (hT : ∀ t ∈ T, ∀ x ∈ t, -B ≤ x ∧ x ≤ B) (j : Nat) :
    ∀ x ∈ T.getD j [], -B ≤ x ∧ x ≤ B := by
  rcases getD_mem_or T j [] with h | h
  · rw [h]; exact fun _ hx => by cases hx
  · exact hT _ h

theorem sideSquareSum_bound (s : Side) {T : List (List Int)} (hT : ∀ t ∈ T, ∀ x ∈ t, -B ≤ x ∧ x ≤ B) :
    -(384 * B) ≤ sideSquareSum s T ∧ sideSquareSum s T ≤ 384 * B := by
  unfold sideSquareSum
  have h0 := squareSum_bound hB s.pawns (getD_row_bound hT 0)
  have h1 := squareSum_bound hB s.knights (getD_row_bound hT 1)
  have h2 := squareSum_bound hB s.bishops (getD_row_bound hT 2)
  have h3 := squareSum_bound hB s.rooks (getD_row_bound hT 3)
  have h4 := squareSum_bound hB s.queens (getD_row_bound hT 4)
  have h5 := squareSum_bound hB s.kings (getD_row_bound hT 5)
  omega

theorem pieceSquareValue_bound (hw : Within B whiteTables) (hb : Within B blackTables) (b : Board) :
    -(768 * B) ≤ pieceSquareValue b ∧ pieceSquareValue b ≤ 768 * B := by
  have stage : ∀ {T}, Within B T → ∀ t ∈ T.getD (gameStage b) [], ∀ x ∈ t, -B ≤ x ∧ x ≤ B := fun {T} h => by
    rcases getD_mem_or T (gameStage b) [] with e | e
    · rw [e]; exact fun _ ht => by cases ht
    · exact h _ e
  have h1 := sideSquareSum_bound hB b.white (stage hw)
  have h2 := sideSquareSum_bound hB b.black (stage hb)
  unfold pieceSquareValue
  simp only
  omega

end

end Inkayaku.Eval
