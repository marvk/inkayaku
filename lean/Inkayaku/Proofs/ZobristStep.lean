import Inkayaku.Proofs.ZobristLinear
import Inkayaku.Proofs.MakeSides
/-!
The incremental Zobrist update: for a move `f` that fits the board `b` (`HashMoveOK b f`, decidable), XOR-ing the delta `Zobrist.xorOf f` into the hashes of `b` gives the hashes
computed from scratch for `makeF b f`.

Structure: the from-scratch hashes are split into per-side parts (`npHash`, `pwHash`, `rightsHash`) plus side and e.p.
keys (`hash_eq`, `pawnHash_eq`) and read from the mover's point of view (`by_turn`, `by_turn_makeF`); `makeF` is split by
side (`mkMover`, `mkOther` of `Proofs/MakeSides`: drop the lost rights, then take pieces off squares and put pieces on
squares, castling included); taking off or putting on a piece toggles its key in the two placement parts of that side
(`Delta`, `delta_rem`, `delta_add`), `xorOf` toggles the same keys (`xorOf_plain`, `xorOf_castle`); `combine` assembles
the pieces for ANY move fields whose two `Delta`s match the shape of `xorOf`.
-/
namespace Inkayaku.ZobristStep
open Inkayaku.Board Inkayaku.Zobrist Inkayaku.ZobristLinear

/-- the packed source square of a castling move must be the king's home square, which `zobrist_xor` hard-codes -/
def CastleOK (m : Side) (f : MoveF) : Prop :=
  match castleRook f.target with
  | some (rs, rt) =>
    f.source = (if f.target == C1 || f.target == G1 then E1 else E8) ∧
    testU m.kings f.source = true ∧ testU m.kings f.target = false ∧
    testU m.rooks rs = true ∧ testU m.rooks rt = false
  | none => False

instance (m : Side) (f : MoveF) : Decidable (CastleOK m f) := by
  unfold CastleOK; split <;> infer_instance

/-- the move fields `f` fit the board `b` as far as the hashes are concerned.
Everything here holds for the moves produced by the generator on a well-formed board; nothing is said about the
geometry of the move, about check, about clocks, or (for a quiet move) about the target square being empty in the
passive words (the scratch word `o0` that `make` clears there is not hashed). -/
def HashMoveOK (b : Board) (f : MoveF) : Prop :=
  b.turn ≤ 1 ∧ f.side = b.turn ∧ f.prevEp = b.ep ∧ f.source < 64 ∧ f.target < 64 ∧
  (f.selfLostKing = true → b.active.ks = true) ∧ (f.selfLostQueen = true → b.active.qs = true) ∧
  (f.oppLostKing = true → b.passive.ks = true) ∧ (f.oppLostQueen = true → b.passive.qs = true) ∧
  (if f.castle = true then CastleOK b.active f
   else if f.enPassant = true then
     testU b.active.pawns f.source = true ∧ testU b.active.pawns f.target = false ∧
     (if b.turn = 0 then f.target + 8 < 64 ∧ testU b.passive.pawns (f.target + 8) = true
      else 8 ≤ f.target ∧ testU b.passive.pawns (f.target - 8) = true)
   else
     (if f.promotion ≠ NO_PIECE then
        KNIGHT ≤ f.promotion ∧ f.promotion ≤ KING ∧
        testU b.active.pawns f.source = true ∧ testU (b.active.get f.promotion) f.target = false
      else
        PAWN ≤ f.pieceMoved ∧ f.pieceMoved ≤ KING ∧
        testU (b.active.get f.pieceMoved) f.source = true ∧ testU (b.active.get f.pieceMoved) f.target = false) ∧
     f.pieceAttacked ≤ KING ∧ (f.pieceAttacked ≠ NO_PIECE → testU (b.passive.get f.pieceAttacked) f.target = true))

instance (b : Board) (f : MoveF) : Decidable (HashMoveOK b f) := by
  unfold HashMoveOK; infer_instance

/- Compared with the applicability predicate of make/unmake (`MakeUnmake.MoveOK`), `HashMoveOK` additionally asks for
   three facts that only `zobrist_xor` uses: `f.side = b.turn`, the packed source of a castling move is E1/E8
   (hard-coded in `zobrist_xor`), and the e.p. victim square `target ± 8` is in range.  It holds for every move the
   generator emits on a well-formed board (`GenFacts.genPseudo_hashok`). -/

def npHash (s : Side) (c : Nat) : UInt64 :=
  hashOcc s.kings KING c ^^^ hashOcc s.queens QUEEN c ^^^ hashOcc s.rooks ROOK c
    ^^^ hashOcc s.bishops BISHOP c ^^^ hashOcc s.knights KNIGHT c

def pwHash (s : Side) (c : Nat) : UInt64 := hashOcc s.pawns PAWN c

def rightsHash (s : Side) (c : Nat) : UInt64 :=
  (if s.qs then castle QUEEN c else 0) ^^^ (if s.ks then castle KING c else 0)

/-- `BLACK_TO_MOVE_HASH * (1 - turn)` -/
def sideKey (turn : Nat) : UInt64 := if turn == 0 then blackToMove else 0

def epKey (ep : Nat) : UInt64 := if ep != 0 then enPassant ep else 0

theorem pawnHash_eq (b : Board) :
    pawnHash b = pwHash b.white 0 ^^^ pwHash b.black 1 ^^^ sideKey b.turn ^^^ epKey b.ep := by
  unfold pawnHash pwHash sideKey epKey
  cases b.turn == 0 <;> cases b.ep != 0 <;> simp

theorem sideKey_flip {t : Nat} (h : t ≤ 1) : sideKey (1 - t) = sideKey t ^^^ blackToMove := by
  have : t = 0 ∨ t = 1 := by omega
  rcases this with rfl | rfl
  · exact (UInt64.xor_self).symm
  · exact (UInt64.zero_xor).symm

theorem hash_eq (b : Board) :
    Zobrist.hash b = npHash b.white 0 ^^^ npHash b.black 1 ^^^ (rightsHash b.white 0 ^^^ rightsHash b.black 1)
      ^^^ pawnHash b := by
  unfold Zobrist.hash npHash rightsHash
  simp only [Bits.ite_xor]
  ac_rfl

open Inkayaku.MakeUnmake

theorem by_turn (F : Side → Nat → UInt64) {b : Board} (ht : b.turn ≤ 1) :
    F b.white 0 ^^^ F b.black 1 = F b.active b.turn ^^^ F b.passive (1 - b.turn) := by
  rcases sides_of_turn b ht with ⟨-, h, ha, hp⟩ | ⟨-, h, ha, hp⟩ <;> rw [ha, hp, h]
  exact UInt64.xor_comm _ _

theorem by_turn_makeF (F : Side → Nat → UInt64) {b : Board} (ht : b.turn ≤ 1) (f : MoveF) :
    F (makeF b f).white 0 ^^^ F (makeF b f).black 1
      = F (mkMover f b.active) b.turn ^^^ F (mkOther f b.whiteTurn b.passive) (1 - b.turn) := by
  have ht' : (makeF b f).turn ≤ 1 := by rw [makeF_turn]; omega
  rw [by_turn F ht', (makeF_sides b f).1, (makeF_sides b f).2.1, makeF_turn, UInt64.xor_comm]
  congr 2
  omega

/-- a right that is dropped (`l`) only if held (`r`): its key leaves the hash exactly when it is dropped -/
theorem dropped_right {l r : Bool} (k : UInt64) (h : l = true → r = true) :
    (if (if l then false else r) then k else 0) = (if r then k else 0) ^^^ (if l then k else 0) := by
  cases l
  · exact (UInt64.xor_zero).symm
  · rw [h rfl]
    exact (UInt64.xor_self).symm

theorem rightsHash_dropped {s s' : Side} {lk lq : Bool} (c : Nat) (ek : s'.ks = if lk then false else s.ks)
    (eq : s'.qs = if lq then false else s.qs) (hk : lk = true → s.ks = true) (hq : lq = true → s.qs = true) :
    rightsHash s' c = rightsHash s c ^^^ ((if lk then castle KING c else 0) ^^^ (if lq then castle QUEEN c else 0)) := by
  unfold rightsHash
  rw [ek, eq, dropped_right _ hq, dropped_right _ hk]
  ac_rfl

theorem rightsHash_congr {s s' : Side} (hq : s'.qs = s.qs) (hk : s'.ks = s.ks) (c : Nat) :
    rightsHash s' c = rightsHash s c := by
  unfold rightsHash; rw [hq, hk]

theorem npHash_set (s : Side) {p : Nat} (hp : p ≤ 6) (v : UInt64) (c : Nat) :
    npHash (s.set p v) c
      = npHash s c ^^^ (if p == PAWN then 0 else hashOcc (s.get p) p c ^^^ hashOcc v p c) := by
  rcases le6_cases hp with rfl | rfl | rfl | rfl | rfl | rfl | rfl
  · simp [npHash, Side.set, Side.get, hashOcc_noPiece, PAWN]
  · simp [npHash, Side.set, PAWN]
  all_goals
    simp only [npHash, Side.set, Side.get, PAWN, KNIGHT, BISHOP, ROOK, QUEEN, KING, Nat.reduceBEq, Bool.false_eq_true,
      if_false]
    apply xor_exchange
    ac_rfl

theorem pwHash_set (s : Side) {p : Nat} (hp : p ≤ 6) (v : UInt64) (c : Nat) :
    pwHash (s.set p v) c
      = pwHash s c ^^^ (if p == PAWN then hashOcc (s.get p) p c ^^^ hashOcc v p c else 0) := by
  rcases le6_cases hp with rfl | rfl | rfl | rfl | rfl | rfl | rfl
  · simp [pwHash, Side.set, PAWN]
  · simp only [pwHash, Side.set, Side.get, PAWN, Nat.reduceBEq, if_true]
    exact (xor_cancel_left _ _).symm
  all_goals simp [pwHash, Side.set, PAWN]

def keyNP (p q c : Nat) : UInt64 := if p == PAWN then 0 else pieceSquare p q c
def keyPW (p q c : Nat) : UInt64 := if p == PAWN then pieceSquare PAWN q c else 0

structure Delta (s s' : Side) (c : Nat) (R P : UInt64) : Prop where
  np : npHash s' c = npHash s c ^^^ R
  pw : pwHash s' c = pwHash s c ^^^ P

/-- the rights are not in these parts -/
theorem delta_dropRights (s : Side) (lk lq : Bool) (c : Nat) : Delta s (dropRights s lk lq) c 0 0 :=
  ⟨(UInt64.xor_zero).symm, (UInt64.xor_zero).symm⟩
theorem Delta.of_dropRights {s s' : Side} {lk lq : Bool} {c : Nat} {R P : UInt64} (h : Delta (dropRights s lk lq) s' c R P) :
    Delta s s' c R P := ⟨h.np, h.pw⟩

theorem Delta.trans {s s' s'' : Side} {c : Nat} {R P R' P' : UInt64} (h : Delta s s' c R P) (h' : Delta s' s'' c R' P') :
    Delta s s'' c (R ^^^ R') (P ^^^ P') :=
  ⟨by rw [h'.np, h.np, UInt64.xor_assoc], by rw [h'.pw, h.pw, UInt64.xor_assoc]⟩

theorem delta_set (s : Side) {p q : Nat} (hp : p ≤ 6) {v : UInt64} (c : Nat)
    (hk : hashOcc (s.get p) p c ^^^ hashOcc v p c = pieceSquare p q c) :
    Delta s (s.set p v) c (keyNP p q c) (keyPW p q c) := by
  refine ⟨by rw [npHash_set _ hp, hk, keyNP], ?_⟩
  rw [pwHash_set _ hp, hk, keyPW]
  congr 1
  split
  · next h => rw [eq_of_beq h]
  · rfl

/-- `pa = 0` (`NO_PIECE`): the scratch word, which is not hashed -/
theorem delta_rem (o : Side) {pa t : Nat} (c : Nat) (hpa : pa ≤ 6) (h : pa ≠ 0 → testU (o.get pa) t = true) :
    Delta o (rem o pa t) c (keyNP pa t c) (keyPW pa t c) := by
  refine delta_set o hpa c ?_
  by_cases h0 : pa = 0
  · subst h0; simp [hashOcc_noPiece, pieceSquare_noPiece]
  · rw [hashOcc_clearBit (h h0)]
    exact xor_cancel_left _ _

theorem delta_add (s : Side) {p t : Nat} (c : Nat) (hp : p ≤ 6) (ht : t < 64) (h : testU (s.get p) t = false) :
    Delta s (add s p t) c (keyNP p t c) (keyPW p t c) := by
  refine delta_set s hp c ?_
  rw [hashOcc_setBit ht h]
  exact xor_cancel_left _ _

theorem delta_move (s : Side) {p q t : Nat} (c : Nat) (hp : p ≤ 6) (hq : p ≠ 0 → testU (s.get p) q = true) (ht : t < 64)
    {p' : Nat} (hp' : p' ≤ 6) (h : testU (s.get p') t = false) :
    Delta s (add (rem s p q) p' t) c (keyNP p q c ^^^ keyNP p' t c) (keyPW p q c ^^^ keyPW p' t c) := by
  refine (delta_rem s c hp hq).trans (delta_add _ c hp' ht ?_)
  rw [get_rem _ _ _ hp']
  split
  · rw [Bits.testU_clearBit, h]; rfl
  · exact h

def flagsSelf (f : MoveF) : UInt64 :=
  (if f.selfLostKing then castle KING f.side else 0) ^^^ (if f.selfLostQueen then castle QUEEN f.side else 0)
def flagsOpp (f : MoveF) : UInt64 :=
  (if f.oppLostKing then castle KING (1 - f.side) else 0) ^^^ (if f.oppLostQueen then castle QUEEN (1 - f.side) else 0)
def baseP (f : MoveF) : UInt64 := blackToMove ^^^ epKey f.prevEp ^^^ epKey f.nextEp

def XorShape (f : MoveF) (R P : UInt64) : Prop :=
  xorOf f = (flagsSelf f ^^^ flagsOpp f ^^^ R ^^^ (baseP f ^^^ P), baseP f ^^^ P)

theorem xorOf_castle {f : MoveF} {rs rt : Nat} (hc : f.castle = true) (hr : castleRook f.target = some (rs, rt)) :
    XorShape f
      (keyNP ROOK rs f.side ^^^ keyNP ROOK rt f.side
        ^^^ (keyNP KING (if f.target == C1 || f.target == G1 then E1 else E8) f.side ^^^ keyNP KING f.target f.side))
      (keyPW ROOK rs f.side ^^^ keyPW ROOK rt f.side
        ^^^ (keyPW KING (if f.target == C1 || f.target == G1 then E1 else E8) f.side ^^^ keyPW KING f.target f.side)) := by
  unfold XorShape xorOf keyNP keyPW
  simp only [hc, hr, if_true, flagsSelf, flagsOpp, baseP, epKey, Bits.ite_xor, UInt64.xor_zero, UInt64.zero_xor,
    show (ROOK == PAWN) = false from rfl, show (KING == PAWN) = false from rfl, Bool.false_eq_true, if_false]
  rw [Prod.mk.injEq]
  exact ⟨by ac_rfl, rfl⟩

/-- the captured piece and its square as `zobrist_xor` names them -/
def capCode (f : MoveF) : Nat := if f.enPassant = true then PAWN else f.pieceAttacked
def capSqOf (f : MoveF) : Nat :=
  if f.enPassant = true then (if f.side == 0 then f.target + 8 else f.target - 8) else f.target

/-- outside castling `zobrist_xor` toggles the keys of the piece that leaves the source (`movedCode`), of the piece that
lands on the target (`placedCode`) and of the captured piece.  `hpr`: it puts the key of a promotion piece into the
non-pawn part without looking at the piece, which is right for every piece but a pawn. -/
theorem xorOf_plain {f : MoveF} (hc : f.castle = false)
    (hpr : f.enPassant = false → f.promotion ≠ NO_PIECE → (f.promotion == PAWN) = false) :
    XorShape f
      (keyNP (movedCode f) f.source f.side ^^^ keyNP (placedCode f) f.target f.side
        ^^^ keyNP (capCode f) (capSqOf f) (1 - f.side))
      (keyPW (movedCode f) f.source f.side ^^^ keyPW (placedCode f) f.target f.side
        ^^^ keyPW (capCode f) (capSqOf f) (1 - f.side)) := by
  unfold XorShape xorOf keyNP keyPW movedCode placedCode capCode capSqOf
  cases he : f.enPassant
  · by_cases hp : f.promotion = NO_PIECE
    · have hp' : (f.promotion != NO_PIECE) = false := by simpa using hp
      have hpP : (f.promotion ≠ NO_PIECE) = False := eq_false (not_not_intro hp)
      simp only [hc, hpP, hp', if_false, Bool.false_eq_true, false_or, flagsSelf, flagsOpp, baseP, epKey, Bits.ite_xor]
      cases f.pieceAttacked == PAWN <;> cases f.pieceMoved == PAWN
      all_goals
        simp only [if_true, if_false, Bool.false_eq_true, UInt64.xor_zero, UInt64.zero_xor]
        rw [Prod.mk.injEq]
        exact ⟨by ac_rfl, by ac_rfl⟩
    · have hp' : (f.promotion != NO_PIECE) = true := by simpa using hp
      have hpp := hpr he hp
      have h11 : (PAWN == PAWN) = true := rfl
      have hpP : (f.promotion ≠ NO_PIECE) = True := eq_true hp
      simp only [hc, hpP, hp', hpp, h11, if_true, if_false, Bool.false_eq_true, false_or, flagsSelf, flagsOpp, baseP,
        epKey, Bits.ite_xor]
      cases f.pieceAttacked == PAWN
      all_goals
        simp only [if_true, if_false, Bool.false_eq_true, UInt64.xor_zero, UInt64.zero_xor]
        rw [Prod.mk.injEq]
        exact ⟨by ac_rfl, by ac_rfl⟩
  · have h11 : (PAWN == PAWN) = true := rfl
    simp only [hc, h11, true_or, if_true, if_false, Bool.false_eq_true, flagsSelf, flagsOpp, baseP, epKey, Bits.ite_xor,
      UInt64.xor_zero, UInt64.zero_xor]
    rw [Prod.mk.injEq]
    exact ⟨by ac_rfl, by ac_rfl⟩

theorem combine {b : Board} {f : MoveF} {Rm Ro Pm Po : UInt64}
    (ht : b.turn ≤ 1) (hside : f.side = b.turn) (hep : f.prevEp = b.ep)
    (hk1 : f.selfLostKing = true → b.active.ks = true) (hq1 : f.selfLostQueen = true → b.active.qs = true)
    (hk2 : f.oppLostKing = true → b.passive.ks = true) (hq2 : f.oppLostQueen = true → b.passive.qs = true)
    (hm : Delta b.active (mkMover f b.active) f.side Rm Pm)
    (ho : Delta b.passive (mkOther f b.whiteTurn b.passive) (1 - f.side) Ro Po)
    {R P : UInt64} (hx : XorShape f R P) (hR : R = Rm ^^^ Ro) (hP : P = Pm ^^^ Po) :
    Zobrist.hash (makeF b f) = Zobrist.hash b ^^^ (xorOf f).1 ∧ pawnHash (makeF b f) = pawnHash b ^^^ (xorOf f).2 := by
  have hrm := rightsHash_dropped f.side (mkMover_ks f b.active) (mkMover_qs f b.active) hk1 hq1
  have hro := rightsHash_dropped (1 - f.side) (mkOther_ks f b.whiteTurn b.passive) (mkOther_qs f _ b.passive) hk2 hq2
  subst hR hP
  rw [hside] at hm ho hrm hro
  have hp : pawnHash (makeF b f) = pawnHash b ^^^ (xorOf f).2 := by
    -- each component changes by a delta: the side key flips, the old e.p. key goes and the new one comes
    rw [hx, pawnHash_eq, pawnHash_eq b, by_turn_makeF pwHash ht, by_turn pwHash ht, hm.pw, ho.pw, makeF_turn,
      (makeF_sides b f).2.2.2, sideKey_flip ht, ← xor_cancel_left (epKey b.ep) (epKey f.nextEp), baseP, hep]
    dsimp only
    ac_rfl
  refine ⟨?_, hp⟩
  rw [hash_eq, hp, hash_eq b, hx, by_turn_makeF npHash ht, by_turn npHash ht, by_turn_makeF rightsHash ht,
    by_turn rightsHash ht, hm.np, ho.np, hrm, hro, flagsSelf, flagsOpp, hside]
  dsimp only
  ac_rfl

theorem castleRook_lt {t rs rt : Nat} (h : castleRook t = some (rs, rt)) : rt < 64 := by
  rcases castleRook_cases h with ⟨-, -, rfl⟩ | ⟨-, -, rfl⟩ | ⟨-, -, rfl⟩ | ⟨-, -, rfl⟩ <;> decide

theorem step (b : Board) (f : MoveF) (h : HashMoveOK b f) :
    Zobrist.hash (makeF b f) = Zobrist.hash b ^^^ (xorOf f).1 ∧ pawnHash (makeF b f) = pawnHash b ^^^ (xorOf f).2 := by
  obtain ⟨ht, hside, hep, hsrc, htgt, hk1, hq1, hk2, hq2, hbr⟩ := h
  by_cases hc : f.castle = true
  · rw [if_pos hc] at hbr
    unfold CastleOK at hbr
    split at hbr
    · rename_i rs rt heq
      obtain ⟨hsE, hks, hkt, hrs, hrt⟩ := hbr
      have hx := xorOf_castle hc heq
      rw [← hsE] at hx
      have hr := delta_move (dropRights b.active f.selfLostKing f.selfLostQueen) f.side (p := ROOK) (by decide)
        (fun _ => hrs) (castleRook_lt heq) (p' := ROOK) (by decide) hrt
      have hk := delta_move (add (rem (dropRights b.active f.selfLostKing f.selfLostQueen) ROOK rs) ROOK rt) f.side
        (p := KING) (by decide) (fun _ => hks) htgt (p' := KING) (by decide) hkt
      exact combine ht hside hep hk1 hq1 hk2 hq2 (mkMover_castle _ hc heq ▸ (hr.trans hk).of_dropRights)
        (mkOther_castle _ _ hc ▸ delta_dropRights _ _ _ _) hx (UInt64.xor_zero).symm (UInt64.xor_zero).symm
    · exact hbr.elim
  rw [if_neg hc] at hbr
  have hc' : f.castle = false := by simpa using hc
  have hmv : movedCode f ≤ 6 ∧ placedCode f ≤ 6 ∧ testU (b.active.get (movedCode f)) f.source = true ∧
      testU (b.active.get (placedCode f)) f.target = false ∧
      (f.enPassant = false → f.promotion ≠ NO_PIECE → (f.promotion == PAWN) = false) := by
    unfold movedCode placedCode
    cases he : f.enPassant
    · simp only [he, Bool.false_eq_true, if_false] at hbr
      by_cases hp : f.promotion ≠ NO_PIECE
      · rw [if_pos hp] at hbr
        obtain ⟨⟨hp2, hp6, hps, hcl⟩, -⟩ := hbr
        simp only [KNIGHT, KING] at hp2 hp6
        simp only [eq_true hp, Bool.false_eq_true, false_or, if_true, if_false]
        exact ⟨by decide, hp6, hps, hcl, fun _ _ => by simp only [PAWN, beq_eq_false_iff_ne]; omega⟩
      · rw [if_neg hp] at hbr
        obtain ⟨⟨-, hp6, hs, hcl⟩, -⟩ := hbr
        simp only [KING] at hp6
        simp only [eq_false hp, Bool.false_eq_true, false_or, if_false]
        exact ⟨hp6, hp6, hs, hcl, fun _ h => h.elim⟩
    · simp only [he, if_true] at hbr
      simp only [true_or, if_true]
      exact ⟨by decide, by decide, hbr.1, hbr.2.1, fun h => by cases h⟩
  have hcap : capCode f ≤ 6 ∧ (capCode f ≠ 0 → testU (b.passive.get (capCode f)) (capSqOf f) = true) ∧
      (if f.enPassant = true then epVictim b.whiteTurn (bitU f.target) = bitU (capSqOf f) else f.target = capSqOf f) := by
    unfold capCode capSqOf
    cases he : f.enPassant
    · simp only [he, Bool.false_eq_true, if_false] at hbr ⊢
      obtain ⟨-, hpa6, hpat⟩ := hbr
      simp only [KING, NO_PIECE] at hpa6 hpat
      exact ⟨hpa6, hpat, trivial⟩
    · simp only [he, if_true] at hbr ⊢
      obtain ⟨-, -, hv⟩ := hbr
      by_cases h0 : b.turn = 0
      · rw [if_pos h0] at hv
        have hw : b.whiteTurn = true := by simp [Board.whiteTurn, h0]
        have hs0 : (f.side == 0) = true := by simp [hside, h0]
        rw [hs0, hw]
        exact ⟨by decide, fun _ => hv.2, Bits.bitU_shl8 _ (by omega)⟩
      · rw [if_neg h0] at hv
        have hw : b.whiteTurn = false := by simp [Board.whiteTurn, h0]
        have hs1 : (f.side == 0) = false := by simp [hside, h0]
        rw [hs1, hw]
        exact ⟨by decide, fun _ => hv.2, Bits.bitU_shr8 _ htgt hv.1⟩
  obtain ⟨hm6, hl6, hms, hlt, hpr⟩ := hmv
  obtain ⟨hc6, hct, hcv⟩ := hcap
  rw [← get_dropRights _ f.selfLostKing f.selfLostQueen] at hms hlt
  exact combine ht hside hep hk1 hq1 hk2 hq2
    (mkMover_plain _ hc' ▸ (delta_move _ f.side hm6 (fun _ => hms) htgt hl6 hlt).of_dropRights)
    (mkOther_plain _ _ hc' hcv ▸
      (delta_rem _ _ hc6 (fun h => by rw [get_dropRights]; exact hct h)).of_dropRights)
    (xorOf_plain hc' hpr) rfl rfl

/-- C06, hash: the incremental update of the position hash is exact -/
theorem hash_incremental {b : Board} {f : MoveF} (h : HashMoveOK b f) :
    Zobrist.hash (makeF b f) = Zobrist.hash b ^^^ (Zobrist.xorOf f).1 := (step b f h).1

/-- C06, pawn hash: the incremental update of the pawn hash is exact -/
theorem pawnHash_incremental {b : Board} {f : MoveF} (h : HashMoveOK b f) :
    Zobrist.pawnHash (makeF b f) = Zobrist.pawnHash b ^^^ (Zobrist.xorOf f).2 := (step b f h).2

end Inkayaku.ZobristStep
