import Inkayaku.Model.FenBoard
import Inkayaku.Spec.FenText
import Inkayaku.Proofs.Side
import Inkayaku.Proofs.TextLemmas
import Inkayaku.Proofs.MakeSides
import Inkayaku.Proofs.CharRange
/-!
# FEN reading and writing are mutually inverse (lemmas for C12)

The printed text of an abstract position `APos` is split, accepted and decoded back to it; the model serialiser on a
board holding the pieces of `p` writes `printA p`; conversely every accepted text is `printA` of a position up to
`canonText`.

A rank text is compared with the squares through the cells it stands for (`cellsOfRank`; `compress` is its inverse both
ways: `compress_spec`, `compress_cellsOfRank`).  Decoding is stated for every accepted placement field
(`placement_holds`): while the field is read, the sides hold exactly the cells read so far (`HoldsCells`).
-/
namespace Inkayaku.FenRoundtrip
open Inkayaku Inkayaku.Board Inkayaku.FenBoard Inkayaku.FenSyntax Inkayaku.FenText Inkayaku.Bits

export Inkayaku.Text (splitOnChar_joinWith joinWith_splitOnChar)

theorem not_mem_of_mem_splitOnChar {sep : Char} {l r : List Char} (h : r ∈ splitOnChar sep l) : sep ∉ r :=
  Text.split_mem_nosep sep l r h

theorem mem_joinWith {sep c : Char} {rs : List (List Char)} (h : c ∈ joinWith sep rs) :
    c = sep ∨ ∃ r ∈ rs, c ∈ r := by
  match rs, h with
  | [r], h => exact .inr ⟨r, by simp, by simpa [joinWith] using h⟩
  | r :: r' :: rs, h =>
    simp [joinWith] at h
    rcases h with h | h | h
    · exact .inr ⟨r, by simp, h⟩
    · exact .inl h
    · rcases mem_joinWith h with h | ⟨x, hx, hc⟩
      · exact .inl h
      · exact .inr ⟨x, List.mem_cons_of_mem _ hx, hc⟩

theorem digit_props {n : Nat} (h1 : 1 ≤ n) (h8 : n ≤ 8) :
    isAsciiDigit (digit n) = true ∧ digitVal (digit n) = n ∧ isPlacementChar (digit n) = true
    ∧ natToChars n = [digit n] ∧ digit n ≠ '/' ∧ digit n ≠ ' ' := by
  have h : ∀ m : Fin 9, 1 ≤ m.val → isAsciiDigit (digit m.val) = true ∧ digitVal (digit m.val) = m.val
      ∧ isPlacementChar (digit m.val) = true ∧ natToChars m.val = [digit m.val] ∧ digit m.val ≠ '/'
      ∧ digit m.val ≠ ' ' := by decide +kernel
  exact h ⟨n, by omega⟩ h1

theorem piece_props {w : Bool} {k : Nat} (h1 : 1 ≤ k) (h6 : k ≤ 6) :
    isAsciiDigit (pieceChar w k) = false ∧ isPlacementChar (pieceChar w k) = true
    ∧ pieceOfChar (pieceChar w k) = some k ∧ isUpper (pieceChar w k) = w ∧ pieceFenChar k w = pieceChar w k
    ∧ pieceChar w k ≠ '/' ∧ pieceChar w k ≠ ' ' := by
  have h : ∀ (w : Bool) (m : Fin 7), 1 ≤ m.val →
      isAsciiDigit (pieceChar w m.val) = false ∧ isPlacementChar (pieceChar w m.val) = true
      ∧ pieceOfChar (pieceChar w m.val) = some m.val ∧ isUpper (pieceChar w m.val) = w
      ∧ pieceFenChar m.val w = pieceChar w m.val ∧ pieceChar w m.val ≠ '/' ∧ pieceChar w m.val ≠ ' ' := by decide +kernel
  exact h w ⟨k, by omega⟩ h1

def CellsOK (cs : List Cell) : Prop := ∀ w k, some (w, k) ∈ cs → 1 ≤ k ∧ k ≤ 6

theorem CellsOK.tail {c : Cell} {cs : List Cell} (h : CellsOK (c :: cs)) : CellsOK cs :=
  fun w k hm => h w k (List.mem_cons_of_mem _ hm)

theorem CellsOK.head {w : Bool} {k : Nat} {cs : List Cell} (h : CellsOK (some (w, k) :: cs)) : 1 ≤ k ∧ k ≤ 6 :=
  h w k (by simp)

theorem rankCount_nil : rankCount [] = 0 := rfl
theorem rankCount_cons (c : Char) (r : List Char) :
    rankCount (c :: r) = (if isAsciiDigit c then digitVal c else 1) + rankCount r := by
  simp [rankCount]
theorem rankCount_append (a b : List Char) : rankCount (a ++ b) = rankCount a + rankCount b := by
  simp [rankCount]

theorem flush_all_placement {n : Nat} (h : n ≤ 8) : (flush n).all isPlacementChar = true := by
  unfold flush
  split
  · rfl
  · have := digit_props (n := n) (by omega) h
    simp [this.2.2.1]

theorem hasAdjacentDigits_cons_nondigit {c : Char} (h : isAsciiDigit c = false) (r : List Char) :
    hasAdjacentDigits (c :: r) = hasAdjacentDigits r := by
  cases r with
  | nil => simp [hasAdjacentDigits]
  | cons d r => simp [hasAdjacentDigits, h]

def kindOfChar (c : Char) : Nat := (pieceOfChar c).getD 0

theorem placement_char_cases {c : Char} (h : isPlacementChar c = true) :
    (isAsciiDigit c = true ∧ 1 ≤ digitVal c ∧ digitVal c ≤ 8 ∧ digit (digitVal c) = c)
    ∨ (isAsciiDigit c = false ∧ pieceOfChar c = some (kindOfChar c) ∧ 1 ≤ kindOfChar c ∧ kindOfChar c ≤ 6
        ∧ pieceChar (isUpper c) (kindOfChar c) = c) := by
  have hm : c ∈ "PNBRQKpnbrqk12345678".toList := by simpa [isPlacementChar] using h
  have : ∀ c ∈ "PNBRQKpnbrqk12345678".toList,
      (isAsciiDigit c = true ∧ 1 ≤ digitVal c ∧ digitVal c ≤ 8 ∧ digit (digitVal c) = c)
      ∨ (isAsciiDigit c = false ∧ pieceOfChar c = some (kindOfChar c) ∧ 1 ≤ kindOfChar c ∧ kindOfChar c ≤ 6
          ∧ pieceChar (isUpper c) (kindOfChar c) = c) := by decide +kernel
  exact this c hm

theorem length_le_rankCount : ∀ (r : List Char), r.all isPlacementChar = true → r.length ≤ rankCount r
  | [], _ => by simp
  | c :: r, h => by
    simp only [List.all_cons, Bool.and_eq_true] at h
    have ih := length_le_rankCount r h.2
    rw [rankCount_cons, List.length_cons]
    rcases placement_char_cases h.1 with hc | hc
    · rw [if_pos hc.1]; omega
    · rw [if_neg (by simp [hc.1])]; omega

theorem rankShapeOk_of_count {r : List Char} (h : r.all isPlacementChar = true) (hc : rankCount r = 8) :
    rankShapeOk r = true := by
  have h1 := length_le_rankCount r h
  have h2 : r ≠ [] := by intro e; subst e; simp [rankCount] at hc
  have h3 : 1 ≤ r.length := by cases r <;> simp_all
  simp [rankShapeOk, h]; omega

theorem slash_not_mem_of_all_placement {r : List Char} (h : r.all isPlacementChar = true) : '/' ∉ r := by
  intro hm
  have := List.all_eq_true.mp h _ hm
  revert this; decide

def cellsOfChar (c : Char) : List Cell :=
  if isAsciiDigit c then List.replicate (digitVal c) none else [some (isUpper c, kindOfChar c)]

def cellsOfRank : List Char → List Cell
  | [] => []
  | c :: r => cellsOfChar c ++ cellsOfRank r

theorem length_cellsOfRank (r : List Char) : (cellsOfRank r).length = rankCount r := by
  induction r with
  | nil => rfl
  | cons c r ih =>
    rw [cellsOfRank, List.length_append, ih, rankCount_cons, cellsOfChar]
    split <;> simp

theorem placement_ok {pl : List Char} (h1 : placementShapeOk pl = true) (h2 : validateRanks pl = none) :
    (splitOnChar '/' pl).length = 8 ∧ ∀ r ∈ splitOnChar '/' pl,
      r.all isPlacementChar = true ∧ rankCount r = 8 ∧ hasAdjacentDigits r = false := by
  simp only [placementShapeOk, Bool.and_eq_true, beq_iff_eq, List.all_eq_true] at h1
  refine ⟨h1.1, fun r hr => ?_⟩
  have hs := h1.2 r hr
  simp only [rankShapeOk, Bool.and_eq_true] at hs
  have hv : validateRank r = none := by
    simp only [validateRanks, List.findSome?_eq_none_iff] at h2
    exact h2 r hr
  simp only [validateRank] at hv
  split at hv
  · cases hv
  · split at hv
    · cases hv
    · rename_i hc ha
      exact ⟨hs.2, by simpa using hc, by simpa using ha⟩

theorem cellsOfRank_flush {n : Nat} (h : n ≤ 8) (r : List Char) :
    cellsOfRank (flush n ++ r) = List.replicate n none ++ cellsOfRank r := by
  unfold flush
  split
  · subst_vars; rfl
  · have := digit_props (n := n) (by omega) h
    simp [cellsOfRank, cellsOfChar, this.1, this.2.1]

theorem hasAdjacentDigits_flush {n : Nat} {r : List Char} (h : ∀ c, r.head? = some c → isAsciiDigit c = false) :
    hasAdjacentDigits (flush n ++ r) = hasAdjacentDigits r := by
  unfold flush
  split
  · rfl
  · cases r with
    | nil => simp [hasAdjacentDigits]
    | cons c r => simp [hasAdjacentDigits, h c rfl]

/-- a printed rank is made of placement characters, no two digits meet, and its cells are the pending run followed by
the cells printed -/
theorem compress_spec : ∀ (cs : List Cell) (n : Nat), CellsOK cs → n + cs.length ≤ 8 →
    (compress cs n).all isPlacementChar = true ∧ hasAdjacentDigits (compress cs n) = false
    ∧ cellsOfRank (compress cs n) = List.replicate n none ++ cs
  | [], n, _, h => by
    have h8 : n ≤ 8 := by simpa using h
    refine ⟨by simpa [compress] using flush_all_placement h8, ?_, by
      simpa [compress, cellsOfRank] using cellsOfRank_flush h8 []⟩
    simpa [compress, hasAdjacentDigits] using hasAdjacentDigits_flush (n := n) (r := []) (by simp)
  | none :: cs, n, hk, h => by
    have ih := compress_spec cs (n + 1) hk.tail (by simp at h; omega)
    rw [compress]
    exact ⟨ih.1, ih.2.1, by rw [ih.2.2, List.replicate_succ']; simp⟩
  | some (w, k) :: cs, n, hk, h => by
    have hp := piece_props (w := w) hk.head.1 hk.head.2
    simp at h
    have ih := compress_spec cs 0 hk.tail (by omega)
    rw [compress]
    refine ⟨by simp [flush_all_placement (n := n) (by omega), hp.2.1, ih.1], ?_, ?_⟩
    · rw [hasAdjacentDigits_flush (by simp [hp.1]), hasAdjacentDigits_cons_nondigit hp.1]; exact ih.2.1
    · rw [cellsOfRank_flush (by omega), cellsOfRank, cellsOfChar, if_neg (by simp [hp.1]), ih.2.2]
      simp [kindOfChar, hp.2.2.1, hp.2.2.2.1]

/-- the occupancy word of colour `w` (true = white) and kind `k` in a pair of sides -/
def word (s : Side × Side) (w : Bool) (k : Nat) : UInt64 := (if w then s.1 else s.2).get k

theorem get_set (s : Side) {k k' : Nat} (hk : 1 ≤ k ∧ k ≤ 6) (v : UInt64) :
    (s.set k v).get k' = if k = k' then v else s.get k' := by
  split
  · next h => rw [← h]; exact MakeUnmake.get_set_self s hk.2 v
  · next h => exact MakeUnmake.get_set_ne s h v

theorem set_o0 (s : Side) {k : Nat} (hk : 1 ≤ k) (v : UInt64) : (s.set k v).o0 = s.o0 := by
  unfold Side.set
  split <;> first | rfl | omega

theorem word_after_piece {w : Bool} {k : Nat} (hk : 1 ≤ k ∧ k ≤ 6) (m : UInt64) (W B : Side)
    (w' : Bool) (k' : Nat) :
    word (if w then (W.set k (W.get k ||| m), B) else (W, B.set k (B.get k ||| m))) w' k'
      = if w = w' ∧ k = k' then word (W, B) w k ||| m else word (W, B) w' k' := by
  cases w <;> cases w' <;> simp [word, get_set _ hk] <;> split <;> simp_all

theorem empty_get (k : Nat) : ({} : Side).get k = 0 := by
  unfold Side.get; split <;> rfl

/-- the sides hold exactly the pieces of the cell list: square `i` is `cells[i]`, nothing stands beyond the list -/
structure HoldsCells (ws : Side × Side) (cells : List Cell) : Prop where
  bit : ∀ w k sq, 1 ≤ k ∧ k ≤ 6 → sq < 64 → (testU (word ws w k) sq = true ↔ cells[sq]? = some (some (w, k)))
  o1 : ws.1.o0 = 0
  o2 : ws.2.o0 = 0

theorem HoldsCells.nil : HoldsCells ({}, {}) [] :=
  ⟨fun w k sq _ _ => by cases w <;> simp [word, empty_get, testU_zero], rfl, rfl⟩

theorem HoldsCells.skip {ws : Side × Side} {cells : List Cell} (h : HoldsCells ws cells) (d : Nat) :
    HoldsCells ws (cells ++ List.replicate d none) := by
  refine ⟨fun w k sq hk hsq => (h.bit w k sq hk hsq).trans ?_, h.o1, h.o2⟩
  rw [List.getElem?_append]
  split
  · rfl
  · next hlt =>
    rw [List.getElem?_eq_none (Nat.le_of_not_lt hlt), List.getElem?_replicate]
    split <;> simp

theorem HoldsCells.put {W B : Side} {cells : List Cell} (h : HoldsCells (W, B) cells) {w : Bool} {k : Nat}
    (hk : 1 ≤ k ∧ k ≤ 6) (hlen : cells.length < 64) :
    HoldsCells (if w then (W.set k (W.get k ||| bitU cells.length), B)
      else (W, B.set k (B.get k ||| bitU cells.length))) (cells ++ [some (w, k)]) := by
  refine ⟨fun w' k' sq hk' hsq => ?_, ?_, ?_⟩
  · have hb : testU (if w = w' ∧ k = k' then word (W, B) w k ||| bitU cells.length else word (W, B) w' k') sq
        = (testU (word (W, B) w' k') sq || (decide (cells.length = sq) && decide (w = w' ∧ k = k'))) := by
      split
      · next e => rw [testU_or, testU_bitU _ _ hlen, e.1, e.2]; simp
      · next e => simp [e]
    have hold := h.bit w' k' sq hk' hsq
    rw [word_after_piece hk, hb, List.getElem?_append]
    by_cases hlt : sq < cells.length
    · have : cells.length ≠ sq := by omega
      simp [hlt, this, hold]
    · have hf : testU (word (W, B) w' k') sq = false := by
        rw [← Bool.not_eq_true, hold, List.getElem?_eq_none (Nat.le_of_not_lt hlt)]; simp
      rw [if_neg hlt, hf, List.getElem?_singleton]
      by_cases hsq' : cells.length = sq
      · simp [hsq']
      · have : sq - cells.length ≠ 0 := by omega
        simp [hsq', this]
  · cases w <;> simpa [set_o0 _ hk.1] using h.o1
  · cases w <;> simpa [set_o0 _ hk.1] using h.o2

theorem placeRank_holds (idx : Nat) : ∀ (r : List Char) (file : Nat) (ws : Side × Side) (cells : List Cell),
    r.all isPlacementChar = true → HoldsCells ws cells → cells.length = file + 8 * idx →
    cells.length + rankCount r ≤ 64 → HoldsCells (placeRank idx r file ws) (cells ++ cellsOfRank r)
  | [], _, _, _, _, h, _, _ => by simpa [placeRank, cellsOfRank] using h
  | c :: r, file, (W, B), cells, hall, h, hlen, hfit => by
    simp only [List.all_cons, Bool.and_eq_true] at hall
    rw [rankCount_cons] at hfit
    rw [cellsOfRank, cellsOfChar, ← List.append_assoc, placeRank]
    rcases placement_char_cases hall.1 with hc | hc
    · rw [if_pos hc.1] at hfit ⊢
      rw [if_pos hc.1]
      exact placeRank_holds idx r _ _ _ hall.2 (h.skip _) (by simp; omega) (by simp; omega)
    · rw [if_neg (by simp [hc.1])] at hfit ⊢
      rw [if_neg (by simp [hc.1])]
      simp only [hc.2.1]
      have hput := h.put (w := isUpper c) ⟨hc.2.2.1, hc.2.2.2.1⟩ (by omega)
      rw [hlen] at hput
      cases hu : isUpper c <;> rw [hu] at hput <;>
        exact placeRank_holds idx r _ _ _ hall.2 hput (by simp; omega) (by simp; omega)

/-- the cells of a placement field, a8 first -/
def cellsOfRanks (rs : List (List Char)) : List Cell := rs.flatMap cellsOfRank

theorem placeRanks_holds : ∀ (rs : List (List Char)) (idx : Nat) (ws : Side × Side) (cells : List Cell),
    (∀ r ∈ rs, r.all isPlacementChar = true ∧ rankCount r = 8) → HoldsCells ws cells → cells.length = 8 * idx →
    idx + rs.length ≤ 8 → HoldsCells (placeRanks rs idx ws) (cells ++ cellsOfRanks rs)
  | [], _, _, _, _, h, _, _ => by simpa [placeRanks, cellsOfRanks] using h
  | r :: rs, idx, ws, cells, hr, h, hlen, hfit => by
    have h0 := hr r (by simp)
    simp only [List.length_cons] at hfit
    rw [placeRanks, cellsOfRanks, List.flatMap_cons, ← List.append_assoc]
    exact placeRanks_holds rs (idx + 1) _ _ (fun x hx => hr x (List.mem_cons_of_mem _ hx))
      (placeRank_holds idx r 0 ws cells h0.1 h (by omega) (by omega))
      (by rw [List.length_append, length_cellsOfRank, h0.2]; omega) (by omega)

theorem placement_holds {pl : List Char} (h1 : placementShapeOk pl = true) (h2 : validateRanks pl = none) :
    HoldsCells (placeRanks (splitOnChar '/' pl) 0 ({}, {})) (cellsOfRanks (splitOnChar '/' pl)) := by
  obtain ⟨hlen, hr⟩ := placement_ok h1 h2
  simpa using placeRanks_holds _ 0 _ [] (fun r hm => ⟨(hr r hm).1, (hr r hm).2.1⟩) .nil rfl (by omega)

theorem at_valid {p : APos} (hv : p.Valid) {x : Nat} {w : Bool} {k : Nat} (h : p.at x = some (w, k)) :
    1 ≤ k ∧ k ≤ 6 := by
  unfold APos.at at h
  split at h
  · exact hv.kinds _ w k h
  · cases h

theorem rankCells_ok {p : APos} (hv : p.Valid) (row : Nat) : CellsOK (rankCells p row) := by
  intro w k hm
  simp only [rankCells, List.mem_map] at hm
  obtain ⟨f, _, hf⟩ := hm
  exact at_valid hv hf

theorem rankCells_length (p : APos) (row : Nat) : (rankCells p row).length = 8 := by simp [rankCells]

theorem rankText_props {p : APos} (hv : p.Valid) (row : Nat) :
    rankCount (rankText p row) = 8 ∧ (rankText p row).all isPlacementChar = true
    ∧ hasAdjacentDigits (rankText p row) = false := by
  have h := compress_spec _ 0 (rankCells_ok hv row) (by simp [rankCells_length])
  exact ⟨by rw [← length_cellsOfRank, rankText, h.2.2]; simp [rankCells_length], h.1, h.2.1⟩

theorem rankText_eq (p : APos) (row : Nat) :
    rankText p row = compress ((List.range' 0 8).map fun f => p.at (f + 8 * row)) 0 := by
  simp [rankText, rankCells, List.range_eq_range']

def ranksOf (p : APos) : List (List Char) := (List.range 8).map (rankText p)

theorem split_placement {p : APos} (hv : p.Valid) : splitOnChar '/' (placementText p) = ranksOf p := by
  apply splitOnChar_joinWith
  · simp [List.range_succ]
  · intro r hr
    simp only [List.mem_map] at hr
    obtain ⟨row, _, rfl⟩ := hr
    exact slash_not_mem_of_all_placement (rankText_props hv row).2.1

theorem placement_syntax {p : APos} (hv : p.Valid) :
    placementShapeOk (placementText p) = true ∧ validateRanks (placementText p) = none := by
  constructor
  · simp only [placementShapeOk, split_placement hv, ranksOf]
    simp only [List.length_map, List.length_range, List.all_map, Bool.and_eq_true, beq_self_eq_true, true_and,
      List.all_eq_true]
    intro row _
    exact rankShapeOk_of_count (rankText_props hv row).2.1 (rankText_props hv row).1
  · simp only [validateRanks, split_placement hv, ranksOf, List.findSome?_eq_none_iff, List.mem_map]
    rintro r ⟨row, _, rfl⟩
    simp [validateRank, rankText_props hv row]

theorem cellsOfRanks_placement {p : APos} (hv : p.Valid) :
    cellsOfRanks (splitOnChar '/' (placementText p)) = (List.range 8).flatMap (rankCells p) := by
  rw [split_placement hv, ranksOf, cellsOfRanks, List.flatMap_map]
  congr 1
  funext row
  rw [rankText, (compress_spec _ 0 (rankCells_ok hv row) (by simp [rankCells_length])).2.2]
  rfl

theorem getElem?_rankCells (p : APos) {sq : Nat} (h : sq < 64) :
    ((List.range 8).flatMap (rankCells p))[sq]? = some (p.at sq) := by
  have key : ∀ n, ((List.range n).flatMap (rankCells p)) = (List.range (8 * n)).map p.at := by
    intro n
    induction n with
    | zero => rfl
    | succ n ih =>
      rw [List.range_succ, List.flatMap_append, ih, show 8 * (n + 1) = 8 * n + 8 by omega, List.range_add,
        List.map_append]
      simp [rankCells, Nat.add_comm]
  rw [key]; simp [h]

theorem placement_decode {p : APos} (hv : p.Valid) :
    let res := placeRanks (splitOnChar '/' (placementText p)) 0 ({}, {})
    (∀ w k sq, 1 ≤ k ∧ k ≤ 6 → sq < 64 → (testU (word res w k) sq = true ↔ p.at sq = some (w, k)))
    ∧ res.1.o0 = 0 ∧ res.2.o0 = 0 := by
  have h := placement_holds (placement_syntax hv).1 (placement_syntax hv).2
  refine ⟨fun w k sq hk hsq => ?_, h.o1, h.o2⟩
  rw [h.bit w k sq hk hsq, cellsOfRanks_placement hv, getElem?_rankCells p hsq]
  simp

/-- the en-passant code of the bitboard: 0 = none; 0 is also the index of a8, which therefore cannot be stored -/
def epCode : Option (Fin 64) → Nat
  | none => 0
  | some sq => sq.val

def fieldsOf (p : APos) : FenFields :=
  { placement := placementText p, side := if p.whiteToMove then 'w' else 'b', castling := castlingText p,
    ep := epText p, hasClocks := true, half := p.half, full := p.full }

theorem castling_props (p : APos) :
    castlingShapeOk (castlingText p) = true ∧ (castlingText p).contains 'K' = p.wK
    ∧ (castlingText p).contains 'Q' = p.wQ ∧ (castlingText p).contains 'k' = p.bK
    ∧ (castlingText p).contains 'q' = p.bQ ∧ ' ' ∉ castlingText p := by
  have h : ∀ a b c d : Bool,
      let s := (if a then ['K'] else []) ++ (if b then ['Q'] else []) ++ (if c then ['k'] else [])
        ++ (if d then ['q'] else [])
      let t := if s.isEmpty then ['-'] else s
      castlingShapeOk t = true ∧ t.contains 'K' = a ∧ t.contains 'Q' = b ∧ t.contains 'k' = c
      ∧ t.contains 'q' = d ∧ ' ' ∉ t := by decide +kernel
  exact h p.wK p.wQ p.bK p.bQ

theorem squareName_props (sq : Fin 64) :
    epShapeOk (squareName sq.val) = true ∧ squareName sq.val ≠ ['-']
    ∧ squareOfName (squareName sq.val) = sq.val ∧ ' ' ∉ squareName sq.val := by
  revert sq; decide +kernel

theorem ep_props (p : APos) :
    epShapeOk (epText p) = true
    ∧ (if epText p = ['-'] then 0 else squareOfName (epText p)) = epCode p.ep ∧ ' ' ∉ epText p := by
  unfold epText
  cases h : p.ep with
  | none => simp [epShapeOk, epCode]
  | some sq =>
    have := squareName_props sq
    simp [this, epCode]

theorem squareString_toList {n : Nat} (h : n < 64) : (squareString n).toList = squareName n := by
  simp [squareString, h, squareName, fileChar, rankChar]

theorem natToChars_eq (n : Nat) : natToChars n = decimal n := by
  simp [natToChars, decimal]

theorem decimal_props (n : Nat) :
    decimal n ≠ [] ∧ (decimal n).all isAsciiDigit = true ∧ decimalValue (decimal n) = n ∧ ' ' ∉ decimal n := by
  have h := Text.decimal_props n
  rw [Text.decimal_eq] at h
  refine ⟨h.1, h.2.1, h.2.2, fun hc => ?_⟩
  have := List.all_eq_true.mp h.2.1 _ hc
  revert this; decide

theorem clockOk_decimal {n : Nat} (h : n < 4294967296) : clockOk (decimal n) = true := by
  have := decimal_props n
  simp [clockOk, this.2.1, this.2.2.1, h]
  exact this.1

theorem space_not_mem_placement {p : APos} (hv : p.Valid) : ' ' ∉ placementText p := by
  intro h
  rcases mem_joinWith h with h | ⟨r, hr, hc⟩
  · revert h; decide
  · simp only [List.mem_map] at hr
    obtain ⟨row, _, rfl⟩ := hr
    have := List.all_eq_true.mp (rankText_props hv row).2.1 _ hc
    revert this; decide

theorem space_not_mem_field {p : APos} (hv : p.Valid) :
    ∀ r ∈ fields4 p ++ [decimal p.half, decimal p.full], ' ' ∉ r := by
  intro r hr
  simp only [fields4, List.cons_append, List.nil_append, List.mem_cons, List.not_mem_nil, or_false] at hr
  rcases hr with rfl | rfl | rfl | rfl | rfl | rfl
  · exact space_not_mem_placement hv
  · unfold sideText; split <;> decide
  · exact (castling_props p).2.2.2.2.2
  · exact (ep_props p).2.2
  · exact (decimal_props _).2.2.2
  · exact (decimal_props _).2.2.2

theorem split_printA {p : APos} (hv : p.Valid) :
    splitOnChar ' ' (printA p) = fields4 p ++ [decimal p.half, decimal p.full] :=
  splitOnChar_joinWith (by simp [fields4]) (space_not_mem_field hv)

theorem split_printA4 {p : APos} (hv : p.Valid) : splitOnChar ' ' (printA4 p) = fields4 p :=
  splitOnChar_joinWith (by simp [fields4]) fun r hr => space_not_mem_field hv r (List.mem_append_left _ hr)

theorem parseChars_printA {p : APos} (hv : p.Valid) : parseChars (printA p) = .ok (fieldsOf p) := by
  have h1 := placement_syntax hv
  have h2 := castling_props p
  have h3 := ep_props p
  have h4 := decimal_props p.half
  have h5 := decimal_props p.full
  have h6 := clockOk_decimal hv.half
  have h7 := clockOk_decimal hv.full
  simp only [parseChars, regexGroups, split_printA hv, fields4, List.cons_append, List.nil_append, sideText]
  simp [h1, h2, h3, h4, h5, h6, h7, fieldsOf]

theorem parseChars_printA4 {p : APos} (hv : p.Valid) :
    parseChars (printA4 p) = .ok { fieldsOf p with hasClocks := false, half := 0, full := 1 } := by
  have h1 := placement_syntax hv
  have h2 := castling_props p
  have h3 := ep_props p
  simp only [parseChars, regexGroups, split_printA4 hv, fields4, sideText]
  simp [h1, h2, h3, fieldsOf]

def Holds (b : Board) (p : APos) : Prop :=
  ∀ w k sq, 1 ≤ k ∧ k ≤ 6 → sq < 64 → (testU (word (b.white, b.black) w k) sq = true ↔ p.at sq = some (w, k))

structure Decodes (b : Board) (p : APos) : Prop where
  holds : Holds b p
  wScratch : b.white.o0 = 0
  bScratch : b.black.o0 = 0
  turn : b.turn = if p.whiteToMove then 0 else 1
  wK : b.white.ks = p.wK
  wQ : b.white.qs = p.wQ
  bK : b.black.ks = p.bK
  bQ : b.black.qs = p.bQ
  ep : b.ep = epCode p.ep
  half : b.halfmove = p.half
  full : b.fullmove = p.full

theorem decodes_boardOfFields {f : FenFields} {p : APos} (hv : p.Valid) (hpl : f.placement = placementText p)
    (hs : f.side = if p.whiteToMove then 'w' else 'b') (hc : f.castling = castlingText p)
    (he : (if f.ep = ['-'] then 0 else squareOfName f.ep) = epCode p.ep) :
    Decodes (boardOfFields f) { p with half := f.half, full := f.full } := by
  have h := placement_decode hv
  have hcp := castling_props p
  unfold boardOfFields
  rw [hpl, hs, hc, he]
  generalize placeRanks (splitOnChar '/' (placementText p)) 0 ({}, {}) = res at h
  obtain ⟨W, B⟩ := res
  refine ⟨?_, h.2.1, h.2.2, ?_, hcp.2.1, hcp.2.2.1, hcp.2.2.2.1, hcp.2.2.2.2.1, rfl, rfl, rfl⟩
  · intro w k sq hk hsq
    refine Iff.trans ?_ (h.1 w k sq hk hsq)
    cases w <;> exact Iff.rfl
  · show (if (if p.whiteToMove then 'w' else 'b') = 'b' then 1 else 0) = if p.whiteToMove then 0 else 1
    cases p.whiteToMove <;> rfl

theorem of_get {s : Side} {P : Nat → UInt64 → Prop} (h : ∀ k, 1 ≤ k ∧ k ≤ 6 → P k (s.get k)) :
    P 1 s.pawns ∧ P 2 s.knights ∧ P 3 s.bishops ∧ P 4 s.rooks ∧ P 5 s.queens ∧ P 6 s.kings :=
  ⟨h 1 (by omega), h 2 (by omega), h 3 (by omega), h 4 (by omega), h 5 (by omega), h 6 (by omega)⟩

theorem holds_bit {b : Board} {p : APos} (h : Holds b p) (w : Bool) {k : Nat} (hk : 1 ≤ k ∧ k ≤ 6) {sq : Nat}
    (hsq : sq < 64) : testU (word (b.white, b.black) w k) sq = decide (p.at sq = some (w, k)) := by
  have := h w k sq hk hsq
  cases h1 : testU (word (b.white, b.black) w k) sq <;> simp_all

theorem coloredPiece_of_holds {b : Board} {p : APos} (h : Holds b p) (hv : p.Valid) {sq : Nat} (hsq : sq < 64) :
    coloredPiece b sq = some ((p.at sq).map fun c => pieceChar c.1 c.2) := by
  obtain ⟨w1, w2, w3, w4, w5, w6⟩ := of_get (s := b.white)
    (P := fun k x => testU x sq = decide (p.at sq = some (true, k))) fun k hk => holds_bit h true hk hsq
  obtain ⟨b1, b2, b3, b4, b5, b6⟩ := of_get (s := b.black)
    (P := fun k x => testU x sq = decide (p.at sq = some (false, k))) fun k hk => holds_bit h false hk hsq
  simp only [coloredPiece, Attack.pieceAt_bits _ hsq, w1, w2, w3, w4, w5, w6, b1, b2, b3, b4, b5, b6]
  cases hc : p.at sq with
  | none => simp
  | some c =>
    obtain ⟨w, k⟩ := c
    have hk := at_valid hv hc
    have : k = 1 ∨ k = 2 ∨ k = 3 ∨ k = 4 ∨ k = 5 ∨ k = 6 := by omega
    rcases this with rfl | rfl | rfl | rfl | rfl | rfl <;> cases w <;> simp <;> decide

theorem flush_eq {n : Nat} (h : n ≤ 8) : (if n > 0 then natToChars n else []) = flush n := by
  unfold flush
  by_cases h0 : n = 0
  · simp [h0]
  · have := digit_props (n := n) (by omega) h
    simp [h0, this.2.2.2.1, Nat.pos_of_ne_zero h0]

theorem printRank_eq {b : Board} {p : APos} (h : Holds b p) (hv : p.Valid) (rank : Nat) (hr : rank < 8) :
    ∀ (fuel file empty : Nat), file + fuel ≤ 8 → empty + fuel ≤ 8 →
      printRank b rank fuel file empty
        = some (compress ((List.range' file fuel).map fun f => p.at (f + 8 * rank)) empty) := by
  intro fuel
  induction fuel with
  | zero => intro file empty _ he; simp [printRank, compress, flush_eq (n := empty) (by omega)]
  | succ fuel ih =>
    intro file empty hf he
    rw [printRank, coloredPiece_of_holds h hv (by omega), List.range'_succ, List.map_cons]
    cases hc : p.at (file + 8 * rank) with
    | none => simp only [Option.map_none, compress]; exact ih (file + 1) (empty + 1) (by omega) (by omega)
    | some c =>
      obtain ⟨w, k⟩ := c
      simp only [Option.map_some, compress, ih (file + 1) 0 (by omega) (by omega),
        flush_eq (n := empty) (by omega)]

theorem printRanks_eq {b : Board} {p : APos} (h : Holds b p) (hv : p.Valid) :
    ∀ (fuel rank : Nat), rank + fuel = 8 →
      printRanks b fuel rank = some (joinWith '/' ((List.range' rank fuel).map (rankText p))) := by
  intro fuel
  induction fuel with
  | zero => intro rank _; simp [printRanks, joinWith]
  | succ fuel ih =>
    intro rank hr
    rw [printRanks, printRank_eq h hv rank (by omega) 8 0 0 (by omega) (by omega), ← rankText_eq, ih (rank + 1) (by omega),
      List.range'_succ, List.map_cons]
    cases fuel with
    | zero =>
      have : ¬ rank < 7 := by omega
      simp [joinWith, this]
    | succ fuel =>
      have : rank < 7 := by omega
      simp [joinWith, this, List.range'_succ]

structure SameMeta (b : Board) (p : APos) : Prop where
  turn : b.whiteTurn = p.whiteToMove
  wK : b.white.ks = p.wK
  wQ : b.white.qs = p.wQ
  bK : b.black.ks = p.bK
  bQ : b.black.qs = p.bQ
  ep : b.ep = epCode p.ep
  epNotA8 : p.ep ≠ some 0
  half : b.halfmove = p.half
  full : b.fullmove = p.full

theorem Decodes.sameMeta {b : Board} {p : APos} (h : Decodes b p) (hep : p.ep ≠ some 0) : SameMeta b p := by
  refine ⟨?_, h.wK, h.wQ, h.bK, h.bQ, h.ep, hep, h.half, h.full⟩
  simp only [Board.whiteTurn, h.turn]
  cases p.whiteToMove <;> rfl

theorem castlingText_eq (p : APos) : castlingText p =
    if ((if p.wK then ['K'] else []) ++ (if p.wQ then ['Q'] else []) ++ (if p.bK then ['k'] else [])
        ++ (if p.bQ then ['q'] else [])).isEmpty then ['-']
    else (if p.wK then ['K'] else []) ++ (if p.wQ then ['Q'] else []) ++ (if p.bK then ['k'] else [])
        ++ (if p.bQ then ['q'] else []) := rfl

/-- on a board that holds the pieces of `p` the serialiser does not panic and writes the canonical text of `p` -/
theorem printFen_eq {b : Board} {p : APos} (h : Holds b p) (hv : p.Valid) (hm : SameMeta b p) :
    printFen b = some (String.ofList (printA p)) := by
  have hep : (if b.ep == 0 then ['-'] else (squareString b.ep).toList) = epText p := by
    unfold epText
    have h1 := hm.ep; have h2 := hm.epNotA8
    cases hc : p.ep with
    | none => simp [hc, epCode] at h1; simp [h1]
    | some sq =>
      simp only [hc, epCode] at h1
      have : b.ep ≠ 0 := by
        rw [h1]; intro e; apply h2; rw [hc]; congr 1; exact Fin.ext e
      simp [this]; rw [h1]; exact squareString_toList sq.isLt
  have hpl : joinWith '/' ((List.range' 0 8).map (rankText p)) = placementText p := by
    simp [placementText, List.range_eq_range']
  have hs : printA p = placementText p ++ [' ', if b.whiteTurn then 'w' else 'b', ' ']
      ++ castlingText p ++ [' '] ++ epText p ++ [' '] ++ natToChars b.halfmove ++ [' '] ++ natToChars b.fullmove := by
    simp [printA, fields4, joinWith, sideText, hm.turn, hm.half, hm.full, natToChars_eq]
  unfold printFen
  rw [printRanks_eq h hv 8 0 rfl]
  -- folding the castling text back by name keeps the text syntactically equal to `hs`
  simp only [hep, hpl, hm.wK, hm.wQ, hm.bK, hm.bQ, ← castlingText_eq]
  rw [← hs, parseChars_printA hv]

/-- the boards the serialiser is meant for: the twelve piece sets pairwise disjoint (`WF.disjointAll`, the same
check `WF.wf` uses), side to move 0 or 1, the e.p. code a square index, both clocks 32-bit values.
(e.p. code 0 means "none"; it is also the index of a8, so a8 can never be stored as an e.p. square.) -/
structure Repr (b : Board) : Prop where
  disjoint : WF.disjointAll [b.white.pawns, b.white.knights, b.white.bishops, b.white.rooks, b.white.queens,
    b.white.kings, b.black.pawns, b.black.knights, b.black.bishops, b.black.rooks, b.black.queens,
    b.black.kings] = true
  turn : b.turn ≤ 1
  ep : b.ep < 64
  half : b.halfmove < 4294967296
  full : b.fullmove < 4294967296

/-- the content of a square of a bitboard: the first piece set (white before black, pawn … king) that has the bit -/
def cellOf (b : Board) (sq : Nat) : Cell :=
  if b.white.pieceAt sq != 0 then some (true, b.white.pieceAt sq)
  else if b.black.pieceAt sq != 0 then some (false, b.black.pieceAt sq)
  else none

def absOf (b : Board) : APos :=
  { pieces := fun sq => cellOf b sq.val
    whiteToMove := b.whiteTurn
    wK := b.white.ks, wQ := b.white.qs, bK := b.black.ks, bQ := b.black.qs
    ep := if h : b.ep < 64 ∧ b.ep ≠ 0 then some ⟨b.ep, h.1⟩ else none
    half := b.halfmove, full := b.fullmove }

theorem absOf_at (b : Board) {sq : Nat} (h : sq < 64) : (absOf b).at sq = cellOf b sq := by
  simp [APos.at, h, absOf]

theorem cellOf_eq_some {b : Board} {sq k : Nat} {w : Bool} : cellOf b sq = some (w, k) ↔
    k ≠ 0 ∧ if w then b.white.pieceAt sq = k else b.white.pieceAt sq = 0 ∧ b.black.pieceAt sq = k := by
  unfold cellOf
  by_cases hw : b.white.pieceAt sq = 0
  · by_cases hb : b.black.pieceAt sq = 0
    · cases w <;> simp [hw, hb] <;> omega
    · cases w <;> simp [hw, hb] <;> omega
  · cases w <;> simp [hw] <;> omega

theorem absOf_holds {b : Board} (h : Repr b) : Holds b (absOf b) := by
  intro w k sq hk hsq
  obtain ⟨hw, hb, hc⟩ := Attack.holds_of_disjoint h.disjoint
  have hw' : testU (b.white.get k) sq = true ↔ _ := hw.bit hk.1 hk.2 hsq
  have hb' : testU (b.black.get k) sq = true ↔ _ := hb.bit hk.1 hk.2 hsq
  have := hc sq hsq
  rw [absOf_at b hsq, cellOf_eq_some]
  cases w
  · exact hb'.trans ⟨fun e => ⟨by omega, by omega, e⟩, fun e => e.2.2⟩
  · exact hw'.trans ⟨fun e => ⟨by omega, e⟩, fun e => e.2⟩

theorem absOf_valid {b : Board} (h : Repr b) : (absOf b).Valid where
  kinds := by
    intro sq w k hc
    have h6w := Attack.pieceAt_le b.white sq.val
    have h6b := Attack.pieceAt_le b.black sq.val
    obtain ⟨hk0, hc⟩ := cellOf_eq_some.mp hc
    cases w <;> simp only [Bool.false_eq_true, if_false, if_true] at hc <;> omega
  half := h.half
  full := h.full

theorem absOf_meta {b : Board} (h : Repr b) : SameMeta b (absOf b) where
  turn := rfl
  wK := rfl
  wQ := rfl
  bK := rfl
  bQ := rfl
  ep := by
    simp only [absOf]
    split
    · rfl
    · rename_i hn
      have := h.ep
      simp only [epCode]; omega
  epNotA8 := by
    simp only [absOf]
    split
    · rename_i hn
      intro e
      simp only [Option.some.injEq] at e
      have := congrArg Fin.val e
      simp at this; exact hn.2 this
    · simp
  half := rfl
  full := rfl

theorem word_eq_of_holds {b b' : Board} {p : APos} (h : Holds b p) (h' : Holds b' p) (w : Bool) {k : Nat}
    (hk : 1 ≤ k ∧ k ≤ 6) : word (b'.white, b'.black) w k = word (b.white, b.black) w k := by
  apply ext_testU
  intro sq hsq
  rw [holds_bit h w hk hsq, holds_bit h' w hk hsq]

theorem vis_eq {b b' : Board} {p : APos} (hd : Decodes b' p) (h : Holds b p) (hm : SameMeta b p)
    (ht : b.turn ≤ 1) : WF.vis b' = WF.vis b := by
  have hw : WF.visSide b'.white = WF.visSide b.white := WF.visSide_of_words
    (fun k => word_eq_of_holds h hd.holds true (Attack.code_range k)) (hd.wK.trans hm.wK.symm) (hd.wQ.trans hm.wQ.symm)
  have hb : WF.visSide b'.black = WF.visSide b.black := WF.visSide_of_words
    (fun k => word_eq_of_holds h hd.holds false (Attack.code_range k)) (hd.bK.trans hm.bK.symm) (hd.bQ.trans hm.bQ.symm)
  have t : b'.turn = b.turn := by
    rw [hd.turn, ← hm.turn]
    have : b.turn = 0 ∨ b.turn = 1 := by omega
    rcases this with h0 | h0 <;> simp [Board.whiteTurn, h0]
  exact WF.vis_of_sides hw hb t (hd.ep.trans hm.ep.symm) (hd.half.trans hm.half.symm) (hd.full.trans hm.full.symm)

theorem ofList_ne_startpos {l : List Char} (h : ' ' ∈ l) : String.ofList l ≠ "startpos" := by
  intro e
  have : l = "startpos".toList := by rw [← e, String.toList_ofList]
  subst this
  revert h; decide

theorem fromFenString_ofList {l : List Char} (h : ' ' ∈ l) :
    fromFenString (String.ofList l) = match parseChars l with
      | .ok f => .ok (boardOfFields f)
      | .error e => .error e := by
  simp only [fromFenString, FenSyntax.parse, ofList_ne_startpos h, String.toList_ofList, if_false]
  cases parseChars l <;> rfl

theorem space_mem_printA (p : APos) : ' ' ∈ printA p := by
  simp [printA, fields4, joinWith]

theorem space_mem_printA4 (p : APos) : ' ' ∈ printA4 p := by
  simp [printA4, fields4, joinWith]

theorem decode_printA {p : APos} (hv : p.Valid) :
    ∃ b, fromFenString (String.ofList (printA p)) = .ok b ∧ Decodes b p :=
  ⟨boardOfFields (fieldsOf p), by rw [fromFenString_ofList (space_mem_printA p), parseChars_printA hv],
    decodes_boardOfFields hv rfl rfl rfl (ep_props p).2.1⟩

theorem printFen_absOf {b : Board} (h : Repr b) : printFen b = some (String.ofList (printA (absOf b))) :=
  printFen_eq (absOf_holds h) (absOf_valid h) (absOf_meta h)

theorem eq_vis_of_scratch {b' b : Board} (hv : WF.vis b' = WF.vis b) (hw : b'.white.o0 = 0) (hb : b'.black.o0 = 0) :
    b' = WF.vis b := by
  rw [← hv]
  obtain ⟨⟨_, _, _, _, _, _, _, _, _⟩, ⟨_, _, _, _, _, _, _, _, _⟩, _, _, _, _⟩ := b'
  simp only [WF.vis, WF.visSide] at *
  subst hw; subst hb; rfl

/-- reading the canonical text of a representable board gives the board itself with the two scratch words cleared -/
theorem fromFen_printA {b : Board} (h : Repr b) :
    fromFenString (String.ofList (printA (absOf b))) = .ok (WF.vis b) := by
  obtain ⟨b', h1, h2⟩ := decode_printA (absOf_valid h)
  rw [← eq_vis_of_scratch (vis_eq h2 (absOf_holds h) (absOf_meta h) h.turn) h2.wScratch h2.bScratch]
  exact h1

theorem print_parse_board' {b : Board} (h : Repr b) :
    ∃ s b', printFen b = some s ∧ fromFenString s = .ok b' ∧ WF.vis b' = WF.vis b :=
  ⟨_, _, printFen_absOf h, fromFen_printA h, rfl⟩

theorem char_between {lo hi c : Char} (h1 : lo ≤ c) (h2 : c ≤ hi) :
    c ∈ (List.range (hi.toNat + 1 - lo.toNat)).map fun i => Char.ofNat (lo.toNat + i) := by
  rw [CharRange.char_le_iff] at h1 h2
  exact CharRange.mem_of_toNat_range lo.toNat _ _
    (fun k hk => List.mem_map.mpr ⟨k, List.mem_range.mpr hk, rfl⟩) h1 (by omega)

theorem digit_char_props {c : Char} (h : isAsciiDigit c = true) :
    digitVal c < 10 ∧ Nat.digitChar (digitVal c) = c ∧ (c ≠ '0' → 0 < digitVal c) := by
  simp only [isAsciiDigit, Bool.and_eq_true, decide_eq_true_eq] at h
  have hm := char_between h.1 h.2
  have : ∀ c ∈ (List.range ('9'.toNat + 1 - '0'.toNat)).map (fun i => Char.ofNat ('0'.toNat + i)),
      digitVal c < 10 ∧ Nat.digitChar (digitVal c) = c ∧ (c ≠ '0' → 0 < digitVal c) := by decide +kernel
  exact this c hm

theorem cellsOfRank_ok {r : List Char} (h : r.all isPlacementChar = true) : CellsOK (cellsOfRank r) := by
  induction r with
  | nil => intro w k hm; simp [cellsOfRank] at hm
  | cons c r ih =>
    simp only [List.all_cons, Bool.and_eq_true] at h
    intro w k hm
    simp only [cellsOfRank, List.mem_append] at hm
    rcases hm with hm | hm
    · rcases placement_char_cases h.1 with hc | hc
      · simp [cellsOfChar, hc.1] at hm
      · simp only [cellsOfChar, hc.1, Bool.false_eq_true, ite_false, List.mem_singleton, Option.some.injEq,
          Prod.mk.injEq] at hm
        rw [hm.2]; exact ⟨hc.2.2.1, hc.2.2.2.1⟩
    · exact ih h.2 w k hm

theorem compress_replicate (d : Nat) (cs : List Cell) (n : Nat) :
    compress (List.replicate d none ++ cs) n = compress cs (n + d) := by
  induction d generalizing n with
  | zero => simp
  | succ d ih =>
    rw [List.replicate_succ, List.cons_append, compress, ih]
    congr 1; omega

theorem flush_pos {n : Nat} (h : 0 < n) : flush n = [digit n] := by
  simp [flush]; omega

theorem compress_cellsOfRank : ∀ (r : List Char), r.all isPlacementChar = true → hasAdjacentDigits r = false →
    ∀ n, (n = 0 ∨ ∀ c, r.head? = some c → isAsciiDigit c = false) → compress (cellsOfRank r) n = flush n ++ r
  | [], _, _, n, _ => by simp [cellsOfRank, compress]
  | c :: r, hall, hadj, n, hn => by
    simp only [List.all_cons, Bool.and_eq_true] at hall
    rcases placement_char_cases hall.1 with hc | hc
    · -- a digit: the pending run must be empty
      have n0 : n = 0 := by
        rcases hn with h | h
        · exact h
        · have := h c rfl; rw [hc.1] at this; cases this
      subst n0
      have hadj' : hasAdjacentDigits r = false ∧ ∀ c', r.head? = some c' → isAsciiDigit c' = false := by
        cases r with
        | nil => simp [hasAdjacentDigits]
        | cons c' r' =>
          simp only [hasAdjacentDigits, hc.1, Bool.true_and, Bool.or_eq_false_iff] at hadj
          simp [hadj.1, hadj.2]
      rw [cellsOfRank, cellsOfChar, if_pos hc.1, compress_replicate,
        compress_cellsOfRank r hall.2 hadj'.1 _ (.inr hadj'.2), Nat.zero_add, flush_pos hc.2.1, hc.2.2.2]
      simp [flush]
    · have hadj' : hasAdjacentDigits r = false := by
        rw [hasAdjacentDigits_cons_nondigit hc.1] at hadj; exact hadj
      rw [cellsOfRank, cellsOfChar, if_neg (by simp [hc.1]), List.singleton_append, compress,
        compress_cellsOfRank r hall.2 hadj' 0 (.inl rfl), hc.2.2.2.2]
      simp [flush]

theorem map_range8_getD {α : Type} (l : List α) (d : α) (h : l.length = 8) :
    (List.range 8).map (fun i => l.getD i d) = l := by
  match l, h with
  | [_, _, _, _, _, _, _, _], _ => rfl


theorem dropOpt_cases (c : Char) (l m : List Char) (h : dropOpt c l = m) : l = c :: m ∨ l = m := by
  cases l with
  | nil => right; simpa [dropOpt] using h
  | cons d ds =>
    simp only [dropOpt] at h
    split at h
    · left; subst_vars; rfl
    · right; exact h

/-- the sixteen castling fields of the grammar -/
def castlingFields : List (List Char) :=
  [['-'], ['K'], ['Q'], ['k'], ['q'], ['K', 'Q'], ['K', 'k'], ['K', 'q'], ['Q', 'k'], ['Q', 'q'], ['k', 'q'],
   ['K', 'Q', 'k'], ['K', 'Q', 'q'], ['K', 'k', 'q'], ['Q', 'k', 'q'], ['K', 'Q', 'k', 'q']]

theorem castling_enum {k : List Char} (h : castlingShapeOk k = true) : k ∈ castlingFields := by
  unfold castlingShapeOk at h
  split at h
  · subst_vars; decide
  · simp only [Bool.and_eq_true, Bool.not_eq_true', List.isEmpty_iff] at h
    obtain ⟨hne, h4⟩ := h
    rcases dropOpt_cases _ _ _ h4 with h3 | h3 <;>
    rcases dropOpt_cases _ _ _ h3 with h2 | h2 <;>
    rcases dropOpt_cases _ _ _ h2 with h1 | h1 <;>
    rcases dropOpt_cases _ _ _ h1 with h0 | h0 <;>
    (subst h0; first | (simp at hne; done) | decide)

theorem castling_roundtrip {k : List Char} (h : castlingShapeOk k = true) :
    (let s := (if k.contains 'K' then ['K'] else []) ++ (if k.contains 'Q' then ['Q'] else [])
        ++ (if k.contains 'k' then ['k'] else []) ++ (if k.contains 'q' then ['q'] else [])
     if s.isEmpty then ['-'] else s) = k := by
  have : ∀ k ∈ castlingFields,
      (let s := (if k.contains 'K' then ['K'] else []) ++ (if k.contains 'Q' then ['Q'] else [])
          ++ (if k.contains 'k' then ['k'] else []) ++ (if k.contains 'q' then ['q'] else [])
       if s.isEmpty then ['-'] else s) = k := by decide +kernel
  exact this k (castling_enum h)

/-- the e.p. field as the serialiser will write it: `a8` cannot be stored (code 0 = none) and comes back as `-` -/
def canonEp (e : List Char) : List Char := if e = ['a', '8'] then ['-'] else e

/-- the e.p. square an accepted e.p. field stands for (the unstorable a8 counts as none) -/
def epOfField (e : List Char) : Option (Fin 64) :=
  if e = ['-'] ∨ squareOfName e % 64 = 0 then none else some ⟨squareOfName e % 64, Nat.mod_lt _ (by decide)⟩

theorem epShapeOk_iff {e : List Char} : epShapeOk e = true ↔
    e = ['-'] ∨ ∃ fl rk, e = [fl, rk] ∧ 'a' ≤ fl ∧ fl ≤ 'h' ∧ '1' ≤ rk ∧ rk ≤ '8' := by
  unfold epShapeOk
  split
  · simp
  · simp [and_assoc]
  · rename_i h1 h2
    simp only [Bool.false_eq_true, false_iff, not_or, not_exists, not_and]
    exact ⟨h1, fun fl rk e => absurd e (h2 fl rk)⟩

theorem ep_enum {e : List Char} (h : epShapeOk e = true) :
    e = ['-'] ∨ (squareOfName e < 64 ∧ squareName (squareOfName e) = e) := by
  rcases epShapeOk_iff.mp h with rfl | ⟨f, r, rfl, hf1, hf2, hr1, hr2⟩
  · exact .inl rfl
  · have : ∀ f ∈ (List.range ('h'.toNat + 1 - 'a'.toNat)).map (fun i => Char.ofNat ('a'.toNat + i)),
        ∀ r ∈ (List.range ('8'.toNat + 1 - '1'.toNat)).map (fun i => Char.ofNat ('1'.toNat + i)),
        squareOfName [f, r] < 64 ∧ squareName (squareOfName [f, r]) = [f, r] := by decide +kernel
    exact .inr (this f (char_between hf1 hf2) r (char_between hr1 hr2))

theorem ep_roundtrip {e : List Char} (h : epShapeOk e = true) :
    (match epOfField e with | none => ['-'] | some sq => squareName sq.val) = canonEp e
    ∧ epCode (epOfField e) = (if e = ['-'] then 0 else squareOfName e) ∧ epOfField e ≠ some 0 := by
  rcases ep_enum h with rfl | ⟨h1, h2⟩
  · decide
  · have : ∀ sq : Fin 64,
        (match epOfField (squareName sq.val) with | none => ['-'] | some sq => squareName sq.val)
          = canonEp (squareName sq.val)
        ∧ epCode (epOfField (squareName sq.val))
          = (if squareName sq.val = ['-'] then 0 else squareOfName (squareName sq.val))
        ∧ epOfField (squareName sq.val) ≠ some 0 := by decide +kernel
    have := this ⟨squareOfName e, h1⟩
    rw [h2] at this
    exact this

theorem toDigits_decimalValue_rev : ∀ (rs : List Char), rs ≠ [] → rs.all isAsciiDigit = true →
    rs.reverse.head? ≠ some '0' →
    Nat.toDigits 10 (decimalValue rs.reverse) = rs.reverse ∧ 0 < decimalValue rs.reverse
  | [], h, _, _ => absurd rfl h
  | [d], _, hall, hz => by
    simp only [List.all_cons, List.all_nil, Bool.and_true] at hall
    have hd := digit_char_props hall
    have : d ≠ '0' := by simpa using hz
    have hv : decimalValue [d] = digitVal d := by simp [decimalValue]
    simp only [List.reverse_singleton, hv]
    exact ⟨by rw [Nat.toDigits_of_lt_base hd.1, hd.2.1], hd.2.2 this⟩
  | d :: d' :: rs, _, hall, hz => by
    simp only [List.all_cons, Bool.and_eq_true] at hall
    have hd := digit_char_props hall.1
    have hz' : (d' :: rs).reverse.head? ≠ some '0' := by
      intro e
      apply hz
      rw [List.reverse_cons, List.head?_append, e]; rfl
    have ih := toDigits_decimalValue_rev (d' :: rs) (by simp) (by simpa using hall.2) hz'
    rw [List.reverse_cons, Text.decimalValue_snoc]
    constructor
    · rw [← Nat.toDigits_append_toDigits (by decide) ih.2 hd.1, ih.1, Nat.toDigits_of_lt_base hd.1, hd.2.1]
    · omega

def NoLeadingZero (s : List Char) : Prop := s = ['0'] ∨ s.head? ≠ some '0'

theorem decimal_decimalValue {s : List Char} (hne : s ≠ []) (hall : s.all isAsciiDigit = true)
    (hz : NoLeadingZero s) : decimal (decimalValue s) = s := by
  rcases hz with rfl | hz
  · decide
  · have := toDigits_decimalValue_rev s.reverse (by simpa using hne) (by simpa using hall)
      (by simpa using hz)
    simpa [decimal] using this.1

theorem getD_mem {α : Type} (l : List α) (d : α) {i : Nat} (h : i < l.length) : l.getD i d ∈ l := by
  rw [List.getD_eq_getElem?_getD, List.getElem?_eq_getElem h]
  simp

def posOfFields (f : FenFields) : APos :=
  { pieces := fun sq => (cellsOfRank ((splitOnChar '/' f.placement).getD (sq.val / 8) [])).getD (sq.val % 8) none
    whiteToMove := f.side = 'w'
    wK := f.castling.contains 'K', wQ := f.castling.contains 'Q'
    bK := f.castling.contains 'k', bQ := f.castling.contains 'q'
    ep := epOfField f.ep
    half := f.half, full := f.full }

/-- the canonical text of accepted fields: the text itself with `a8` as e.p. field replaced by `-` and the clocks
(given or defaulted) written without leading zeros -/
def canonText (f : FenFields) : List Char :=
  joinWith ' ' [f.placement, [f.side], f.castling, canonEp f.ep, decimal f.half, decimal f.full]

theorem clockOk_lt {s : List Char} (h : clockOk s = true) :
    s ≠ [] ∧ s.all isAsciiDigit = true ∧ decimalValue s < 4294967296 := by
  simp only [clockOk, Bool.and_eq_true, Bool.not_eq_true', List.isEmpty_eq_false_iff, decide_eq_true_eq] at h
  exact ⟨h.1.1, h.1.2, h.2⟩

theorem clocks_lt {l : List Char} {f : FenFields} (h : parseChars l = .ok f) :
    f.half < 4294967296 ∧ f.full < 4294967296 := by
  rcases (parseChars_ok h).2.2.2.2.2 with h6 | ⟨hs, fs, h6⟩
  · rw [h6.2.1, h6.2.2.1]; decide
  · rw [h6.2.2.2.2.1, h6.2.2.2.2.2]; exact ⟨(clockOk_lt h6.2.2.1).2.2, (clockOk_lt h6.2.2.2.1).2.2⟩

theorem posOfFields_at {f : FenFields} {row file : Nat} (hf : file < 8) (hr : row < 8) :
    (posOfFields f).at (file + 8 * row)
      = (cellsOfRank ((splitOnChar '/' f.placement).getD row [])).getD file none := by
  have h1 : file + 8 * row < 64 := by omega
  have h2 : (file + 8 * row) / 8 = row := by omega
  have h3 : (file + 8 * row) % 8 = file := by omega
  simp [APos.at, h1, posOfFields, h2, h3]

theorem posOfFields_spec {l : List Char} {f : FenFields} (h : parseChars l = .ok f) :
    (posOfFields f).Valid ∧ placementText (posOfFields f) = f.placement
    ∧ printA (posOfFields f) = canonText f := by
  obtain ⟨h1, h2, h3, h4, h5, -⟩ := parseChars_ok h
  obtain ⟨hlen, hranks⟩ := placement_ok h1 h2
  have hmem : ∀ row, row < 8 → (splitOnChar '/' f.placement).getD row [] ∈ splitOnChar '/' f.placement := by
    intro row hrow
    exact getD_mem _ _ (by omega)
  have hv : (posOfFields f).Valid := by
    refine ⟨?_, (clocks_lt h).1, (clocks_lt h).2⟩
    · intro sq w k hc
      simp only [posOfFields] at hc
      have hm := hmem (sq.val / 8) (by omega)
      have hok := cellsOfRank_ok (hranks _ hm).1
      apply hok w k
      have hl : sq.val % 8 < (cellsOfRank ((splitOnChar '/' f.placement).getD (sq.val / 8) [])).length := by
        rw [length_cellsOfRank, (hranks _ hm).2.1]; omega
      rw [← hc]; exact getD_mem _ _ hl
  have hrank : ∀ row, row < 8 → rankText (posOfFields f) row = (splitOnChar '/' f.placement).getD row [] := by
    intro row hrow
    have hm := hranks _ (hmem row hrow)
    have hcells : rankCells (posOfFields f) row = cellsOfRank ((splitOnChar '/' f.placement).getD row []) := by
      rw [← map_range8_getD (cellsOfRank _) none (by rw [length_cellsOfRank, hm.2.1])]
      simp only [rankCells]
      apply List.map_congr_left
      intro file hfile
      exact posOfFields_at (by simpa using hfile) hrow
    rw [rankText, hcells, compress_cellsOfRank _ hm.1 hm.2.2 0 (.inl rfl)]
    simp [flush]
  have hpl : placementText (posOfFields f) = f.placement := by
    rw [placementText]
    have : (List.range 8).map (rankText (posOfFields f))
        = (List.range 8).map (fun i => (splitOnChar '/' f.placement).getD i []) := by
      apply List.map_congr_left
      intro row hrow
      exact hrank row (by simpa using hrow)
    rw [this, map_range8_getD _ _ hlen, joinWith_splitOnChar]
  refine ⟨hv, hpl, ?_⟩
  have hside : sideText (posOfFields f) = [f.side] := by
    rcases h3 with h3 | h3 <;> simp [sideText, posOfFields, h3]
  have hcast : castlingText (posOfFields f) = f.castling := castling_roundtrip h4
  have hep : epText (posOfFields f) = canonEp f.ep := (ep_roundtrip h5).1
  simp only [printA, fields4, canonText, hpl, hside, hcast, hep]
  rfl

theorem printFen_boardOfFields {l : List Char} {f : FenFields} (h : parseChars l = .ok f) :
    printFen (boardOfFields f) = some (String.ofList (canonText f)) := by
  obtain ⟨hv, hpl, hprint⟩ := posOfFields_spec h
  obtain ⟨_, _, h3, h4, h5, _⟩ := parseChars_ok h
  have hside : f.side = if (posOfFields f).whiteToMove then 'w' else 'b' := by
    rcases h3 with h3 | h3 <;> simp [posOfFields, h3]
  have hd := decodes_boardOfFields hv hpl.symm hside (castling_roundtrip h4).symm (ep_roundtrip h5).2.1.symm
  rw [← hprint]
  exact printFen_eq hd.holds hv (hd.sameMeta (ep_roundtrip h5).2.2)

end Inkayaku.FenRoundtrip
