import Inkayaku.Model.FenSyntax
/-!
Characters given by their code point: a character whose code lies in a short interval is a member of a literal list
as soon as the characters with the codes of that interval are -- a finite fact, checked by `decide` at each use.

Bytes: the PGN reader builds its strings by `byte as char`; a byte value survives `Char.ofNat` / `Char.toNat`.

Decimal numerals: the models and specifications write numbers by the same recursion in several places; each of them is
`Nat.toDigits 10` (`eq_toDigits`), and what the readers need of a numeral is said once, from the lemmas of core.
-/
namespace Inkayaku.CharRange

theorem char_le_iff (a c : Char) : a ≤ c ↔ a.toNat ≤ c.toNat := by
  rw [Char.le_def, UInt32.le_iff_toNat_le]; rfl

theorem isAsciiDigit_iff (c : Char) : FenSyntax.isAsciiDigit c = true ↔ 48 ≤ c.toNat ∧ c.toNat ≤ 57 := by
  simp only [FenSyntax.isAsciiDigit, Bool.and_eq_true, decide_eq_true_eq, char_le_iff]; exact Iff.rfl

theorem char_of_toNat {c : Char} {n : Nat} (h : c.toNat = n) : c = Char.ofNat n := by
  rw [← h, Char.ofNat_toNat]

theorem mem_of_toNat_range (lo n : Nat) (l : List Char) (hl : ∀ k < n, Char.ofNat (lo + k) ∈ l) {c : Char}
    (h1 : lo ≤ c.toNat) (h2 : c.toNat < lo + n) : c ∈ l := by
  have h := hl (c.toNat - lo) (by omega)
  rwa [show lo + (c.toNat - lo) = c.toNat by omega, Char.ofNat_toNat] at h

/-- below the surrogates every number is a code point -/
theorem toNat_ofNat_byte {n : Nat} (h : n < 256) : (Char.ofNat n).toNat = n := by
  have hv : n.isValidChar := Or.inl (by omega)
  simp only [Char.ofNat, hv, dite_true, Char.ofNatAux, Char.toNat]
  rfl

theorem ofNat_byte_toNat {c : Char} (h : c.toNat < 256) : Char.ofNat (UInt8.ofNat c.toNat).toNat = c := by
  rw [UInt8.toNat_ofNat', Nat.mod_eq_of_lt h, Char.ofNat_toNat]

theorem eq_toDigits (f : Nat → List Char)
    (h : ∀ n, f n = if n < 10 then [Char.ofNat (48 + n)] else f (n / 10) ++ [Char.ofNat (48 + n % 10)]) :
    ∀ n, f n = Nat.toDigits 10 n := by
  have hd : ∀ r, r < 10 → Char.ofNat (48 + r) = Nat.digitChar r := by decide
  intro n
  induction n using Nat.strongRecOn with
  | _ n ih =>
    rw [h]
    split
    · next hn => rw [Nat.toDigits_of_lt_base hn, hd n hn]
    · next hn =>
      rw [ih (n / 10) (by omega), hd _ (by omega), ← Nat.toDigits_of_lt_base (b := 10) (by omega),
        Nat.toDigits_append_toDigits (by decide) (by omega) (by omega)]
      congr 1; omega

/-- a numeral is not empty, consists of the characters `0`..`9`, and is read back (`Nat.ofDigitChars 10 · 0` is the fold
`acc ↦ 10 * acc + (c - '0')` of the readers) -/
theorem toDigits_props (n : Nat) :
    Nat.toDigits 10 n ≠ [] ∧ (∀ c ∈ Nat.toDigits 10 n, 48 ≤ c.toNat ∧ c.toNat ≤ 57)
    ∧ Nat.ofDigitChars 10 (Nat.toDigits 10 n) 0 = n := by
  refine ⟨Nat.toDigits_ne_nil, fun c hc => ?_, Nat.ofDigitChars_ten_toDigits⟩
  have := Nat.isDigit_of_mem_toDigits (by decide) (by decide) hc
  simpa [Char.isDigit, Char.le_def, UInt32.le_iff_toNat_le] using this

theorem toDigits_head_zero (n : Nat) (h : (Nat.toDigits 10 n).head? = some '0') : n = 0 := by
  induction n using Nat.strongRecOn with
  | _ n ih =>
    by_cases hn : n < 10
    · rw [Nat.toDigits_of_lt_base hn] at h
      have key : ∀ k, k < 10 → [Nat.digitChar k].head? = some '0' → k = 0 := by decide
      exact key n hn h
    · have e := Nat.toDigits_append_toDigits (b := 10) (n := n / 10) (d := n % 10) (by decide) (by omega) (by omega)
      rw [show 10 * (n / 10) + n % 10 = n by omega] at e
      rw [← e, List.head?_append] at h
      cases hh : (Nat.toDigits 10 (n / 10)).head? with
      | none => exact absurd (List.head?_eq_none_iff.mp hh) Nat.toDigits_ne_nil
      | some c =>
        rw [hh] at h
        have := ih (n / 10) (by omega) (hh.trans (by simpa using h))
        omega

end Inkayaku.CharRange
