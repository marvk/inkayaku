import Inkayaku.Spec.Rays
import Inkayaku.Spec.Chess
import Inkayaku.Proofs.RayWalk
/-!
The two descriptions of piece movement agree: `Spec.Rays` (what C04 says the attack tables hold: ray walks `slide`, step sets
`stepAttacks`) and the rules' arithmetic of `Spec.Chess` (`attacksGeom`).  The notion both circle around is the difference
vector of two squares: a leaper attacks `b` from `a` iff `b - a` is one of its steps (`stepAttacks_testBit`); the `i`-th
square of a ray in direction `d` is the board square with `b - a = (i + 1) • d` (`ray_getElem?`).  All of it is arithmetic; the
tables of the build enter in C04 only.
-/
namespace Inkayaku.Geometry
open Inkayaku.Spec Inkayaku.Rays

/-! ## The Spec's predicates, with the position factored out -/

/-- the squares `Spec.clearBetween` inspects, in its order (from `a` towards `b`) -/
def between (a b : Nat) : List Nat :=
  let df := sgn (fileOf b - fileOf a)
  let dr := sgn (rowOf b - rowOf a)
  let n := max (fileOf b - fileOf a).natAbs (rowOf b - rowOf a).natAbs
  (List.range (n - 1)).map fun i => mkSq (fileOf a + df * (i + 1 : Nat)) (rowOf a + dr * (i + 1 : Nat))

theorem clearBetween_eq (p : Pos) (a b : Nat) :
    clearBetween p a b = (between a b).all fun q => (p.at q).isNone := by
  simp [clearBetween, between, List.all_map, Function.comp_def]

def rookLine (a b : Nat) : Bool :=
  a != b && ((fileOf b - fileOf a).natAbs == 0 || (rowOf b - rowOf a).natAbs == 0)
def bishLine (a b : Nat) : Bool :=
  a != b && ((fileOf b - fileOf a).natAbs == (rowOf b - rowOf a).natAbs)
def knightGeom (a b : Nat) : Bool :=
  a != b && (((fileOf b - fileOf a).natAbs == 1 && (rowOf b - rowOf a).natAbs == 2)
    || ((fileOf b - fileOf a).natAbs == 2 && (rowOf b - rowOf a).natAbs == 1))
def kingGeom (a b : Nat) : Bool :=
  a != b && (decide ((fileOf b - fileOf a).natAbs ≤ 1) && decide ((rowOf b - rowOf a).natAbs ≤ 1))
def pawnGeom (white : Bool) (a b : Nat) : Bool :=
  a != b && ((fileOf b - fileOf a).natAbs == 1 && rowOf b - rowOf a == (if white then -1 else 1))

/-- every square met on a ray from `a` is on the line, is a board square, and the ray squares before it are exactly
the squares the Spec calls "strictly between", in the same order -/
def rayOK (dirs : List Dir) (line : Nat → Nat → Bool) : Bool :=
  (List.range 64).all fun a => dirs.all fun d =>
    (List.range (ray a d).length).all fun i =>
      line a ((ray a d).getD i 0) && ((ray a d).take i == between a ((ray a d).getD i 0))
        && decide ((ray a d).getD i 0 < 64)

theorem onBoard_sqOf (f r : Int) {b : Nat} (hb : b < 64) :
    (onBoard f r = true ∧ sqOf f r = b) ↔ f = fileOf b ∧ r = rowOf b := by
  simp only [onBoard, sqOf, fileOf, rowOf, Bool.and_eq_true, decide_eq_true_eq]
  omega

theorem foldl_step_testBit (steps : List Dir) (sq b acc : Nat) :
    (steps.foldl (fun acc d =>
      let f : Int := (sq % 8 : Nat) + d.1
      let r : Int := (sq / 8 : Nat) + d.2
      if onBoard f r then acc ||| bit (sqOf f r) else acc) acc).testBit b = true ↔
      acc.testBit b = true ∨ ∃ d ∈ steps, onBoard (fileOf sq + d.1) (rowOf sq + d.2) = true ∧
        sqOf (fileOf sq + d.1) (rowOf sq + d.2) = b := by
  induction steps generalizing acc with
  | nil => simp
  | cons d ds ih =>
    rw [List.foldl_cons, ih]
    simp only [List.mem_cons, exists_eq_or_imp, fileOf, rowOf]
    split
    · next h => simp only [Nat.testBit_or, RayWalk.testBit_bit, Bool.or_eq_true, decide_eq_true_eq, or_assoc, h, true_and]
    · next h => simp only [h, Bool.false_eq_true, false_and, false_or]

theorem stepAttacks_testBit (steps : List Dir) (a : Nat) {b : Nat} (hb : b < 64) :
    (stepAttacks steps a).testBit b = true ↔ (fileOf b - fileOf a, rowOf b - rowOf a) ∈ steps := by
  unfold stepAttacks
  rw [foldl_step_testBit, Nat.zero_testBit, or_iff_right Bool.false_ne_true]
  simp only [onBoard_sqOf _ _ hb]
  constructor
  · rintro ⟨d, hd, h1, h2⟩
    have e : d = (fileOf b - fileOf a, rowOf b - rowOf a) := Prod.ext (by simp only; omega) (by simp only; omega)
    rwa [← e]
  · intro h
    exact ⟨_, h, by simp only; omega, by simp only; omega⟩

theorem ne_iff_diff (a b : Nat) : a ≠ b ↔ ¬ (fileOf b - fileOf a = 0 ∧ rowOf b - rowOf a = 0) := by
  simp only [fileOf, rowOf]; omega

theorem knight_steps (a b : Nat) : knightGeom a b = true ↔ (fileOf b - fileOf a, rowOf b - rowOf a) ∈ knightSteps := by
  simp only [knightGeom, Bool.and_eq_true, Bool.or_eq_true, bne_iff_ne, beq_iff_eq, ne_iff_diff]
  generalize fileOf b - fileOf a = x
  generalize rowOf b - rowOf a = y
  simp only [knightSteps, List.mem_cons, List.not_mem_nil, or_false, Prod.mk.injEq]
  -- a single `omega` on this goal (eight steps against two `natAbs`) runs for 20 s; fixing the signs first and deciding each of
  -- the eight closed cases takes milliseconds
  constructor
  · rintro ⟨-, ⟨h1, h2⟩ | ⟨h1, h2⟩⟩ <;> rcases Int.natAbs_eq x with h | h <;> rcases Int.natAbs_eq y with h' | h' <;>
      rw [h1] at h <;> rw [h2] at h' <;> subst h h' <;> decide
  · rintro (⟨rfl, rfl⟩ | ⟨rfl, rfl⟩ | ⟨rfl, rfl⟩ | ⟨rfl, rfl⟩ | ⟨rfl, rfl⟩ | ⟨rfl, rfl⟩ | ⟨rfl, rfl⟩ | ⟨rfl, rfl⟩) <;> decide

theorem mem_kingSteps {d : Dir} : d ∈ kingSteps ↔
    (d.1 = -1 ∨ d.1 = 0 ∨ d.1 = 1) ∧ (d.2 = -1 ∨ d.2 = 0 ∨ d.2 = 1) ∧ ¬ (d.1 = 0 ∧ d.2 = 0) := by
  obtain ⟨x, y⟩ := d
  constructor
  · intro hd
    simp only [kingSteps, rookDirs, bishopDirs, List.cons_append, List.nil_append, List.mem_cons, List.not_mem_nil, or_false,
      Prod.mk.injEq] at hd
    rcases hd with ⟨rfl, rfl⟩ | ⟨rfl, rfl⟩ | ⟨rfl, rfl⟩ | ⟨rfl, rfl⟩ | ⟨rfl, rfl⟩ | ⟨rfl, rfl⟩ | ⟨rfl, rfl⟩ | ⟨rfl, rfl⟩ <;> decide
  · rintro ⟨rfl | rfl | rfl, rfl | rfl | rfl, h0⟩ <;> first | exact absurd ⟨rfl, rfl⟩ h0 | decide

theorem neg_mem_kingSteps {d : Dir} (hd : d ∈ kingSteps) : (-d.1, -d.2) ∈ kingSteps := by
  rw [mem_kingSteps] at *
  simp only
  omega

theorem king_steps (a b : Nat) : kingGeom a b = true ↔ (fileOf b - fileOf a, rowOf b - rowOf a) ∈ kingSteps := by
  simp only [mem_kingSteps, kingGeom, Bool.and_eq_true, decide_eq_true_eq, bne_iff_ne, ne_iff_diff]
  omega

theorem pawn_steps (w : Bool) (a b : Nat) :
    pawnGeom w a b = true ↔ (fileOf b - fileOf a, rowOf b - rowOf a) ∈ (if w then whitePawnSteps else blackPawnSteps) := by
  cases w <;>
  simp only [pawnGeom, whitePawnSteps, blackPawnSteps, List.mem_cons, List.not_mem_nil, or_false, Prod.mk.injEq,
    Bool.and_eq_true, bne_iff_ne, beq_iff_eq, ne_iff_diff, if_true, if_false, Bool.false_eq_true] <;>
  omega

theorem natAbs_sub_comm (x y : Int) : (x - y).natAbs = (y - x).natAbs := by omega

theorem knight_symm (a b : Nat) : knightGeom a b = knightGeom b a := by
  simp only [knightGeom, natAbs_sub_comm (fileOf b), natAbs_sub_comm (rowOf b), bne_comm (a := a)]

theorem king_symm (a b : Nat) : kingGeom a b = kingGeom b a := by
  simp only [kingGeom, natAbs_sub_comm (fileOf b), natAbs_sub_comm (rowOf b), bne_comm (a := a)]

theorem pawn_symm (a b : Nat) : pawnGeom true a b = pawnGeom false b a := by
  simp only [pawnGeom, natAbs_sub_comm (fileOf b), bne_comm (a := a)]
  congr 2
  simp only [if_true, Bool.false_eq_true, if_false]
  rw [Bool.eq_iff_iff]
  simp only [beq_iff_eq]
  omega

theorem rookLine_symm (a b : Nat) : rookLine a b = rookLine b a := by
  simp only [rookLine, natAbs_sub_comm (fileOf b), natAbs_sub_comm (rowOf b), bne_comm (a := a)]

theorem bishLine_symm (a b : Nat) : bishLine a b = bishLine b a := by
  simp only [bishLine, natAbs_sub_comm (fileOf b), natAbs_sub_comm (rowOf b), bne_comm (a := a)]

theorem line_disj (a c : Nat) : ¬ (rookLine a c = true ∧ bishLine a c = true) := by
  simp only [rookLine, bishLine, fileOf, rowOf, Bool.and_eq_true, Bool.or_eq_true, bne_iff_ne, beq_iff_eq]
  omega

/-- a pawn capture changes the file, a push does not -/
theorem push_not_cap (w : Bool) {s t : Nat} (hg : pawnGeom w s t = true) (h8 : 8 ≤ s) :
    t ≠ s - 8 ∧ t ≠ s + 8 ∧ (48 ≤ s → t ≠ s - 16) ∧ t ≠ s + 16 := by
  simp only [pawnGeom, fileOf, rowOf, Bool.and_eq_true, bne_iff_ne, beq_iff_eq] at hg
  omega

/-! ## Sliders: the rays of `Spec.Rays` are the lines of the rules

The `i`-th square of the ray from `a` in direction `d` is the board square whose difference from `a` is `(i + 1) • d`
(`ray_getElem?`); for such a square the rules' `between` lists the ray squares before it (`ray_take`), and the rules' lines
are the positive multiples of the directions (`rookLine_iff`, `bishLine_iff`). -/

def Along (d : Dir) (n a b : Nat) : Prop :=
  fileOf b - fileOf a = n * d.1 ∧ rowOf b - rowOf a = n * d.2

theorem Along.add_iff {d : Dir} {m n a q b : Nat} (h : Along d m a q) : Along d (m + n) a b ↔ Along d n q b := by
  unfold Along at *
  rw [Int.natCast_add, Int.add_mul, Int.add_mul]
  omega

theorem Along.symm {d : Dir} {n a b : Nat} (h : Along d n a b) : Along (-d.1, -d.2) n b a := by
  unfold Along at *
  simp only [Int.mul_neg]
  omega

theorem rayFrom_getElem? (d : Dir) (fuel : Nat) (f r : Int) (i b : Nat) :
    (rayFrom d fuel f r)[i]? = some b ↔
      i < fuel ∧ (∀ j, j ≤ i → onBoard (f + (j + 1 : Nat) * d.1) (r + (j + 1 : Nat) * d.2) = true) ∧
        b = sqOf (f + (i + 1 : Nat) * d.1) (r + (i + 1 : Nat) * d.2) := by
  induction fuel generalizing f r i with
  | zero => simp [rayFrom]
  | succ n ih =>
    have step : ∀ j : Nat, ∀ x y : Int, x + y + ((j + 1 : Nat) : Int) * y = x + ((j + 1 + 1 : Nat) : Int) * y := by
      intro j x y
      rw [Int.natCast_add (j + 1) 1, Int.add_mul, Int.natCast_one, Int.one_mul]; omega
    have one : ∀ x y : Int, x + ((0 + 1 : Nat) : Int) * y = x + y := by intro x y; simp
    unfold rayFrom
    simp only
    split
    · next hon =>
      cases i with
      | zero =>
        simp only [List.getElem?_cons_zero, Option.some.injEq, Nat.zero_lt_succ, true_and, Nat.le_zero_eq, forall_eq, one, hon]
        exact eq_comm
      | succ i =>
        rw [List.getElem?_cons_succ, ih]
        simp only [step, Nat.add_lt_add_iff_right]
        refine and_congr_right fun _ => and_congr_left' ⟨fun h j hj => ?_, fun h j hj => h (j + 1) (by omega)⟩
        cases j with
        | zero => simpa only [one] using hon
        | succ j => exact h j (by omega)
    · next hoff =>
      simp only [List.getElem?_nil, reduceCtorEq, false_iff, not_and]
      intro _ h
      exact absurd (by simpa only [one] using h 0 (Nat.zero_le _)) hoff

theorem ray_getElem? {a : Nat} (ha : a < 64) {d : Dir} (hd : d ∈ kingSteps) (i b : Nat) :
    (ray a d)[i]? = some b ↔ b < 64 ∧ Along d (i + 1) a b := by
  obtain ⟨h1, h2, h0⟩ := mem_kingSteps.mp hd
  unfold ray
  rw [rayFrom_getElem?]
  constructor
  · rintro ⟨-, hon, rfl⟩
    have := hon i (Nat.le_refl i)
    simp only [onBoard, Bool.and_eq_true, decide_eq_true_eq] at this
    simp only [Along, sqOf, fileOf, rowOf]
    omega
  · rintro ⟨hb, hf, hr⟩
    simp only [fileOf, rowOf] at hf hr
    refine ⟨?_, fun j hj => ?_, ?_⟩
    · rcases h1 with e | e | e <;> rcases h2 with e' | e' | e' <;> rw [e] at hf h0 <;> rw [e'] at hr h0 <;> omega
    · simp only [onBoard, Bool.and_eq_true, decide_eq_true_eq]
      rcases h1 with e | e | e <;> rcases h2 with e' | e' | e' <;> rw [e] at hf ⊢ <;> rw [e'] at hr ⊢ <;> omega
    · simp only [sqOf]; omega

theorem sgn_steps (n : Nat) {x : Int} (hx : x = -1 ∨ x = 0 ∨ x = 1) : sgn ((n + 1 : Nat) * x) = x := by
  unfold sgn
  rcases hx with rfl | rfl | rfl <;> split <;> (try split) <;> omega

theorem ray_take {a : Nat} (ha : a < 64) {d : Dir} (hd : d ∈ kingSteps) {i b : Nat} (h : (ray a d)[i]? = some b) :
    (ray a d).take i = between a b := by
  obtain ⟨-, hf, hr⟩ := (ray_getElem? ha hd i b).mp h
  obtain ⟨h1, h2, h0⟩ := mem_kingSteps.mp hd
  obtain ⟨hi, hon, -⟩ := (rayFrom_getElem? d 7 _ _ i b).mp h
  have hn : max (((i + 1 : Nat) : Int) * d.1).natAbs (((i + 1 : Nat) : Int) * d.2).natAbs - 1 = i := by
    rcases h1 with e | e | e <;> rcases h2 with e' | e' | e' <;> rw [e] at h0 ⊢ <;> rw [e'] at h0 ⊢ <;> omega
  apply List.ext_getElem?
  intro j
  unfold between
  simp only [hf, hr, hn, sgn_steps i h1, sgn_steps i h2, List.getElem?_take, List.getElem?_map]
  by_cases hj : j < i
  · have : (ray a d)[j]? = some (sqOf (fileOf a + (j + 1 : Nat) * d.1) (rowOf a + (j + 1 : Nat) * d.2)) :=
      (rayFrom_getElem? d 7 _ _ j _).mpr ⟨by omega, fun j' hj' => hon j' (by omega), rfl⟩
    simp only [hj, if_true, this, List.getElem?_range hj, Option.map_some, mkSq, sqOf, Int.mul_comm]
  · simp only [hj, if_false, List.getElem?_eq_none (show (List.range i).length ≤ j by simp; omega), Option.map_none]

theorem rook_multiple (x y : Int) :
    (∃ d ∈ rookDirs, ∃ i : Nat, x = (i + 1 : Nat) * d.1 ∧ y = (i + 1 : Nat) * d.2) ↔
      ¬ (x = 0 ∧ y = 0) ∧ (x.natAbs = 0 ∨ y.natAbs = 0) := by
  simp only [rookDirs, List.mem_cons, List.not_mem_nil, or_false, exists_eq_or_imp, exists_eq_left]
  constructor
  · rintro (⟨i, h⟩ | ⟨i, h⟩ | ⟨i, h⟩ | ⟨i, h⟩) <;> omega
  · rintro ⟨h0, h⟩
    by_cases hx : 0 < x
    · exact Or.inr (Or.inl ⟨x.toNat - 1, by omega⟩)
    by_cases hx' : x < 0
    · exact Or.inr (Or.inr (Or.inr ⟨(-x).toNat - 1, by omega⟩))
    by_cases hy : 0 < y
    · exact Or.inr (Or.inr (Or.inl ⟨y.toNat - 1, by omega⟩))
    · exact Or.inl ⟨(-y).toNat - 1, by omega⟩

theorem bishop_multiple (x y : Int) :
    (∃ d ∈ bishopDirs, ∃ i : Nat, x = (i + 1 : Nat) * d.1 ∧ y = (i + 1 : Nat) * d.2) ↔
      ¬ (x = 0 ∧ y = 0) ∧ x.natAbs = y.natAbs := by
  simp only [bishopDirs, List.mem_cons, List.not_mem_nil, or_false, exists_eq_or_imp, exists_eq_left]
  constructor
  · rintro (⟨i, h⟩ | ⟨i, h⟩ | ⟨i, h⟩ | ⟨i, h⟩) <;> omega
  · rintro ⟨h0, h⟩
    by_cases hx : 0 < x <;> by_cases hy : 0 < y
    · exact Or.inr (Or.inl ⟨x.toNat - 1, by omega⟩)
    · exact Or.inl ⟨x.toNat - 1, by omega⟩
    · exact Or.inr (Or.inr (Or.inl ⟨y.toNat - 1, by omega⟩))
    · exact Or.inr (Or.inr (Or.inr ⟨(-x).toNat - 1, by omega⟩))

theorem rookLine_iff (a b : Nat) : rookLine a b = true ↔
    ∃ d ∈ rookDirs, ∃ i : Nat, Along d (i + 1) a b := by
  unfold Along
  rw [rook_multiple]
  simp only [rookLine, Bool.and_eq_true, Bool.or_eq_true, bne_iff_ne, beq_iff_eq, ne_iff_diff]

theorem bishLine_iff (a b : Nat) : bishLine a b = true ↔
    ∃ d ∈ bishopDirs, ∃ i : Nat, Along d (i + 1) a b := by
  unfold Along
  rw [bishop_multiple]
  simp only [bishLine, Bool.and_eq_true, bne_iff_ne, beq_iff_eq, ne_iff_diff]

theorem slide_iff {dirs : List Dir} {line : Nat → Nat → Bool} (hsub : ∀ d ∈ dirs, d ∈ kingSteps)
    (hline : ∀ a b, line a b = true ↔ ∃ d ∈ dirs, ∃ i : Nat, Along d (i + 1) a b)
    (a b occ : Nat) (ha : a < 64) (hb : b < 64) :
    (slide dirs a occ).testBit b = true ↔ line a b = true ∧ ∀ q ∈ between a b, occ.testBit q = false := by
  rw [RayWalk.slide_testBit, hline]
  constructor
  · rintro ⟨d, hd, i, hi, hfree⟩
    exact ⟨⟨d, hd, i, ((ray_getElem? ha (hsub d hd) i b).mp hi).2⟩, by rwa [← ray_take ha (hsub d hd) hi]⟩
  · rintro ⟨⟨d, hd, i, hdiff⟩, hfree⟩
    have hi := (ray_getElem? ha (hsub d hd) i b).mpr ⟨hb, hdiff⟩
    exact ⟨d, hd, i, hi, by rwa [ray_take ha (hsub d hd) hi]⟩

theorem rook_sub : ∀ d ∈ rookDirs, d ∈ kingSteps := fun _ h => List.mem_append_left _ h
theorem bishop_sub : ∀ d ∈ bishopDirs, d ∈ kingSteps := fun _ h => List.mem_append_right _ h

theorem slide_lt {dirs : List Dir} {line : Nat → Nat → Bool} (h1 : rayOK dirs line = true)
    (a b occ : Nat) (ha : a < 64) (h : (slide dirs a occ).testBit b = true) : b < 64 := by
  rw [RayWalk.slide_testBit] at h
  obtain ⟨d, -, i, hi, -⟩ := h
  obtain ⟨-, hon, rfl⟩ := (rayFrom_getElem? d 7 _ _ i b).mp hi
  have := hon i (Nat.le_refl i)
  simp only [onBoard, Bool.and_eq_true, decide_eq_true_eq] at this
  simp only [sqOf]
  omega

/-! ## The squares between, as a set

On a line `between a b` is a ray prefix (`ray_take`), so its members are the board squares `a + (j + 1) • d` short of `b`
(`mem_between`); read from `b`, or in the mirror (`Proofs/Mirror.lean`), they are the same squares. -/

theorem line_along {a b : Nat} (h : (rookLine a b || bishLine a b) = true) :
    ∃ d ∈ kingSteps, ∃ i : Nat, Along d (i + 1) a b := by
  rcases (Bool.or_eq_true _ _).mp h with h | h
  · obtain ⟨d, hd, i, hi⟩ := (rookLine_iff a b).mp h
    exact ⟨d, rook_sub d hd, i, hi⟩
  · obtain ⟨d, hd, i, hi⟩ := (bishLine_iff a b).mp h
    exact ⟨d, bishop_sub d hd, i, hi⟩

theorem mem_between {a b : Nat} (ha : a < 64) (hb : b < 64) {d : Dir} (hd : d ∈ kingSteps) {i : Nat}
    (h : Along d (i + 1) a b) (q : Nat) :
    q ∈ between a b ↔ q < 64 ∧ ∃ j, j < i ∧ Along d (j + 1) a q := by
  rw [← ray_take ha hd ((ray_getElem? ha hd i b).mpr ⟨hb, h⟩), List.mem_iff_getElem?]
  simp only [List.getElem?_take]
  constructor
  · rintro ⟨j, hj⟩
    split at hj
    · next hji => exact ⟨((ray_getElem? ha hd j q).mp hj).1, j, hji, ((ray_getElem? ha hd j q).mp hj).2⟩
    · cases hj
  · rintro ⟨hq, j, hji, hj⟩
    exact ⟨j, by rw [if_pos hji]; exact (ray_getElem? ha hd j q).mpr ⟨hq, hj⟩⟩

theorem between_lt {a b : Nat} (ha : a < 64) (hb : b < 64) (hl : (rookLine a b || bishLine a b) = true) {q : Nat}
    (hq : q ∈ between a b) : q < 64 := by
  obtain ⟨d, hd, i, h⟩ := line_along hl
  exact ((mem_between ha hb hd h q).mp hq).1

/-- `q = a + (j + 1) • d` is `b + (i - j) • (-d)` -/
theorem mem_between_comm {a b : Nat} (ha : a < 64) (hb : b < 64) (hl : (rookLine a b || bishLine a b) = true) (q : Nat) :
    q ∈ between a b ↔ q ∈ between b a := by
  have key : ∀ {a b : Nat}, a < 64 → b < 64 → ∀ {d : Dir}, d ∈ kingSteps → ∀ {i : Nat}, Along d (i + 1) a b →
      q ∈ between a b → q ∈ between b a := by
    intro a b ha hb d hd i h hq
    obtain ⟨hq64, j, hj, h1⟩ := (mem_between ha hb hd h q).mp hq
    refine (mem_between hb ha (neg_mem_kingSteps hd) h.symm q).mpr ⟨hq64, i - 1 - j, by omega, ?_⟩
    have e : i + 1 = (j + 1) + (i - 1 - j + 1) := by omega
    rw [e] at h
    exact (h1.add_iff.mp h).symm
  obtain ⟨d, hd, i, h⟩ := line_along hl
  exact ⟨key ha hb hd h, key hb ha (neg_mem_kingSteps hd) h.symm⟩

theorem band_congr {x x' y y' : Bool} (hx : x = x') (hy : x = true → y = y') : (x && y) = (x' && y') := by
  subst hx
  cases x
  · rfl
  · rw [hy rfl]

/-! ## Attack over an interface

`Spec.attacked` and the code's `_is_square_in_check` both say "some square holds a piece whose movement geometry reaches `s`
with nothing between"; they differ in how they look up pieces (`has`) and empty squares (`free`). -/

/-- `Spec.attacksGeom` with the position reduced to the test `free` for an empty square -/
def geomBy (free : Nat → Bool) (k : Kind) (w : Bool) (a b : Nat) : Bool :=
  match k with
  | .knight => knightGeom a b
  | .king => kingGeom a b
  | .pawn => pawnGeom w a b
  | .rook => rookLine a b && (between a b).all free
  | .bishop => bishLine a b && (between a b).all free
  | .queen => (rookLine a b || bishLine a b) && (between a b).all free

theorem attacksGeom_eq (p : Pos) (k : Kind) (w : Bool) (a b : Nat) :
    attacksGeom p k w a b = geomBy (fun q => (p.at q).isNone) k w a b := by
  cases k <;> simp only [attacksGeom, geomBy, rookLine, bishLine, knightGeom, kingGeom, pawnGeom, clearBetween_eq,
    Bool.and_assoc]
  cases a != b <;> simp [Bool.or_assoc]

/-- the colour only matters for pawns; this turns a lookup FROM a square into an attack ON it -/
theorem geomBy_symm (free : Nat → Bool) (k : Kind) (w : Bool) {a b : Nat} (ha : a < 64) (hb : b < 64) :
    geomBy free k w a b = geomBy free k (!w) b a := by
  have clear : (rookLine a b || bishLine a b) = true → (between a b).all free = (between b a).all free := by
    intro hl
    rw [Bool.eq_iff_iff]
    simp only [List.all_eq_true, mem_between_comm ha hb hl]
  cases k
  · cases w
    · exact (pawn_symm b a).symm
    · exact pawn_symm a b
  · exact knight_symm a b
  · exact band_congr (bishLine_symm a b) fun hl => clear (by rw [hl, Bool.or_true])
  · exact band_congr (rookLine_symm a b) fun hl => clear (by rw [hl, Bool.true_or])
  · exact band_congr (by rw [rookLine_symm a b, bishLine_symm a b]) clear
  · exact king_symm a b

def AttackedBy (has : Kind → Nat → Bool) (free : Nat → Bool) (w : Bool) (s : Nat) : Prop :=
  ∃ t, t < 64 ∧ ∃ k, has k t = true ∧ geomBy free k w t s = true

theorem AttackedBy.congr {has has' : Kind → Nat → Bool} {free free' : Nat → Bool}
    (hh : ∀ k t, t < 64 → has k t = has' k t) (hf : ∀ q, free q = free' q) (w : Bool) (s : Nat) :
    AttackedBy has free w s ↔ AttackedBy has' free' w s := by
  obtain rfl : free = free' := funext hf
  constructor
  · rintro ⟨t, ht, k, h1, h2⟩; exact ⟨t, ht, k, by rw [← hh k t ht]; exact h1, h2⟩
  · rintro ⟨t, ht, k, h1, h2⟩; exact ⟨t, ht, k, by rw [hh k t ht]; exact h1, h2⟩

theorem attacked_iff_by (p : Pos) (w : Bool) (s : Nat) :
    attacked p w s = true ↔ AttackedBy (fun k t => p.at t == some ⟨w, k⟩) (fun q => (p.at q).isNone) w s := by
  unfold attacked AttackedBy
  rw [List.any_eq_true]
  simp only [← attacksGeom_eq]
  constructor
  · rintro ⟨t, ht, h⟩
    refine ⟨t, List.mem_range.mp ht, ?_⟩
    cases hp : p.at t with
    | none => simp [hp] at h
    | some pc =>
      obtain ⟨pw, pk⟩ := pc
      simp only [hp, Bool.and_eq_true, beq_iff_eq] at h
      obtain ⟨h1, h2⟩ := h
      subst h1
      exact ⟨pk, by simp, h2⟩
  · rintro ⟨t, ht, k, hp, hg⟩
    rw [beq_iff_eq] at hp
    exact ⟨t, List.mem_range.mpr ht, by simp [hp, hg]⟩

theorem inside_iff (f r : Int) : inside f r = true ↔ (0 ≤ f ∧ f < 8) ∧ 0 ≤ r ∧ r < 8 := by
  simp [inside, and_assoc]

theorem mkSq_lt {f r : Int} (hf : 0 ≤ f ∧ f < 8) (hr : 0 ≤ r ∧ r < 8) : mkSq f r < 64 := by unfold mkSq; omega

end Inkayaku.Geometry
