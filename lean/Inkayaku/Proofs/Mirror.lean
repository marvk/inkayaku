import Inkayaku.Proofs.Geometry
/-!
Vertical mirror of a square index (row `r` ↦ row `7 − r`, same file).  `EvalFlip.mirror` is the index map of
`Generate.flipU`/`flipBoard` on bitboard words, `SearchFlip.mir` the same map on the squares of the mailbox `Spec.Pos` in the
relation `SFlip`; the lemmas are proved for `mirror` and those for `mir` are instances.

The mirror keeps file differences and negates row differences (`diff_mir`), and the geometric predicates of the rules depend
on a pair of squares only through these: `geom_mir` for the step and line relations, `along_mir` for the squares between
(`mem_between_mir`, `clear_mir`), hence `geomBy_mir` and `AttackedBy_mir`, from which both the rules' `attacked`
(`SearchFlip.attacked_flip`) and the code's `_is_square_in_check` (`EvalFlip.squareInCheck_flip`) are mirror-invariant.
-/
namespace Inkayaku.EvalFlip

def mirror (sq : Nat) : Nat := 8 * (7 - sq / 8) + sq % 8

theorem mirror_lt {j : Nat} (h : j < 64) : mirror j < 64 := by unfold mirror; omega
theorem mirror_mirror {j : Nat} (h : j < 64) : mirror (mirror j) = j := by unfold mirror; omega
theorem mirror_inj {a b : Nat} (ha : a < 64) (hb : b < 64) : mirror a = mirror b ↔ a = b := by unfold mirror; omega
theorem mirror_div8 (j : Nat) : mirror j / 8 = 7 - j / 8 := by unfold mirror; omega
theorem mirror_add8 {j : Nat} (h : j < 64) (h8 : 8 ≤ j) : mirror j + 8 = mirror (j - 8) := by unfold mirror; omega
theorem mirror_sub8 {j : Nat} (h : j + 8 < 64) : mirror j - 8 = mirror (j + 8) := by unfold mirror; omega

end Inkayaku.EvalFlip

namespace Inkayaku.SearchFlip

def mir (s : Nat) : Nat := 8 * (7 - s / 8) + s % 8

theorem mir_eq_mirror (s : Nat) : mir s = EvalFlip.mirror s := rfl

theorem mir_lt {s : Nat} (h : s < 64) : mir s < 64 := EvalFlip.mirror_lt h
theorem mir_mir {s : Nat} (h : s < 64) : mir (mir s) = s := EvalFlip.mirror_mirror h
theorem mir_inj {a b : Nat} (ha : a < 64) (hb : b < 64) : mir a = mir b ↔ a = b := EvalFlip.mirror_inj ha hb

open Inkayaku.Spec Inkayaku.Geometry

theorem mir_beq {a b : Nat} (ha : a < 64) (hb : b < 64) : (mir a == mir b) = (a == b) := by
  rw [Bool.eq_iff_iff, beq_iff_eq, beq_iff_eq]; exact mir_inj ha hb

theorem fileOf_mir (s : Nat) : fileOf (mir s) = fileOf s := by unfold fileOf mir; omega
theorem rowOf_mir {s : Nat} (h : s < 64) : rowOf (mir s) = 7 - rowOf s := by unfold rowOf mir; omega
theorem fileOf_bounds (s : Nat) : 0 ≤ fileOf s ∧ fileOf s < 8 := by unfold fileOf; omega
theorem rowOf_bounds {s : Nat} (h : s < 64) : 0 ≤ rowOf s ∧ rowOf s < 8 := by unfold rowOf; omega

theorem fileOf_mkSq {f r : Int} (hf : 0 ≤ f ∧ f < 8) (hr : 0 ≤ r ∧ r < 8) : fileOf (mkSq f r) = f := by
  unfold mkSq fileOf; omega
theorem rowOf_mkSq {f r : Int} (hf : 0 ≤ f ∧ f < 8) (hr : 0 ≤ r ∧ r < 8) : rowOf (mkSq f r) = r := by
  unfold mkSq rowOf; omega
theorem mkSq_mir {f r : Int} (hf : 0 ≤ f ∧ f < 8) (hr : 0 ≤ r ∧ r < 8) : mkSq f (7 - r) = mir (mkSq f r) := by
  unfold mkSq mir; omega
theorem mkSq_file_row {s : Nat} (_h : s < 64) : mkSq (fileOf s) (rowOf s) = s := by
  unfold mkSq fileOf rowOf; omega

theorem mir_bne {a b : Nat} (ha : a < 64) (hb : b < 64) : (mir a != mir b) = (a != b) := by
  simp only [bne, mir_beq ha hb]

theorem diff_mir {a b : Nat} (ha : a < 64) (hb : b < 64) :
    fileOf (mir b) - fileOf (mir a) = fileOf b - fileOf a ∧ rowOf (mir b) - rowOf (mir a) = -(rowOf b - rowOf a) := by
  rw [fileOf_mir, fileOf_mir, rowOf_mir ha, rowOf_mir hb]
  omega

theorem along_mir {d : Rays.Dir} {n a b : Nat} (ha : a < 64) (hb : b < 64) :
    Along (d.1, -d.2) n (mir a) (mir b) ↔ Along d n a b := by
  unfold Along
  rw [(diff_mir ha hb).1, (diff_mir ha hb).2]
  simp only [Int.mul_neg]
  omega

theorem refl_mem_kingSteps {d : Rays.Dir} (hd : d ∈ Rays.kingSteps) : (d.1, -d.2) ∈ Rays.kingSteps := by
  rw [mem_kingSteps] at *
  simp only
  omega

theorem mem_between_mir {a b : Nat} (ha : a < 64) (hb : b < 64) (hl : (rookLine a b || bishLine a b) = true) (q : Nat) :
    q ∈ between (mir a) (mir b) ↔ q < 64 ∧ mir q ∈ between a b := by
  obtain ⟨d, hd, i, h⟩ := line_along hl
  rw [mem_between (mir_lt ha) (mir_lt hb) (refl_mem_kingSteps hd) ((along_mir ha hb).mpr h), mem_between ha hb hd h]
  refine and_congr_right fun hq => ?_
  simp only [← along_mir ha (mir_lt hq), mir_mir hq, mir_lt hq, true_and]

theorem clear_mir {free free' : Nat → Bool} (hf : ∀ q, q < 64 → free' (mir q) = free q) {a b : Nat}
    (ha : a < 64) (hb : b < 64) (hl : (rookLine a b || bishLine a b) = true) :
    (between (mir a) (mir b)).all free' = (between a b).all free := by
  rw [Bool.eq_iff_iff]
  simp only [List.all_eq_true, mem_between_mir ha hb hl]
  constructor
  · intro hall q hq
    have hq64 := between_lt ha hb hl hq
    rw [← hf q hq64]
    exact hall _ ⟨mir_lt hq64, by rwa [mir_mir hq64]⟩
  · rintro hall q ⟨hq, hm⟩
    rw [← mir_mir hq, hf _ (mir_lt hq)]
    exact hall _ hm

theorem geom_mir {a b : Nat} (ha : a < 64) (hb : b < 64) :
    rookLine (mir a) (mir b) = rookLine a b ∧ bishLine (mir a) (mir b) = bishLine a b ∧
    knightGeom (mir a) (mir b) = knightGeom a b ∧ kingGeom (mir a) (mir b) = kingGeom a b ∧
    pawnGeom false (mir a) (mir b) = pawnGeom true a b ∧ pawnGeom true (mir a) (mir b) = pawnGeom false a b := by
  obtain ⟨ef, er⟩ := diff_mir ha hb
  have e1 : ∀ x : Int, (-x == (1 : Int)) = (x == -1) := fun x => by
    rw [Bool.eq_iff_iff, beq_iff_eq, beq_iff_eq]; omega
  have e2 : ∀ x : Int, (-x == (-1 : Int)) = (x == 1) := fun x => by
    rw [Bool.eq_iff_iff, beq_iff_eq, beq_iff_eq]; omega
  simp only [rookLine, bishLine, knightGeom, kingGeom, pawnGeom, mir_bne ha hb, ef, er, Int.natAbs_neg, if_true, if_false,
    Bool.false_eq_true, e1, e2, and_self]

theorem pawnGeom_mir (w : Bool) {a b : Nat} (ha : a < 64) (hb : b < 64) :
    pawnGeom (!w) (mir a) (mir b) = pawnGeom w a b := by
  obtain ⟨-, -, -, -, e5, e6⟩ := geom_mir ha hb
  cases w
  · exact e6
  · exact e5

theorem geomBy_mir {free free' : Nat → Bool} (hf : ∀ q, q < 64 → free' (mir q) = free q) (k : Kind) (w : Bool) {a b : Nat}
    (ha : a < 64) (hb : b < 64) : geomBy free' k (!w) (mir a) (mir b) = geomBy free k w a b := by
  obtain ⟨e1, e2, e3, e4, -, -⟩ := geom_mir ha hb
  cases k with
  | pawn => exact pawnGeom_mir w ha hb
  | knight => exact e3
  | king => exact e4
  | rook => exact band_congr e1 fun hl => clear_mir hf ha hb (by rw [← e1, hl, Bool.true_or])
  | bishop => exact band_congr e2 fun hl => clear_mir hf ha hb (by rw [← e2, hl, Bool.or_true])
  | queen => exact band_congr (by rw [e1, e2]) fun hl => clear_mir hf ha hb (by rw [← e1, ← e2, hl])

theorem AttackedBy_mir {has has' : Kind → Nat → Bool} {free free' : Nat → Bool}
    (hh : ∀ k t, t < 64 → has' k (mir t) = has k t) (hf : ∀ q, q < 64 → free' (mir q) = free q) (w : Bool) {s : Nat}
    (hs : s < 64) : AttackedBy has' free' (!w) (mir s) ↔ AttackedBy has free w s := by
  constructor
  · rintro ⟨t, ht, k, h1, h2⟩
    refine ⟨mir t, mir_lt ht, k, ?_, ?_⟩
    · rw [← hh k (mir t) (mir_lt ht), mir_mir ht]; exact h1
    · rw [← geomBy_mir hf k w (mir_lt ht) hs, mir_mir ht]; exact h2
  · rintro ⟨t, ht, k, h1, h2⟩
    exact ⟨mir t, mir_lt ht, k, by rw [hh k t ht]; exact h1, by rw [geomBy_mir hf k w ht hs]; exact h2⟩

end Inkayaku.SearchFlip
