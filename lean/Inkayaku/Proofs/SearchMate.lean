import Inkayaku.Proofs.SearchPv
import Inkayaku.Proofs.AlphaBeta
import Inkayaku.Proofs.EvalFlip
/-!
# A mate value strictly inside the window comes with a PV that ends in checkmate (`C16Pv.mate_pv`)

Values the search can produce are either *small* (static evaluations, draw values, |v| ≤ 176000) or *big* (`is_checkmate`
range, |v| > winScore − maxFullMoves) — `Val`.  Big values have exactly two sources:

* the static evaluation of a position without legal move whose mover is in check: `-(winScore - fullmove)`;
* the fail-hard quiescence search handing back one of its window bounds (`quiescence_val`: a big quiescence value IS
  `alpha0` or `beta0`), and window bounds inherited from ancestors.

`negamax` is fail-soft: the value of a node built by the move loop is minus the value of its `bestChild`.  Hence
(`negamax_mate`): if the value `v` returned for a node is big and is none of `alpha0`, `beta0`, `±winScore`, then the
returned PV is a legal line (literally generated moves — the table never answers with a big value, because big values are
not stored) ending in a checkmated position, and `v = ±(winScore − fullmove there)`.  At the root of an iteration the
window is `(-winScore, winScore)`, the table cannot answer (`TTRootFresh`), and a reported `mate N` with `N > 0` excludes
`±winScore`.  No no-collision hypothesis is needed.

Needed of the position: clock budget (`Inv`) and `fullmove + fuel < maxFullMoves = 2^20` (`FmOK`; beyond that the
engine's own `is_checkmate` no longer recognises its mate values).
-/
namespace Inkayaku.Search
open Inkayaku.Board Inkayaku.Eval Inkayaku.WF Inkayaku.BoardCongr

def Small (v : Int) : Prop := -176000 ≤ v ∧ v ≤ 176000
/-- `is_checkmate(v)`: |v| > winScore − maxFullMoves -/
def Big (v : Int) : Prop := v > 15728640 ∨ v < -15728640
def Val (v : Int) : Prop := Small v ∨ Big v

theorem big_iff (v : Int) : isCheckmateValue v = true ↔ Big v := by
  rw [EvalFlip.isCheckmateValue_iff, Eval.winScore_val, EvalFlip.maxFullMoves_val]
  unfold Big
  omega

theorem Small.neg {v : Int} (h : Small v) : Small (-v) := by unfold Small at *; omega
theorem Big.neg {v : Int} (h : Big v) : Big (-v) := by unfold Big at *; omega
theorem Big.of_neg {v : Int} (h : Big (-v)) : Big v := by unfold Big at *; omega
theorem Val.neg {v : Int} (h : Val v) : Val (-v) := h.elim (fun h => Or.inl h.neg) (fun h => Or.inr h.neg)
theorem Val.max {a b : Int} (ha : Val a) (hb : Val b) : Val (max a b) := by
  rcases Int.le_total a b with h | h
  · rw [Int.max_eq_right h]; exact hb
  · rw [Int.max_eq_left h]; exact ha
theorem Small.not_big {v : Int} (h : Small v) : ¬ Big v := by unfold Small Big at *; omega
theorem small_zero : Small 0 := by unfold Small; omega
theorem val_win : Val Gen.winScore := by right; rw [Eval.winScore_val]; unfold Big; omega
theorem val_loss : Val lossScore := by right; rw [SpecSearch.lossScore_val]; unfold Big; omega

theorem small_standPat (b : Board) (c : Nat) : Small (evalFor b c true) := SpecSearch.standPat_bound b c

theorem small_repValue (ply : Nat) : Small (repValue ply) := by
  unfold repValue
  have h1 : Gen.drawScore = 0 := by decide
  have h2 : Gen.contempt = 50 := by decide
  rw [h1, h2]
  unfold Small
  split <;> omega

theorem quiescence_val (fuel : Nat) (s : St) (a b : Int) :
    (Val a → Val b → Val (quiescence fuel s a b).1.value) ∧
    (Big (quiescence fuel s a b).1.value → (quiescence fuel s a b).1.value = a ∨ (quiescence fuel s a b).1.value = b) :=
  (quiescence_induct
    (QP := fun _ _ a b res => (Val a → Val b → Val res.1.value) ∧ (Big res.1.value → res.1.value = a ∨ res.1.value = b))
    (QL := fun _ _ _ a b _ _ res => (Val a → Val b → Val res.1.value) ∧ (Big res.1.value → res.1.value = a ∨ res.1.value = b))
    (zero := ⟨fun ha _ => ha, fun _ => Or.inl rfl⟩)
    (pat := fun _ => ⟨fun _ hb => hb, fun _ => Or.inr rfl⟩)
    (loop := by
      intro _ s a b res _ ⟨lv, lbig⟩
      have hsp := small_standPat s.board s.board.turn
      refine ⟨fun ha hb => lv (ha.max (Or.inl hsp)) hb, fun hB => (lbig hB).imp_left fun h1 => ?_⟩
      -- a big result that is the loop's entry bound is not the stand-pat, so it is `a`
      rcases Int.le_total a (evalFor s.board s.board.turn true) with h | h
      · rw [h1.trans (Int.max_eq_right h)] at hB
        exact absurd hB hsp.not_big
      · exact h1.trans (Int.max_eq_left h))
    (nil := ⟨fun ha _ => ha, fun _ => Or.inl rfl⟩)
    (skip := fun _ ih => ih)
    (child := by
      intro _ _ _ _ a b _ _ r _ ⟨hv, hbig⟩
      refine ⟨fun _ => ⟨fun _ hb => hb, fun _ => Or.inr rfl⟩, fun hlt hgt res ⟨iv, ibig⟩ => ?_, fun _ _ _ ih => ih⟩
      refine ⟨fun ha hb => iv (hv hb.neg ha.neg).neg hb, fun hB => Or.inr ((ibig hB).resolve_left fun h1 => ?_)⟩
      -- the improved alpha is a child value strictly inside the window: it cannot be big
      rw [h1] at hB
      rcases hbig hB.of_neg with h2 | h2 <;> omega)).1 fuel s a b

def Mated (b : Board) : Prop := (∀ m ∈ genPseudo b, isValid (make b m) = false) ∧ isCurrentInCheck b = true

def FmOK (k : Nat) (b : Board) : Prop := b.fullmove + k < 1048576

theorem FmOK.mono {k k' : Nat} {b : Board} (hk : k' ≤ k) (hf : FmOK k b) : FmOK k' b := by
  unfold FmOK at *; omega

theorem FmOK.child {k : Nat} {b : Board} (hwf : wf b = true) (hf : FmOK (k + 1) b) (m : Move) : FmOK k (make b m) := by
  have := (wf_turn_fm hwf).1
  unfold FmOK at *
  rw [make_fullmove]
  omega

def MateLine : Board → List Move → Int → Prop
  | b, [], v => wf b = true ∧ FmOK 0 b ∧ Mated b ∧ v = -(Gen.winScore - (b.fullmove : Int))
  | b, m :: ms, v => wf b = true ∧ m ∈ genPseudo b ∧ isValid (make b m) = true ∧ MateLine (make b m) ms (-v)

theorem MateLine.legal {b : Board} {l : List Move} {v : Int} (h : MateLine b l v) : LegalLine b l := by
  induction l generalizing b v with
  | nil => trivial
  | cons m ms ih => exact ⟨h.2.1, h.2.2.1, ih h.2.2.2⟩

theorem term_leaf {b : Board} (hwf : wf b = true) (hfm : FmOK 0 b) :
    Val (evalFor b b.turn false) ∧
    (Big (evalFor b b.turn false) →
      isCurrentInCheck b = true ∧ evalFor b b.turn false = -(Gen.winScore - (b.fullmove : Int))) := by
  obtain ⟨ht, h1⟩ := wf_turn_fm hwf
  rw [SpecSearch.term_value b, SpecSearch.lossScore_val, Eval.winScore_val]
  unfold FmOK at hfm
  by_cases hc : isCurrentInCheck b = true
  · simp only [hc, if_true]
    refine ⟨Or.inr ?_, fun _ => ⟨trivial, by omega⟩⟩
    unfold Big; omega
  · simp only [hc, Bool.false_eq_true, if_false]
    exact ⟨Or.inl small_zero, fun hB => absurd hB small_zero.not_big⟩

def TTSmall (tt : Std.HashMap UInt64 TtEntry) : Prop := ∀ h e, tt.get? h = some e → Small e.value ∧ Small e.mv.value

theorem TTSmall.empty : TTSmall {} := TTAll.empty _

theorem TTSmall.insert {tt : Std.HashMap UInt64 TtEntry} (htt : TTSmall tt) (h : UInt64) (e : TtEntry)
    (he : Small e.value ∧ Small e.mv.value) : TTSmall (tt.insert h e) :=
  TTAll.insert (P := fun _ e => Small e.value ∧ Small e.mv.value) htt h e he

theorem probe_window {entry : Option TtEntry} {rem : Nat} {a b alpha beta : Int}
    (he : ∀ e, entry = some e → Small e.value) (h : probe entry rem a b = (none, alpha, beta)) :
    (alpha = a ∨ Small alpha) ∧ (beta = b ∨ Small beta) := by
  rcases probe_cases entry rem a b with ⟨e, α, β, -, -, hp⟩ | ⟨α, β, hp, hα, hβ⟩ <;> rw [hp] at h
  · cases h
  · obtain ⟨rfl, rfl⟩ : α = alpha ∧ β = beta := by simpa using h
    exact ⟨hα.imp id (fun ⟨e, hs, _, hv⟩ => hv ▸ he e hs), hβ.imp id (fun ⟨e, hs, _, hv⟩ => hv ▸ he e hs)⟩

def Outside (v a b : Int) : Prop := v ≠ a ∧ v ≠ b ∧ v ≠ 16777216 ∧ v ≠ -16777216

/-- what a big value means for the record `r` returned for position `b` at ply `ply` (at ply 0 the `searchmoves`
filter can leave no move although the position has legal moves; then no move is returned) -/
def MateRes (b : Board) (ply : Nat) (r : VM) : Prop := (ply = 0 ∧ r.mv = none) ∨ MateLine b r.pv r.value

theorem leaf_mate {b : Board} (hwf : wf b = true) (hfm : FmOK 0 b) (ply : Nat)
    (hnone : ply ≠ 0 → ∀ m ∈ genPseudo b, isValid (make b m) = false) :
    Val (evalFor b b.turn false) ∧ (Big (evalFor b b.turn false) → MateRes b ply (VM.leaf (evalFor b b.turn false))) := by
  obtain ⟨tv, tb⟩ := term_leaf hwf hfm
  refine ⟨tv, fun hB => ?_⟩
  obtain ⟨hc, hval⟩ := tb hB
  by_cases hp : ply = 0
  · exact Or.inl ⟨hp, rfl⟩
  · right
    rw [VM.pv_leaf]
    exact ⟨hwf, hfm, ⟨hnone hp, hc⟩, hval⟩

/-- invariant of the accumulator of the move loop of a node with position `b0`, window `(a0, b0w)`, narrowed lower
bound `alpha` -/
structure AccOK (b0 : Board) (a0 b0w alpha : Int) (acc : LoopAcc) : Prop where
  valBest : Val acc.bestValue
  valAlpha : Val acc.alpha
  alphaSrc : acc.alpha = alpha ∨ acc.alpha ≤ acc.bestValue
  ge : -16777216 ≤ acc.bestValue
  gt : acc.bestMove ≠ none → -16777216 < acc.bestValue
  mate : Big acc.bestValue → Outside acc.bestValue a0 b0w → MateLine b0 (accPv acc) acc.bestValue

theorem accOK_acc0 (b0 : Board) (a0 b0w alpha : Int) (hv : Val alpha) : AccOK b0 a0 b0w alpha (acc0 alpha) where
  valBest := val_loss
  valAlpha := hv
  alphaSrc := Or.inl rfl
  ge := by show -16777216 ≤ lossScore; rw [SpecSearch.lossScore_val]; omega
  gt := fun h => absurd rfl h
  mate := by
    intro _ ho
    exact absurd (show lossScore = -16777216 from SpecSearch.lossScore_val) ho.2.2.2

theorem accUpdate_legalSeen (acc : LoopAcc) (m : Move) (c : VM) : (accUpdate acc m c).legalSeen = true := by
  rcases accUpdate_cases acc m c with ⟨-, e⟩ | ⟨-, e⟩ <;> rw [e]

theorem accUpdate_ok {b0 : Board} {a0 b0w alpha : Int} {acc : LoopAcc} (h : AccOK b0 a0 b0w alpha acc) (m : Move) (c : VM)
    (hcv : Val c.value)
    (hmate : -c.value > acc.bestValue → Big (-c.value) → Outside (-c.value) a0 b0w → MateLine b0 (m :: c.pv) (-c.value)) :
    AccOK b0 a0 b0w alpha (accUpdate acc m c) := by
  rcases accUpdate_cases acc m c with ⟨hgt, he⟩ | ⟨hle, he⟩
  · rw [he]
    refine ⟨hcv.neg, h.valAlpha.max hcv.neg, ?_, ?_, ?_, ?_⟩
    · show max acc.alpha (-c.value) = alpha ∨ max acc.alpha (-c.value) ≤ -c.value
      have := h.alphaSrc
      omega
    · show -16777216 ≤ -c.value
      have := h.ge; omega
    · intro _
      show -16777216 < -c.value
      have := h.ge; omega
    · intro hB ho
      show MateLine b0 (VM.mk (-c.value) (some m) (some c)).pv (-c.value)
      rw [VM.pv_some_some]
      exact hmate hgt hB ho
  · rw [he]
    refine ⟨h.valBest, h.valAlpha.max h.valBest, ?_, h.ge, h.gt, h.mate⟩
    show max acc.alpha acc.bestValue = alpha ∨ max acc.alpha acc.bestValue ≤ acc.bestValue
    have := h.alphaSrc
    omega

/-- the window of the child searched for a move that then raises `bestValue` to a big value outside the node's window -/
theorem child_outside {cv a0 b0w alpha beta accAlpha bv : Int} (hα : alpha = a0 ∨ Small alpha) (hβ : beta = b0w ∨ Small beta)
    (hsrc : accAlpha = alpha ∨ accAlpha ≤ bv) (hgt : -cv > bv) (hB : Big (-cv)) (ho : Outside (-cv) a0 b0w) :
    Outside cv (-beta) (-accAlpha) := by
  unfold Outside Small Big at *
  refine ⟨?_, ?_, ?_, ?_⟩ <;> omega

/-- what `negamax_mate` says of the result of a node with position `b0` and window `(a, b)`; `loopOnly`: the table
cannot answer and the node is above the horizon -/
def MatePost (b0 : Board) (ply : Nat) (a b : Int) (loopOnly : Prop) (res : VM × St) : Prop :=
  Val res.1.value ∧ TTSmall res.2.tt ∧ (Big res.1.value → Outside res.1.value a b → MateRes b0 ply res.1) ∧
  (loopOnly → res.1.mv ≠ none → -16777216 < res.1.value)

theorem MatePost.leaf {b0 : Board} {ply : Nat} {a b : Int} {lo : Prop} {v : Int} {s : St} (hv : Small v) (htt : TTSmall s.tt) :
    MatePost b0 ply a b lo (VM.leaf v, s) :=
  ⟨Or.inl hv, htt, fun hB => absurd hB hv.not_big, fun _ hne => absurd rfl hne⟩

/-- the window of a move loop: the node's window `(a0, b0w)` narrowed by small table values -/
structure MateWin (a0 b0w alpha beta : Int) : Prop where
  lo : alpha = a0 ∨ Small alpha
  hi : beta = b0w ∨ Small beta
  valLo : Val alpha
  valHi : Val beta

theorem MateWin.of_probe {tt : Std.HashMap UInt64 TtEntry} (htt : TTSmall tt) {h : UInt64} {rem : Nat} {a b α β : Int}
    (ha : Val a) (hb : Val b) (hpr : probe (tt.get? h) rem a b = (none, α, β)) : MateWin a b α β := by
  obtain ⟨hα, hβ⟩ := probe_window (fun e he => (htt h e he).1) hpr
  exact ⟨hα, hβ, hα.elim (fun h => h ▸ ha) Or.inl, hβ.elim (fun h => h ▸ hb) Or.inl⟩

theorem rootBuffer_pos (s : St) {ply : Nat} (h : ply ≠ 0) : rootBuffer s ply = genPseudo s.board := by
  unfold rootBuffer
  have : (ply == 0) = false := by simpa using h
  rw [this, Bool.false_and, if_neg Bool.false_ne_true]

theorem finish_mate (b0 : Board) (hwf : wf b0 = true) (hfm : FmOK 0 b0) (ply : Nat) (a0 b0w alpha beta : Int) (hash : UInt64)
    (rem : Nat) (r : LoopAcc × Bool × St) (hs : vis r.2.2.board = vis b0) (hacc : AccOK b0 a0 b0w alpha r.1)
    (htt : TTSmall r.2.2.tt)
    (hnone : r.1.legalSeen = false → r.2.1 = false → ply ≠ 0 → ∀ m ∈ genPseudo b0, isValid (make b0 m) = false) :
    Val (finish b0.turn a0 beta hash rem r).1.value ∧ TTSmall (finish b0.turn a0 beta hash rem r).2.tt ∧
    (Big (finish b0.turn a0 beta hash rem r).1.value → Outside (finish b0.turn a0 beta hash rem r).1.value a0 b0w →
      MateRes b0 ply (finish b0.turn a0 beta hash rem r).1) ∧
    ((finish b0.turn a0 beta hash rem r).1.mv ≠ none → -16777216 < (finish b0.turn a0 beta hash rem r).1.value) := by
  obtain ⟨acc, ab, s⟩ := r
  rcases finish_cases b0.turn a0 beta hash rem acc ab s with ⟨-, e⟩ | ⟨hab, hls, e⟩ | ⟨-, -, hB, e⟩ | ⟨-, -, hnb, nt, e⟩ <;>
    rw [e]
  · exact ⟨Or.inl small_zero, htt, fun hB => absurd hB small_zero.not_big, fun hne => absurd rfl hne⟩
  · rw [evalFor_congr hs]
    obtain ⟨tv, tm⟩ := leaf_mate hwf hfm ply (hnone hls hab)
    exact ⟨tv, htt, fun hB _ => tm hB, fun hne => absurd rfl hne⟩
  · exact ⟨hacc.valBest, htt, fun hB ho => Or.inr (hacc.mate hB ho), hacc.gt⟩
  · have hnb' : ¬ Big acc.bestValue := by
      rw [← big_iff, hnb]; exact Bool.false_ne_true
    have hsm := hacc.valBest.resolve_right hnb'
    exact ⟨hacc.valBest, htt.insert _ _ ⟨hsm, hsm⟩, fun hB => absurd hB hnb', hacc.gt⟩

theorem negamax_mate (fuel : Nat) (b0 : Board) (s : St) (ply maxPly : Nat) (a b : Int) (isPv : Bool) (h ph : UInt64)
    (hinv : Inv fuel b0) (hs : vis s.board = vis b0) (hfm : FmOK fuel b0) (htt : TTSmall s.tt) (ha : Val a) (hb : Val b) :
    MatePost b0 ply a b ((∀ e, s.tt.get? h = some e → e.depth < maxPly - ply) ∧ ply ≠ maxPly)
      (negamax fuel s ply maxPly a b isPv h ph) := by
  refine (negamax_walk boardLaws
    (NP := fun f b0 s ply maxPly a b h res => FmOK f b0 → TTSmall s.tt → Val a → Val b →
      MatePost b0 ply a b ((∀ e, s.tt.get? h = some e → e.depth < maxPly - ply) ∧ ply ≠ maxPly) res)
    (NB := fun f b0 s ply maxPly a b h res => Inv (f + 1) b0 → FmOK (f + 1) b0 → TTSmall s.tt → Val a → Val b →
      MatePost b0 ply a b ((∀ e, s.tt.get? h = some e → e.depth < maxPly - ply) ∧ ply ≠ maxPly) res)
    (NL := fun f b0 moves s ply _ β _ acc res => ∀ a0 b0w alpha, MateWin a0 b0w alpha β → FmOK (f + 1) b0 → TTSmall s.tt →
      AccOK b0 a0 b0w alpha acc →
      AccOK b0 a0 b0w alpha res.1 ∧ TTSmall res.2.2.tt ∧ (acc.legalSeen = true → res.1.legalSeen = true) ∧
      (res.1.legalSeen = false → res.2.1 = false → ∀ m ∈ moves, isValid (make b0 m) = false))
    ?zero ?timeout ?entered ?leaf ?hit ?quiesce ?loop ?nil ?skip ?child
    ).1 fuel b0 s ply maxPly a b isPv h ph hinv hs |>.1 hfm htt ha hb
  case zero => exact fun _ htt _ _ => .leaf small_zero htt
  case timeout => exact fun {_ _ s _ _ _ _ _} _ _ htt _ _ => .leaf small_zero (pollStep_tt s ▸ htt)
  case entered =>
    intro _ _ s _ _ _ _ h _ hinv _ hb hfm htt ha hbv
    have := hb hinv hfm (enter_tt s h ▸ htt) ha hbv
    rwa [enter_tt] at this
  case hit =>
    -- the table holds small values only, and a fresh table does not answer
    intro _ _ _ _ _ _ _ h e hget _ _ _ htt _ _
    have hsm := (htt h e hget).2
    exact ⟨Or.inl hsm, htt, fun hB => absurd hB hsm.not_big, fun hlo _ => by have := hlo.1 e hget; omega⟩
  case quiesce =>
    -- fail-hard: a big quiescence value is one of the window bounds, which are the node's or small
    intro f _ s _ _ _ _ _ α β _ _ hpr hp _ _ htt ha hb
    have hw := MateWin.of_probe htt ha hb hpr
    obtain ⟨qv, qb⟩ := quiescence_val f s α β
    refine ⟨qv hw.valLo hw.valHi, quiescence_tt f s α β ▸ htt, fun hB ho => ?_, fun hlo => absurd hp hlo.2⟩
    exfalso
    have := hw.lo; have := hw.hi
    unfold Outside Small Big at *
    rcases qb hB with h1 | h1 <;> omega
  case leaf =>
    intro _ b0 s ply _ _ _ _ v hv hinv hfm htt _ _
    rcases hv with ⟨_, rfl⟩ | ⟨_, _, rfl⟩ | ⟨_, rfl⟩
    · exact .leaf (small_repValue ply) htt
    · exact .leaf small_zero htt
    · cases hl : isAnyMoveLegal b0 (rootBuffer { s with board := b0 } ply) with
      | true => exact .leaf (small_standPat b0 b0.turn) htt
      | false =>
        obtain ⟨tv, tm⟩ := leaf_mate hinv.wf (hfm.mono (Nat.zero_le _)) ply (by
          intro hp m hm
          rw [rootBuffer_pos _ hp] at hl
          simpa [isMoveLegal] using List.any_eq_false.mp hl m hm)
        exact ⟨tv, htt, fun hB _ => tm hB, fun _ hne => absurd rfl hne⟩
  case loop =>
    intro _ b0 _ ply maxPly a b h α β _ _ _ lr hpr _ hvis hl hinv hfm htt ha hb
    have hw := MateWin.of_probe htt ha hb hpr
    obtain ⟨l1, l2, -, l4⟩ := hl a b α hw hfm htt (accOK_acc0 _ a b α hw.valLo)
    have hfin := finish_mate b0 hinv.wf (hfm.mono (Nat.zero_le _)) ply a b α β h (maxPly - ply) lr hvis l1 l2
      (fun h1 h2 hp m hm => l4 h1 h2 m (mem_sortMoves.mpr (rootBuffer_pos _ hp ▸ hm)))
    exact ⟨hfin.1, hfin.2.1, hfin.2.2.1, fun _ => hfin.2.2.2⟩
  case nil => exact fun _ _ _ _ _ htt hacc => ⟨hacc, htt, id, fun _ _ _ hm => nomatch hm⟩
  case skip =>
    intro _ _ _ _ _ _ _ _ _ _ _ hbad ih a0 b0w alpha hw hfm htt hacc
    obtain ⟨i1, i2, i3, i4⟩ := ih a0 b0w alpha hw hfm htt hacc
    exact ⟨i1, i2, i3, fun h1 h2 => List.forall_mem_cons.mpr ⟨hbad, i4 h1 h2⟩⟩
  case child =>
    intro f b0 m rest s ply maxPly β h acc k r hinv hm hv _ _ hc
    have hls := accUpdate_legalSeen acc m r.1
    have key : ∀ a0 b0w alpha, MateWin a0 b0w alpha β → FmOK (f + 1) b0 → TTSmall s.tt → AccOK b0 a0 b0w alpha acc →
        AccOK b0 a0 b0w alpha (accUpdate acc m r.1) ∧ TTSmall r.2.tt := by
      intro a0 b0w alpha hw hfm htt hacc
      obtain ⟨hcv, htt', hcm, -⟩ := hc (hfm.child hinv.wf m) htt hw.valHi.neg hacc.valAlpha.neg
      refine ⟨accUpdate_ok hacc m r.1 hcv fun hgt hB ho => ?_, htt'⟩
      rcases hcm hB.of_neg (child_outside hw.lo hw.hi hacc.alphaSrc hgt hB ho) with ⟨h0, -⟩ | hml
      · omega
      · exact ⟨hinv.wf, hm.pseudo hinv.wf, hv, by rw [Int.neg_neg]; exact hml⟩
    refine ⟨fun _ a0 b0w alpha hw hfm htt hacc => ⟨hacc, (key a0 b0w alpha hw hfm htt hacc).2, id, fun _ h2 => nomatch h2⟩,
      fun _ _ a0 b0w alpha hw hfm htt hacc => ?_, fun _ _ res ih a0 b0w alpha hw hfm htt hacc => ?_⟩
    · obtain ⟨k1, k2⟩ := key a0 b0w alpha hw hfm htt hacc
      exact ⟨k1, k2, fun _ => hls, fun h1 => by rw [hls] at h1; cases h1⟩
    · obtain ⟨k1, k2⟩ := key a0 b0w alpha hw hfm htt hacc
      obtain ⟨i1, i2, i3, -⟩ := ih a0 b0w alpha hw hfm k2 k1
      exact ⟨i1, i2, fun _ => i3 hls, fun h1 => by rw [i3 hls] at h1; cases h1⟩

theorem MateLine.shape {b : Board} {l : List Move} {v : Int} (h : MateLine b l v) :
    wf (l.foldl make b) = true ∧ Mated (l.foldl make b) ∧
    (l.foldl make b).fullmove = b.fullmove + (l.length + b.turn) / 2 ∧
    (l.foldl make b).fullmove < 1048576 ∧
    (l.length % 2 = 0 → v = -(16777216 - ((l.foldl make b).fullmove : Int))) ∧
    (l.length % 2 = 1 → v = 16777216 - ((l.foldl make b).fullmove : Int)) := by
  induction l generalizing b v with
  | nil =>
    obtain ⟨hwf, hfm, hM, hv⟩ := h
    have ht := (wf_turn_fm hwf).1
    rw [Eval.winScore_val] at hv
    unfold FmOK at hfm
    refine ⟨hwf, hM, ?_, ?_, fun _ => hv, fun h => ?_⟩
    · show b.fullmove = b.fullmove + (0 + b.turn) / 2; omega
    · show b.fullmove < 1048576; omega
    · simp at h
  | cons m ms ih =>
    obtain ⟨hwf, -, -, hrest⟩ := h
    have ht := (wf_turn_fm hwf).1
    obtain ⟨i0, i1, i2, i3, i4, i5⟩ := ih hrest
    rw [make_fullmove, make_turn] at i2
    rw [List.foldl_cons, List.length_cons]
    refine ⟨i0, i1, by omega, i3, fun h => ?_, fun h => ?_⟩
    · have := i5 (by omega); omega
    · have := i4 (by omega); omega

def MatePv (b : Board) (l : List Move) (N : Int) : Prop :=
  (l.length : Int) = 2 * N - 1 ∧ LegalLine b l ∧ wf (l.foldl make b) = true ∧ Mated (l.foldl make b)

theorem rootSearch_mate (root : Board) (s : St) (d : Nat) (hinv : Inv (fuelFor d) root) (hs : vis s.board = vis root)
    (hfm : FmOK (fuelFor d) root) (htt : TTSmall s.tt) (hfresh : TTRootFresh s (Zobrist.hash s.board) d) (hd : 0 < d) :
    TTSmall (rootSearch s d).2.tt ∧
    ((rootSearch s d).1.mv ≠ none → ∀ N : Int, N > 0 → scoreFromValue (rootSearch s d).1.value root = .mate N →
      MatePv root (rootSearch s d).1.pv N) := by
  obtain ⟨hval, htt', hmate, hgt⟩ := negamax_mate (fuelFor d) root s 0 d lossScore Gen.winScore s.pv.isSome
    (Zobrist.hash s.board) (Zobrist.pawnHash s.board) hinv hs hfm htt val_loss val_win
  change Val (rootSearch s d).1.value at hval
  change TTSmall (rootSearch s d).2.tt at htt'
  change Big (rootSearch s d).1.value → Outside (rootSearch s d).1.value lossScore Gen.winScore →
    MateRes root 0 (rootSearch s d).1 at hmate
  change _ → (rootSearch s d).1.mv ≠ none → -16777216 < (rootSearch s d).1.value at hgt
  generalize rootSearch s d = r at *
  refine ⟨htt', fun hmv N hN hsc => ?_⟩
  have hgt' := hgt ⟨by intro e he; have := hfresh e he; omega, by omega⟩ hmv
  obtain ⟨ht, hf1⟩ := wf_turn_fm hinv.wf
  have hw := Eval.winScore_val
  have hl := SpecSearch.lossScore_val
  -- the report is not `cp`: the value lies beyond ±winScore/2, and such a value of the search is in the mate range
  have hB : Big r.1.value := hval.elim (fun hsm => by
    unfold Small at hsm
    rw [EvalFlip.score_cp _ _ (by omega)] at hsc
    cases hsc) id
  -- `winScore` itself would be reported as `mate N` with `N ≤ 0`
  have hne : r.1.value ≠ 16777216 := by
    intro h
    rw [h, EvalFlip.scoreFromValue_pos _ _ (by omega), hw] at hsc
    injection hsc with hN'
    split at hN' <;> omega
  have hml : MateLine root r.1.pv r.1.value := by
    rcases hmate hB ⟨by omega, by omega, hne, by omega⟩ with ⟨-, h0⟩ | h0
    · exact absurd h0 hmv
    · exact h0
  obtain ⟨hwe, hM, hfe, hlt, heven, hodd⟩ := hml.shape
  have hpar := Nat.mod_two_eq_zero_or_one r.1.pv.length
  -- the value of a mating line is not below "mated on the spot", so the report can be read backwards
  obtain ⟨hv, hK⟩ := (EvalFlip.score_mate_pos root ht _ N hN (by
    rcases hpar with hp | hp
    · have := heven hp; omega
    · have := hodd hp; omega)).mp hsc
  refine ⟨?_, hml.legal, hwe, hM⟩
  rcases hpar with hp | hp
  · have := heven hp; omega
  · have := hodd hp; omega

def MateOK (root : Board) : Out → Prop
  | .info _ _ _ (some (.mate N)) (some l) => N > 0 → MatePv root l N
  | _ => True

def MateIter (root : Board) (n d : Nat) (s : St) : Prop :=
  RootInv root n d s ∧ FmOK (fuelFor d + n) root ∧ TTSmall s.tt

def MateRoot (root : Board) (r : VM × St) : Prop :=
  iterAborted r = false → ∀ N : Int, N > 0 → scoreFromValue r.1.value r.2.board = .mate N → MatePv root r.1.pv N

theorem mateIter_step (root : Board) : IterStep (MateRoot root) (MateIter root) := by
  intro n d s ⟨hR, hfm0, htt⟩
  obtain ⟨hinv, hfresh, hb', hnext⟩ := rootIter_step boardLaws hR
  obtain ⟨htt', hm⟩ := rootSearch_mate root s d hinv hR.2.1 (hfm0.mono (Nat.le_add_right _ _)) htt hfresh hR.2.2.1
  refine ⟨fun hna N hN hsc => ?_, fun _ p o => ⟨hnext p o, hfm0.mono (by unfold fuelFor; omega), htt'⟩⟩
  obtain ⟨-, m, hm0⟩ := iterAborted_eq_false.mp hna
  rw [scoreFromValue_congr hb'] at hsc
  exact hm (by rw [hm0]; exact Option.some_ne_none m) N hN hsc

theorem goCmd_mate_ok (s : St) (g : GoParams) (maxIter : Nat) (hinv : Inv (goBudget maxIter) s.board)
    (hfm : FmOK (goBudget maxIter) s.board) (o : Out) (ho : o ∈ (goCmd s g maxIter).out) (hnew : o ∉ s.out) :
    MateOK s.board o := by
  obtain ⟨k, p, g', hprep⟩ := goPrep_eq s g
  have hle := goIters_le g maxIter
  refine goCmd_infos (mateIter_step s.board) (fun r hr hna _ _ _ => ?_)
    (fun _ _ _ => trivial) (fun _ _ => trivial) s g maxIter
    ⟨rootInv_goPrep s g maxIter hinv, hfm.mono (by unfold fuelFor goBudget; omega), by rw [hprep]; exact TTSmall.empty⟩
    o ho hnew
  show MateOK s.board (.info _ _ _ (some (scoreFromValue r.1.value r.2.board)) (some r.1.pv))
  cases hsc : scoreFromValue r.1.value r.2.board with
  | cp v => trivial
  | mate N => exact fun hN => hr hna N hN hsc

end Inkayaku.Search
