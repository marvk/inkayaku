import Inkayaku.Proofs.SearchSimQ
import Inkayaku.Proofs.SearchSimRep
import Inkayaku.Proofs.GenFacts
import Inkayaku.Proofs.SearchRoot
import Inkayaku.Proofs.HashKeys
/-!
# C08 simulation: positions reached by the search, the hash hypotheses, the table invariant

`Reach b0 k p`: `p` has the visible position of a board reached from `b0` by `k` legal moves.  `HashInj` and `HashNonzero`
are the explicit hypotheses about the hash function (`Proofs/SearchSimHash.lean` and `Props/C08Transp.lean` reduce the first to
the absence of collisions), `QBound` the one about capture sequences (`Proofs/SearchSimFuel.lean` derives it from the material
on the board).  `TTOK` is the table invariant: every entry belongs to a position at a ply `k < D` with that hash, has at most
the draft `D − k`, and tells the truth about `mm game` at its own draft; it is `Sim.TTOK` of `Proofs/SearchSimGen.lean` at the
instance `plain` (`ttok_iff`, `Proofs/SearchSimRoot.lean`), where its lemmas are.
-/
namespace Inkayaku.SearchSim
open Inkayaku.Board Inkayaku.Eval Inkayaku.WF Inkayaku.BoardCongr Inkayaku.Minimax Inkayaku.SpecSearch Inkayaku.Search

def Reach (b0 : Board) : Nat → Board → Prop
  | 0, p => vis p = vis b0
  | k + 1, p => ∃ q m, Reach b0 k q ∧ m ∈ genPseudo q ∧ isMoveLegal q m = true ∧ vis p = vis (make q m)

theorem Reach.congr {b0 : Board} {k : Nat} {p p' : Board} (h : Reach b0 k p) (hv : vis p' = vis p) : Reach b0 k p' := by
  cases k with
  | zero => exact hv.trans h
  | succ k =>
    obtain ⟨q, m, h1, h2, h3, h4⟩ := h
    exact ⟨q, m, h1, h2, h3, hv.trans h4⟩

theorem Reach.root (b0 : Board) : Reach b0 0 b0 := rfl

theorem Reach.step {b0 : Board} {k : Nat} {q b : Board} (h : Reach b0 k q) (hb : vis b = vis q) {m : Move}
    (hm : m ∈ genPseudo q) (hl : isMoveLegal q m = true) : Reach b0 (k + 1) (make b m) :=
  ⟨q, m, h, hm, hl, make_congr hb m⟩

theorem Reach.inv {b0 : Board} {B : Nat} (hinv : Inv B b0) : ∀ {k : Nat} {p : Board}, k ≤ B → Reach b0 k p →
    Inv (B - k) p ∧ ply2 p = ply2 b0 + k := by
  intro k
  induction k with
  | zero =>
    intro p _ h
    exact ⟨Inv_congr (Eq.symm h) hinv, ply2_congr h⟩
  | succ k ih =>
    intro p hk h
    obtain ⟨q, m, h1, h2, h3, h4⟩ := h
    obtain ⟨hq, hpl⟩ := ih (by omega) h1
    have hq' : Inv (B - (k + 1) + 1) q := by
      have : B - (k + 1) + 1 = B - k := by omega
      rw [this]; exact hq
    have := boardLaws.make_inv (B - (k + 1)) q m hq' (Or.inl h2) h3
    refine ⟨Inv_congr h4.symm this, ?_⟩
    rw [ply2_congr h4, ply2_make hq.wf, hpl]
    omega

theorem Reach.wf {b0 : Board} {B : Nat} (hinv : Inv B b0) {k : Nat} {p : Board} (hk : k ≤ B) (h : Reach b0 k p) :
    wf p = true := (Reach.inv hinv hk h).1.wf

/-- **HashInj** (explicit hypothesis, not an axiom): within the `D`-ply neighbourhood of the root, a position at a ply at
which the search stores (`k' < D`) and a position at a ply at which it probes (`k ≤ D`) that have the same hash are the
same position at the same ply -/
def HashInj (b0 : Board) (D : Nat) : Prop :=
  ∀ (k' k : Nat) (p' p : Board), k' < D → k ≤ D → Reach b0 k' p' → Reach b0 k p → Zobrist.hash p' = Zobrist.hash p →
    k' = k ∧ vis p' = vis p

/-- **HashNonzero** (explicit hypothesis): no position strictly below the root hashes to zero -/
def HashNonzero (b0 : Board) (D : Nat) : Prop :=
  ∀ (k : Nat) (p : Board), 1 ≤ k → k ≤ D → Reach b0 k p → Zobrist.hash p ≠ 0

def QBound (b0 : Board) (D : Nat) : Prop := ∀ (k : Nat) (p : Board), k ≤ D → Reach b0 k p → QDepth quiescenceFuel p

theorem hash_child {q b : Board} (hwf : wf q = true) (hb : vis b = vis q) {m : Move} (hm : m ∈ genPseudo q) :
    Zobrist.hash (make b m) = Zobrist.hash q ^^^ (Zobrist.xorOf m.f).1 := by
  rw [hash_congr (make_congr hb m)]
  exact ZobristStep.hash_incremental (GenFacts.genPseudo_hashok hwf m hm)

def EntryOK (p : Board) (e : TtEntry) : Prop :=
  e.mv.value = e.value ∧
  match e.nodeType with
  | .exact => e.value = mm game e.depth (p, [])
  | .lower => e.value ≤ mm game e.depth (p, [])
  | .upper => mm game e.depth (p, []) ≤ e.value

def TTOK (b0 : Board) (D : Nat) (tt : Std.HashMap UInt64 TtEntry) : Prop :=
  ∀ h e, tt.get? h = some e →
    ∃ k p, k < D ∧ Reach b0 k p ∧ Zobrist.hash p = h ∧ e.depth + k ≤ D ∧ EntryOK p e

def EntryTrue (v : Int) (e : TtEntry) : Prop :=
  e.mv.value = e.value ∧
  match e.nodeType with
  | .exact => e.value = v
  | .lower => e.value ≤ v
  | .upper => v ≤ e.value

theorem probe_ok (m : Int) (entry : Option TtEntry) (rem : Nat) (α β : Int) (hαβ : α < β)
    (hv : ∀ e, entry = some e → e.depth ≥ rem → EntryTrue m e) :
    match Search.probe entry rem α β with
    | (some r, _, _) => Ok m r.value α β
    | (none, α', β') => α ≤ α' ∧ β' ≤ β ∧ α' < β' ∧ (α < α' → α' ≤ m) ∧ (β' < β → m ≤ β') := by
  cases entry with
  | none => simp only [Search.probe]; omega
  | some x =>
    simp only [Search.probe]
    by_cases hd : x.depth ≥ rem
    · obtain ⟨hval, this⟩ := hv x rfl hd
      simp only [hd, if_true]
      cases hb : x.nodeType with
      | exact =>
        simp only [hb] at this ⊢
        rw [hval, this]; exact Ok.refl _ _ _
      | lower =>
        simp only [hb] at this ⊢
        by_cases hc : max α x.value ≥ β
        · simp only [hc, if_true]
          rw [hval]
          refine ⟨fun h => by omega, fun h => by omega, fun h1 h2 => by omega⟩
        · simp only [hc, if_false]; omega
      | upper =>
        simp only [hb] at this ⊢
        by_cases hc : α ≥ min β x.value
        · simp only [hc, if_true]
          rw [hval]
          refine ⟨fun h => by omega, fun h => by omega, fun h1 h2 => by omega⟩
        · simp only [hc, if_false]; omega
    · simp only [hd, if_false]; omega

structure SOK (b0 : Board) (D : Nat) (s : St) : Prop where
  tt : TTOK b0 D s.tt
  hist : HistZero (plyClock b0) s
  stop : s.stop = false
  sm : s.go.searchMoves = []

/-- no message is waiting and no move time is set: a flag poll only emits its periodic info line -/
def Calm (s : St) : Prop := s.pending = [] ∧ s.go.moveTime = none

/-- a search from `s` that returns the node counter `n` is not interrupted: the counter stays below the poll period
(no flag poll happens at all), or polls find nothing (`Calm`) -/
def NoIntr (s : St) (n : Nat) : Prop := n < s.pollPeriod ∨ Calm s

theorem Calm.setBoard {s : St} (h : Calm s) (b : Board) : Calm { s with board := b } := h

theorem checkMessages_of_calm {s : St} (h : s.pending = []) : checkMessages s = s := by
  rw [checkMessages_def, h]
  show ({ s with pending := [] } : St) = s
  rw [← h]

theorem pollStep_of_calm {s : St} (h : s.pending = []) :
    pollStep s = s ∨ pollStep s = s.emit (.info none (some (s.elapsedNs / 1000000)) s.totalNodes none none) := by
  unfold pollStep
  split
  · right; rw [checkMessages_of_calm h]
  · left; rfl

theorem calm_pollStep {s : St} (h : Calm s) : Calm (pollStep s) := by
  rcases pollStep_of_calm h.1 with e | e <;> rw [e] <;> exact h

theorem timedOut_of_calm {s : St} (h : Calm s) : timedOut s = false := by
  unfold timedOut
  rw [(calm_pollStep h).2, Bool.and_false]

theorem enterShape_of_calm {s : St} (h : Calm s) (hash : UInt64) : EnterShape s hash := by
  unfold EnterShape enter
  rcases pollStep_of_calm h.1 with e | e <;> rw [e]
  · exact ⟨s.out, rfl⟩
  · exact ⟨_, rfl⟩

/-- **a search that is not interrupted stays so**: no step changes the poll period, and a flag poll leaves a calm state calm -/
theorem noIntr_stepRel (D : Nat) : StepRel D (fun s s' => ∀ n, NoIntr s n → NoIntr s' n) where
  refl := fun _ _ h => h
  trans := fun h1 h2 n h => h2 n (h1 n h)
  board := fun _ _ _ h => h
  poll := fun s _ h => h.imp (fun h => ((kept_stepRel D).poll s).2.2.2.1 ▸ h) calm_pollStep
  stop := fun _ _ h => h
  node := fun _ _ h => h
  hist := fun _ _ _ h => h
  qnode := fun _ _ h => h
  killers := fun _ _ _ h => h
  tt := fun _ _ _ _ _ h => h

theorem enter_of_noIntr {s : St} {n : Nat} (h : NoIntr s n) (hn : s.negamaxNodes ≤ n) (hash : UInt64) :
    timedOut s = false ∧ EnterShape s hash := by
  rcases h with h | h
  · have hf := pollFlag_false_of_lt (Nat.lt_of_le_of_lt hn h)
    exact ⟨timedOut_of_noFlag hf, enterShape_of_noFlag hf hash⟩
  · exact ⟨timedOut_of_calm h, enterShape_of_calm h hash⟩

theorem rootBuffer_nil_sm {s : St} (h : s.go.searchMoves = []) (ply : Nat) : rootBuffer s ply = genPseudo s.board := by
  unfold rootBuffer
  rw [h]
  simp

theorem mm_zero (p : Pos) : mm game 0 p = if (game.moves p).isEmpty then game.term p else game.leafExact p := rfl

theorem mm_succ (n : Nat) (p : Pos) :
    mm game (n + 1) p = if (game.moves p).isEmpty then game.term p else mmFold (mm game n) game.loss (game.children p) := rfl

end Inkayaku.SearchSim
