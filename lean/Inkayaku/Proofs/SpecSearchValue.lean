import Inkayaku.Proofs.AlphaBeta
/-!
# C08 – the board instance: the specification search computes the minimax value

`game` = legal moves; mate −(2^24 − fullmove) / stalemate 0 for the mover; horizon = capture resolution (stand-pat of the
static evaluation) when some pseudo-legal move is a capture or promotion, else the static evaluation.
No hypothesis on the board is needed: the static evaluation of the current build is within ±176 000
(`evaluateOngoing_bound`, from the piece values and the generated tables), far inside (−2^24, 2^24).
-/
namespace Inkayaku.C08
open Inkayaku.Board Inkayaku.Eval Inkayaku.Gen Inkayaku.Minimax Inkayaku.SpecSearch

/-- **the verified search computes the minimax value** – for any order of the moves and any order of the captures,
for every depth, every board and every `searchmoves` restriction -/
theorem search_eq_mm (order qorder : Pos → List Move → List Move)
    (ho : ∀ p l, (order p l).Perm l) (hq : ∀ p l, (qorder p l).Perm l) (d : Nat) (p : Pos) :
    (ab (chess.game qorder) order d p lossScore (-lossScore)).1 = mm game d p := by
  have hl := lossScore_val
  rw [show game = chess.game byMvvLva from rfl, searchGame_mm_qorder chess byMvvLva qorder]
  exact root_exact' (chess.game qorder) order ho (game_leafOk qorder hq) (by show lossScore < 0; omega)
    (game_term_ge qorder)
    (fun p => by have := (game_leaf_bound qorder p).1; show lossScore ≤ _; omega)
    (fun p => by have := (game_leaf_bound qorder p).2; show _ ≤ -lossScore; omega) d p

/-- the oracle's value is the exact minimax value of depth `d` -/
theorem specValue_eq_mm (d : Nat) (b : Board) : specValue d b = mm game d (b, []) :=
  search_eq_mm searchOrder byMvvLva isOrder_searchOrder isOrder_byMvvLva d (b, [])

theorem specValueOnly_eq_mm (d : Nat) (b : Board) (only : List String) : specValueOnly d b only = mm game d (b, only) :=
  search_eq_mm searchOrder byMvvLva isOrder_searchOrder isOrder_byMvvLva d (b, only)

theorem specValue_order_irrelevant (order qorder : Pos → List Move → List Move)
    (ho : ∀ p l, (order p l).Perm l) (hq : ∀ p l, (qorder p l).Perm l) (d : Nat) (b : Board) :
    (ab (chess.game qorder) order d (b, []) lossScore (-lossScore)).1 = specValue d b := by
  rw [specValue_eq_mm, search_eq_mm order qorder ho hq]

/-- the null-window test used for the list of best moves is exact -/
theorem attains_iff (depth : Nat) (b : Board) (v : Int) (m : Move) :
    attains depth b v m = true ↔ - mm game (depth - 1) (make b m, []) = v := by
  have hl := lossScore_val
  unfold attains
  split
  · rename_i h
    simp only [Bool.and_eq_true, decide_eq_true_eq] at h
    obtain ⟨a1, a2, a3⟩ := Minimax.ab_ok game searchOrder isOrder_searchOrder (game_leafOk _ isOrder_byMvvLva)
      (depth - 1) (make b m, []) (-v - 1) (-v + 1) (by show lossScore ≤ _; omega) (by omega)
      (by show _ ≤ -lossScore; omega)
    generalize (ab game searchOrder (depth - 1) (make b m, []) (-v - 1) (-v + 1)).1 = r at *
    generalize mm game (depth - 1) (make b m, []) = x at *
    rw [beq_iff_eq]
    constructor <;> intro h' <;> omega
  · rw [beq_iff_eq]
    have : (ab game searchOrder (depth - 1) (make b m, []) lossScore (-lossScore)).1 = mm game (depth - 1) (make b m, []) :=
      search_eq_mm searchOrder byMvvLva isOrder_searchOrder isOrder_byMvvLva (depth - 1) (make b m, [])
    unfold specSearch
    rw [this]
    omega

/-- **the announced set of best moves is exactly the set of minimax-optimal root moves** -/
theorem specBestMoves_eq_optimal (d : Nat) (b : Board) (only : List String) :
    specBestMovesOnly (d + 1) b only = (optimalMoves game (d + 1) (b, only)).map Move.uci := by
  unfold specBestMovesOnly optimalMoves
  simp only
  congr 1
  apply List.filter_congr
  intro m _
  rw [Bool.eq_iff_iff, attains_iff, beq_iff_eq, specValueOnly_eq_mm, Nat.add_sub_cancel]
  exact Iff.rfl

/-- **the move chosen by the search attains the minimax value**, for any move order and capture order.
Clock guards: side to move is 0/1, full-move number ≥ 1 and below 10^6 (mate scores and static values apart). -/
theorem search_best_move_optimal (order qorder : Pos → List Move → List Move)
    (ho : ∀ p l, (order p l).Perm l) (hq : ∀ p l, (qorder p l).Perm l) (d : Nat) (b : Board) (only : List String)
    (ht : b.turn ≤ 1) (hfm : 1 ≤ b.fullmove) (hbig : b.fullmove + (d + 1) < 1000000)
    (hne : (rootMoves b only).isEmpty = false) :
    ∃ m, (ab (chess.game qorder) order (d + 1) (b, only) lossScore (-lossScore)).2 = some m ∧ m ∈ rootMoves b only ∧
      - mm game d (make b m, []) = mm game (d + 1) (b, only) ∧
      m ∈ optimalMoves game (d + 1) (b, only) := by
  have e : ∀ d p, mm (chess.game qorder) d p = mm game d p :=
    fun d p => searchGame_mm_qorder chess qorder byMvvLva d p
  have hb := root_bounds d b only ⟨ht, by omega⟩ hfm
  obtain ⟨m, h1, h2, h3⟩ := Minimax.best_move_optimal (chess.game qorder) order ho (game_leafOk qorder hq) d (b, only) hne
    (by rw [e]; exact hb.1) (by rw [e]; show _ < -lossScore; have := hb.2; have := lossScore_val; have := winScore_val; omega)
  rw [e, e] at h3
  refine ⟨m, h1, h2, h3, ?_⟩
  simp only [optimalMoves, List.mem_filter, beq_iff_eq]
  exact ⟨h2, h3⟩

/-- the engine's move ordering (`MvvLvaMoveOrder::sort` with PV, table and killer bonuses) only permutes the moves,
whatever the hints are – so it is one of the orders the theorems above quantify over -/
theorem engine_order_is_permutation (ms : List Move) (pv tt killer : Option Move) :
    (Search.sortMoves ms pv tt killer).Perm ms := List.mergeSort_perm ms _

#print axioms engine_order_is_permutation
#print axioms search_eq_mm
#print axioms specValue_eq_mm
#print axioms specValueOnly_eq_mm
#print axioms specValue_order_irrelevant
#print axioms attains_iff
#print axioms specBestMoves_eq_optimal
#print axioms search_best_move_optimal

end Inkayaku.C08
