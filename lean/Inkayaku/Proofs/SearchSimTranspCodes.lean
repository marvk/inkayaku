import Inkayaku.Proofs.HashKeys
import Inkayaku.Proofs.Successor
import Inkayaku.Proofs.WfStepProof
/-!
# C08, `Transp13` / `Transp22`: a generated move as an update of two piece-code functions

A side at a square is ONE piece code (`Side.pieceAt`, 0 = none, 1..6 = pawn..king).  `act b q` / `pas b q` are the codes of the
side to move / the other side at `q`.  `Mv w A P M O ep f` says: `f` is a move of a position with code functions `A` (mover) and
`P` (other side), e.p. square `ep`, mover white iff `w`; afterwards the mover has `M` and the other side `O`.  It carries
everything the transposition arguments use: the pointwise description of `M` and `O` (ordinary move / capture / promotion,
en passant, castling), the pawn geometry, the shape of the special moves.

* `mv_of_gen`    – every pseudo-legal move of a well-formed board is such an `Mv` (from `Successor.codes`, `MakeWf.codeFacts`, the pawn
                   geometry of `GenFacts`, and for the square a double step passes over `GenSpec.genPseudo_stepped_empty`);
* `codes_of_key` – boards with the same `HashKey` have the same code functions;
* `cnt`          – number of occupied squares; `Mv.cntM` (the mover keeps its number of pieces), `Mv.cntO` (the other side loses
                   exactly one piece iff the move captures).
-/
namespace Inkayaku.SearchSim.Transp
open Inkayaku.Board Inkayaku.WF Inkayaku.MakeUnmake Inkayaku.Attack Inkayaku.GenFacts Inkayaku.Successor
open Inkayaku.C06 (HashKey)

def act (b : Board) (q : Nat) : Nat := b.active.pieceAt q
def pas (b : Board) (q : Nat) : Nat := b.passive.pieceAt q

def placed (f : MoveF) : Nat := if f.promotion = 0 then f.pieceMoved else f.promotion

def capt (f : MoveF) : Prop := f.pieceAttacked ≠ 0

instance (f : MoveF) : Decidable (capt f) := by unfold capt; exact inferInstance

structure Mv (w : Bool) (A P M O : Nat → Nat) (ep : Nat) (f : MoveF) : Prop where
  rngA : ∀ q, A q ≤ 6
  rngP : ∀ q, P q ≤ 6
  cross : ∀ q, q < 64 → A q ≠ 0 → P q = 0
  s_lt : f.source < 64
  t_lt : f.target < 64
  src : A f.source = f.pieceMoved
  pm_ge : 1 ≤ f.pieceMoved
  pm_le : f.pieceMoved ≤ 6
  tgt : A f.target = 0
  cs_lt : capSq w f.enPassant f.target < 64
  att : f.pieceAttacked = P (capSq w f.enPassant f.target)
  reset : f.halfmoveReset = (f.pieceMoved == 1 || f.pieceAttacked != 0)
  plainM : f.castle = false → ∀ q, q < 64 →
    M q = if q = f.target then placed f else if q = f.source then 0 else A q
  plainO : f.castle = false → ∀ q, q < 64 → O q = if q = capSq w f.enPassant f.target then 0 else P q
  castle : f.castle = true → ∃ rs rt, rs < 64 ∧ rt < 64 ∧ f.source ≠ f.target ∧ f.source ≠ rs ∧ f.source ≠ rt ∧
    f.target ≠ rs ∧ f.target ≠ rt ∧ rs ≠ rt ∧ A rs = 4 ∧ A rt = 0 ∧ P rt = 0 ∧ P f.target = 0 ∧ f.pieceMoved = 6 ∧
    f.enPassant = false ∧ f.promotion = 0 ∧ f.nextEp = 0 ∧
    (∀ q, q < 64 → M q = if q = f.target then 6 else if q = f.source then 0 else if q = rt then 4 else if q = rs then 0
      else A q) ∧
    (∀ q, q < 64 → O q = P q)
  epF : f.enPassant = true → f.pieceMoved = 1 ∧ f.castle = false ∧ f.promotion = 0 ∧ f.nextEp = 0 ∧ ep = f.target ∧ ep ≠ 0 ∧
    P f.target = 0 ∧ f.source % 8 ≠ f.target % 8 ∧
    (if w then f.target + 8 < 64 ∧ P (f.target + 8) = 1 else 8 ≤ f.target ∧ P (f.target - 8) = 1)
  promo : f.promotion ≠ 0 → f.pieceMoved = 1 ∧ 2 ≤ f.promotion ∧ f.promotion ≤ 5
  pawn : f.pieceMoved = 1 → f.castle = false ∧
    (f.promotion ≠ 0 ↔ (if w then f.target < 8 else 56 ≤ f.target)) ∧
    (f.source % 8 ≠ f.target % 8 → f.enPassant = true ∨ P f.target ≠ 0) ∧
    (if f.nextEp = 0 then (if w then f.source / 8 = f.target / 8 + 1 else f.target / 8 = f.source / 8 + 1)
     else f.enPassant = false ∧ f.promotion = 0 ∧ P f.target = 0 ∧ A f.nextEp = 0 ∧ P f.nextEp = 0 ∧ f.nextEp < 64 ∧
       (if w then f.source = f.target + 16 ∧ f.nextEp = f.target + 8 else f.target = f.source + 16 ∧ f.nextEp = f.source + 8))
  nonpawn : f.pieceMoved ≠ 1 → f.enPassant = false ∧ f.promotion = 0 ∧ f.nextEp = 0

theorem make_sides' (b : Board) (m : Move) :
    (make b m).active = mkOther m.f b.whiteTurn b.passive ∧ (make b m).passive = mkMover m.f b.active ∧
    (make b m).whiteTurn = !b.whiteTurn ∧ (make b m).ep = m.f.nextEp :=
  MakeUnmake.makeF_sides b m.f

theorem codes_of_key {p p' : Board} (h : HashKey p = HashKey p') :
    (∀ q, q < 64 → act p q = act p' q) ∧ (∀ q, q < 64 → pas p q = pas p' q) :=
  -- `Side.pieceAt` does not read the scratch word
  ⟨fun q _ => congrArg (·.pieceAt q) (key_sides h).1, fun q _ => congrArg (·.pieceAt q) (key_sides h).2⟩

theorem mv_of_gen {b : Board} (hwf : wf b = true) {m : Move} (hm : m ∈ genPseudo b) :
    Mv b.whiteTurn (act b) (pas b) (pas (make b m)) (act (make b m)) b.ep m.f := by
  have he : Env b := env_of_wf hwf
  have n := (genPseudo_facts hwf m hm).named
  have h := MakeWf.codeFacts he n
  obtain ⟨hact, hpas, -, -⟩ := make_sides' b m
  have free : ∀ q, q < 64 → testU (b.active.full ||| b.passive.full) q = false → act b q = 0 ∧ pas b q = 0 :=
    fun q hq hfree => ⟨code_of_free hq (occ_false hfree).1, code_of_free hq (occ_false hfree).2⟩
  refine {
    rngA := fun q => pieceAt_le _ _, rngP := fun q => pieceAt_le _ _, cross := h.cross, s_lt := h.s_lt, t_lt := n.target_lt,
    src := h.src, pm_ge := n.piece_range.1, pm_le := n.piece_range.2, tgt := h.tgt, cs_lt := n.capSq_lt, att := h.att.symm,
    reset := n.halfmoveReset,
    plainM := ?_, plainO := ?_, castle := ?_, epF := ?_, promo := n.promo, pawn := ?_, nonpawn := n.not_pawn }
  · intro hc q hq
    show (make b m).passive.pieceAt q = _
    have hM := (codes he n hq).1
    simp only [moverCode, hc, Bool.false_eq_true, false_and, if_false] at hM
    rw [hpas, hM]; rfl
  · intro hc q hq
    show (make b m).active.pieceAt q = _
    rw [hact]
    exact (codes he n hq).2
  · intro hc
    obtain ⟨rs, rt, hcr, -, hrs, hrt, d1, d2, d3, d4, d5, d6, hrook, hfr, -, hpk⟩ := castle_squares n hc
    obtain ⟨-, hee, hpr, hne, -⟩ := n.castle hc
    have ptgt : pas b m.f.target = 0 := (h.castle hc).2.2.2.1
    refine ⟨rs, rt, hrs, hrt, d1, d2, d3, d4, d5, d6, he.act.code (by decide) (by decide) hrook,
      (free rt hrt hfr).1, (free rt hrt hfr).2, ptgt, hpk, hee, hpr, hne, ?_, ?_⟩
    · intro q hq
      show (make b m).passive.pieceAt q = _
      have hM := (codes he n hq).1
      simp only [moverCode, hc, true_and, rookSq_of hcr, hpr, if_true, hpk] at hM
      rw [hpas, hM]; rfl
    · intro q hq
      show (make b m).active.pieceAt q = _
      rw [hact, (codes he n hq).2, otherCode, hee, show capSq b.whiteTurn false m.f.target = m.f.target from rfl]
      split
      · next e => rw [e]; exact ptgt.symm
      · rfl
  · intro hee
    obtain ⟨h1, h2, h3, h4, h5, h6, -, h8, h9⟩ := n.ep hee
    -- the captured piece is the pawn on the capture square
    have hv := h.att
    rw [hee, (h.ep hee).1] at hv
    refine ⟨h1, h2, h3, h4, h5, h6, (h.ep hee).2, h8, ?_⟩
    cases hw : b.whiteTurn <;> rw [hw] at h9 hv
    · exact ⟨h9.1, hv⟩
    · exact ⟨h9.1, hv⟩
  · intro hp
    obtain ⟨h1, h2, h3, h4⟩ := n.pawn hp
    refine ⟨h1, h2, ?_, ?_⟩
    · intro hne
      rcases h3 hne with e | e
      · exact Or.inl e
      · right
        intro h0
        rw [(pieceAt_zero b.passive _ n.target_lt).mp h0] at e; cases e
    · by_cases h0 : m.f.nextEp = 0
      · rw [if_pos h0] at h4 ⊢; exact h4
      · rw [if_neg h0] at h4 ⊢
        obtain ⟨g1, g2, g3, g4⟩ := h4
        have hs := h.s_lt
        have ht := n.target_lt
        have hlt : m.f.nextEp < 64 := by
          split at g4
          · omega
          · omega
        have hfree := free _ hlt (GenSpec.genPseudo_stepped_empty (GenOK.wf_facts hwf) m hm h0)
        exact ⟨g1, g2, code_of_free n.target_lt g3, hfree.1, hfree.2, hlt, g4⟩

def occ (c : Nat) : Nat := if c = 0 then 0 else 1

def cnt (g : Nat → Nat) (n : Nat) : Nat := wsum occ g n

theorem cnt_congr {g g' : Nat → Nat} (n : Nat) (h : ∀ q, q < n → g q = g' q) : cnt g n = cnt g' n := wsum_congr n h

theorem Mv.cntM {w : Bool} {A P M O : Nat → Nat} {ep : Nat} {f : MoveF} (h : Mv w A P M O ep f) :
    cnt M 64 = cnt A 64 := by
  have hs : occ (A f.source) = 1 := by rw [h.src]; exact if_neg (by have := h.pm_ge; omega)
  have hpl : occ (placed f) = 1 := by
    unfold placed
    split
    · exact if_neg (by have := h.pm_ge; omega)
    · next hp => exact if_neg hp
  have : wsum occ M 64 + occ (A f.source) = wsum occ A 64 + occ (placed f) := by
    refine wsum_moved occ h.s_lt h.t_lt h.tgt ?_
    cases hc : f.castle
    · exact .inl (h.plainM hc)
    · obtain ⟨rs, rt, hrs, hrt, -, d2, d3, d4, d5, -, ars, art, -, -, hk, -, hpr, -, hM, -⟩ := h.castle hc
      exact .inr ⟨rs, rt, hrs, hrt, d2, d3, d4, d5, ars, art, by rw [placed, if_pos hpr, hk]; exact hM⟩
  unfold cnt
  omega

theorem Mv.cntO {w : Bool} {A P M O : Nat → Nat} {ep : Nat} {f : MoveF} (h : Mv w A P M O ep f) :
    cnt O 64 + (if f.pieceAttacked = 0 then 0 else 1) = cnt P 64 := by
  cases hc : f.castle
  · have := wsum_swap occ (g := P) (g' := O) 64 h.cs_lt (fun q hq hne => by rw [h.plainO hc q hq, if_neg hne])
    rw [h.plainO hc _ h.cs_lt, if_pos rfl, ← h.att] at this
    exact this
  · obtain ⟨rs, rt, -, -, -, -, -, -, -, -, -, -, -, pt, -, hee, -, -, -, hO⟩ := h.castle hc
    have e : cnt O 64 = cnt P 64 := cnt_congr 64 hO
    have : f.pieceAttacked = 0 := by
      rw [h.att, hee]
      unfold capSq
      simp only [Bool.false_eq_true, if_false]
      exact pt
    rw [e, if_pos this]; rfl

section

variable {w : Bool} {A P M O : Nat → Nat} {ep : Nat} {f : MoveF}

theorem Mv.src_ne0 (h : Mv w A P M O ep f) : A f.source ≠ 0 := by
  rw [h.src]; have := h.pm_ge; omega

theorem Mv.src_ne_tgt (h : Mv w A P M O ep f) : f.source ≠ f.target := by
  intro e; have := h.tgt; rw [← e] at this; exact h.src_ne0 this

theorem Mv.placed_ne0 (h : Mv w A P M O ep f) : placed f ≠ 0 := by
  unfold placed; split
  · have := h.pm_ge; omega
  · assumption

theorem Mv.vacate (h : Mv w A P M O ep f) : M f.source = 0 := by
  cases hc : f.castle
  · rw [h.plainM hc _ h.s_lt, if_neg h.src_ne_tgt, if_pos rfl]
  · obtain ⟨rs, rt, -, -, d1, -, -, -, -, -, -, -, -, -, -, -, -, -, hM, -⟩ := h.castle hc
    rw [hM _ h.s_lt, if_neg d1, if_pos rfl]

theorem Mv.at_tgt (h : Mv w A P M O ep f) : M f.target = placed f := by
  cases hc : f.castle
  · rw [h.plainM hc _ h.t_lt, if_pos rfl]
  · obtain ⟨rs, rt, -, -, -, -, -, -, -, -, -, -, -, -, hk, -, hpr, -, hM, -⟩ := h.castle hc
    rw [hM _ h.t_lt, if_pos rfl]
    unfold placed
    rw [if_pos hpr, hk]

theorem Mv.O_cases (h : Mv w A P M O ep f) {q : Nat} (hq : q < 64) :
    O q = P q ∨ (f.castle = false ∧ q = capSq w f.enPassant f.target ∧ O q = 0 ∧ P q = f.pieceAttacked ∧ f.pieceAttacked ≠ 0) := by
  cases hc : f.castle
  · by_cases e : q = capSq w f.enPassant f.target
    · by_cases h0 : P q = 0
      · left; rw [h.plainO hc q hq, if_pos e, h0]
      · right; refine ⟨rfl, e, ?_, ?_, ?_⟩
        · rw [h.plainO hc q hq, if_pos e]
        · rw [h.att, ← e]
        · rw [h.att, ← e]; exact h0
    · left; rw [h.plainO hc q hq, if_neg e]
  · obtain ⟨rs, rt, -, -, -, -, -, -, -, -, -, -, -, -, -, -, -, -, -, hO⟩ := h.castle hc
    left; exact hO q hq

theorem Mv.O_sub (h : Mv w A P M O ep f) {q : Nat} (hq : q < 64) (h0 : O q ≠ 0) : O q = P q := by
  rcases h.O_cases hq with e | ⟨-, -, e, -⟩
  · exact e
  · exact absurd e h0

theorem Mv.quietO (h : Mv w A P M O ep f) (h0 : f.pieceAttacked = 0) {q : Nat} (hq : q < 64) : O q = P q := by
  rcases h.O_cases hq with e | ⟨-, -, -, -, e⟩
  · exact e
  · exact absurd h0 e

theorem Mv.ep_att (h : Mv w A P M O ep f) (he : f.enPassant = true) : f.pieceAttacked = 1 := by
  obtain ⟨-, -, -, -, -, -, -, -, h9⟩ := h.epF he
  rw [h.att, he]
  unfold capSq
  cases w
  · simp only [Bool.false_eq_true, if_false, if_true] at h9 ⊢; exact h9.2
  · simp only [if_true] at h9 ⊢; exact h9.2

theorem Mv.capSq_noep (_h : Mv w A P M O ep f) (he : f.enPassant = false) : capSq w f.enPassant f.target = f.target := by
  rw [he]; unfold capSq; simp

theorem Mv.quiet_noep (h : Mv w A P M O ep f) (h0 : f.pieceAttacked = 0) : f.enPassant = false := by
  cases he : f.enPassant
  · rfl
  · have := h.ep_att he; omega

theorem Mv.quiet_tgt (h : Mv w A P M O ep f) (h0 : f.pieceAttacked = 0) : P f.target = 0 := by
  have := h.att
  rw [h.capSq_noep (h.quiet_noep h0), h0] at this
  exact this.symm

/-- `8` for the side whose pawns move towards smaller square numbers (white), `0` for the other: whichever side `w` moves,
its pawn steps from `s` to `t` iff `s + adv (!w) = t + adv w`.  Pawn geometry stated this way is linear arithmetic over the
two unknowns `adv w`, `adv (!w)` (`adv_cases`), with no case split on the side. -/
def adv (w : Bool) : Nat := if w then 8 else 0

theorem adv_cases (w : Bool) : (adv w = 8 ∧ adv (!w) = 0) ∨ (adv w = 0 ∧ adv (!w) = 8) := by
  cases w
  · exact Or.inr ⟨rfl, rfl⟩
  · exact Or.inl ⟨rfl, rfl⟩

theorem Mv.ep_capSq (h : Mv w A P M O ep f) (he : f.enPassant = true) :
    capSq w f.enPassant f.target + adv (!w) = f.target + adv w := by
  obtain ⟨-, -, -, -, -, -, -, -, h9⟩ := h.epF he
  rw [he]
  unfold capSq adv
  cases w
  · simp only [Bool.false_eq_true, if_false, if_true, Bool.not_false] at h9 ⊢; omega
  · simp only [if_true, Bool.not_true, Bool.false_eq_true, if_false] at h9 ⊢

theorem Mv.pawn_double (h : Mv w A P M O ep f) (hp : f.pieceMoved = 1) (hn : f.nextEp ≠ 0) :
    f.source + 2 * adv (!w) = f.target + 2 * adv w ∧ f.nextEp + adv (!w) = f.target + adv w ∧
    A f.nextEp = 0 ∧ P f.nextEp = 0 := by
  obtain ⟨-, -, -, h4⟩ := h.pawn hp
  rw [if_neg hn] at h4
  obtain ⟨-, -, -, g1, g2, -, g3⟩ := h4
  refine ⟨?_, ?_, g1, g2⟩
  · unfold adv
    cases w
    · simp only [Bool.false_eq_true, if_false, Bool.not_false, if_true] at g3 ⊢; omega
    · simp only [if_true, Bool.not_true, Bool.false_eq_true, if_false] at g3 ⊢; omega
  · unfold adv
    cases w
    · simp only [Bool.false_eq_true, if_false, Bool.not_false, if_true] at g3 ⊢; omega
    · simp only [if_true, Bool.not_true, Bool.false_eq_true, if_false] at g3 ⊢; omega

theorem Mv.pawn_quiet (h : Mv w A P M O ep f) (hp : f.pieceMoved = 1) (h0 : f.pieceAttacked = 0) :
    f.source + adv (!w) = f.target + adv w ∨
    (f.source + 2 * adv (!w) = f.target + 2 * adv w ∧ f.nextEp + adv (!w) = f.target + adv w ∧
      A f.nextEp = 0 ∧ P f.nextEp = 0) := by
  by_cases hn : f.nextEp = 0
  · left
    obtain ⟨-, -, h3, h4⟩ := h.pawn hp
    have hfile : f.source % 8 = f.target % 8 := by
      false_or_by_contra
      rename_i hne
      rcases h3 hne with e | e
      · have := h.quiet_noep h0; rw [this] at e; cases e
      · exact e (h.quiet_tgt h0)
    have hs := h.s_lt
    have ht := h.t_lt
    rw [if_pos hn] at h4
    unfold adv
    cases w
    · simp only [Bool.false_eq_true, if_false, Bool.not_false, if_true] at h4 ⊢; omega
    · simp only [if_true, Bool.not_true, Bool.false_eq_true, if_false] at h4 ⊢; omega
  · exact Or.inr (h.pawn_double hp hn)

/-- the square behind the target of a pawn push (its source, or the square a double step passes over) holds nothing of the
other side -/
theorem Mv.push_behind (h : Mv w A P M O ep f) (hp : f.pieceMoved = 1) (h0 : f.pieceAttacked = 0) {v : Nat}
    (hv : v + adv (!w) = f.target + adv w) : P v = 0 := by
  rcases h.pawn_quiet hp h0 with g | ⟨-, g, -, g4⟩
  · obtain rfl : v = f.source := by omega
    exact h.cross _ h.s_lt h.src_ne0
  · obtain rfl : v = f.nextEp := by omega
    exact g4

theorem Mv.M_cases (h : Mv w A P M O ep f) {q : Nat} (hq : q < 64) :
    M q = A q ∨ q = f.source ∨ A q = 0 ∨ (f.castle = true ∧ A q = 4) := by
  cases hc : f.castle
  · rw [h.plainM hc q hq]
    by_cases e1 : q = f.target
    · right; right; left; rw [e1]; exact h.tgt
    · rw [if_neg e1]
      by_cases e2 : q = f.source
      · right; left; exact e2
      · left; rw [if_neg e2]
  · obtain ⟨rs, rt, -, -, -, -, -, -, -, -, ars, art, -, -, -, -, -, -, hM, -⟩ := h.castle hc
    rw [hM q hq]
    by_cases e1 : q = f.target
    · right; right; left; rw [e1]; exact h.tgt
    · rw [if_neg e1]
      by_cases e2 : q = f.source
      · right; left; exact e2
      · rw [if_neg e2]
        by_cases e3 : q = rt
        · right; right; left; rw [e3]; exact art
        · rw [if_neg e3]
          by_cases e4 : q = rs
          · right; right; right; rw [e4]; exact ⟨rfl, ars⟩
          · left; rw [if_neg e4]

theorem Mv.placed_pawn (h : Mv w A P M O ep f) (h1 : placed f = 1) : f.pieceMoved = 1 := by
  unfold placed at h1
  split at h1
  · exact h1
  · rename_i hp; have := (h.promo hp).2.1; omega

theorem Mv.new_pawn (h : Mv w A P M O ep f) {q : Nat} (hq : q < 64) (ha : A q = 0) (h1 : M q = 1) :
    q = f.target ∧ f.pieceMoved = 1 := by
  cases hc : f.castle
  · rw [h.plainM hc q hq] at h1
    split at h1
    · next e => exact ⟨e, h.placed_pawn h1⟩
    · split at h1
      · omega
      · omega
  · -- castling puts a king and a rook, no pawn
    obtain ⟨rs, rt, -, -, -, -, -, -, -, -, -, -, -, -, -, -, -, -, hM, -⟩ := h.castle hc
    rw [hM q hq] at h1
    split at h1
    · omega
    · split at h1
      · omega
      · split at h1
        · omega
        · split at h1
          · omega
          · omega

theorem Mv.keep_pawn (h : Mv w A P M O ep f) (hnp : f.pieceMoved ≠ 1) {q : Nat} (hq : q < 64) (h1 : A q = 1) : M q = 1 := by
  rcases h.M_cases hq with e | e | e | ⟨-, e⟩
  · rw [e, h1]
  · rw [e, h.src] at h1; exact absurd h1 hnp
  · omega
  · omega

end

/-- two moves from one position after which the mover has the same codes: both move a pawn or neither does (the pawn has left
its square, where it stays when another piece moves) -/
theorem Mv.pawn_of_same {w : Bool} {A P M O M' O' : Nat → Nat} {ep : Nat} {f f' : MoveF} (h : Mv w A P M O ep f)
    (h' : Mv w A P M' O' ep f') (eM : ∀ q, q < 64 → M q = M' q) (hp : f.pieceMoved = 1) : f'.pieceMoved = 1 := by
  false_or_by_contra
  rename_i hn
  have e1 : M f.source = 0 := h.vacate
  have e2 : M' f.source = 1 := h'.keep_pawn hn h.s_lt (by rw [h.src, hp])
  rw [eM _ h.s_lt, e2] at e1
  cases e1

/-- two moves reset the half-move clock alike if both capture or neither does (`hc`, read off the piece counts) and, when
neither does, both move a pawn or neither does -/
theorem reset_congr {p p' a a' : Nat} (hc : (if a = 0 then 0 else 1) = (if a' = 0 then 0 else 1))
    (hp : a = 0 → a' = 0 → (p = 1 ↔ p' = 1)) : (p == 1 || a != 0) = (p' == 1 || a' != 0) := by
  rw [Bool.eq_iff_iff]
  simp only [Bool.or_eq_true, beq_iff_eq, bne_iff_ne, ne_eq]
  by_cases h : a = 0
  · by_cases h' : a' = 0
    · rw [hp h h', h, h']
    · rw [if_pos h, if_neg h'] at hc; cases hc
  · by_cases h' : a' = 0
    · rw [if_neg h, if_pos h'] at hc; cases hc
    · simp [h, h']

#print axioms mv_of_gen

end Inkayaku.SearchSim.Transp

namespace Inkayaku.SearchSim
open Inkayaku.Board Inkayaku.WF Inkayaku.Search Inkayaku.SearchSim.Transp
open Inkayaku.C06 (HashKey)

theorem make_halfmove (b : Board) (m : Move) :
    (make b m).halfmove = if m.f.halfmoveReset then 0 else b.halfmove + 1 := rfl

/-- **the root does not recur after two plies**: the side that moved first has vacated a square, and the reply puts nothing of
that side there -/
theorem key_cross02 {b0 : Board} (hinv : Inv 1 b0) {m1 m2 : Move} (h1 : m1 ∈ genLegal b0) (h2 : m2 ∈ genLegal (make b0 m1)) :
    HashKey (make (make b0 m1) m2) ≠ HashKey b0 := by
  obtain ⟨g1, l1⟩ := List.mem_filter.mp h1
  obtain ⟨g2, _⟩ := List.mem_filter.mp h2
  have hwf1 : wf (make b0 m1) = true := (boardLaws.make_inv 0 b0 m1 hinv (Or.inl g1) l1).wf
  have M1 := mv_of_gen hinv.wf g1
  have M2 := mv_of_gen hwf1 g2
  intro hkey
  have h0 : act (make (make b0 m1) m2) m1.f.source ≠ 0 := by
    rw [(codes_of_key hkey).1 _ M1.s_lt]; exact M1.src_ne0
  have e := M2.O_sub M1.s_lt h0
  rw [M1.vacate] at e
  exact h0 e

/-- **two root moves with the same key reset the half-move clock alike**: counting the other side's pieces, both capture or
neither does; both move a pawn or neither does -/
theorem key_same1 {b0 : Board} (hwf : wf b0 = true) {m m' : Move} (h : m ∈ genLegal b0) (h' : m' ∈ genLegal b0)
    (hkey : HashKey (make b0 m) = HashKey (make b0 m')) : (make b0 m).halfmove = (make b0 m').halfmove := by
  have M := mv_of_gen hwf (List.mem_filter.mp h).1
  have M' := mv_of_gen hwf (List.mem_filter.mp h').1
  obtain ⟨eO, eM⟩ := codes_of_key hkey
  have c := M.cntO
  have c' := M'.cntO
  rw [cnt_congr 64 eO] at c
  rw [make_halfmove, make_halfmove, M.reset, M'.reset, reset_congr (a := m.f.pieceAttacked) (a' := m'.f.pieceAttacked)
    (by omega) (fun _ _ => ⟨M.pawn_of_same M' eM, M'.pawn_of_same M (fun q hq => (eM q hq).symm)⟩)]

end Inkayaku.SearchSim
