import Inkayaku.Proofs.SearchSimTransp13
import Inkayaku.Proofs.SearchSimTransp22
import Inkayaku.Proofs.SearchSimHash
import Inkayaku.Proofs.SearchPv
/-!
# C08: lines of at most three legal moves from one root that reach the same key

A line is a `Search.LegalLine b ms`, the board after it `ms.foldl make b`; a position `k` plies below `b` is the end of a line of
`k` moves (`Reach.line`).  `lines_le3` is the one chess fact behind `SameDraft b 3` (and with it `HashInj`, `RHashInj` for depth ≤ 3):

  two lines from one root, of lengths `k' < n` and `k ≤ n ≤ 3`, that end in positions with the same `HashKey`
  have the same length and end with the same half-move clock.

Equal keys give the same side to move, so the lengths have the same parity; what is left is 0/0, 1/1 (`key_same1`),
2/2 (`Transp.same22`), 0/2 (`key_cross02`) and 1/3 (`Transp.no13`).  For lengths 3/3 the statement is false (`e3 Nf6 Nf3` and
`Nf3 Nf6 e3`), as is the analogue of 1/3 for 2/4: this is where depth 3 comes from.
-/
namespace Inkayaku.Search
open Inkayaku.Board

theorem LegalLine.head {b : Board} {m : Move} {ms : List Move} (h : LegalLine b (m :: ms)) : m ∈ genLegal b :=
  List.mem_filter.mpr ⟨h.1, h.2.1⟩

theorem LegalLine.cons {b : Board} {m : Move} {ms : List Move} (hm : m ∈ genLegal b) (h : LegalLine (make b m) ms) :
    LegalLine b (m :: ms) :=
  ⟨(List.mem_filter.mp hm).1, (List.mem_filter.mp hm).2, h⟩

theorem LegalLine.tail {b : Board} {m : Move} {ms : List Move} (h : LegalLine b (m :: ms)) : LegalLine (make b m) ms := h.2.2

theorem LegalLine.snoc : ∀ {ms : List Move} {b : Board} {m : Move}, LegalLine b ms → m ∈ genPseudo (ms.foldl make b) →
    isMoveLegal (ms.foldl make b) m = true → LegalLine b (ms ++ [m])
  | [], _, _, _, hm, hl => ⟨hm, hl, trivial⟩
  | _ :: _, _, _, ⟨h1, h2, h3⟩, hm, hl => ⟨h1, h2, LegalLine.snoc h3 hm hl⟩

end Inkayaku.Search

namespace Inkayaku.SearchSim
open Inkayaku.Board Inkayaku.WF Inkayaku.BoardCongr Inkayaku.Search Inkayaku.SearchSim.Transp
open Inkayaku.C06 (HashKey)

theorem Reach.line {b : Board} : ∀ {k : Nat} {p : Board}, Reach b k p →
    ∃ ms, ms.length = k ∧ LegalLine b ms ∧ vis p = vis (ms.foldl make b)
  | 0, _, h => ⟨[], rfl, trivial, h⟩
  | k + 1, p, ⟨q, m, hq, hm, hl, hv⟩ => by
    obtain ⟨ms, hlen, hline, hvq⟩ := Reach.line hq
    refine ⟨ms ++ [m], by rw [List.length_append, hlen]; rfl, hline.snoc ?_ ?_, ?_⟩
    · rw [← genPseudo_congr hvq]; exact hm
    · unfold isMoveLegal
      rw [← isValid_congr (make_congr hvq m)]; exact hl
    · rw [List.foldl_append]
      exact hv.trans (make_congr hvq m)

/-- a legal move of a board with budget, the mover and e.p. square of the board being given as `w`, `ep`: the `Mv` description,
the budget of the successor, and the mover and e.p. square there -/
theorem legal_step {k : Nat} {b : Board} (hinv : Inv (k + 1) b) {m : Move} (hm : m ∈ genLegal b) {w : Bool} {ep : Nat}
    (hw : b.whiteTurn = w) (hep : b.ep = ep) :
    Mv w (act b) (pas b) (pas (make b m)) (act (make b m)) ep m.f ∧ Inv k (make b m) ∧
    (make b m).whiteTurn = (!w) ∧ (make b m).ep = m.f.nextEp := by
  obtain ⟨g, l⟩ := List.mem_filter.mp hm
  obtain ⟨-, -, h3, h4⟩ := make_sides' b m
  subst hw hep
  exact ⟨mv_of_gen hinv.wf g, boardLaws.make_inv k b m hinv (Or.inl g) l, h3, h4⟩

theorem foldl_make_turn : ∀ (ms : List Move) {b : Board}, b.turn ≤ 1 → (ms.foldl make b).turn = (b.turn + ms.length) % 2
  | [], b, h => by
    rw [List.foldl_nil, List.length_nil]
    omega
  | m :: ms, b, h => by
    rw [List.foldl_cons, foldl_make_turn ms (b := make b m) (by rw [make_turn]; omega), make_turn, List.length_cons]
    omega

theorem lines_le3 {b : Board} {n : Nat} (hinv : Inv n b) (hn : n ≤ 3) {l' l : List Move} (hl' : LegalLine b l') (hl : LegalLine b l)
    (hk' : l'.length < n) (hk : l.length ≤ n) (hkey : HashKey (l'.foldl make b) = HashKey (l.foldl make b)) :
    l'.length = l.length ∧ (l'.foldl make b).halfmove = (l.foldl make b).halfmove := by
  have hturn := ((WF.wf_iff b).mp hinv.wf).turn
  -- the same side is to move at both ends: the lengths have the same parity
  have hpar : (l'.length + l.length) % 2 = 0 := by
    have ht := key_turn hkey
    rw [foldl_make_turn l' hturn, foldl_make_turn l hturn] at ht
    omega
  rcases l' with _ | ⟨m1, _ | ⟨m2, _ | ⟨m3, r'⟩⟩⟩
  · rcases l with _ | ⟨a1, _ | ⟨a2, _ | ⟨a3, r⟩⟩⟩
    · exact ⟨rfl, rfl⟩
    · simp only [List.length_cons, List.length_nil] at hpar
      omega
    · -- 0 / 2
      exact (key_cross02 (Inv_mono (by omega) hinv) (LegalLine.head hl) (LegalLine.head (LegalLine.tail hl)) hkey.symm).elim
    · simp only [List.length_cons, List.length_nil] at hpar hk
      omega
  · rcases l with _ | ⟨a1, _ | ⟨a2, _ | ⟨a3, r⟩⟩⟩
    · simp only [List.length_cons, List.length_nil] at hpar
      omega
    · -- 1 / 1
      exact ⟨rfl, key_same1 hinv.wf (LegalLine.head hl') (LegalLine.head hl) hkey⟩
    · simp only [List.length_cons, List.length_nil] at hpar
      omega
    · -- 1 / 3
      obtain rfl : r = [] := List.length_eq_zero_iff.mp (by simp only [List.length_cons] at hk; omega)
      have h3 : Inv (2 + 1) b := Inv_mono (by simp only [List.length_cons] at hk; omega) hinv
      obtain ⟨Mm, -, -, -⟩ := legal_step h3 (LegalLine.head hl') rfl rfl
      obtain ⟨Ma, ia, ta, ea⟩ := legal_step h3 (LegalLine.head hl) rfl rfl
      obtain ⟨Mx, ix, tx, ex⟩ := legal_step ia (LegalLine.head (LegalLine.tail hl)) ta ea
      obtain ⟨Mc, -, -, -⟩ := legal_step ix (LegalLine.head (LegalLine.tail (LegalLine.tail hl))) (tx.trans (Bool.not_not _)) ex
      obtain ⟨eB, eW⟩ := codes_of_key hkey
      exact (no13 Mm Ma Mx Mc eW eB).elim
  · rcases l with _ | ⟨a1, _ | ⟨a2, _ | ⟨a3, r⟩⟩⟩
    · -- 2 / 0
      exact (key_cross02 (Inv_mono (by omega) hinv) (LegalLine.head hl') (LegalLine.head (LegalLine.tail hl')) hkey).elim
    · simp only [List.length_cons, List.length_nil] at hpar
      omega
    · -- 2 / 2
      have h2 : Inv (1 + 1) b := Inv_mono (by simp only [List.length_cons] at hk; omega) hinv
      obtain ⟨M1, i1, t1, e1⟩ := legal_step h2 (LegalLine.head hl') rfl rfl
      obtain ⟨M2, -, -, -⟩ := legal_step i1 (LegalLine.head (LegalLine.tail hl')) t1 e1
      obtain ⟨A1, j1, u1, f1⟩ := legal_step h2 (LegalLine.head hl) rfl rfl
      obtain ⟨A2, -, -, -⟩ := legal_step j1 (LegalLine.head (LegalLine.tail hl)) u1 f1
      obtain ⟨eW, eB⟩ := codes_of_key hkey
      obtain ⟨r2, r1⟩ := same22 M1 M2 A1 A2 eW eB
      refine ⟨rfl, ?_⟩
      show (make (make b m1) m2).halfmove = (make (make b a1) a2).halfmove
      rw [make_halfmove, make_halfmove, make_halfmove, make_halfmove, ← r2]
      cases h : m2.f.halfmoveReset
      · rw [← r1 h]
      -- not `rfl`: it would compare the two unreached else-branches, which unfolds `make`
      · exact (if_pos rfl).trans (if_pos rfl).symm
    · simp only [List.length_cons, List.length_nil] at hpar hk
      omega
  · simp only [List.length_cons] at hk'
    omega

#print axioms lines_le3

end Inkayaku.SearchSim
