import Inkayaku.Proofs.GenStrong
import Inkayaku.Proofs.MakeCount
/-!
# The well-formedness step: a generated move that passes `isValid` leads to a well-formed board

`WF.Parts b` is `WF.wf b = true` as a record of its fourteen conjuncts.  `Attack.Holds s c`: the six piece words of the side
`s` hold, square by square, exactly the piece with code `c q`; pairwise disjointness of the words IS the existence of such a
`c` (`Attack.holds_of_disjoint`, `Attack.disjoint_of_holds`; all four in `Proofs/Side.lean`), and no pawn on the outer ranks / king and rook at home / the e.p. conjunct are statements about `c`.
`Successor.codes_hot` gives `Holds` of both sides after a generated move for the explicit code functions `moverCode` and
`otherCode`, so each of these conjuncts of `WF.wf` for the successor is a pointwise argument about these two functions from what
`Env` and `Named` say about the codes before the move (`CodeFacts`); one king per side is a count, read off what the move
does to the number of men of each kind (`Proofs/MakeCount.lean`).  `step_disj`, `step_kings`, `step_pawns`,
`step_rights_mover`/`step_rights_other`, `step_ep` are (1), (2), (3), (5), (6) in the numbering of the `WF.wf` docstring;
there is no (4): "the side not to move is not in check" for the successor is `isValid` of it, the hypothesis `hv` of `make_wfP`.
-/
namespace Inkayaku.MakeWf
open Inkayaku.Board Inkayaku.Gen Inkayaku.WF Inkayaku.GenStrong

theorem testU_eq_getLsbD (x : UInt64) (t : Nat) : testU x t = x.toBitVec.getLsbD t := rfl

section
variable (b : Board) (src tgt piece : Nat) (castle ep : Bool) (promo epOpp : Nat)

@[simp] theorem mkF_castle : (mkF b src tgt piece castle ep promo epOpp).castle = castle := rfl
@[simp] theorem mkF_ep : (mkF b src tgt piece castle ep promo epOpp).enPassant = ep := rfl
@[simp] theorem mkF_promo : (mkF b src tgt piece castle ep promo epOpp).promotion = promo := rfl
@[simp] theorem mkF_piece : (mkF b src tgt piece castle ep promo epOpp).pieceMoved = piece := rfl
@[simp] theorem mkF_source : (mkF b src tgt piece castle ep promo epOpp).source = src := rfl
@[simp] theorem mkF_target : (mkF b src tgt piece castle ep promo epOpp).target = tgt := rfl
@[simp] theorem mkF_nextEp : (mkF b src tgt piece castle ep promo epOpp).nextEp = epOpp := rfl

end

def PawnOK (s : Side) : Prop := ∀ t, t < 64 → testU rank18U t = true → testU s.pawns t = false

theorem pawnOK_iff (w k : Side) : (w.pawns ||| k.pawns) &&& rank18U = 0 ↔ PawnOK w ∧ PawnOK k := by
  rw [Bits.and_eq_zero_iff]
  constructor
  · intro h
    constructor
    · intro t ht hr
      cases hb : testU w.pawns t
      · rfl
      · exact absurd ⟨by rw [Bits.testU_or, hb]; rfl, hr⟩ (h t ht)
    · intro t ht hr
      cases hb : testU k.pawns t
      · rfl
      · exact absurd ⟨by rw [Bits.testU_or, hb, Bool.or_true], hr⟩ (h t ht)
  · rintro ⟨hw, hk⟩ t ht ⟨h1, h2⟩
    rw [Bits.testU_or, hw t ht h2, hk t ht h2] at h1
    cases h1

/-- castling rights of a side with home squares `e` (king), `rk` (king-side rook), `rq` (queen-side rook) -/
def RightsOK (s : Side) (e rk rq : Nat) : Prop :=
  (s.ks = true → testU s.kings e = true ∧ testU s.rooks rk = true) ∧
  (s.qs = true → testU s.kings e = true ∧ testU s.rooks rq = true)

/-- the colour-dependent conjuncts of `WF.Parts`, for the side to move `a` and the other side `p`; `d` is `dCastle`: 0 seen
from white, 56 seen from black -/
structure SidesOK (a p : Side) (d : Nat) : Prop where
  disj : disjointAll (Attack.sideWords a ++ Attack.sideWords p) = true
  king_a : popcount a.kings = 1
  king_p : popcount p.kings = 1
  pawn_a : PawnOK a
  pawn_p : PawnOK p
  rights_a : RightsOK a (E1 - d) (H1 - d) (A1 - d)
  rights_p : RightsOK p (E8 + d) (H8 + d) (A8 + d)

/-- the home squares seen from black are those seen from white shifted by 56 -/
theorem SidesOK.toBlack {a p : Side} (h : SidesOK a p 0) : SidesOK p a 56 :=
  ⟨Attack.disjoint_symm h.disj, h.king_p, h.king_a, h.pawn_p, h.pawn_a, h.rights_p, h.rights_a⟩

theorem SidesOK.toWhite {a p : Side} (h : SidesOK a p 56) : SidesOK p a 0 :=
  ⟨Attack.disjoint_symm h.disj, h.king_p, h.king_a, h.pawn_p, h.pawn_a, h.rights_p, h.rights_a⟩

theorem _root_.Inkayaku.WF.Parts.sides {c : Board} (h : Parts c) : SidesOK c.white c.black 0 :=
  have ⟨pw, pk⟩ := (pawnOK_iff _ _).mp h.pawns
  ⟨h.disj, h.wk, h.bk, pw, pk, ⟨h.wks, h.wqs⟩, ⟨h.bks, h.bqs⟩⟩

theorem sidesOK_active {b : Board} (hwf : Parts b) : SidesOK b.active b.passive (dCastle b) := by
  have h := hwf.sides
  unfold dCastle
  rcases Attack.sides_cases b with ⟨hw, ha, hp⟩ | ⟨hw, ha, hp⟩
  · rw [ha, hp, hw]; exact h
  · rw [ha, hp, hw]; exact h.toBlack

open Inkayaku.Successor Inkayaku.GenFacts Inkayaku.Attack Inkayaku.MakeUnmake

theorem rank18_iff : ∀ t, t < 64 → (testU rank18U t = false ↔ 8 ≤ t ∧ t < 56) := by decide

theorem _root_.Inkayaku.Attack.Holds.pawnOK {s : Side} {c : Nat → Nat} (h : Holds s c) :
    PawnOK s ↔ ∀ t, t < 64 → c t = 1 → 8 ≤ t ∧ t < 56 := by
  refine forall_congr' fun t => imp_congr_right fun ht => ?_
  rw [← rank18_iff t ht, ← h.bit (k := 1) (by decide) (by decide) ht]
  show (_ → testU s.pawns t = false) ↔ (testU s.pawns t = true → _)
  cases testU rank18U t <;> cases testU s.pawns t <;> simp

section
variable {b : Board} {f : MoveF}

/-- what `Env` and `Named` say about the piece codes of the two sides before the move -/
structure CodeFacts (b : Board) (f : MoveF) : Prop where
  s_lt : f.source < 64
  t_lt : f.target < 64
  cross : ∀ q, q < 64 → b.active.pieceAt q ≠ 0 → b.passive.pieceAt q = 0
  src : b.active.pieceAt f.source = f.pieceMoved
  tgt : b.active.pieceAt f.target = 0
  att : b.passive.pieceAt (capSq b.whiteTurn f.enPassant f.target) = f.pieceAttacked
  att_ne : f.pieceAttacked ≠ 6
  promo : f.promotion ≠ 0 → f.pieceMoved = 1 ∧ 2 ≤ f.promotion ∧ f.promotion ≤ 5
  ep : f.enPassant = true → f.pieceAttacked = 1 ∧ b.passive.pieceAt f.target = 0
  castle : f.castle = true → f.pieceMoved = 6 ∧ f.enPassant = false ∧ f.source = E1 - dHome b.whiteTurn ∧
    b.passive.pieceAt f.target = 0 ∧ (rookSq f.target).2 < 64 ∧ b.passive.pieceAt (rookSq f.target).2 = 0

theorem codeFacts (he : Env b) (n : Named b f) : CodeFacts b f := by
  have hpa := n.attacked
  refine ⟨n.source_lt, n.target_lt, fun q hq h => passive_empty_of_active he hq (full_of_pieceAt hq h), n.moved.symm,
    code_of_free n.target_lt n.target_free, hpa.symm, n.attacked_ne_king, n.promo, fun hee => ?_, fun hc => ?_⟩
  · exact ⟨n.ep_attacked hee, code_of_free n.target_lt (occ_false (n.ep hee).2.2.2.2.2.2.1).2⟩
  · obtain ⟨rs, rt, hr, -, -, hrt, -, -, -, -, -, -, -, hfr, hft, hpk⟩ := castle_squares n hc
    rw [rookSq_of hr]
    exact ⟨hpk, (n.castle hc).2.1, (n.castle hc).2.2.2.2.1, code_of_free n.target_lt (occ_false hft).2, hrt,
      code_of_free hrt (occ_false hfr).2⟩

theorem capSq_eq (he : f.enPassant = false) : capSq b.whiteTurn f.enPassant f.target = f.target := by
  rw [he]; rfl

theorem CodeFacts.keepM (h : CodeFacts b f) (hc : f.castle = false) {t : Nat} (hs : t ≠ f.source)
    (h0 : b.active.pieceAt t ≠ 0) : moverCode b f t = b.active.pieceAt t := by
  have ht : t ≠ f.target := fun e => h0 (e ▸ h.tgt)
  simp only [moverCode, if_neg ht, if_neg hs, hc, Bool.false_eq_true, false_and, if_false]

theorem CodeFacts.keepO (h : CodeFacts b f) {t : Nat} (hne : b.passive.pieceAt t ≠ f.pieceAttacked) :
    otherCode b f t = b.passive.pieceAt t := by
  unfold otherCode
  rw [if_neg (fun e => hne (by rw [e]; exact h.att))]

theorem otherCode_sub {t : Nat} (h0 : otherCode b f t ≠ 0) : otherCode b f t = b.passive.pieceAt t := by
  unfold otherCode at h0 ⊢
  split at h0
  · exact absurd rfl h0
  · next hne => rw [if_neg hne]

theorem CodeFacts.step_cross (h : CodeFacts b f) {t : Nat} (ht : t < 64) : moverCode b f t = 0 ∨ otherCode b f t = 0 := by
  by_cases hO : otherCode b f t = 0
  · exact Or.inr hO
  · left
    -- a piece of the other side stays on `t`: the mover neither stood there nor lands there
    have hP : b.passive.pieceAt t ≠ 0 := otherCode_sub hO ▸ hO
    have hA : b.active.pieceAt t = 0 := by
      cases hA : b.active.pieceAt t
      · rfl
      · exact absurd (h.cross t ht (by omega)) hP
    have hcs : t ≠ capSq b.whiteTurn f.enPassant f.target := fun e => hO (by unfold otherCode; rw [if_pos e])
    unfold moverCode
    split
    · next e =>
      cases hee : f.enPassant
      · exact absurd (e.trans (capSq_eq hee).symm) hcs
      · exact absurd (e ▸ (h.ep hee).2) hP
    · split
      · rfl
      · split
        · next e => exact absurd (e.2 ▸ (h.castle e.1).2.2.2.2.2) hP
        · split
          · rfl
          · exact hA

theorem step_disj (he : Env b) (n : Named b f) :
    disjointAll (sideWords (mkMover f b.active) ++ sideWords (mkOther f b.whiteTurn b.passive)) = true :=
  disjoint_of_holds (holds_make he n).1 (holds_make he n).2 fun _ ht => (codeFacts he n).step_cross ht

theorem CodeFacts.kingO (h : CodeFacts b f) (t : Nat) : otherCode b f t = 6 ↔ b.passive.pieceAt t = 6 := by
  by_cases e : b.passive.pieceAt t = f.pieceAttacked
  · have := h.att_ne
    have hO : otherCode b f t = 0 ∨ otherCode b f t = b.passive.pieceAt t := by unfold otherCode; split <;> simp
    omega
  · rw [h.keepO e]

/-- **(2)** both sides still have exactly one king: a king is put on the target iff one left the source, and none is captured
(`count_mkMover`, `count_mkOther` for the code 6) -/
theorem step_kings (he : Env b) (n : Named b f) (hka : popcount b.active.kings = 1)
    (hkp : popcount b.passive.kings = 1) :
    popcount (mkMover f b.active).kings = 1 ∧ popcount (mkOther f b.whiteTurn b.passive).kings = 1 := by
  have hm := count_mkMover he n (q := 6) (by decide) (by decide)
  have ho := count_mkOther he n (q := 6) (by decide) (by decide)
  have hk : f.pieceAttacked ≠ 6 := n.attacked_ne_king
  have hpl : same 6 (if f.promotion = 0 then f.pieceMoved else f.promotion) = same 6 f.pieceMoved := by
    split
    · rfl
    · next hp =>
      obtain ⟨e, p2, p5⟩ := n.promo hp
      rw [e]
      unfold same
      rw [if_neg (by omega), if_neg (by decide)]
  rw [hpl] at hm
  rw [same, if_neg (fun e => hk e.symm)] at ho
  simp only [Side.get] at hm ho
  omega

theorem step_pawns (he : Env b) (n : Named b f) (hpa : PawnOK b.active) (hpp : PawnOK b.passive) :
    PawnOK (mkMover f b.active) ∧ PawnOK (mkOther f b.whiteTurn b.passive) := by
  have h := codeFacts he n
  have ha := (he.act).pawnOK.mp hpa
  have hp := (he.pas).pawnOK.mp hpp
  refine ⟨(holds_make he n).1.pawnOK.mpr fun t ht hm => ?_, (holds_make he n).2.pawnOK.mpr fun t ht hm => ?_⟩
  · -- a pawn of the mover after the move: the pawn that moved without promoting, or one that stood there
    unfold moverCode at hm
    split at hm
    · next e =>
      rw [e]
      split at hm
      · next h0 => exact n.pawn_target hm h0
      · next h0 => have := h.promo h0; omega
    · split at hm
      · omega
      · split at hm
        · omega
        · split at hm
          · omega
          · exact ha t ht hm
  · exact hp t ht ((otherCode_sub (by rw [hm]; decide)).symm.trans hm)

theorem _root_.Inkayaku.Attack.Holds.rightsOK {s : Side} {c : Nat → Nat} (h : Holds s c) {e rk rq : Nat} (he : e < 64) (hrk : rk < 64) (hrq : rq < 64) :
    RightsOK s e rk rq ↔ (s.ks = true → c e = 6 ∧ c rk = 4) ∧ (s.qs = true → c e = 6 ∧ c rq = 4) := by
  unfold RightsOK
  rw [← h.bit (k := 6) (by decide) (by decide) he, ← h.bit (k := 4) (by decide) (by decide) hrk,
    ← h.bit (k := 4) (by decide) (by decide) hrq]
  rfl

theorem step_rights_mover (he : Env b) (n : Named b f)
    (hr : RightsOK b.active (E1 - dHome b.whiteTurn) (H1 - dHome b.whiteTurn) (A1 - dHome b.whiteTurn)) :
    RightsOK (mkMover f b.active) (E1 - dHome b.whiteTurn) (H1 - dHome b.whiteTurn) (A1 - dHome b.whiteTurn) := by
  have h := codeFacts he n
  have hd : dHome b.whiteTurn = 0 ∨ dHome b.whiteTurn = 56 := by unfold dHome; split <;> simp
  have hE : E1 - dHome b.whiteTurn < 64 := by unfold E1; omega
  have hH : H1 - dHome b.whiteTurn < 64 := by unfold H1; omega
  have hA : A1 - dHome b.whiteTurn < 64 := by unfold A1; omega
  obtain ⟨hk, hq⟩ := ((he.act).rightsOK hE hH hA).mp hr
  have hmk := holds_make he n
  have hsq := n.selfLostQueen
  have hsk := n.selfLostKing
  -- a right survives only if the source is neither its rook's nor the king's home square; then no castling either
  have surv : ∀ {right lost : Bool} {rook : Nat}, lost = (right && (f.source == rook || f.source == E1 - dHome b.whiteTurn)) →
      (if lost then false else right) = true →
      (right = true → b.active.pieceAt (E1 - dHome b.whiteTurn) = 6 ∧ b.active.pieceAt rook = 4) →
      moverCode b f (E1 - dHome b.whiteTurn) = 6 ∧ moverCode b f rook = 4 := by
    intro right lost rook hl hs hold
    subst hl
    cases right
    · simp at hs
    · simp only [Bool.true_and, Bool.or_eq_true, beq_iff_eq] at hs
      have hne : ¬ (f.source = rook ∨ f.source = E1 - dHome b.whiteTurn) := fun e => by simp [e] at hs
      have hc : f.castle = false := by
        cases hc : f.castle
        · rfl
        · exact absurd (Or.inr (h.castle hc).2.2.1) hne
      obtain ⟨e6, e4⟩ := hold rfl
      rw [h.keepM hc (fun e => hne (Or.inr e.symm)) (by omega), h.keepM hc (fun e => hne (Or.inl e.symm)) (by omega)]
      exact ⟨e6, e4⟩
  refine (hmk.1.rightsOK hE hH hA).mpr ⟨fun hks => ?_, fun hqs => ?_⟩
  · rw [mkMover_ks] at hks; exact surv hsk hks hk
  · rw [mkMover_qs] at hqs; exact surv hsq hqs hq

theorem step_rights_other (he : Env b) (n : Named b f)
    (hr : RightsOK b.passive (E8 + dHome b.whiteTurn) (H8 + dHome b.whiteTurn) (A8 + dHome b.whiteTurn)) :
    RightsOK (mkOther f b.whiteTurn b.passive) (E8 + dHome b.whiteTurn) (H8 + dHome b.whiteTurn) (A8 + dHome b.whiteTurn) := by
  have h := codeFacts he n
  have hd : dHome b.whiteTurn = 0 ∨ dHome b.whiteTurn = 56 := by unfold dHome; split <;> simp
  have hE : E8 + dHome b.whiteTurn < 64 := by unfold E8; omega
  have hH : H8 + dHome b.whiteTurn < 64 := by unfold H8; omega
  have hA : A8 + dHome b.whiteTurn < 64 := by unfold A8; omega
  obtain ⟨hk, hq⟩ := ((he.pas).rightsOK hE hH hA).mp hr
  have hmk := holds_make he n
  have hoq := n.oppLostQueen
  have hok := n.oppLostKing
  -- the king is never captured; a rook is captured on the target only, and then the right is dropped
  have surv : ∀ {right lost : Bool} {rook : Nat}, lost = (right && f.target == rook) →
      (if lost then false else right) = true →
      (right = true → b.passive.pieceAt (E8 + dHome b.whiteTurn) = 6 ∧ b.passive.pieceAt rook = 4) →
      otherCode b f (E8 + dHome b.whiteTurn) = 6 ∧ otherCode b f rook = 4 := by
    intro right lost rook hl hs hold
    subst hl
    cases right
    · simp at hs
    · simp only [Bool.true_and, beq_iff_eq] at hs
      have hne : f.target ≠ rook := fun e => by simp [e] at hs
      obtain ⟨e6, e4⟩ := hold rfl
      refine ⟨(h.kingO _).mpr e6, ?_⟩
      rw [← e4]
      unfold otherCode
      rw [if_neg]
      intro e
      cases hee : f.enPassant
      · exact hne ((capSq_eq hee).symm.trans e.symm)
      · have := h.att; rw [← e, e4, (h.ep hee).1] at this; cases this
  refine (hmk.2.rightsOK hE hH hA).mpr ⟨fun hks => ?_, fun hqs => ?_⟩
  · rw [mkOther_ks] at hks; exact surv hok hks hk
  · rw [mkOther_qs] at hqs; exact surv hoq hqs hq

theorem step_ep (he : Env b) (n : Named b f) (hd : GenSpec.DblOK b f) (hne : f.nextEp ≠ 0) :
    testU (mkMover f b.active).pawns f.target = true ∧
    testU (mkMover f b.active).full f.nextEp = false ∧
    testU (mkOther f b.whiteTurn b.passive).full f.nextEp = false ∧
    testU (mkMover f b.active).full f.source = false ∧
    testU (mkOther f b.whiteTurn b.passive).full f.source = false ∧
    (if b.whiteTurn then 48 ≤ f.source ∧ f.source < 56 ∧ f.target + 16 = f.source ∧ f.nextEp + 8 = f.source
     else 8 ≤ f.source ∧ f.source < 16 ∧ f.target = f.source + 16 ∧ f.nextEp = f.source + 8) := by
  have h := codeFacts he n
  obtain ⟨hM, hO⟩ := holds_make he n
  obtain ⟨hfree, hhome⟩ := hd hne
  have hp : f.pieceMoved = 1 := Decidable.byContradiction fun hp => hne (n.not_pawn hp).2.2
  obtain ⟨hc, -, -, hrow⟩ := n.pawn hp
  rw [if_neg hne] at hrow
  obtain ⟨-, hp0, -, hgeo⟩ := hrow
  have hnum : f.nextEp < 64 ∧ f.nextEp ≠ f.target ∧ f.nextEp ≠ f.source ∧ f.source ≠ f.target ∧
      (if b.whiteTurn then 48 ≤ f.source ∧ f.source < 56 ∧ f.target + 16 = f.source ∧ f.nextEp + 8 = f.source
       else 8 ≤ f.source ∧ f.source < 16 ∧ f.target = f.source + 16 ∧ f.nextEp = f.source + 8) := by
    have := h.s_lt
    cases hw : b.whiteTurn <;> simp only [hw, if_true, Bool.false_eq_true, if_false] at hgeo hhome ⊢ <;> omega
  obtain ⟨hn64, hnt, hns, hst, hgeo'⟩ := hnum
  have hAn : b.active.pieceAt f.nextEp = 0 := code_of_free hn64 (occ_false hfree).1
  have hPn : b.passive.pieceAt f.nextEp = 0 := code_of_free hn64 (occ_false hfree).2
  have hOz : ∀ {t}, b.passive.pieceAt t = 0 → otherCode b f t = 0 := fun hz => by unfold otherCode; split <;> simp [hz]
  refine ⟨(hM.bit (k := 1) (by decide) (by decide) h.t_lt).mpr ?_, hM.free hn64 ?_, hO.free hn64 (hOz hPn),
    hM.free h.s_lt ?_, hO.free h.s_lt (hOz (h.cross _ h.s_lt (by rw [h.src, hp]; decide))), hgeo'⟩
  · simp only [moverCode, if_true, hp0, hp]
  · simp only [moverCode, if_neg hnt, if_neg hns, hc, Bool.false_eq_true, false_and, if_false, hAn]
  · simp only [moverCode, if_neg hst, if_true]

theorem step_sides (hwf : Parts b) (he : Env b) (n : Named b f) :
    SidesOK (mkMover f b.active) (mkOther f b.whiteTurn b.passive) (GenStrong.dCastle b) := by
  have h := sidesOK_active hwf
  obtain ⟨k1, k2⟩ := step_kings he n h.king_a h.king_p
  obtain ⟨p1, p2⟩ := step_pawns he n h.pawn_a h.pawn_p
  exact ⟨step_disj he n, k1, k2, p1, p2, step_rights_mover he n h.rights_a, step_rights_other he n h.rights_p⟩

theorem make_wfP (hwf : Parts b) (he : Env b) (n : Named b f) (hd : GenSpec.DblOK b f)
    (hv : isValid (makeF b f) = true) (hhm : b.halfmove + 1 ≤ 4095) (hfm : b.fullmove + 1 < 2147483648) :
    Parts (makeF b f) := by
  have hS := step_sides hwf he n
  have hfm1 := hwf.fm1
  have htn1 := hwf.turn
  unfold GenStrong.dCastle at hS
  rw [MakeUnmake.makeF_eq] at hv ⊢
  have hS' : SidesOK (if b.whiteTurn then mkMover f b.active else mkOther f b.whiteTurn b.passive)
      (if b.whiteTurn then mkOther f b.whiteTurn b.passive else mkMover f b.active) 0 := by
    cases hw : b.whiteTurn
    · rw [hw] at hS; exact hS.toWhite
    · rw [hw] at hS; exact hS
  refine ⟨hS'.disj, hS'.king_a, hS'.king_p, (pawnOK_iff _ _).mpr ⟨hS'.pawn_a, hS'.pawn_p⟩, by show 1 - b.turn ≤ 1; omega, hv,
    hS'.rights_a.1, hS'.rights_a.2, hS'.rights_p.1, hS'.rights_p.2, fun hne => ?_, by show 1 ≤ b.fullmove + b.turn; omega,
    by show b.fullmove + b.turn < 2147483648; omega, ?_⟩
  · have hne : f.nextEp ≠ 0 := hne
    obtain ⟨e1, e2, e3, e4, e5, e6⟩ := step_ep he n hd hne
    rcases sides_of_turn b hwf.turn with ⟨hw, htn, -, -⟩ | ⟨hw, htn, -, -⟩
    · rw [hw] at e3 e5 e6
      simp only [if_true] at e6
      simp only [hw, if_true]
      rw [if_neg (by show 1 - b.turn ≠ 0; omega)]
      refine ⟨by show f.nextEp / 8 = 5; omega, ?_, ?_, ?_⟩
      · show testU (mkMover f b.active).pawns (f.nextEp - 8) = true
        rw [show f.nextEp - 8 = f.target by omega]; exact e1
      · show testU (_ ||| _) f.nextEp = false
        rw [Bits.testU_or, e2, e3]; rfl
      · show testU (_ ||| _) (f.nextEp + 8) = false
        rw [show f.nextEp + 8 = f.source by omega, Bits.testU_or, e4, e5]; rfl
    · rw [hw] at e3 e5 e6
      simp only [Bool.false_eq_true, if_false] at e6
      simp only [hw, Bool.false_eq_true, if_false]
      rw [if_pos (by show 1 - b.turn = 0; omega)]
      refine ⟨by show f.nextEp / 8 = 2; omega, ?_, ?_, ?_⟩
      · show testU (mkMover f b.active).pawns (f.nextEp + 8) = true
        rw [show f.nextEp + 8 = f.target by omega]; exact e1
      · show testU (_ ||| _) f.nextEp = false
        rw [Bits.testU_or, e3, e2]; rfl
      · show testU (_ ||| _) (f.nextEp - 8) = false
        rw [show f.nextEp - 8 = f.source by omega, Bits.testU_or, e5, e4]; rfl
  · show (if f.halfmoveReset = true then 0 else b.halfmove + 1) ≤ 4095
    split <;> omega

end
end Inkayaku.MakeWf
