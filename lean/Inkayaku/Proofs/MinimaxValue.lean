import Inkayaku.Spec.Minimax
/-!
# The minimax value of an abstract game

`mmFold` is a maximum, and the lemmas about it here are read off its two characterisations `mmFold_le_iff` / `le_mmFold_iff`.
`mm g (d + 1) p` is the maximum of `g.loss` and the negated values of the children: `le_mm_succ_iff`, `mm_succ_le_iff` (with `mm_term`,
`mm_zero_moves` for a node without moves and a horizon node) are what a proof about values needs.
`mm_between`: bounds that the terminal and horizon values respect and that a move swaps hold of every value.
`mmFold_rel`: folds over two lists with the same set of (normalised) values; `Qexact_hom`: capture resolutions of corresponding
positions of two games.  `mm_bisim`: positions that the game cannot tell apart have the same value.
-/
namespace Inkayaku.Minimax

variable {P μ : Type}

theorem mmFold_cons (e : P → Int) (init : Int) (c : P) (cs : List P) :
    mmFold e init (c :: cs) = mmFold e (max init (- e c)) cs := rfl

theorem mmFold_nil (e : P → Int) (init : Int) : mmFold e init [] = init := rfl

theorem mmFold_le_iff (e : P → Int) (init B : Int) (cs : List P) :
    mmFold e init cs ≤ B ↔ init ≤ B ∧ ∀ c ∈ cs, - e c ≤ B := by
  induction cs generalizing init with
  | nil => simp [mmFold]
  | cons c cs ih => rw [mmFold_cons, ih, List.forall_mem_cons, Int.max_le, and_assoc]

theorem le_mmFold_iff (e : P → Int) (init X : Int) (cs : List P) :
    X ≤ mmFold e init cs ↔ X ≤ init ∨ ∃ c ∈ cs, X ≤ - e c := by
  induction cs generalizing init with
  | nil => simp [mmFold]
  | cons c cs ih =>
    have : X ≤ max init (- e c) ↔ X ≤ init ∨ X ≤ - e c := ⟨fun h => by omega, fun h => by omega⟩
    simp only [mmFold_cons, ih, this, List.mem_cons, or_and_right, exists_or, exists_eq_left, or_assoc]

/-- two integers with the same upper bounds are equal: how the equations between folds below are read off `mmFold_le_iff` -/
theorem eq_of_le_iff {a b : Int} (h : ∀ B, a ≤ B ↔ b ≤ B) : a = b :=
  Int.le_antisymm ((h b).mpr (Int.le_refl _)) ((h a).mp (Int.le_refl _))

theorem le_mmFold (e : P → Int) (init : Int) (cs : List P) : init ≤ mmFold e init cs :=
  ((mmFold_le_iff e init _ cs).mp (Int.le_refl _)).1

theorem neg_le_mmFold (e : P → Int) (init : Int) (cs : List P) (c : P) (hc : c ∈ cs) : - e c ≤ mmFold e init cs :=
  ((mmFold_le_iff e init _ cs).mp (Int.le_refl _)).2 c hc

theorem mmFold_le (e : P → Int) (init B : Int) (cs : List P) (hi : init ≤ B) (h : ∀ c ∈ cs, - e c ≤ B) :
    mmFold e init cs ≤ B := (mmFold_le_iff e init B cs).mpr ⟨hi, h⟩

theorem mmFold_attained (e : P → Int) (init : Int) (cs : List P) :
    mmFold e init cs = init ∨ ∃ c ∈ cs, mmFold e init cs = - e c := by
  rcases (le_mmFold_iff e init _ cs).mp (Int.le_refl _) with h | ⟨c, hc, h⟩
  · exact Or.inl (Int.le_antisymm h (le_mmFold e init cs))
  · exact Or.inr ⟨c, hc, Int.le_antisymm h (neg_le_mmFold e init cs c hc)⟩

theorem mmFold_perm (e : P → Int) (init : Int) {cs cs' : List P} (h : cs.Perm cs') :
    mmFold e init cs = mmFold e init cs' :=
  eq_of_le_iff fun B => by simp only [mmFold_le_iff, h.mem_iff]

theorem mmFold_congr (e e' : P → Int) (init : Int) (cs : List P) (h : ∀ c ∈ cs, e c = e' c) :
    mmFold e init cs = mmFold e' init cs :=
  eq_of_le_iff fun B => by
    simp only [mmFold_le_iff]
    exact and_congr_right fun _ => forall₂_congr fun c hc => by rw [h c hc]

theorem mmFold_max_init (e : P → Int) (a b : Int) (cs : List P) :
    mmFold e (max a b) cs = max a (mmFold e b cs) :=
  eq_of_le_iff fun B => by rw [mmFold_le_iff, Int.max_le, Int.max_le, mmFold_le_iff, and_assoc]

theorem mmFold_map {Q : Type} (e : P → Int) (f : Q → P) (init : Int) (l : List Q) :
    mmFold e init (l.map f) = mmFold (fun x => e (f x)) init l :=
  eq_of_le_iff fun B => by simp only [mmFold_le_iff, List.forall_mem_map]

section Value
variable (g : Game P μ)

theorem mm_term {p : P} (h : g.moves p = []) (d : Nat) : mm g d p = g.term p := by
  cases d <;> simp [mm, h]

theorem mm_zero_moves {p : P} (h : g.moves p ≠ []) : mm g 0 p = g.leafExact p := by
  simp [mm, h]

theorem mm_succ_moves {p : P} (h : g.moves p ≠ []) (d : Nat) :
    mm g (d + 1) p = mmFold (mm g d) g.loss (g.children p) := by
  simp [mm, h]

theorem le_mm_succ_iff {p : P} (h : g.moves p ≠ []) (d : Nat) (X : Int) :
    X ≤ mm g (d + 1) p ↔ X ≤ g.loss ∨ ∃ m ∈ g.moves p, X ≤ - mm g d (g.child p m) := by
  rw [mm_succ_moves g h, Game.children, mmFold_map, le_mmFold_iff]

theorem mm_succ_le_iff {p : P} (h : g.moves p ≠ []) (d : Nat) (B : Int) :
    mm g (d + 1) p ≤ B ↔ g.loss ≤ B ∧ ∀ m ∈ g.moves p, - mm g d (g.child p m) ≤ B := by
  rw [mm_succ_moves g h, Game.children, mmFold_map, mmFold_le_iff]

/-- **Bounds that the game respects hold of every value.**  `S d p`: the node `p` may be searched to depth `d` (for the board:
its clocks leave room for `d` more plies).  A move swaps the bounds: the mover's lower bound is the negated upper bound of the
child, and conversely. -/
theorem mm_between (S : Nat → P → Prop) (lo hi : P → Int)
    (hS : ∀ d p m, S (d + 1) p → m ∈ g.moves p → S d (g.child p m))
    (hterm : ∀ d p, S d p → g.moves p = [] → lo p ≤ g.term p ∧ g.term p ≤ hi p)
    (hleaf : ∀ p, S 0 p → g.moves p ≠ [] → lo p ≤ g.leafExact p ∧ g.leafExact p ≤ hi p)
    (hloss : ∀ d p, S (d + 1) p → g.loss ≤ hi p)
    (hstep : ∀ d p m, S (d + 1) p → m ∈ g.moves p → lo p ≤ - hi (g.child p m) ∧ - lo (g.child p m) ≤ hi p) :
    ∀ d p, S d p → lo p ≤ mm g d p ∧ mm g d p ≤ hi p := by
  intro d
  induction d with
  | zero =>
    intro p hp
    by_cases hm : g.moves p = []
    · rw [mm_term g hm]; exact hterm 0 p hp hm
    · rw [mm_zero_moves g hm]; exact hleaf p hp hm
  | succ d ih =>
    intro p hp
    by_cases hm : g.moves p = []
    · rw [mm_term g hm]; exact hterm _ p hp hm
    · constructor
      · obtain ⟨m, hmem⟩ := List.exists_mem_of_ne_nil _ hm
        have := (le_mm_succ_iff g hm d _).mpr (Or.inr ⟨m, hmem, Int.le_refl _⟩)
        have := (ih _ (hS d p m hp hmem)).2
        have := (hstep d p m hp hmem).1
        omega
      · refine (mm_succ_le_iff g hm d _).mpr ⟨hloss d p hp, fun m hmem => ?_⟩
        have := (ih _ (hS d p m hp hmem)).1
        have := (hstep d p m hp hmem).2
        omega

end Value

section Rel
variable {P' : Type}

theorem mmFold_rel_le (f : P → Int) (f' : P' → Int) (φ φ' : Int → Int)
    (hφ' : ∀ a b, a ≤ b → φ' a ≤ φ' b) (i i' : Int) (cs : List P) (cs' : List P')
    (hi : φ i = φ' i' ∨ ∃ c ∈ cs, i ≤ - f c)
    (h1 : ∀ c ∈ cs, ∃ c' ∈ cs', φ (- f c) = φ' (- f' c')) :
    φ (mmFold f i cs) ≤ φ' (mmFold f' i' cs') := by
  have hmem : ∀ c ∈ cs, φ (- f c) ≤ φ' (mmFold f' i' cs') := by
    intro c hc
    obtain ⟨c', hc', e⟩ := h1 c hc
    rw [e]
    exact hφ' _ _ (neg_le_mmFold f' i' cs' c' hc')
  rcases mmFold_attained f i cs with h | ⟨c, hc, h⟩
  · rcases hi with hi | ⟨c, hc, hle⟩
    · rw [h, hi]; exact hφ' _ _ (le_mmFold f' i' cs')
    · have h2 := neg_le_mmFold f i cs c hc
      have : mmFold f i cs = - f c := by omega
      rw [this]; exact hmem c hc
  · rw [h]; exact hmem c hc

theorem mmFold_rel (f : P → Int) (f' : P' → Int) (φ φ' : Int → Int)
    (hφ : ∀ a b, a ≤ b → φ a ≤ φ b) (hφ' : ∀ a b, a ≤ b → φ' a ≤ φ' b) (i i' : Int) (cs : List P) (cs' : List P')
    (hi : φ i = φ' i' ∨ ((∃ c ∈ cs, i ≤ - f c) ∧ ∃ c' ∈ cs', i' ≤ - f' c'))
    (h1 : ∀ c ∈ cs, ∃ c' ∈ cs', φ (- f c) = φ' (- f' c'))
    (h2 : ∀ c' ∈ cs', ∃ c ∈ cs, φ (- f c) = φ' (- f' c')) :
    φ (mmFold f i cs) = φ' (mmFold f' i' cs') := by
  apply Int.le_antisymm
  · exact mmFold_rel_le f f' φ φ' hφ' i i' cs cs' (hi.elim Or.inl (fun h => Or.inr h.1)) h1
  · exact mmFold_rel_le f' f φ' φ hφ i' i cs' cs (hi.elim (fun h => Or.inl h.symm) (fun h => Or.inr h.2))
      (fun c' hc' => by obtain ⟨c, hc, e⟩ := h2 c' hc'; exact ⟨c, hc, e.symm⟩)

theorem mmFold_eq_of_values (e : P → Int) (e' : P' → Int) (i : Int) {cs : List P} {cs' : List P'}
    (h1 : ∀ c ∈ cs, ∃ c' ∈ cs', e c = e' c') (h2 : ∀ c' ∈ cs', ∃ c ∈ cs, e c = e' c') :
    mmFold e i cs = mmFold e' i cs' :=
  mmFold_rel e e' id id (fun _ _ h => h) (fun _ _ h => h) i i cs cs' (Or.inl rfl)
    (fun c hc => by obtain ⟨c', hc', h⟩ := h1 c hc; exact ⟨c', hc', congrArg (- ·) h⟩)
    (fun c' hc' => by obtain ⟨c, hc, h⟩ := h2 c' hc'; exact ⟨c, hc, congrArg (- ·) h⟩)

/-- `R f p p'`: the positions `p`, `p'` of two games correspond, with `f` captures left to look at. -/
theorem Qexact_hom {μ' : Type} (h : QGame P μ) (h' : QGame P' μ') (R : Nat → P → P' → Prop)
    (hsp : ∀ f p p', R f p p' → h.standPat p = h'.standPat p')
    (hfw : ∀ f p p', R (f + 1) p p' → ∀ m ∈ h.captures p, ∃ m' ∈ h'.captures p', R f (h.child p m) (h'.child p' m'))
    (hbw : ∀ f p p', R (f + 1) p p' → ∀ m' ∈ h'.captures p', ∃ m ∈ h.captures p, R f (h.child p m) (h'.child p' m')) :
    ∀ f p p', R f p p' → Qexact h f p = Qexact h' f p' := by
  intro f
  induction f with
  | zero => exact hsp 0
  | succ f ih =>
    intro p p' hr
    simp only [Qexact]
    rw [hsp _ p p' hr]
    apply mmFold_eq_of_values
    · intro c hc
      obtain ⟨m, hm, rfl⟩ := List.mem_map.mp hc
      obtain ⟨m', hm', hr'⟩ := hfw f p p' hr m hm
      exact ⟨_, List.mem_map.mpr ⟨m', hm', rfl⟩, ih _ _ hr'⟩
    · intro c' hc'
      obtain ⟨m', hm', rfl⟩ := List.mem_map.mp hc'
      obtain ⟨m, hm, hr'⟩ := hbw f p p' hr m' hm'
      exact ⟨_, List.mem_map.mpr ⟨m, hm, rfl⟩, ih _ _ hr'⟩

end Rel

theorem mm_zero_congr (G : Game P μ) {p q : P} (hm : G.moves p = G.moves q) (ht : G.term p = G.term q)
    (hl : G.leafExact p = G.leafExact q) : mm G 0 p = mm G 0 q := by
  simp only [mm]
  rw [hm, ht, hl]

theorem mm_succ_congr (G : Game P μ) (d : Nat) {p q : P} (hm : G.moves p = G.moves q) (ht : G.term p = G.term q)
    (hc : ∀ m ∈ G.moves p, mm G d (G.child p m) = mm G d (G.child q m)) : mm G (d + 1) p = mm G (d + 1) q := by
  simp only [mm, Game.children]
  rw [← hm, ht, mmFold_map, mmFold_map]
  split
  · rfl
  · exact mmFold_congr _ _ _ _ hc

theorem mm_bisim (G : Game P μ) (R : P → P → Prop)
    (hf : ∀ p q, R p q → G.moves p = G.moves q ∧ G.term p = G.term q ∧ G.leafExact p = G.leafExact q)
    (hc : ∀ p q, R p q → ∀ m ∈ G.moves p, R (G.child p m) (G.child q m)) :
    ∀ d p q, R p q → mm G d p = mm G d q := by
  intro d
  induction d with
  | zero => exact fun p q h => mm_zero_congr G (hf p q h).1 (hf p q h).2.1 (hf p q h).2.2
  | succ d ih =>
    exact fun p q h => mm_succ_congr G d (hf p q h).1 (hf p q h).2.1 fun m hm => ih _ _ (hc p q h m hm)

end Inkayaku.Minimax
