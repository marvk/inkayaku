import Inkayaku.Proofs.SearchRepDeepInv
import Inkayaku.Proofs.SearchSimGen
/-!
# C10 below the root: a node, simulated by the path-dependent minimax `mm repGame`

`rsim b0 T`: the nodes are the `RNode`s, the value of `(k, Lb, p)` is `mm repGame` at `rnode Lb p k`, the children carry the line
`Lb ++ [p]`, the history holds the line (`LineHist`), the repetition return is taken exactly when the specification node is a
repetition node (`rep_iff`).  `rsim_laws`: `RHyp b0 T D` gives `Sim.Laws D`, so that `Sim.negamax_sim`, `Sim.goCmd_sim` apply
(`Props/C10Deep.lean`: `node_value`, `go_depth_eq_repSpec`).
-/
namespace Inkayaku.SearchRepDeep
open Inkayaku.Board Inkayaku.Eval Inkayaku.WF Inkayaku.BoardCongr Inkayaku.Minimax Inkayaku.SpecSearch Inkayaku.Search
open Inkayaku.SearchSim Inkayaku.History Inkayaku.SearchRep
open Inkayaku.C06 (HashKey)
open Inkayaku.RepSpec (RPos Key key repGame isRepetition)

def rsim (b0 : Board) (T : List Board) : Sim (List Board) where
  Node k Lb p := RNode b0 T k Lb p
  val d k Lb p := mm repGame d (rnode Lb p k)
  rep k Lb p := isRepetition (rnode Lb p k)
  next Lb p := Lb ++ [p]
  Hist Lb h := LineHist (plyClock b0) Lb h

theorem rsok_iff {b0 : Board} {T : List Board} {D : Nat} {Lb : List Board} {s : St} :
    RSOK b0 T D Lb s ↔ (rsim b0 T).SOK D Lb s :=
  ⟨fun h => ⟨h.tt, h.hist, h.stop, h.sm⟩, fun h => ⟨h.tt, h.hist, h.stop, h.sm⟩⟩

theorem rsim_laws {b0 : Board} {T : List Board} {D : Nat} (H : RHyp b0 T D) : (rsim b0 T).Laws D where
  child := fun hn hm => hn.child hm
  histEnter := by
    intro k Lb p hk hn c h hv hh
    show LineHist _ _ _
    rw [plyClock_node H hk hn hv]
    exact hh.snoc p
  histPrefix := fun h => LineHist.prefix h
  repIff := fun hk1 hk hn _ hv hh => rep_iff H hk1 hk hn hv hh
  repRoot := fun Lb p => show isRepetition (rnode Lb p 0) = false from RepSpec.isRepetition_root _ rfl
  repVal := fun _ hr => RepSpec.mm_repetition _ _ hr
  horizon := fun hk hn hr => ⟨H.qb _ _ _ hk hn, RepSpec.mm_zero_norep_eq _ hr⟩
  step := by
    intro k Lb p d _ hr
    have hrm : rootMoves p [] = genLegal p := moves_nil p
    show mm repGame (d + 1) (rnode Lb p k) = _
    by_cases hne : genLegal p = []
    · rw [hne]
      exact RepSpec.mm_norep_terminal _ _ hr (by show rootMoves p [] = []; rw [hrm, hne])
    · rw [List.isEmpty_eq_false_iff.mpr hne, RepSpec.mm_succ_norep _ _ hr (by show rootMoves p [] ≠ []; rw [hrm]; exact hne),
        mmFold_map]
      show mmFold _ _ (rootMoves p []) = _
      rw [hrm]
      exact mmFold_congr _ _ _ _ fun m _ => congrArg (mm repGame d) (rnode_child Lb p k m)
  inj := by
    intro k' k Lb' Lb p' p hk' hk hn' hn he
    obtain ⟨rfl, _, hv⟩ := H.inj _ _ _ _ _ _ hk' hk hn' hn he
    exact ⟨rfl, hv⟩
  rootBounds := by
    intro Lb p d hd hn hlegal
    obtain ⟨hinv, hp2⟩ := hn.facts H.inv (by omega)
    have hP := (WF.wf_iff p).mp hinv.wf
    have hnw := H.nowrap
    have hfm := hP.fm1
    exact RepSpec.rep_root_bounds d (rnode Lb p 0)
      ⟨hP.turn, by show p.fullmove + (d + 1) < _; unfold ply2 at hp2 hnw; omega⟩ hP.fm1

end Inkayaku.SearchRepDeep
