import Inkayaku.Proofs.GenSpecLegal
import Inkayaku.Proofs.MakeWf
/-!
# `make` keeps the structural invariant, so `genLegal_eq_spec` needs the successor property only

`struct_make`: for a pseudo-legal move of a legal position the twelve piece words of the successor are pairwise disjoint
and both sides still have exactly one king (`Check.Struct`, the hypothesis of `C05.move_legal`).  This is the
well-formedness step of the board layer (`MakeWf.step_disj`, `MakeWf.step_kings` over `GenFacts.genPseudo_facts`);
it does not use the validity of the successor.
-/
namespace Inkayaku.GenSpec
open Inkayaku.Board Inkayaku.Abs Inkayaku.Spec

theorem struct_make {b : Board} (h : WF.wf b = true) {m : Move} (hm : m ∈ genPseudo b) :
    Check.Struct (make b m) := by
  have hwf := (WF.wf_iff b).mp h
  have he := GenFacts.env_of_wf h
  have hf := (GenFacts.genPseudo_facts h m hm).named
  have hdisj := MakeWf.step_disj he hf
  unfold make
  rw [MakeUnmake.makeF_eq]
  rcases Attack.sides_cases b with ⟨hw, hact, hpas⟩ | ⟨hw, hact, hpas⟩
  · have hk := MakeWf.step_kings he hf (by rw [hact]; exact hwf.wk) (by rw [hpas]; exact hwf.bk)
    simp only [hw, if_true]
    rw [hw] at hdisj hk
    exact ⟨hdisj, hk.1, hk.2⟩
  · have hk := MakeWf.step_kings he hf (by rw [hact]; exact hwf.bk) (by rw [hpas]; exact hwf.wk)
    simp only [hw, Bool.false_eq_true, if_false]
    rw [hw] at hdisj hk
    exact ⟨Attack.disjoint_symm hdisj, hk.2, hk.1⟩

theorem genLegal_eq_spec_of_succ {b : Board} (h : WF.wf b = true)
    (hsucc : ∀ m ∈ genPseudo b, abs (make b m) = Spec.apply (abs b) (absMove m.f)) (sm : SMove) :
    sm ∈ (genLegal b).map (absMove ∘ Move.f) ↔ sm ∈ Spec.legalMoves (abs b) :=
  genLegal_eq_spec h hsucc (fun _ hm => struct_make h hm) sm

end Inkayaku.GenSpec
