import Inkayaku.Proofs.SearchRepHorizon
import Inkayaku.Proofs.RepSpecOcc
/-!
# C10 at the search level: the depth-1 root search after `position … moves …`, with or without `searchmoves`

`childExact L bN m` is the exact value of the node below the root move `m`: the repetition value when `m` completes a threefold
in the game line `L`, the horizon value of the position otherwise.  `root_child`: that node, entered from any state of the
root's move loop, satisfies the fail-soft contract w.r.t. `childExact` and keeps history, table and flags; `root_loop`: the
root's move loop, on any list of pseudo-legal moves, is fail-soft alpha-beta over `childExact` and records with the best move the
result of its node; `rootSearch_game`: iteration 1 of a `go` with any `searchmoves` list `only` returns
`max_{m ∈ rootMoves bN only} −childExact L bN m`, a move attaining it and the result of its node; `go_depth1_only`: the `go`.
`C10Rep.mm_child_eq_childExact`, `C10Rep.mm_root1`: `childExact` and the root's maximum are the values `mm repGame` of the nodes
`childNode`, `rootNode` of the specification game (`Model/RepSpec.lean`).  Hence the bounds of these values are those of the
specification game (`childExact_bounds`, `root1_bounds`: `RepSpec.rep_between`).
-/
namespace Inkayaku.SearchRep
open Inkayaku.Board Inkayaku.Eval Inkayaku.WF Inkayaku.BoardCongr Inkayaku.Minimax Inkayaku.SpecSearch Inkayaku.Search
open Inkayaku.SearchSim Inkayaku.History
open Inkayaku.C06 (HashKey)

/-- exact value of the node below the root move `m`, from the point of view of the side to move there -/
def childExact (L : List Board) (bN : Board) (m : Move) : Int :=
  if 3 ≤ occurrences L (make bN m) then repValue 1 else mm game 0 (make bN m, [])

def repValue1 (L : List Board) (bN : Board) : Int := mmFold (childExact L bN) lossScore (genLegal bN)

structure RootHyp (b0 : Board) (T : List Board) : Prop where
  line : IsLine (b0 :: T)
  inv : Inv (T.length + fuelFor 1) b0
  nowrap : ply2 b0 + (T.length + 1) < 65536
  nz : ∀ m ∈ genLegal (lastBoard b0 T), Zobrist.hash (make (lastBoard b0 T) m) ≠ 0
  coll : ∀ m ∈ genLegal (lastBoard b0 T), ∀ (i : Nat) (b : Board), (b0 :: T)[i]? = some b →
    T.length + 1 - (make (lastBoard b0 T) m).halfmove ≤ i →
    Zobrist.hash b = Zobrist.hash (make (lastBoard b0 T) m) → HashKey b = HashKey (make (lastBoard b0 T) m)
  mat : material (lastBoard b0 T) ≤ 64

/-- the part of `RootHyp` that concerns one move `m` of the last position; `material` only if `m` does not complete a threefold
(a repetition node evaluates nothing) -/
structure MoveHyp (b0 : Board) (T : List Board) (m : Move) : Prop where
  line : IsLine (b0 :: T)
  inv : Inv (T.length + fuelFor 1) b0
  nowrap : ply2 b0 + (T.length + 1) < 65536
  nz : Zobrist.hash (make (lastBoard b0 T) m) ≠ 0
  coll : ∀ (i : Nat) (b : Board), (b0 :: T)[i]? = some b → T.length + 1 - (make (lastBoard b0 T) m).halfmove ≤ i →
    Zobrist.hash b = Zobrist.hash (make (lastBoard b0 T) m) → HashKey b = HashKey (make (lastBoard b0 T) m)
  mat : ¬ 3 ≤ occurrences (b0 :: T) (make (lastBoard b0 T) m) → material (lastBoard b0 T) ≤ 64

theorem RootHyp.move {b0 : Board} {T : List Board} (H : RootHyp b0 T) {m : Move} (hm : m ∈ genLegal (lastBoard b0 T)) :
    MoveHyp b0 T m :=
  ⟨H.line, H.inv, H.nowrap, H.nz m hm, H.coll m hm, fun _ => H.mat⟩

/-- what the root's move loop keeps of its state -/
structure RS (b0 : Board) (T : List Board) (out0 : List Out) (pp : Nat) (s : St) : Prop where
  board : vis s.board = vis (lastBoard b0 T)
  hist : LineHist (plyClock b0) (b0 :: T) s.history
  tt : ∀ k, s.tt.get? k = none
  stop : s.stop = false
  out : s.out = out0
  pp : s.pollPeriod = pp

/-- the root node has counted itself and recorded its hash: the state in which its move loop starts -/
theorem rs_enter {b0 : Board} {T : List Board} {p : St} (hl : IsLine (b0 :: T)) {B : Nat} (hinv : Inv (T.length + B) b0)
    (hnw : ply2 b0 + T.length < 65536) (hpb : vis p.board = vis (lastBoard b0 T))
    (hh : LineHist (plyClock b0) (b0 :: T) p.history) (hnn : p.negamaxNodes = 0) (htt : ∀ k, p.tt.get? k = none)
    (hstop : p.stop = false) : RS b0 T p.out p.pollPeriod (enter p (Zobrist.hash p.board)) := by
  have he := enter_of_noFlag (pollFlag_false_of_zero hnn) (Zobrist.hash p.board)
  exact ⟨by rw [enter_board]; exact hpb, lineHist_enter_root hl hinv hnw hpb hh, by rw [he]; exact htt,
    by rw [he]; exact hstop, by rw [he], by rw [he]⟩

/-- **the node below a legal root move**, entered from a state of the root's move loop between two polls -/
theorem root_child {b0 : Board} {T : List Board} {m : Move} (H : MoveHyp b0 T m) {out0 : List Out} {pp : Nat} (s : St)
    (hs : RS b0 T out0 pp s) (hm : m ∈ genPseudo (lastBoard b0 T)) (hl : isMoveLegal (lastBoard b0 T) m = true)
    (hlt : s.negamaxNodes < s.pollPeriod)
    (a b : Int) (hL : lossScore ≤ a) (hab : a < b) (hU : b ≤ -lossScore) (isPv : Bool) (ph : UInt64) :
    let r := negamax 200 { s with board := make s.board m } 1 1 a b isPv
      (Zobrist.hash (lastBoard b0 T) ^^^ (Zobrist.xorOf m.f).1) ph
    Ok (childExact (b0 :: T) (lastBoard b0 T) m) r.1.value a b ∧
    RS b0 T out0 pp { r.2 with board := unmake r.2.board m } ∧ r.2.negamaxNodes = s.negamaxNodes + 1 ∧
    (3 ≤ occurrences (b0 :: T) (make (lastBoard b0 T) m) → r.1 = VM.leaf (repValue 1)) := by
  intro r
  obtain ⟨hlast, hlp⟩ := last_facts H.line H.inv
  have hwf := hlast.wf
  have hlegal : m ∈ genLegal (lastBoard b0 T) := List.mem_filter.mpr ⟨hm, hl⟩
  have hmk : vis (make s.board m) = vis (make (lastBoard b0 T) m) := make_congr hs.board m
  have hcinv : Inv 200 (make (lastBoard b0 T) m) := boardLaws.make_inv 200 _ m hlast (Or.inl hm) hl
  have hcb : ({ s with board := make s.board m } : St).board = make s.board m := rfl
  have hcl : IsLine (b0 :: (T ++ [make (lastBoard b0 T) m])) := isLine_child H.line hlegal
  have hinv1 : Inv (T.length + 1) b0 := Inv_mono (by unfold fuelFor; omega) H.inv
  have hf : pollFlag ({ s with board := make s.board m } : St) = false := pollFlag_false_of_lt hlt
  have hhash : Zobrist.hash (lastBoard b0 T) ^^^ (Zobrist.xorOf m.f).1 = Zobrist.hash (make (lastBoard b0 T) m) :=
    (hash_child hwf rfl hm).symm
  have hhs : Zobrist.hash (make s.board m) = Zobrist.hash (make (lastBoard b0 T) m) := hash_congr hmk
  obtain ⟨_, _, hpc⟩ := line_last hcl hinv1 H.nowrap
  have hent := enter_of_noFlag hf (Zobrist.hash (make (lastBoard b0 T) m))
  have hiff := isRep_enter_iff_of (s := { s with board := make s.board m }) hmk hcl hinv1 H.nowrap hs.hist H.nz H.coll 1
    (by omega)
  rw [hcb, hhs] at hiff
  -- the node is `negamax_phases` at the horizon with an empty table; the node counter is part of what is kept
  obtain ⟨hok, hvis, ⟨j1, j2, j3, j4, j5, j6⟩, _⟩ := negamax_phases (fuel := 199) (D := 1) (k := 1) (Nat.le_refl _)
    { s with board := make s.board m } hmk (Inv_congr hmk.symm hcinv) (by omega)
    (childExact (b0 :: T) (lastBoard b0 T) m) (fun _ : Move => (0 : Int))
    (fun s' => LineHist (plyClock b0) (b0 :: T) s'.history ∧ (∀ k, s'.tt.get? k = none) ∧ s'.stop = false ∧ s'.out = out0 ∧
      s'.pollPeriod = pp ∧ s'.negamaxNodes = s.negamaxNodes + 1)
    (fun _ => False) (decide (3 ≤ occurrences (b0 :: T) (make (lastBoard b0 T) m)))
    (fun h => absurd h (by omega)) (fun _ _ _ h => h) (fun _ h => h.elim) a b isPv ph (fun h => absurd h (by omega)) hL hab hU
    (timedOut_of_noFlag hf) (enterShape_of_noFlag hf _)
    (by
      rw [hent]
      refine ⟨⟨?_, hs.tt, hs.stop, hs.out, hs.pp, rfl⟩, ?_⟩
      · show LineHist _ _ (historySet s.history _ _)
        rw [plyClock_congr hmk, hpc]
        exact hs.hist.set _ _ (by simp only [List.length_cons]; omega)
      · rw [← hent, Bool.eq_iff_iff, decide_eq_true_iff]; exact hiff)
    (fun h => by unfold childExact; rw [if_pos (of_decide_eq_true h)])
    (fun x hx => by rw [show ({ s with board := make s.board m } : St).tt = s.tt from rfl, hs.tt] at hx; cases hx)
    (fun h => absurd h (Nat.lt_irrefl _))
    (fun _ h3 => by
      have h3 : ¬ 3 ≤ occurrences (b0 :: T) (make (lastBoard b0 T) m) := of_decide_eq_false h3
      refine ⟨QDepth_congr quiescenceFuel hmk.symm (qdepth_of_material quiescenceFuel _
          (Inv_mono (by unfold quiescenceFuel; omega) hcinv)
          (Nat.le_trans (material_make_le hwf (Or.inl hm)) (H.mat h3))), ?_⟩
      unfold childExact
      rw [if_neg h3]
      exact (mm_congr 0 _ _ [] hmk).symm)
    (fun h => absurd h (Nat.lt_irrefl _)) (fun h => absurd h (Nat.lt_irrefl _))
  have hr : r = negamax (199 + 1) { s with board := make s.board m } 1 1 a b isPv
      (Zobrist.hash (make (lastBoard b0 T) m)) ph := by rw [← hhash]
  rw [← hr] at hok hvis j1 j2 j3 j4 j5 j6
  refine ⟨hok, ⟨back hwf (Or.inl hm) (hvis.trans hmk), j1, j2, j3, j4, j5⟩, j6, fun h3 => ?_⟩
  rw [hr, negamax_of_isRep_iff hiff 199 1 a b isPv ph (timedOut_of_noFlag hf), if_pos h3]

def Chosen1 (L : List Board) (bN : Board) (bm : Option Move) (v : Int) : Prop :=
  Chosen (childExact L bN) id (· ∈ genLegal bN) bm v

/-- what the root's move loop keeps of its accumulator: the best move is one of the moves `S` it was given, its child is
recorded, and the recorded child of a move that completes a threefold is the repetition leaf (so that the PV ends there) -/
def BestOk (L : List Board) (bN : Board) (S : Move → Prop) (acc : LoopAcc) : Prop :=
  ∀ m, acc.bestMove = some m → S m ∧
    ∃ c, acc.bestChild = some c ∧ (3 ≤ occurrences L (make bN m) → c = VM.leaf (repValue 1))

/-- **the root move loop of iteration 1** (any window, any list of pseudo-legal moves — the whole buffer or what `searchmoves`
leaves of it —, any move order, any PV/killer hints): the instance of `SearchSim.negamaxLoop_ok` in which every child is a node
of `root_child`.  The loop is not interrupted because the node counter has room for one node per move before the next poll
(the last count may equal the poll period, which `NoIntr` would not allow). -/
theorem root_loop {b0 : Board} {T : List Board} (hlast : Inv (fuelFor 1) (lastBoard b0 T)) {out0 : List Out} {pp : Nat}
    (S : Move → Prop) (α₀ β : Int) (hL : lossScore ≤ α₀) (hU : β ≤ -lossScore) (isPv : Bool)
    (pvMove : Option Move) (ph : UInt64) (rem : Nat)
    (moves : List Move) (hmem : ∀ m ∈ moves, m ∈ genPseudo (lastBoard b0 T))
    (HM : ∀ m ∈ moves, m ∈ genLegal (lastBoard b0 T) → MoveHyp b0 T m ∧ S m) (s : St) (acc : LoopAcc) (M : Int)
    (hs : RS b0 T out0 pp s) (hlen : s.negamaxNodes + moves.length ≤ s.pollPeriod)
    (I : LoopInv α₀ acc.alpha β acc.bestValue M)
    (h3 : α₀ < acc.bestValue → Chosen1 (b0 :: T) (lastBoard b0 T) acc.bestMove acc.bestValue)
    (hbest : BestOk (b0 :: T) (lastBoard b0 T) S acc) :
    LoopOk (lastBoard b0 T) (childExact (b0 :: T) (lastBoard b0 T))
      (fun acc s => (∀ b, vis b = vis (lastBoard b0 T) → RS b0 T out0 pp { s with board := b }) ∧
        BestOk (b0 :: T) (lastBoard b0 T) S acc) α₀ β M
      acc.legalSeen moves
      (negamaxLoop 200 s moves 0 1 β isPv pvMove (Zobrist.hash (lastBoard b0 T)) ph rem acc) := by
  have hany : ∀ {s : St}, RS b0 T out0 pp s → ∀ b, vis b = vis (lastBoard b0 T) → RS b0 T out0 pp { s with board := b } :=
    fun h b hb => ⟨hb, h.hist, h.tt, h.stop, h.out, h.pp⟩
  refine negamaxLoop_ok hlast _
    (fun rest acc s _ => (∀ b, vis b = vis (lastBoard b0 T) → RS b0 T out0 pp { s with board := b }) ∧
      s.negamaxNodes + rest.length ≤ s.pollPeriod ∧
      (∀ m ∈ rest, m ∈ genLegal (lastBoard b0 T) → MoveHyp b0 T m ∧ S m) ∧ BestOk (b0 :: T) (lastBoard b0 T) S acc)
    _ β α₀ isPv pvMove _ ph rem (fun _ _ _ h => ⟨h.1, h.2.2.2⟩) ?_ ?_ moves hmem s acc M hs.board
    ⟨hany hs, hlen, HM, hbest⟩ I h3
  · intro m rest acc s _ ⟨hs, hlen, HM, hbest⟩
    exact ⟨hs, by rw [List.length_cons] at hlen; show s.negamaxNodes + rest.length ≤ s.pollPeriod; omega,
      fun x hx => HM x (List.mem_cons_of_mem _ hx), hbest⟩
  · intro m rest acc s _ hlegal hsb ⟨hs, hlen, HM, hbest⟩ hα hαβ r isPv' ph' hr _
    obtain ⟨hg, hl⟩ := List.mem_filter.mp hlegal
    rw [List.length_cons] at hlen
    obtain ⟨hmove, hS⟩ := HM m List.mem_cons_self hlegal
    obtain ⟨hok, hrs, hnodes, hleaf⟩ := root_child hmove s (hs s.board hsb) hg hl (by omega)
      (-β) (-acc.alpha) (by omega) (by omega) (by omega) isPv' ph'
    rw [← hr] at hok hrs hnodes hleaf
    have hpp : s.pollPeriod = pp := (hs s.board hsb).pp
    -- the accumulator after this child: either it records `m` with this child, or it is the old one
    have hbest' : BestOk (b0 :: T) (lastBoard b0 T) S (accUpdate acc m r.1) := by
      intro x hx
      rcases accUpdate_cases acc m r.1 with ⟨-, e⟩ | ⟨-, e⟩ <;> rw [e] at hx ⊢
      · cases hx
        exact ⟨hS, r.1, rfl, hleaf⟩
      · exact hbest x hx
    refine ⟨hok, hrs.stop, fun ks => ⟨fun b hb => ⟨hb, hrs.hist, hrs.tt, hrs.stop, hrs.out, hrs.pp⟩, hbest'⟩,
      fun _ => ⟨hany hrs, ?_, fun x hx => HM x (List.mem_cons_of_mem _ hx), hbest'⟩⟩
    show r.2.negamaxNodes + rest.length ≤ r.2.pollPeriod
    rw [hnodes, show r.2.pollPeriod = pp from hrs.pp, ← hpp]
    omega

end Inkayaku.SearchRep

namespace Inkayaku.C10Rep
open Inkayaku.Board Inkayaku.Eval Inkayaku.WF Inkayaku.BoardCongr Inkayaku.Minimax Inkayaku.SpecSearch Inkayaku.Search
open Inkayaku.SearchSim Inkayaku.History Inkayaku.SearchRep
open Inkayaku.RepSpec (RPos Key key repGame isRepetition)

/-- the keys of the game positions before the last one, newest first: what the root node of the specification carries -/
def histKeys (b0 : Board) (T : List Board) : List Key := ((b0 :: T).dropLast.reverse).map key

def rootNode (b0 : Board) (T : List Board) (only : List String) : RPos :=
  { board := lastBoard b0 T, only := only, ply := 0, before := histKeys b0 T }

def childNode (b0 : Board) (T : List Board) (m : Move) : RPos :=
  { board := make (lastBoard b0 T) m, only := [], ply := 1, before := (b0 :: T).reverse.map key }

theorem key_last_histKeys (T : List Board) (b0 : Board) :
    key (lastBoard b0 T) :: histKeys b0 T = (b0 :: T).reverse.map key := by
  conv => rhs; rw [← List.dropLast_concat_getLast (List.cons_ne_nil b0 T), ← lastBoard_eq_getLast]
  simp [histKeys]

theorem repGame_child_root (b0 : Board) (T : List Board) (only : List String) (m : Move) :
    repGame.child (rootNode b0 T only) m = childNode b0 T m := by
  show ({ board := _, only := [], ply := 0 + 1, before := key (lastBoard b0 T) :: histKeys b0 T } : RPos) = _
  rw [key_last_histKeys]
  rfl

theorem mm_child_eq_childExact {b0 : Board} {T : List Board} (hl : IsLine (b0 :: T)) {m : Move}
    (hm : m ∈ genLegal (lastBoard b0 T)) :
    mm repGame 0 (childNode b0 T m) = childExact (b0 :: T) (lastBoard b0 T) m := by
  have hiff : isRepetition (childNode b0 T m) = true ↔ _ :=
    RepSpec.isRepetition_iff_occurrences (b0 :: T) _ (isLine_child hl hm) [] 1 (Nat.succ_pos 0)
  unfold childExact
  by_cases h3 : 3 ≤ SearchRep.occurrences (b0 :: T) (make (lastBoard b0 T) m)
  · rw [if_pos h3, RepSpec.mm_repetition 0 _ (hiff.mpr h3)]
    rfl
  · rw [if_neg h3, RepSpec.mm_zero_norep_eq _ (Bool.eq_false_iff.mpr (mt hiff.mp h3))]
    rfl

theorem mm_root1 {b0 : Board} {T : List Board} (hl : IsLine (b0 :: T)) (only : List String)
    (hn : rootMoves (lastBoard b0 T) only ≠ []) :
    mm repGame 1 (rootNode b0 T only) =
      mmFold (childExact (b0 :: T) (lastBoard b0 T)) lossScore (rootMoves (lastBoard b0 T) only) := by
  have h := RepSpec.mm_succ_norep 0 (rootNode b0 T only) (RepSpec.isRepetition_root _ rfl) hn
  rw [h, mmFold_map]
  apply mmFold_congr
  intro m hm
  have := mm_child_eq_childExact hl (mem_rootMoves hm).1
  rw [← this, ← repGame_child_root b0 T only m]
  rfl

/-- without `searchmoves`: `SearchRep.repValue1`, the value `C10Search.go_depth1_game` speaks about -/
theorem mm_root1_eq_repValue1 {b0 : Board} {T : List Board} (hl : IsLine (b0 :: T)) (hlegal : genLegal (lastBoard b0 T) ≠ []) :
    mm repGame 1 (rootNode b0 T []) = repValue1 (b0 :: T) (lastBoard b0 T) := by
  have hr : rootMoves (lastBoard b0 T) [] = genLegal (lastBoard b0 T) := moves_nil _
  rw [mm_root1 hl [] (by rw [hr]; exact hlegal), hr]
  rfl

end Inkayaku.C10Rep

namespace Inkayaku.SearchRep
open Inkayaku.Board Inkayaku.Eval Inkayaku.WF Inkayaku.BoardCongr Inkayaku.Minimax Inkayaku.SpecSearch Inkayaku.Search
open Inkayaku.SearchSim Inkayaku.History
open Inkayaku.C06 (HashKey)
open Inkayaku.RepSpec (repGame)
open Inkayaku.C10Rep (rootNode childNode mm_child_eq_childExact mm_root1)

/-- the negated value of a depth-1 child lies strictly inside the window: `RepSpec.rep_between` at its specification node -/
theorem childExact_bounds {b0 : Board} {T : List Board} {m : Move} (H : MoveHyp b0 T m) (hm : m ∈ genLegal (lastBoard b0 T)) :
    lossScore < - childExact (b0 :: T) (lastBoard b0 T) m ∧ - childExact (b0 :: T) (lastBoard b0 T) m < Gen.winScore := by
  obtain ⟨hlast, hlp⟩ := last_facts H.line H.inv
  obtain ⟨hg, hv⟩ := List.mem_filter.mp hm
  have hP := (WF.wf_iff _).mp (boardLaws.make_inv 200 _ m hlast (Or.inl hg) hv).wf
  have hply : ply2 (make (lastBoard b0 T) m) < 65536 := by rw [ply2_make hlast.wf, hlp]; have := H.nowrap; omega
  unfold ply2 at hply
  have hb : lossScore + ((make (lastBoard b0 T) m).fullmove : Int) ≤ mm repGame 0 (childNode b0 T m) ∧
      mm repGame 0 (childNode b0 T m) ≤ Gen.winScore - (((make (lastBoard b0 T) m).fullmove : Int) + (make (lastBoard b0 T) m).turn) :=
    RepSpec.rep_between 0 (childNode b0 T m) ⟨hP.turn, by show (make (lastBoard b0 T) m).fullmove + 0 < _; omega⟩
  rw [mm_child_eq_childExact H.line hm] at hb
  have := hP.fm1
  have hw := winScore_val
  have hl := lossScore_val
  omega

theorem root1_bounds {b0 : Board} {T : List Board} (only : List String) {x0 : Move} (H0 : MoveHyp b0 T x0)
    (hne : rootMoves (lastBoard b0 T) only ≠ []) :
    lossScore < mmFold (childExact (b0 :: T) (lastBoard b0 T)) lossScore (rootMoves (lastBoard b0 T) only) ∧
      mmFold (childExact (b0 :: T) (lastBoard b0 T)) lossScore (rootMoves (lastBoard b0 T) only) < Gen.winScore := by
  obtain ⟨hlast, hlp⟩ := last_facts H0.line H0.inv
  have hP := (WF.wf_iff _).mp hlast.wf
  have hnw := H0.nowrap
  unfold ply2 at hlp hnw
  rw [← mm_root1 H0.line only hne]
  exact RepSpec.rep_root_bounds 0 (rootNode b0 T only) ⟨hP.turn, by show (lastBoard b0 T).fullmove + 1 < _; omega⟩ hP.fm1

theorem rootSearch_game {b0 : Board} {T : List Board} (only : List String)
    (HM : ∀ m ∈ rootMoves (lastBoard b0 T) only, MoveHyp b0 T m) (hne : rootMoves (lastBoard b0 T) only ≠ [])
    (p : St) (hpb : vis p.board = vis (lastBoard b0 T))
    (hh : LineHist (plyClock b0) (b0 :: T) p.history) (hnn : p.negamaxNodes = 0) (htt : ∀ k, p.tt.get? k = none)
    (hstop : p.stop = false) (hsm : p.go.searchMoves = only)
    (hpoll : (rootPseudo (lastBoard b0 T) only).length < p.pollPeriod) :
    ∃ m c, (rootSearch p 1).1 =
        VM.mk (mmFold (childExact (b0 :: T) (lastBoard b0 T)) lossScore (rootMoves (lastBoard b0 T) only)) (some m) (some c) ∧
      m ∈ rootMoves (lastBoard b0 T) only ∧
      - childExact (b0 :: T) (lastBoard b0 T) m =
        mmFold (childExact (b0 :: T) (lastBoard b0 T)) lossScore (rootMoves (lastBoard b0 T) only) ∧
      (3 ≤ occurrences (b0 :: T) (make (lastBoard b0 T) m) → c = VM.leaf (repValue 1)) ∧
      (rootSearch p 1).2.stop = false ∧ (rootSearch p 1).2.out = p.out := by
  have hw := winScore_val
  have hlv := lossScore_val
  obtain ⟨x0, hx0⟩ := List.exists_mem_of_ne_nil _ hne
  have H0 := HM x0 hx0
  obtain ⟨hlast, -⟩ := last_facts H0.line H0.inv
  have hf := pollFlag_false_of_zero hnn
  have he := enter_of_noFlag hf (Zobrist.hash p.board)
  have hrs := rs_enter H0.line H0.inv (by have := H0.nowrap; omega) hpb hh hnn htt hstop
  have hbuf : rootBuffer (enter p (Zobrist.hash p.board)) 0 = rootPseudo (lastBoard b0 T) only := by
    rw [rootBuffer_zero, he]
    show rootPseudo p.board p.go.searchMoves = _
    unfold rootPseudo
    rw [hsm, genPseudo_congr hpb]
  have hroom : (enter p (Zobrist.hash p.board)).negamaxNodes + (rootPseudo (lastBoard b0 T) only).length ≤
      (enter p (Zobrist.hash p.board)).pollPeriod := by
    rw [he]; show p.negamaxNodes + 1 + _ ≤ p.pollPeriod; omega
  generalize hV : mmFold (childExact (b0 :: T) (lastBoard b0 T)) lossScore (rootMoves (lastBoard b0 T) only) = V
  have hbounds : lossScore < V ∧ V < Gen.winScore := hV ▸ root1_bounds only H0 hne
  -- the root node: no time-out, no repetition test, nothing in the table, a non-empty buffer, not the horizon
  unfold rootSearch
  rcases negamax_succ_cases 200 p 0 1 lossScore Gen.winScore p.pv.isSome (Zobrist.hash p.board) (Zobrist.pawnHash p.board) with
    ⟨ht, -⟩ | ⟨_, ⟨hr, -⟩ | ⟨-, hempty, -⟩ | ⟨hz, -⟩, -⟩ | ⟨t, hget, -, -⟩ | ⟨_, _, -, hz, -⟩ | ⟨α, β, hpr, -, e⟩
  · rw [timedOut_of_noFlag hf] at ht; cases ht
  · rw [isRep_zero] at hr; cases hr
  · have := (mem_rootMoves hx0).2
    rw [← hbuf, hempty] at this
    cases this
  · cases hz
  · rw [hrs.tt] at hget; cases hget
  · cases hz
  rw [hrs.tt, probe_none] at hpr
  obtain ⟨rfl, rfl⟩ : lossScore = α ∧ Gen.winScore = β := by simpa using hpr
  rw [show fuelFor 1 = 200 + 1 from rfl, e, hbuf]
  -- its move loop is `root_loop` on the sorted buffer
  generalize enter p (Zobrist.hash p.board) = s3 at hrs hroom ⊢
  generalize hms : sortMoves (rootPseudo (lastBoard b0 T) only) _ _ _ = ms
  have hperm : ms.Perm (rootPseudo (lastBoard b0 T) only) := hms ▸ List.mergeSort_perm _ _
  have hloop := root_loop hlast (fun m => m ∈ rootPseudo (lastBoard b0 T) only) lossScore Gen.winScore (Int.le_refl _)
    (by omega) p.pv.isSome (pvMoveOf s3 p.pv.isSome 0) (Zobrist.pawnHash p.board) (1 - 0) ms
    (fun m hm => mem_rootPseudo (hperm.mem_iff.mp hm))
    (fun m hm hlm => ⟨HM m (by rw [← rootPseudo_legal]; exact List.mem_filter.mpr ⟨hperm.mem_iff.mp hm, (List.mem_filter.mp hlm).2⟩),
      hperm.mem_iff.mp hm⟩)
    s3 (acc0 lossScore) lossScore hrs (by rw [hperm.length_eq]; exact hroom)
    (LoopInv.init (L := lossScore) (by omega) (Int.le_refl _)) (fun h => absurd h (Int.lt_irrefl _)) (fun m hm => by cases hm)
  have hperm' : (ms.filter (isMoveLegal (lastBoard b0 T))).Perm (rootMoves (lastBoard b0 T) only) :=
    rootPseudo_legal _ only ▸ hperm.filter _
  unfold LoopOk at hloop
  rw [mmFold_perm _ _ hperm', hV, hperm'.isEmpty_eq, List.isEmpty_eq_false_iff.mpr hne, ← hash_congr hpb] at hloop
  generalize negamaxLoop 200 s3 ms 0 1 Gen.winScore _ _ _ _ (1 - 0) (acc0 lossScore) = R at hloop ⊢
  obtain ⟨acc, ab, sR⟩ := R
  obtain ⟨p1, p2, p3, p4, -, p6, p7⟩ := hloop
  simp only at p1 p2 p3 p4 p6 p7
  subst p1
  have hval : acc.bestValue = V := p2.eq (by omega) (by omega)
  obtain ⟨m, hm1, hm2, hm3⟩ := p4 (by omega) (by omega)
  obtain ⟨hS, c, hc, hleaf⟩ := p7 m hm1
  -- the node returns what the loop recorded, and writes the table at most
  have hfin : ∃ tt, finish s3.board.turn lossScore Gen.winScore (Zobrist.hash p.board) (1 - 0) (acc, false, sR) =
      (VM.mk acc.bestValue acc.bestMove acc.bestChild, { sR with tt := tt }) := by
    rcases finish_cases s3.board.turn lossScore Gen.winScore (Zobrist.hash p.board) (1 - 0) acc false sR with
      ⟨h, -⟩ | ⟨-, h, -⟩ | ⟨-, -, -, e⟩ | ⟨-, -, -, nt, e⟩
    · cases h
    · rw [p3] at h; cases h
    · exact ⟨_, e⟩
    · exact ⟨_, e⟩
  obtain ⟨tt, e⟩ := hfin
  rw [e]
  refine ⟨m, c, by rw [hval, hm1, hc], ?_, by rw [← hval]; exact hm3, hleaf, (p6 _ rfl).stop, (p6 _ rfl).out⟩
  rw [← rootPseudo_legal]
  exact List.mem_filter.mpr ⟨hS, (List.mem_filter.mp hm2).2⟩

/-- **`go depth 1 searchmoves only` after a game, for any list `only`** (empty: no restriction), from any state `S` whose board
is the last position of the game and whose history holds the game: the score is the maximum over the root moves that `only`
leaves of the negated exact value `childExact` of the node below the move; the announced move `m` is one of them and attains
it; the PV is `m` followed by the PV of its node, which is empty at a repetition node -/
theorem go_depth1_only {b0 : Board} {T : List Board} (only : List String)
    (HM : ∀ m ∈ rootMoves (lastBoard b0 T) only, MoveHyp b0 T m) (hne : rootMoves (lastBoard b0 T) only ≠ [])
    (S : St) (hSb : S.board = lastBoard b0 T) (hSh : LineHist (plyClock b0) (b0 :: T) S.history) (maxIter : Nat)
    (hmi : 1 ≤ maxIter) (hpoll : (rootPseudo (lastBoard b0 T) only).length < S.pollPeriod) :
    ∃ t nodes m pv',
      (goCmd S { depth := some 1, searchMoves := only } maxIter).out =
        .bestMove (some m) (pv'[0]?) ::
        .info (some 1) t nodes (some (scoreFromValue
          (mmFold (childExact (b0 :: T) (lastBoard b0 T)) lossScore (rootMoves (lastBoard b0 T) only)) (lastBoard b0 T)))
          (some (m :: pv')) :: S.out ∧
      m ∈ rootMoves (lastBoard b0 T) only ∧
      - childExact (b0 :: T) (lastBoard b0 T) m =
        mmFold (childExact (b0 :: T) (lastBoard b0 T)) lossScore (rootMoves (lastBoard b0 T) only) ∧
      (3 ≤ occurrences (b0 :: T) (make (lastBoard b0 T) m) → pv' = []) := by
  obtain ⟨x0, hx0⟩ := List.exists_mem_of_ne_nil _ hne
  obtain ⟨k, pv, g', hp⟩ := goPrep_eq S { depth := some 1, searchMoves := only }
  have hsm := Search.goPrep_searchMoves S { depth := some 1, searchMoves := only }
  generalize hP : goPrep S { depth := some 1, searchMoves := only } = P at hp hsm
  obtain ⟨m, c, v1, v2, v3, v4, v5, v6⟩ := rootSearch_game only HM hne P
    (by rw [hp, hSb]) (by rw [hp]; exact hSh) (by rw [hp]) (by intro k'; rw [hp]; simp [Std.HashMap.get?_eq_getElem?])
    (by rw [hp]) hsm (by rw [hp]; exact hpoll)
  have hna : iterAborted (rootSearch P 1) = false := by
    unfold iterAborted
    rw [v5, v1]; rfl
  have hout := goCmd_depth1 S { depth := some 1, searchMoves := only } maxIter (goIters_depth1 only _ hmi)
    (by rw [hP]; exact hna)
  simp only at hout
  rw [hP] at hout
  have hvis : vis (rootSearch P 1).2.board = vis (lastBoard b0 T) :=
    rootSearch_board boardLaws _ P 1 (last_facts (HM x0 hx0).line (HM x0 hx0).inv).1 (by rw [hp, hSb])
  rw [scoreFromValue_congr hvis, v1, v6, show P.out = S.out from by rw [hp]] at hout
  refine ⟨_, _, m, c.pv, hout, v2, v3, fun h3 => ?_⟩
  rw [v4 h3]
  rfl

end Inkayaku.SearchRep
