import Inkayaku.Proofs.MakeUnmake
import Inkayaku.Proofs.MoveBits
import Inkayaku.Proofs.Side
/-!
# What the move generator proofs share: bit vocabulary, `pieceAt`, and the consequences of `WF.wf` they use

`testU x s` (square `s` is in the set `x`) and `has`/`lacks x (bitU s)` (the vocabulary of `MakeUnmake`) are converted by
`testU_iff_has`/`testU_false_iff_lacks`; `WFacts b` is what the generator needs of a well-formed board.
-/
namespace Inkayaku.GenOK
open Inkayaku.Board Inkayaku.Gen Inkayaku.WF Inkayaku.MakeUnmake Inkayaku.MoveBits

/-- `ubits` of `MakeUnmake` without hypotheses -/
syntax "ubits0" "[" term,* "]" : tactic
macro_rules
  | `(tactic| ubits0 [$xs,*]) => `(tactic| (
      simp only [has, lacks, clearBit, u64_eq_iff, UInt64.toBitVec_and, UInt64.toBitVec_or, UInt64.toBitVec_not,
        BitVec.getLsbD_and, BitVec.getLsbD_or, BitVec.getLsbD_not, UInt64.toBitVec_zero, BitVec.getLsbD_zero,
        beq_iff_eq, bne_iff_ne, ne_eq]
      intro i hi
      try simp only [hi, decide_true, Bool.true_and]
      $[all_goals cases ($xs).toBitVec.getLsbD i]*
      all_goals decide))

theorem nat_and_two_pow (x s : Nat) : x &&& 2^s = (x.testBit s).toNat * 2^s := by
  apply Nat.eq_of_testBit_eq
  intro i
  rw [Nat.testBit_and, Nat.testBit_two_pow]
  by_cases h : s = i
  · subst h; cases hx : x.testBit s <;> simp
  · cases hx : x.testBit s <;> simp [h]

theorem testU_iff_has {x : UInt64} {s : Nat} (hs : s < 64) : testU x s = true ↔ has x (bitU s) := by
  unfold has testU
  rw [← UInt64.toNat_inj, UInt64.toNat_and, Bits.toNat_bitU _ hs, nat_and_two_pow]
  have := Nat.two_pow_pos s
  cases x.toNat.testBit s <;> simp <;> omega

theorem testU_false_iff_lacks {x : UInt64} {s : Nat} (hs : s < 64) : testU x s = false ↔ lacks x (bitU s) := by
  unfold lacks testU
  rw [← UInt64.toNat_inj, UInt64.toNat_and, Bits.toNat_bitU _ hs, nat_and_two_pow]
  have := Nat.two_pow_pos s
  cases x.toNat.testBit s <;> simp <;> omega

theorem pieceAt_has (s : Side) {sq : Nat} (hsq : sq < 64) (h : s.pieceAt sq ≠ NO_PIECE) :
    has (s.get (s.pieceAt sq)) (bitU sq) := (testU_iff_has hsq).1 (Attack.get_of_pieceAt s hsq h)

theorem pieceAt_pawn (s : Side) {sq : Nat} (hsq : sq < 64) (h : has s.pawns (bitU sq)) : s.pieceAt sq = PAWN := by
  rw [Attack.pieceAt_bits s hsq, (testU_iff_has hsq).2 h]
  rfl

/-- the part of well-formedness that `make_move` itself relies on -/
structure Basic (b : Board) : Prop where
  turn : b.turn ≤ 1
  hm : b.halfmove < 4096
  ep : b.ep < 64

theorem get_sub_full (s : Side) {p : Nat} (h1 : 1 ≤ p) (h6 : p ≤ 6) : has s.full (s.get p) := by
  obtain ⟨o0, a1, a2, a3, a4, a5, a6, qs, ks⟩ := s
  have : p = 1 ∨ p = 2 ∨ p = 3 ∨ p = 4 ∨ p = 5 ∨ p = 6 := by omega
  rcases this with rfl|rfl|rfl|rfl|rfl|rfl <;> simp only [Side.full, Side.get] <;> ubits0 [a1, a2, a3, a4, a5, a6]

structure WFacts (b : Board) : Prop where
  basic : Basic b
  pawnRanks : lacks (b.white.pawns ||| b.black.pawns) rank18U
  epOK : b.ep ≠ 0 →
    if b.turn = 0 then b.ep / 8 = 2 ∧ testU b.black.pawns (b.ep + 8) = true
    else b.ep / 8 = 5 ∧ testU b.white.pawns (b.ep - 8) = true
  wks : b.white.ks = true → testU b.white.kings E1 = true ∧ testU b.white.rooks H1 = true
  wqs : b.white.qs = true → testU b.white.kings E1 = true ∧ testU b.white.rooks A1 = true
  bks : b.black.ks = true → testU b.black.kings E8 = true ∧ testU b.black.rooks H8 = true
  bqs : b.black.qs = true → testU b.black.kings E8 = true ∧ testU b.black.rooks A8 = true

/-- the castling-right conjuncts seen from the mover: home squares shifted by `dCastle` (0 for white, 56 for black) -/
theorem WFacts.home {b : Board} (hw : WFacts b) (kingSide : Bool) :
    (if kingSide then b.active.ks else b.active.qs) = true →
    testU b.active.kings (E1 - if b.whiteTurn then 0 else 56) = true ∧
    testU b.active.rooks ((if kingSide then H1 else A1) - if b.whiteTurn then 0 else 56) = true := by
  rcases Attack.sides_cases b with ⟨ht, ha, -⟩ | ⟨ht, ha, -⟩
  · rw [ht, ha]
    cases kingSide
    · exact hw.wqs
    · exact hw.wks
  · rw [ht, ha]
    cases kingSide
    · exact hw.bqs
    · exact hw.bks

theorem wf_facts {b : Board} (h : wf b = true) : WFacts b := by
  have p := parts_of_wf h
  have hep : b.ep ≠ 0 → if b.turn = 0 then b.ep / 8 = 2 ∧ testU b.black.pawns (b.ep + 8) = true
      else b.ep / 8 = 5 ∧ testU b.white.pawns (b.ep - 8) = true := by
    intro hne
    have := p.ep hne
    by_cases ht : b.turn = 0
    · rw [if_pos ht] at this ⊢; exact ⟨this.1, this.2.1⟩
    · rw [if_neg ht] at this ⊢; exact ⟨this.1, this.2.1⟩
  refine ⟨⟨p.turn, Nat.lt_succ_of_le p.hm, ?_⟩, p.pawns, hep, p.wks, p.wqs, p.bks, p.bqs⟩
  by_cases h0 : b.ep = 0
  · omega
  · have := hep h0
    split at this <;> omega

theorem tz_bitU : ∀ t, t < 64 → trailingZeros (bitU t) = t := by decide
theorem mid_of_r18 : ∀ t, t < 64 → bitU t &&& rank18U = 0 → 8 ≤ t ∧ t < 56 := by decide

theorem pawn_mid {b : Board} (hw : WFacts b) {src : Nat} (hs : src < 64) (hS : has b.active.pawns (bitU src)) :
    8 ≤ src ∧ src < 56 := by
  apply mid_of_r18 src hs
  have h := hw.pawnRanks
  unfold Board.active at hS
  split at hS <;>
  ( generalize rank18U = r at *
    generalize bitU src = S at *
    generalize b.white.pawns = wp at *
    generalize b.black.pawns = bp at *
    ubits [hS, h] [wp, bp, S, r])

end Inkayaku.GenOK
