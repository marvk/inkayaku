import Inkayaku.Proofs.SearchRepNode
/-!
# C10 at the search level: the search never writes the history below the node it is in

`search_negamax` records the hash of its node at the node's own ply index; the nodes of its subtree record theirs at larger
indices; `search_quiescence` records nothing.  Hence

* `negamax_sameBelow`     – `negamax` leaves every cell strictly below `plyClock s.board` as it was;
* `negamaxLoop_sameBelow` – the move loop of a node with board `b0` leaves every cell up to AND INCLUDING `plyClock b0` as it was;
* `LineHist.of_sameBelow`, `lineHist_child` – therefore `LineHist` (the hypothesis `NodeHyp.hist` of the repetition theorem) is
  an invariant of the search: if it holds for the line `b0 :: T` when the node `c` is entered, then it holds for the line
  `b0 :: T ++ [c]` in the state in which ANY child of `c` is entered – whatever siblings were searched before.

`nodeHyp_step`: so the hypotheses `NodeHyp` of the node theorem `isRep_enter_iff` pass from a node to each of its children, given
the hash hypotheses for the child's position.  (No 16-bit wrap of the ply counter inside the search: `ply2 + fuel < 65536`.)
-/
namespace Inkayaku.SearchRep
open Inkayaku.Board Inkayaku.WF Inkayaku.BoardCongr Inkayaku.Search Inkayaku.SearchSim Inkayaku.History Inkayaku.Eval

def SameBelow (n : Nat) (h h' : Array Nat) : Prop := ∀ j, j < n → h'.getD j 0 = h.getD j 0

theorem SameBelow.refl (n : Nat) (h : Array Nat) : SameBelow n h h := fun _ _ => rfl

theorem SameBelow.trans {n : Nat} {a b c : Array Nat} (h1 : SameBelow n a b) (h2 : SameBelow n b c) : SameBelow n a c :=
  fun j hj => (h2 j hj).trans (h1 j hj)

theorem SameBelow.mono {n n' : Nat} {a b : Array Nat} (h : SameBelow n a b) (hle : n' ≤ n) : SameBelow n' a b :=
  fun j hj => h j (by omega)

theorem sameBelow_set (h : Array Nat) (i v n : Nat) (hi : n ≤ i) : SameBelow n h (historySet h i v) := by
  intro j hj
  rw [getD_historySet, if_neg (by omega)]

theorem finish_history (c : Nat) (a b : Int) (h : UInt64) (rem : Nat) (r : LoopAcc × Bool × St) :
    (finish c a b h rem r).2.history = r.2.2.history := by
  obtain ⟨tt, e⟩ := finish_state c a b h rem r
  rw [e]

theorem pollStep_history (s : St) : (pollStep s).history = s.history := by
  rcases pollStep_eq s with h | ⟨st, q, rn, h⟩ <;> rw [h]

def NFrame (fuel : Nat) : Prop :=
  ∀ (s : St) (ply maxPly : Nat) (a b : Int) (isPv : Bool) (h ph : UInt64), Inv fuel s.board → ply2 s.board + fuel < 65536 →
    SameBelow (plyClock s.board) s.history (negamax fuel s ply maxPly a b isPv h ph).2.history

def NLoopFrame (fuel : Nat) : Prop :=
  ∀ (b0 : Board), Inv (fuel + 1) b0 → ply2 b0 + (fuel + 1) < 65536 → ∀ (moves : List Move), (∀ m ∈ moves, Generated b0 m) →
    ∀ (s : St) (ply maxPly : Nat) (beta : Int) (isPv : Bool) (pvMove : Option Move) (h ph : UInt64) (rem : Nat)
      (acc : LoopAcc), vis s.board = vis b0 →
      SameBelow (plyClock b0 + 1) s.history (negamaxLoop fuel s moves ply maxPly beta isPv pvMove h ph rem acc).2.2.history

theorem plyClock_make {b : Board} (hwf : wf b = true) (m : Move) (h : ply2 b + 1 < 65536) :
    plyClock (make b m) = plyClock b + 1 :=
  plyClock_add (ply2_make hwf m) h

/-- a node writes at its own index on entering and leaves the cells below alone; after that, like its move loop, it leaves
the cells up to and including its own index alone, since its children write at larger indices -/
theorem sameBelow_walk : (∀ fuel, NFrame fuel) ∧ (∀ fuel, NLoopFrame fuel) := by
  have w := negamax_walk boardLaws
    (NP := fun f b0 s _ _ _ _ _ res => ply2 b0 + f < 65536 → SameBelow (plyClock b0) s.history res.2.history)
    (NB := fun f b0 s _ _ _ _ _ res => ply2 b0 + (f + 1) < 65536 → SameBelow (plyClock b0 + 1) s.history res.2.history)
    (NL := fun f b0 _ s _ _ _ _ _ res => ply2 b0 + (f + 1) < 65536 → SameBelow (plyClock b0 + 1) s.history res.2.2.history)
    (zero := fun _ => SameBelow.refl _ _)
    (timeout := fun {_ _ s _ _ _ _ _} _ _ j _ => by show (pollStep s).history.getD j 0 = _; rw [pollStep_history])
    (entered := fun {_ _ s _ _ _ _ h _} _ hs hb hnw =>
      (enter_history s h ▸ sameBelow_set _ _ _ _ (Nat.le_of_eq (plyClock_congr hs).symm)).trans ((hb hnw).mono (Nat.le_succ _)))
    (leaf := fun _ _ => SameBelow.refl _ _)
    (hit := fun _ _ _ => SameBelow.refl _ _)
    (quiesce := fun _ _ _ _ _ j _ => by rw [quiescence_history])
    (loop := fun _ _ _ hl hnw j hj => by rw [finish_history]; exact hl hnw j hj)
    (nil := fun _ => SameBelow.refl _ _)
    (skip := fun _ ih => ih)
    (child := fun {f b0 m _ _ _ _ _ _ _ _ _} hinv _ _ _ _ hc =>
      have hfr := fun (hnw : ply2 b0 + (f + 1) < 65536) =>
        plyClock_make hinv.wf m (by omega) ▸ hc (by rw [ply2_make hinv.wf]; omega)
      ⟨fun _ => hfr, fun _ _ => hfr, fun _ _ _ ih hnw => (hfr hnw).trans (ih hnw)⟩)
  exact ⟨fun fuel s ply maxPly a b isPv h ph hinv hnw => (w.1 fuel s.board s ply maxPly a b isPv h ph hinv rfl).1 hnw,
    fun fuel b0 hinv hnw moves hmem s ply maxPly beta isPv pvMove h ph rem acc hs =>
      (w.2 fuel b0 hinv ply maxPly beta isPv pvMove h ph rem moves hmem s acc hs).1 hnw⟩

theorem negamax_sameBelow : ∀ fuel, NFrame fuel := sameBelow_walk.1

theorem negamaxLoop_sameBelow : ∀ fuel, NLoopFrame fuel := sameBelow_walk.2

theorem LineHist.of_sameBelow {r : Nat} {L : List Board} {h h' : Array Nat} (hl : LineHist r L h)
    (hs : SameBelow (r + L.length) h h') : LineHist r L h' := by
  refine ⟨fun j hj => by rw [hs j (by omega)]; exact hl.1 j hj, ?_⟩
  intro i b hb
  have := lt_of_getElem? hb
  rw [hs (r + i) (by omega)]
  exact hl.2 i b hb

/-- `s` = the state in which the node `c = s.board` was entered; `s'` = any later state of the search of that node whose history
agrees with the one after the node's `enter` up to and including the node's own index (`negamaxLoop_sameBelow`: every state the
move loop passes through). -/
theorem lineHist_child {b0 : Board} {T : List Board} {s : St} (H : NodeHyp b0 T s) (s' : St)
    (hs : SameBelow (plyClock s.board + 1) (enter s (Zobrist.hash s.board)).history s'.history) :
    LineHist (plyClock b0) (b0 :: (T ++ [s.board])) s'.history := by
  obtain ⟨_, _, hpc⟩ := line_last H.line H.inv H.nowrap
  have h1 : LineHist (plyClock b0) ((b0 :: T) ++ [s.board]) (enter s (Zobrist.hash s.board)).history := by
    rw [enter_history, hpc]
    exact H.hist.snoc s.board
  apply LineHist.of_sameBelow h1
  have : plyClock b0 + ((b0 :: T) ++ [s.board]).length = plyClock s.board + 1 := by
    rw [hpc]; simp only [List.length_append, List.length_cons, List.length_nil]; omega
  rw [this]
  exact hs

theorem nodeHyp_step {b0 : Board} {T : List Board} {s : St} (H : NodeHyp b0 T s) (s' : St) (m : Move)
    (hinv : Inv (T.length + 2) b0) (hnw : ply2 b0 + (T.length + 2) < 65536)
    (hs : SameBelow (plyClock s.board + 1) (enter s (Zobrist.hash s.board)).history s'.history)
    (hb : vis s'.board = vis s.board) (hm : m ∈ genLegal s.board)
    (hnz : Zobrist.hash (make s'.board m) ≠ 0)
    (hcoll : ∀ (i : Nat) (b : Board), (b0 :: (T ++ [s.board]))[i]? = some b →
      (T ++ [s.board]).length + 1 - (make s'.board m).halfmove ≤ i →
      Zobrist.hash b = Zobrist.hash (make s'.board m) → C06.HashKey b = C06.HashKey (make s'.board m)) :
    NodeHyp b0 (T ++ [s.board]) { s' with board := make s'.board m } := by
  have hlen : (T ++ [s.board]).length = T.length + 1 := by simp
  refine ⟨?_, by rw [hlen]; exact hinv, by rw [hlen]; exact hnw, lineHist_child H s' hs, hnz, hcoll⟩
  show IsLine (b0 :: (T ++ [s.board] ++ [make s'.board m]))
  apply isLine_snoc (T ++ [s.board]) b0 _ H.line
  rw [lastBoard_snoc]
  exact ⟨m, hm, make_congr hb m⟩

end Inkayaku.SearchRep
