import Inkayaku.Model.WF
import Inkayaku.Proofs.Bits
/-!
# `makeF` / `unmakeF` split by side

`makeF` and `unmakeF` act on the two sides independently: `mkMover`/`mkOther` and `unMover`/`unOther` are what they do
to the side that moves and to the other side (`makeF_eq`, `unmakeF_eq`).  Each of the four changes the castling rights
(`dropRights`, `giveRights`) and then rewrites a few words one after the other (`run`); which words, by the kind of move,
is data (`moverUpds`, `otherUpds`, `unMoverUpds`, `unOtherUpds`).  What does not depend on the kind of move is proved about
`run`: the rights are not touched (`ks_run`, `qs_run`, `giveRights_run`); the scratch word `o0` is read only inside
`s.set p (F (s.get p))`, where the value flows back into the scratch word, so `makeF` and `unmakeF` map boards with the same
visible position to boards with the same visible position (`visSide_update_congr`, `run_congr`); a word rewritten by `F` and
then by `G` with `G (F x) = x` is restored (`run_undo`, `run_undo2`).
-/
namespace Inkayaku.MakeUnmake
open Inkayaku.Board Inkayaku.WF

theorem le6_cases {p : Nat} (h : p ≤ 6) : p = 0 ∨ p = 1 ∨ p = 2 ∨ p = 3 ∨ p = 4 ∨ p = 5 ∨ p = 6 := by omega

theorem get_set_self (s : Side) {p : Nat} (hp : p ≤ 6) (v : UInt64) : (s.set p v).get p = v := by
  rcases p with _|_|_|_|_|_|_|p <;> first | rfl | omega

theorem get_set_ne (s : Side) {p p' : Nat} (h : p ≠ p') (v : UInt64) : (s.set p v).get p' = s.get p' := by
  unfold Side.set
  split <;> (unfold Side.get; split <;> first | rfl | exact absurd rfl h)

theorem set_set (s : Side) (p : Nat) (v w : UInt64) : (s.set p v).set p w = s.set p w := by
  rcases p with _|_|_|_|_|_|_|p <;> rfl

theorem set_get_self (s : Side) (p : Nat) : s.set p (s.get p) = s := by
  rcases p with _|_|_|_|_|_|_|p <;> rfl

theorem visSide_set_zero (s : Side) (v : UInt64) : visSide (s.set 0 v) = visSide s := rfl

theorem ks_set (s : Side) (p : Nat) (v : UInt64) : (s.set p v).ks = s.ks := by
  rcases p with _|_|_|_|_|_|_|p <;> rfl
theorem qs_set (s : Side) (p : Nat) (v : UInt64) : (s.set p v).qs = s.qs := by
  rcases p with _|_|_|_|_|_|_|p <;> rfl

theorem side_split {s s' : Side} (h : visSide s = visSide s') : ∃ x, s' = { s with o0 := x } := by
  obtain ⟨a0, a1, a2, a3, a4, a5, a6, a7, a8⟩ := s
  obtain ⟨b0, b1, b2, b3, b4, b5, b6, b7, b8⟩ := s'
  simp only [visSide, Side.mk.injEq, true_and] at h
  obtain ⟨h1, h2, h3, h4, h5, h6, h7, h8⟩ := h
  subst h1 h2 h3 h4 h5 h6 h7 h8
  exact ⟨b0, rfl⟩

theorem visSide_update_congr {s s' : Side} (h : visSide s = visSide s') (p : Nat) (F : UInt64 → UInt64) :
    visSide (s.set p (F (s.get p))) = visSide (s'.set p (F (s'.get p))) := by
  obtain ⟨x, rfl⟩ := side_split h
  rcases p with _|_|_|_|_|_|_|p <;> rfl

/-- the en-passant victim's square mask as `make` computes it (`white` = white is moving) -/
def epVictim (white : Bool) (tgtM : UInt64) : UInt64 := if white then tgtM <<< 8 else tgtM >>> 8

def dropRights (s : Side) (k q : Bool) : Side :=
  { s with ks := if k then false else s.ks, qs := if q then false else s.qs }
def giveRights (s : Side) (k q : Bool) : Side :=
  { s with ks := if k then true else s.ks, qs := if q then true else s.qs }

theorem get_dropRights (s : Side) (k q : Bool) (p : Nat) : (dropRights s k q).get p = s.get p := by
  unfold Side.get dropRights
  split <;> rfl

/-- word updates: `(p, F)` rewrites the word of piece `p` from its old value -/
abbrev Upds := List (Nat × (UInt64 → UInt64))

def run (s : Side) (l : Upds) : Side := l.foldl (fun s u => s.set u.1 (u.2 (s.get u.1))) s

theorem ks_run (s : Side) (l : Upds) : (run s l).ks = s.ks := by
  induction l generalizing s with
  | nil => rfl
  | cons u l ih => exact (ih _).trans (ks_set s _ _)
theorem qs_run (s : Side) (l : Upds) : (run s l).qs = s.qs := by
  induction l generalizing s with
  | nil => rfl
  | cons u l ih => exact (ih _).trans (qs_set s _ _)

theorem run_congr {s s' : Side} (h : visSide s = visSide s') (l : Upds) :
    visSide (run s l) = visSide (run s' l) := by
  induction l generalizing s s' with
  | nil => exact h
  | cons u l ih => exact ih (visSide_update_congr h u.1 u.2)

theorem dropRights_congr {s s' : Side} (h : visSide s = visSide s') (k q : Bool) :
    visSide (dropRights s k q) = visSide (dropRights s' k q) := by
  obtain ⟨x, rfl⟩ := side_split h; rfl
theorem giveRights_congr {s s' : Side} (h : visSide s = visSide s') (k q : Bool) :
    visSide (giveRights s k q) = visSide (giveRights s' k q) := by
  obtain ⟨x, rfl⟩ := side_split h; rfl

/-- a right that `make` drops only if held is back after `unmake` gives it again -/
theorem right_restored {l r : Bool} (h : l = true → r = true) :
    (if l = true then true else if l = true then false else r) = r := by
  cases l
  · rfl
  · exact (h rfl).symm

theorem giveRights_set (s : Side) (k q : Bool) (p : Nat) (v : UInt64) :
    giveRights (s.set p v) k q = (giveRights s k q).set p v := by
  rcases p with _|_|_|_|_|_|_|p <;> rfl

theorem get_giveRights (s : Side) (k q : Bool) (p : Nat) : (giveRights s k q).get p = s.get p := by
  unfold Side.get giveRights
  split <;> rfl

theorem giveRights_run (s : Side) (k q : Bool) (l : Upds) :
    giveRights (run s l) k q = run (giveRights s k q) l := by
  induction l generalizing s with
  | nil => rfl
  | cons u l ih =>
    refine (ih _).trans ?_
    rw [giveRights_set, ← get_giveRights s k q]
    rfl

theorem giveRights_dropRights {s : Side} {k q : Bool} (hk : k = true → s.ks = true) (hq : q = true → s.qs = true) :
    giveRights (dropRights s k q) k q = s := by
  obtain ⟨o0, pawns, knights, bishops, rooks, queens, kings, qs, ks⟩ := s
  simp only [giveRights, dropRights, right_restored hk, right_restored hq]

theorem run_undo {s : Side} {p : Nat} {F G : UInt64 → UInt64} (hp : p ≤ 6) (h : G (F (s.get p)) = s.get p) :
    run (run s [(p, F)]) [(p, G)] = s := by
  show (s.set p (F (s.get p))).set p (G ((s.set p (F (s.get p))).get p)) = s
  rw [get_set_self _ hp, set_set, h, set_get_self]

theorem run_swap (s : Side) {p p' : Nat} (hne : p ≠ p') (F F' : UInt64 → UInt64) :
    run s [(p, F), (p', F')] = run s [(p', F'), (p, F)] := by
  show (s.set p _).set p' _ = (s.set p' _).set p _
  rw [get_set_ne _ hne, get_set_ne _ (Ne.symm hne)]
  generalize F (s.get p) = v
  generalize F' (s.get p') = w
  unfold Side.set
  split <;> split <;> first | rfl | exact absurd rfl hne

theorem run_undo2 {s : Side} {p p' : Nat} {F G F' G' : UInt64 → UInt64} (hp : p ≤ 6) (hp' : p' ≤ 6) (hne : p ≠ p')
    (h : G (F (s.get p)) = s.get p) (h' : G' (F' (s.get p')) = s.get p') :
    run (run s [(p, F), (p', F')]) [(p, G), (p', G')] = s := by
  rw [run_swap s hne]
  show run (run (run (run s [(p', F')]) [(p, F)]) [(p, G)]) [(p', G')] = s
  rw [run_undo hp (by rw [show (run s [(p', F')]).get p = s.get p from get_set_ne _ (Ne.symm hne) _]; exact h), run_undo hp' h']

def moverUpds (f : MoveF) : Upds :=
  let srcM := bitU f.source
  let tgtM := bitU f.target
  if f.castle then
    match castleRook f.target with
    | some (rs, rt) => [(ROOK, fun x => clearBit x (bitU rs) ||| bitU rt), (KING, fun x => clearBit x srcM ||| tgtM)]
    | none => []
  else if f.enPassant then [(PAWN, fun x => clearBit x srcM ||| tgtM)]
  else if f.promotion != NO_PIECE then [(PAWN, fun x => clearBit x srcM), (f.promotion, fun x => x ||| tgtM)]
  else [(f.pieceMoved, fun x => clearBit x srcM ||| tgtM)]

/-- `white` = white is moving -/
def otherUpds (f : MoveF) (white : Bool) : Upds :=
  if f.castle then []
  else if f.enPassant then [(PAWN, fun x => clearBit x (epVictim white (bitU f.target)))]
  else [(f.pieceAttacked, fun x => clearBit x (bitU f.target))]

def unMoverUpds (f : MoveF) : Upds :=
  let srcM := bitU f.source
  let tgtM := bitU f.target
  if f.castle then
    match castleRook f.target with
    | some (rs, rt) => [(ROOK, fun x => clearBit x (bitU rt) ||| bitU rs), (KING, fun x => clearBit x tgtM ||| srcM)]
    | none => []
  else if f.enPassant then [(PAWN, fun x => clearBit x tgtM ||| srcM)]
  else if f.promotion != NO_PIECE then [(PAWN, fun x => x ||| srcM), (f.promotion, fun x => clearBit x tgtM)]
  else [(f.pieceMoved, fun x => clearBit (x ||| srcM) tgtM)]

/-- `white` = white made the move -/
def unOtherUpds (f : MoveF) (white : Bool) : Upds :=
  if f.castle then []
  else if f.enPassant then [(f.pieceAttacked, fun x => x ||| epVictim white (bitU f.target))]
  else [(f.pieceAttacked, fun x => x ||| bitU f.target)]

def mkMover (f : MoveF) (s : Side) : Side := run (dropRights s f.selfLostKing f.selfLostQueen) (moverUpds f)
/-- `white` = white is moving -/
def mkOther (f : MoveF) (white : Bool) (s : Side) : Side := run (dropRights s f.oppLostKing f.oppLostQueen) (otherUpds f white)
def unMover (f : MoveF) (s : Side) : Side := run (giveRights s f.selfLostKing f.selfLostQueen) (unMoverUpds f)
/-- `white` = white made the move -/
def unOther (f : MoveF) (white : Bool) (s : Side) : Side := run (giveRights s f.oppLostKing f.oppLostQueen) (unOtherUpds f white)

theorem mkMover_ks (f : MoveF) (s : Side) : (mkMover f s).ks = (if f.selfLostKing then false else s.ks) := ks_run _ _
theorem mkMover_qs (f : MoveF) (s : Side) : (mkMover f s).qs = (if f.selfLostQueen then false else s.qs) := qs_run _ _
theorem mkOther_ks (f : MoveF) (w : Bool) (s : Side) : (mkOther f w s).ks = (if f.oppLostKing then false else s.ks) := ks_run _ _
theorem mkOther_qs (f : MoveF) (w : Bool) (s : Side) : (mkOther f w s).qs = (if f.oppLostQueen then false else s.qs) := qs_run _ _

theorem makeF_eq (b : Board) (f : MoveF) : makeF b f =
    { white := if b.whiteTurn then mkMover f b.active else mkOther f b.whiteTurn b.passive
      black := if b.whiteTurn then mkOther f b.whiteTurn b.passive else mkMover f b.active
      turn := 1 - b.turn
      ep := f.nextEp
      fullmove := b.fullmove + b.turn
      halfmove := if f.halfmoveReset then 0 else b.halfmove + 1 } := by
  unfold makeF mkMover mkOther moverUpds otherUpds run dropRights epVictim
  cases f.castle <;> cases f.enPassant <;> cases (f.promotion != NO_PIECE) <;> cases castleRook f.target <;> rfl

theorem makeF_turn (b : Board) (f : MoveF) : (makeF b f).turn = 1 - b.turn := by rw [makeF_eq]

theorem sides_of_turn (b : Board) (ht : b.turn ≤ 1) :
    (b.whiteTurn = true ∧ b.turn = 0 ∧ b.active = b.white ∧ b.passive = b.black) ∨
    (b.whiteTurn = false ∧ b.turn = 1 ∧ b.active = b.black ∧ b.passive = b.white) := by
  have : b.turn = 0 ∨ b.turn = 1 := by omega
  rcases this with h | h
  · left; simp [Board.whiteTurn, Board.active, Board.passive, h]
  · right; simp [Board.whiteTurn, Board.active, Board.passive, h]

theorem makeF_sides (b : Board) (f : MoveF) :
    (makeF b f).active = mkOther f b.whiteTurn b.passive ∧ (makeF b f).passive = mkMover f b.active ∧
    (makeF b f).whiteTurn = !b.whiteTurn ∧ (makeF b f).ep = f.nextEp := by
  rw [makeF_eq]
  simp only [Board.active, Board.passive, Board.whiteTurn, Bits.other_beq_zero]
  by_cases h : (b.turn == 0) = true <;> simp [h]

theorem unmakeF_eq (b : Board) (f : MoveF) : unmakeF b f =
    { white := if b.whiteTurn then unOther f (!b.whiteTurn) b.active else unMover f b.passive
      black := if b.whiteTurn then unMover f b.passive else unOther f (!b.whiteTurn) b.active
      turn := 1 - b.turn
      ep := f.prevEp
      fullmove := b.fullmove - (1 - b.turn)
      halfmove := f.prevHalfmove } := by
  unfold unmakeF unMover unOther unMoverUpds unOtherUpds run giveRights epVictim Board.active Board.passive
  -- split only as far as the branch taken needs: `castleRook` matters for castling, the promotion test for the rest
  cases b.whiteTurn <;> cases f.castle
  · cases f.enPassant
    · cases (f.promotion != NO_PIECE) <;> rfl
    · rfl
  · cases castleRook f.target <;> rfl
  · cases f.enPassant
    · cases (f.promotion != NO_PIECE) <;> rfl
    · rfl
  · cases castleRook f.target <;> rfl

theorem makeF_congr (f : MoveF) {b b' : Board} (h : vis b = vis b') : vis (makeF b f) = vis (makeF b' f) := by
  obtain ⟨w, k, t, e, fm, hm⟩ := b
  obtain ⟨w', k', t', e', fm', hm'⟩ := b'
  simp only [vis, Board.mk.injEq] at h
  obtain ⟨hw, hk, rfl, rfl, rfl, rfl⟩ := h
  rw [makeF_eq, makeF_eq]
  simp only [vis, Board.whiteTurn, Board.active, Board.passive, Board.mk.injEq, and_true]
  by_cases ht : (t == 0) = true
  · simp only [ht, if_true]
    exact ⟨run_congr (dropRights_congr hw _ _) _, run_congr (dropRights_congr hk _ _) _⟩
  · simp only [ht]
    exact ⟨run_congr (dropRights_congr hw _ _) _, run_congr (dropRights_congr hk _ _) _⟩

theorem unmakeF_congr (f : MoveF) {b b' : Board} (h : vis b = vis b') : vis (unmakeF b f) = vis (unmakeF b' f) := by
  obtain ⟨w, k, t, e, fm, hm⟩ := b
  obtain ⟨w', k', t', e', fm', hm'⟩ := b'
  simp only [vis, Board.mk.injEq] at h
  obtain ⟨hw, hk, rfl, rfl, rfl, rfl⟩ := h
  rw [unmakeF_eq, unmakeF_eq]
  simp only [vis, Board.whiteTurn, Board.active, Board.passive, Board.mk.injEq, and_true]
  by_cases ht : (t == 0) = true
  · simp only [ht, if_true]
    exact ⟨run_congr (giveRights_congr hw _ _) _, run_congr (giveRights_congr hk _ _) _⟩
  · simp only [ht]
    exact ⟨run_congr (giveRights_congr hw _ _) _, run_congr (giveRights_congr hk _ _) _⟩

/-! ## `make` as pieces taken off and put on squares

Outside castling `make` takes ONE piece of the mover off the source (`movedCode`), puts ONE on the target (`placedCode`)
and takes at most one piece of the other side off one square; castling relocates king and rook instead
(`mkMover_castle`).  The hashes, the piece codes and (through them) well-formedness of the successor are read
off this. -/

def rem (s : Side) (p q : Nat) : Side := s.set p (clearBit (s.get p) (bitU q))
def add (s : Side) (p q : Nat) : Side := s.set p (s.get p ||| bitU q)

/-- for every `p`: a code above 6 names no word and `Side.set` ignores it -/
theorem add_rem (s : Side) (p src tgt : Nat) :
    add (rem s p src) p tgt = s.set p (clearBit (s.get p) (bitU src) ||| bitU tgt) := by
  rcases p with _|_|_|_|_|_|_|p <;> rfl

theorem get_rem (s : Side) (p : Nat) {q : Nat} (src : Nat) (hq : q ≤ 6) :
    (rem s p src).get q = if q = p then clearBit (s.get q) (bitU src) else s.get q := by
  unfold rem
  split
  · next h => subst h; exact get_set_self _ hq _
  · next h => exact get_set_ne _ (fun e => h e.symm) _

/-- the piece that leaves the source: a pawn for en passant and promotions (whatever `pieceMoved` says) -/
def movedCode (f : MoveF) : Nat := if f.enPassant = true ∨ f.promotion ≠ NO_PIECE then PAWN else f.pieceMoved
def placedCode (f : MoveF) : Nat :=
  if f.enPassant = true then PAWN else if f.promotion ≠ NO_PIECE then f.promotion else f.pieceMoved

theorem mkMover_plain {f : MoveF} (s : Side) (hc : f.castle = false) :
    mkMover f s = add (rem (dropRights s f.selfLostKing f.selfLostQueen) (movedCode f) f.source) (placedCode f) f.target := by
  unfold movedCode placedCode mkMover moverUpds
  rw [hc]
  cases hee : f.enPassant
  · by_cases hp : f.promotion = NO_PIECE
    · simp only [hp, Bool.false_eq_true, false_or, ne_eq, not_true_eq_false, if_false, bne_self_eq_false]
      exact (add_rem _ _ _ _).symm
    · have : (f.promotion != NO_PIECE) = true := by simpa using hp
      simp only [this, hp, Bool.false_eq_true, false_or, ne_eq, not_false_eq_true, if_false, if_true]
      rfl
  · simp only [true_or, if_true, Bool.false_eq_true, if_false]
    exact (add_rem _ PAWN _ _).symm

/-- the piece taken off the other side (`NO_PIECE`: the scratch word) and its square `v`, the target or for en passant
the square `epVictim` names -/
theorem mkOther_plain {f : MoveF} (white : Bool) (s : Side) {v : Nat} (hc : f.castle = false)
    (hv : if f.enPassant = true then epVictim white (bitU f.target) = bitU v else f.target = v) :
    mkOther f white s = rem (dropRights s f.oppLostKing f.oppLostQueen)
      (if f.enPassant = true then PAWN else f.pieceAttacked) v := by
  unfold mkOther otherUpds
  rw [hc]
  cases hee : f.enPassant
  · simp only [hee, Bool.false_eq_true, if_false] at hv
    simp only [← hv, Bool.false_eq_true, if_false]
    rfl
  · simp only [hee, if_true] at hv
    simp only [hv, Bool.false_eq_true, if_false, if_true]
    rfl

theorem castleRook_cases {t rs rt : Nat} (h : castleRook t = some (rs, rt)) :
    (t = C1 ∧ rs = A1 ∧ rt = D1) ∨ (t = G1 ∧ rs = H1 ∧ rt = F1) ∨ (t = C8 ∧ rs = A8 ∧ rt = D8) ∨
    (t = G8 ∧ rs = H8 ∧ rt = F8) := by
  unfold castleRook at h
  split at h
  · rename_i ht; simp only [Option.some.injEq, Prod.mk.injEq] at h; left; exact ⟨by simpa using ht, h.1.symm, h.2.symm⟩
  · split at h
    · rename_i ht; simp only [Option.some.injEq, Prod.mk.injEq] at h
      right; left; exact ⟨by simpa using ht, h.1.symm, h.2.symm⟩
    · split at h
      · rename_i ht; simp only [Option.some.injEq, Prod.mk.injEq] at h
        right; right; left; exact ⟨by simpa using ht, h.1.symm, h.2.symm⟩
      · split at h
        · rename_i ht; simp only [Option.some.injEq, Prod.mk.injEq] at h
          right; right; right; exact ⟨by simpa using ht, h.1.symm, h.2.symm⟩
        · cases h

theorem mkMover_castle {f : MoveF} (s : Side) {rs rt : Nat} (hc : f.castle = true)
    (hr : castleRook f.target = some (rs, rt)) :
    mkMover f s = add (rem (add (rem (dropRights s f.selfLostKing f.selfLostQueen) 4 rs) 4 rt) 6 f.source) 6 f.target := by
  rw [add_rem, add_rem]
  simp only [mkMover, moverUpds, hc, hr, if_true]
  rfl

theorem mkOther_castle {f : MoveF} (white : Bool) (s : Side) (hc : f.castle = true) :
    mkOther f white s = dropRights s f.oppLostKing f.oppLostQueen := by
  simp only [mkOther, otherUpds, hc, if_true]
  rfl

end Inkayaku.MakeUnmake

namespace Inkayaku.Board

theorem make_turn (b : Board) (m : Move) : (make b m).turn = 1 - b.turn := rfl

theorem make_fullmove (b : Board) (m : Move) : (make b m).fullmove = b.fullmove + b.turn := rfl

end Inkayaku.Board
