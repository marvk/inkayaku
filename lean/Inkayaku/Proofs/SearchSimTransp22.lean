import Inkayaku.Proofs.SearchSimTranspCodes
/-!
# C08, `Transp22`: two lines of two moves to the same placement reset the half-move clock alike (code functions)

`same22`: lines `m1 m2` and `a1 a2` from the same root with the same code functions at the end.  Counting pieces: `m1` captures
iff `a1` does, `m2` captures iff `a2` does.
* `pawn2`: if the second moves do not capture, one is a pawn move iff the other is.  Otherwise the pawn that `m2` moves has left
  its square, on which it still stands after `a1 a2` unless `a1` captured it; then the capturing piece stands on that square
  (on which the pawn still stands after `m1`), or `a1` is en passant and `m1` puts a pawn on the same empty target: not by a
  push (the pawn `m2` moves stands behind that square) nor by a plain capture, so en passant too, capturing the same pawn.
* if the second moves neither capture nor move a pawn, `m1` is a pawn move iff `a1` is (`Mv.pawn_of_same`: the pawn left its square).
-/
namespace Inkayaku.SearchSim.Transp
open Inkayaku.Board Inkayaku.GenFacts

section
variable {w : Bool} {W B W1 B1 B2 W2 Wa Ba Ba2 Wa2 : Nat → Nat} {ep0 : Nat} {m1 m2 a1 a2 : MoveF}

theorem pawn2 (h1 : Mv w W B W1 B1 ep0 m1) (h2 : Mv (!w) B1 W1 B2 W2 m1.nextEp m2)
    (g1 : Mv w W B Wa Ba ep0 a1) (g2 : Mv (!w) Ba Wa Ba2 Wa2 a1.nextEp a2)
    (w1a : ∀ q, q < 64 → W1 q = Wa q) (eB : ∀ q, q < 64 → B2 q = Ba2 q)
    (p2 : m2.pieceMoved = 1) : a2.pieceMoved = 1 := by
  false_or_by_contra
  rename_i hn
  have s2 := h2.s_lt
  have b1_s : B1 m2.source = 1 := by rw [h2.src, p2]
  have b_s : B m2.source = 1 := by rw [← h1.O_sub s2 (by omega)]; exact b1_s
  have ba2_s : Ba2 m2.source = 0 := by rw [← eB _ s2]; exact h2.vacate
  -- `a1` captures the pawn
  obtain ⟨hs2, -⟩ : m2.source = capSq w a1.enPassant a1.target ∧ a1.pieceAttacked ≠ 0 := by
    rcases g1.O_cases s2 with e | ⟨-, e2, -, -, e5⟩
    · have := g2.keep_pawn hn s2 (by rw [e, b_s])
      omega
    · exact ⟨e2, e5⟩
  have w1_s : W1 m2.source = 0 := h2.cross _ s2 (by omega)
  have ta := g1.t_lt
  cases hae : a1.enPassant
  · -- the capturing piece stands on the pawn's square
    rw [g1.capSq_noep hae] at hs2
    rw [w1a _ s2, hs2, g1.at_tgt] at w1_s
    exact g1.placed_ne0 w1_s
  · -- `a1` is en passant: `m1` puts a pawn on the same empty square; a push would start on or pass the square of the pawn
    -- `m2` moves, a capture takes that pawn
    obtain ⟨ap, -, apr, -, -, -, b_ta, -, -⟩ := g1.epF hae
    have hca := g1.ep_capSq hae
    rw [← hs2] at hca
    have w1_ta : W1 a1.target = 1 := by rw [w1a _ ta, g1.at_tgt]; unfold placed; rw [if_pos apr, ap]
    obtain ⟨htm, mp⟩ := h1.new_pawn ta g1.tgt w1_ta
    by_cases mq : m1.pieceAttacked = 0
    · have := h1.push_behind mp mq (by rw [← htm]; exact hca)
      omega
    · cases hme : m1.enPassant
      · have := h1.att
        rw [h1.capSq_noep hme, ← htm, b_ta] at this
        exact mq this
      · have hcm := h1.ep_capSq hme
        have : B1 m2.source = 0 := by rw [h1.plainO (h1.epF hme).2.1 _ s2, if_pos (by omega)]
        omega

theorem same22 (h1 : Mv w W B W1 B1 ep0 m1) (h2 : Mv (!w) B1 W1 B2 W2 m1.nextEp m2)
    (g1 : Mv w W B Wa Ba ep0 a1) (g2 : Mv (!w) Ba Wa Ba2 Wa2 a1.nextEp a2)
    (eW : ∀ q, q < 64 → W2 q = Wa2 q) (eB : ∀ q, q < 64 → B2 q = Ba2 q) :
    m2.halfmoveReset = a2.halfmoveReset ∧ (m2.halfmoveReset = false → m1.halfmoveReset = a1.halfmoveReset) := by
  have c1 := h1.cntM; have c2 := h1.cntO; have c3 := g1.cntM; have c4 := g1.cntO
  have c5 := h2.cntM; have c6 := h2.cntO; have c7 := g2.cntM; have c8 := g2.cntO
  have c9 := cnt_congr 64 eW; have c10 := cnt_congr 64 eB
  -- if the second moves are quiet, the first mover has the same codes after the first moves
  have w1a : m2.pieceAttacked = 0 → a2.pieceAttacked = 0 → ∀ q, q < 64 → W1 q = Wa q := by
    intro q2 r2 q hq
    rw [← h2.quietO q2 hq, ← g2.quietO r2 hq]; exact eW q hq
  have r2 : m2.halfmoveReset = a2.halfmoveReset := by
    rw [h2.reset, g2.reset]
    exact reset_congr (by omega) (fun hq hq' =>
      ⟨pawn2 h1 h2 g1 g2 (w1a hq hq') eB, pawn2 g1 g2 h1 h2 (fun q h => (w1a hq hq' q h).symm) (fun q h => (eB q h).symm)⟩)
  refine ⟨r2, ?_⟩
  intro hr
  have hr' : a2.halfmoveReset = false := by rw [← r2]; exact hr
  rw [h2.reset] at hr
  rw [g2.reset] at hr'
  simp only [Bool.or_eq_false_iff, beq_eq_false_iff_ne, bne_eq_false_iff_eq] at hr hr'
  rw [h1.reset, g1.reset]
  exact reset_congr (by omega) (fun _ _ =>
    ⟨h1.pawn_of_same g1 (w1a hr.2 hr'.2), g1.pawn_of_same h1 (fun q h => (w1a hr.2 hr'.2 q h).symm)⟩)

end

#print axioms same22

end Inkayaku.SearchSim.Transp
