import Inkayaku.Proofs.SearchSimInv
/-!
# C08 simulation: the move loop of `search_negamax`

`negamaxLoop_ok` runs the concrete loop against an abstract contract of its child calls (exact child values `e`, a state
invariant), so that the arithmetic (`Minimax.LoopInv`) is done once (the walk is `Search.nLoop_walk`); `negamaxLoop_noIntr` adds the
transport of "not interrupted" (`NoIntr`) from the loop to its children and back.
-/
namespace Inkayaku.SearchSim
open Inkayaku.Board Inkayaku.Eval Inkayaku.WF Inkayaku.BoardCongr Inkayaku.Minimax Inkayaku.SpecSearch Inkayaku.Search

theorem accUpdate_gt (acc : LoopAcc) (m : Move) (c : VM) (h : -c.value > acc.bestValue) :
    accUpdate acc m c = { alpha := max acc.alpha (-c.value), bestValue := -c.value, bestMove := some m,
                          bestChild := some c, legalSeen := true } := by
  unfold accUpdate
  simp only [h, if_true]

theorem accUpdate_le (acc : LoopAcc) (m : Move) (c : VM) (h : ¬ -c.value > acc.bestValue) :
    accUpdate acc m c = { acc with legalSeen := true, alpha := max acc.alpha acc.bestValue } := by
  unfold accUpdate
  simp only [h, if_false]

/-- The contract of the move loop of a node with board `bN`.  `e m` is the exact value of the child after the
move `m`, `M` the maximum over the moves done before, `Q` what holds of the final accumulator (e.g. of the recorded best child:
the depth-1 search after a game reads the PV off it) and of the state. -/
def LoopOk (bN : Board) (e : Move → Int) (Q : LoopAcc → St → Prop) (α₀ β M : Int) (legal0 : Bool)
    (moves : List Move) (R : LoopAcc × Bool × St) : Prop :=
  R.2.1 = false ∧
  Ok (mmFold e M (moves.filter (isMoveLegal bN))) R.1.bestValue α₀ β ∧
  R.1.legalSeen = (legal0 || !(moves.filter (isMoveLegal bN)).isEmpty) ∧
  (α₀ < R.1.bestValue → R.1.bestValue < β → Chosen e id (· ∈ genLegal bN) R.1.bestMove R.1.bestValue) ∧
  vis R.2.2.board = vis bN ∧ Q R.1 R.2.2

/-- The concrete move loop (skipped illegal moves, the stop test, the accumulator, the killer update at a cut-off) against
the contract of its child calls.  `I rest acc s res` is what holds of the state `s` before the moves `rest` are tried with the
accumulator `acc`, `res` being what the loop will return; it is how the two users say that the loop is not interrupted (the
node counter that the loop returns is not past the poll period: the child's counter is at most that, `hle`; or there is room
for `rest.length` more nodes before the next poll).  The arithmetic is `LoopInv`, the walk `nLoop_walk`. -/
theorem negamaxLoop_ok {fuel k D : Nat} {bN : Board} (hinv : Inv (fuel + 1) bN) (e : Move → Int)
    (I : List Move → LoopAcc → St → LoopAcc × Bool × St → Prop) (Q : LoopAcc → St → Prop) (β α₀ : Int) (isPv : Bool)
    (pvMove : Option Move) (hash ph : UInt64) (rem : Nat)
    (hdone : ∀ acc s res, I [] acc s res → Q acc s)
    (hskip : ∀ m rest acc s res, I (m :: rest) acc s res → I rest acc { s with board := unmake (make s.board m) m } res)
    (hchild : ∀ m rest acc s res, m ∈ genLegal bN → vis s.board = vis bN → I (m :: rest) acc s res → α₀ ≤ acc.alpha →
      acc.alpha < β →
      ∀ r isPv' ph', r = negamax fuel { s with board := make s.board m } (k + 1) D (-β) (-acc.alpha) isPv'
        (hash ^^^ (Zobrist.xorOf m.f).1) ph' →
      r.2.negamaxNodes ≤ res.2.2.negamaxNodes →
      Ok (e m) r.1.value (-β) (-acc.alpha) ∧ r.2.stop = false ∧
      (∀ ks, Q (accUpdate acc m r.1) { r.2 with board := unmake r.2.board m, killers := ks }) ∧
      ((accUpdate acc m r.1).alpha < β → I rest (accUpdate acc m r.1) { r.2 with board := unmake r.2.board m } res)) :
    ∀ (moves : List Move), (∀ m ∈ moves, m ∈ genPseudo bN) → ∀ (s : St) (acc : LoopAcc) (M : Int),
      vis s.board = vis bN → I moves acc s (negamaxLoop fuel s moves k D β isPv pvMove hash ph rem acc) →
      LoopInv α₀ acc.alpha β acc.bestValue M →
      (α₀ < acc.bestValue → Chosen e id (· ∈ genLegal bN) acc.bestMove acc.bestValue) →
      LoopOk bN e Q α₀ β M acc.legalSeen moves (negamaxLoop fuel s moves k D β isPv pvMove hash ph rem acc) := by
  intro moves hmem s acc M hs hI L h3
  refine (fun key => ?main) (nLoop_walk boardLaws hinv k D β hash
    (NL := fun moves s acc R => s.negamaxNodes ≤ R.2.2.negamaxNodes ∧
      ∀ M, (∀ m ∈ moves, m ∈ genPseudo bN) → I moves acc s R → LoopInv α₀ acc.alpha β acc.bestValue M →
      (α₀ < acc.bestValue → Chosen e id (· ∈ genLegal bN) acc.bestMove acc.bestValue) →
      R.2.1 = false ∧ Ok (mmFold e M (moves.filter (isMoveLegal bN))) R.1.bestValue α₀ β ∧
      R.1.legalSeen = (acc.legalSeen || !(moves.filter (isMoveLegal bN)).isEmpty) ∧
      (α₀ < R.1.bestValue → R.1.bestValue < β → Chosen e id (· ∈ genLegal bN) R.1.bestMove R.1.bestValue) ∧ Q R.1 R.2.2)
    ?nil ?skip ?child isPv pvMove ph rem moves (fun m hm => Or.inl (hmem m hm)) s acc hs)
  case main =>
    obtain ⟨p1, p2, p3, p4, p6⟩ := key.1.2 M hmem hI L h3
    exact ⟨p1, p2, p3, p4, key.2, p6⟩
  case nil =>
    intro s acc
    exact ⟨Nat.le_refl _, fun M _ hI L h3 => ⟨rfl, L.done, by simp, fun h _ => h3 h, hdone acc s _ hI⟩⟩
  case skip =>
    intro m rest s acc res hl ih
    refine ⟨ih.1, fun M hmem hI L h3 => ?_⟩
    rw [List.filter_cons_of_neg (by simp [isMoveLegal, hl])]
    exact ih.2 M (List.forall_mem_cons.mp hmem).2 (hskip m rest acc s res hI) L h3
  case child =>
    intro m rest s acc ks r _ hl hb ⟨isPv', ph', hr⟩
    have hfr : s.negamaxNodes ≤ r.2.negamaxNodes := by
      rw [hr]
      exact (negamax_rel (frame_stepRel D) fuel { s with board := make s.board m } (k + 1) (-β) (-acc.alpha) isPv' _ ph').nn
    replace hl : isMoveLegal bN m = true := hl
    -- the contract of the child, once it is known that its node counter is at most the one the loop returns
    have con := fun (res : LoopAcc × Bool × St) (hle : r.2.negamaxNodes ≤ res.2.2.negamaxNodes) (M : Int)
        (hmem : ∀ x ∈ m :: rest, x ∈ genPseudo bN) (hI : I (m :: rest) acc s res)
        (L : LoopInv α₀ acc.alpha β acc.bestValue M) =>
      hchild m rest acc s res (List.mem_filter.mpr ⟨hmem m List.mem_cons_self, hl⟩) hb hI (by have := L.al; omega) L.lt
        r isPv' ph' hr hle
    refine ⟨fun hst => ⟨hfr, fun M hmem hI L h3 => ?_⟩, fun hst hcut => ⟨hfr, fun M hmem hI L h3 => ?_⟩,
      fun hst hcut res ih => ⟨Nat.le_trans hfr ih.1, fun M hmem hI L h3 => ?_⟩⟩
    · rw [(con _ (Nat.le_refl _) M hmem hI L).2.1] at hst
      cases hst
    · obtain ⟨hok, -, hQ, -⟩ := con _ (Nat.le_refl _) M hmem hI L
      rw [List.filter_cons_of_pos hl, mmFold_cons, List.isEmpty_cons, Bool.not_false, Bool.or_true]
      by_cases hv : -r.1.value > acc.bestValue
      · rw [accUpdate_gt acc m r.1 hv] at hcut hQ ⊢
        replace hcut : max acc.alpha (-r.1.value) ≥ β := hcut
        dsimp only
        obtain ⟨k1, -⟩ := L.improve hok hv
        exact ⟨rfl, (k1 hcut).2 _ (le_mmFold _ _ _), rfl, fun _ h => absurd h (by have := (k1 hcut).1; omega), hQ _⟩
      · rw [accUpdate_le acc m r.1 hv] at hcut
        have := (L.keep hok hv).1
        exact absurd hcut (by show ¬ max acc.alpha acc.bestValue ≥ β; omega)
    · obtain ⟨hok, -, -, hI'⟩ := con res ih.1 M hmem hI L
      have hlegal : m ∈ genLegal bN := List.mem_filter.mpr ⟨hmem m List.mem_cons_self, hl⟩
      have hrest := (List.forall_mem_cons.mp hmem).2
      rw [List.filter_cons_of_pos hl, mmFold_cons, List.isEmpty_cons, Bool.not_false, Bool.or_true]
      by_cases hv : -r.1.value > acc.bestValue
      · rw [accUpdate_gt acc m r.1 hv] at hcut hI' ih
        replace hcut : ¬ max acc.alpha (-r.1.value) ≥ β := hcut
        obtain ⟨L', hc⟩ := (L.improve hok hv).2 (by omega)
        obtain ⟨p1, p2, p3, p4, p6⟩ := ih.2 (max M (- e m)) hrest
          (hI' (by show max acc.alpha (-r.1.value) < β; omega)) L' (fun h => ⟨m, rfl, hlegal, hc h⟩)
        exact ⟨p1, p2, by rw [p3]; rfl, p4, p6⟩
      · rw [accUpdate_le acc m r.1 hv] at hcut hI' ih
        obtain ⟨k1, L'⟩ := L.keep hok hv
        obtain ⟨p1, p2, p3, p4, p6⟩ := ih.2 (max M (- e m)) hrest (hI' k1) L' h3
        exact ⟨p1, p2, by rw [p3]; rfl, p4, p6⟩

/-- `negamaxLoop_ok` for a loop that is not interrupted (`NoIntr s n`, `n` = the node counter the loop returns: `n` is
below the poll period, so that no flag poll happens at all – the counter only grows, `frame_stepRel` –, or the state is
`Calm`, so that a poll only emits its periodic info line; the search keeps either, `noIntr_stepRel`).  `J` is the invariant
of the state, the board aside; a child call that is not interrupted has to satisfy the fail-soft contract for `e m`
and keep `J` (that it restores the board is `negamax_ok`). -/
theorem negamaxLoop_noIntr {fuel k D : Nat} {bN : Board} (hinv : Inv (fuel + 1) bN) (e : Move → Int)
    (J : St → Prop) (hJb : ∀ s b, J s → J { s with board := b })
    (hJk : ∀ s ks, J s → J { s with killers := ks }) (hJs : ∀ s, J s → s.stop = false)
    (β α₀ : Int) (hβ : β ≤ -lossScore) (hL : lossScore ≤ α₀) (isPv : Bool) (pvMove : Option Move) (ph : UInt64)
    (rem : Nat)
    (hn : ∀ m ∈ genLegal bN, ∀ (s : St) (a b : Int) (isPv' : Bool) (ph' : UInt64), vis s.board = vis (make bN m) →
      Inv fuel s.board → J s → lossScore ≤ a → a < b → b ≤ -lossScore →
      NoIntr s (negamax fuel s (k + 1) D a b isPv' (Zobrist.hash s.board) ph').2.negamaxNodes →
      Ok (e m) (negamax fuel s (k + 1) D a b isPv' (Zobrist.hash s.board) ph').1.value a b ∧
      J (negamax fuel s (k + 1) D a b isPv' (Zobrist.hash s.board) ph').2)
    (moves : List Move) (hmem : ∀ m ∈ moves, m ∈ genPseudo bN) (s : St) (acc : LoopAcc) (M : Int)
    (hs : vis s.board = vis bN) (hJ : J s) (L : LoopInv α₀ acc.alpha β acc.bestValue M)
    (h3 : α₀ < acc.bestValue → Chosen e id (· ∈ genLegal bN) acc.bestMove acc.bestValue)
    (hN : NoIntr s (negamaxLoop fuel s moves k D β isPv pvMove (Zobrist.hash bN) ph rem acc).2.2.negamaxNodes) :
    LoopOk bN e (fun _ => J) α₀ β M acc.legalSeen moves
      (negamaxLoop fuel s moves k D β isPv pvMove (Zobrist.hash bN) ph rem acc) := by
  refine negamaxLoop_ok hinv e (fun _ _ s res => J s ∧ NoIntr s res.2.2.negamaxNodes)
    (fun _ => J) β α₀ isPv pvMove (Zobrist.hash bN) ph rem (fun _ _ _ h => h.1) (fun _ _ _ s _ h => ⟨hJb s _ h.1, h.2⟩) ?_
    moves hmem s acc M hs ⟨hJ, hN⟩ L h3
  intro m rest acc s res hlegal hs ⟨hJ, hN⟩ hα hαβ r isPv' ph' hr hle
  have hm := (List.mem_filter.mp hlegal).1
  have hb : vis (make s.board m) = vis (make bN m) := make_congr hs m
  have hni := negamax_rel (noIntr_stepRel D) fuel { s with board := make s.board m } (k + 1) (-β) (-acc.alpha) isPv'
    (Zobrist.hash bN ^^^ (Zobrist.xorOf m.f).1) ph'
  have hchild := hn m hlegal { s with board := make s.board m } (-β) (-acc.alpha) isPv' ph' hb
    (Inv_congr hb.symm (boardLaws.make_inv fuel bN m hinv (Or.inl hm) (List.mem_filter.mp hlegal).2)) (hJb s _ hJ)
    (by omega) (by omega) (by omega)
  rw [show Zobrist.hash ({ s with board := make s.board m } : St).board = Zobrist.hash bN ^^^ (Zobrist.xorOf m.f).1
    from hash_child hinv.wf hs hm, ← hr] at hchild
  rw [← hr] at hni
  -- the child is not interrupted either: its counter is at most the loop's
  obtain ⟨hok, hJ'⟩ := hchild (hN.imp_left (Nat.lt_of_le_of_lt hle))
  exact ⟨hok, hJs _ hJ', fun ks => hJk _ ks (hJb _ _ hJ'), fun _ => ⟨hJb _ _ hJ', hni _ hN⟩⟩

/-- the explicit hypotheses of the simulation for the root `b0` and the iteration depth `D` -/
structure Hyp (b0 : Board) (D : Nat) : Prop where
  inj : HashInj b0 D
  nz : HashNonzero b0 D
  qb : QBound b0 D
  hD : D ≤ 3
  /-- the 16-bit ply clock does not wrap within the search -/
  nowrap : ply2 b0 + D < 65536
  rootInv : Inv D b0

theorem SOK.setKillers {b0 : Board} {D : Nat} {s : St} (h : SOK b0 D s) (k : List Move) : SOK b0 D { s with killers := k } :=
  ⟨h.tt, h.hist, h.stop, h.sm⟩

end Inkayaku.SearchSim
