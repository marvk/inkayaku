import Inkayaku.Proofs.GenSpecPawn
import Inkayaku.Props.C05
/-!
# Castling

The castling masks of the CURRENT build (`Gen.BoardConsts`, regenerated from the Rust on every run) are the squares of
the FIDE text (`castle_masks_eq_fide`; a8 = 0 … h8 = 7, a1 = 56 … h1 = 63), and a castling call is a site iff the Spec
allows the move (`mem_castleSites`).  The Spec also asks for king and rook on their home squares; the code does not test
this, conjunct (5) of `WF.wf` provides it.
-/
namespace Inkayaku.GenSpec
open Inkayaku.Board Inkayaku.Gen Inkayaku.Bits Inkayaku.Geometry Inkayaku.Attack Inkayaku.Abs Inkayaku.Spec

/-- "Empty" masks = the squares strictly between king and rook (b1 c1 d1 / f1 g1 / b8 c8 d8 / f8 g8)
= the squares the Spec's `clearBetween` inspects; "check" masks = the king's start, crossing and landing squares
(c1 d1 e1 / e1 f1 g1 / c8 d8 e8 / e8 f8 g8); rank/file masks = "row / file of the square". -/
theorem castle_masks_eq_fide :
    bitsAsc whiteQueenSideCastleEmpty.toUInt64 = [57, 58, 59] ∧
    bitsAsc whiteKingSideCastleEmpty.toUInt64 = [61, 62] ∧
    bitsAsc blackQueenSideCastleEmpty.toUInt64 = [1, 2, 3] ∧
    bitsAsc blackKingSideCastleEmpty.toUInt64 = [5, 6] ∧
    bitsAsc whiteQueenSideCastleCheck.toUInt64 = [58, 59, 60] ∧
    bitsAsc whiteKingSideCastleCheck.toUInt64 = [60, 61, 62] ∧
    bitsAsc blackQueenSideCastleCheck.toUInt64 = [2, 3, 4] ∧
    bitsAsc blackKingSideCastleCheck.toUInt64 = [4, 5, 6] ∧
    -- no stray bits above bit 63
    (∀ m ∈ [whiteQueenSideCastleEmpty, whiteKingSideCastleEmpty, blackQueenSideCastleEmpty, blackKingSideCastleEmpty,
        whiteQueenSideCastleCheck, whiteKingSideCastleCheck, blackQueenSideCastleCheck, blackKingSideCastleCheck,
        rank1, rank2, rank3, rank4, rank5, rank6, rank7, rank8,
        fileA, fileB, fileC, fileD, fileE, fileF, fileG, fileH], m < 2 ^ 64) ∧
    (between 60 56 = [59, 58, 57] ∧ between 60 63 = [61, 62] ∧ between 4 0 = [3, 2, 1] ∧ between 4 7 = [5, 6]) ∧
    (castleSquares true false = (60, 58, 56, 59) ∧ castleSquares true true = (60, 62, 63, 61) ∧
      castleSquares false false = (4, 2, 0, 3) ∧ castleSquares false true = (4, 6, 7, 5)) ∧
    (∀ s, s < 64 →
      rank8.testBit s = decide (s / 8 = 0) ∧ rank7.testBit s = decide (s / 8 = 1) ∧
      rank6.testBit s = decide (s / 8 = 2) ∧ rank5.testBit s = decide (s / 8 = 3) ∧
      rank4.testBit s = decide (s / 8 = 4) ∧ rank3.testBit s = decide (s / 8 = 5) ∧
      rank2.testBit s = decide (s / 8 = 6) ∧ rank1.testBit s = decide (s / 8 = 7) ∧
      fileA.testBit s = decide (s % 8 = 0) ∧ fileB.testBit s = decide (s % 8 = 1) ∧
      fileC.testBit s = decide (s % 8 = 2) ∧ fileD.testBit s = decide (s % 8 = 3) ∧
      fileE.testBit s = decide (s % 8 = 4) ∧ fileF.testBit s = decide (s % 8 = 5) ∧
      fileG.testBit s = decide (s % 8 = 6) ∧ fileH.testBit s = decide (s % 8 = 7)) := by
  refine ⟨by decide, by decide, by decide, by decide, by decide, by decide, by decide, by decide, by decide,
    by decide, by decide, by decide⟩

theorem and_eq_zero_all (x m : UInt64) : (x &&& m == 0) = (bitsAsc m).all fun q => !testU x q := by
  rw [Bool.eq_iff_iff, beq_iff_eq, and_eq_zero_iff, List.all_eq_true]
  constructor
  · intro h q hq
    have hq' := (mem_bitsAsc _ _).mp hq
    cases hx : testU x q
    · rfl
    · exact absurd ⟨hx, hq'⟩ (h q (testU_lt hq'))
  · intro h t _ ht
    have := h t ((mem_bitsAsc _ _).mpr ht.2)
    rw [ht.1] at this
    cases this

theorem castleCond_core (b : Board) (hd : Disjoint b) (c : Nat) (right : Bool) (em cm : Nat) (E C : List Nat)
    (hE : bitsAsc em.toUInt64 = E) (hC : bitsAsc cm.toUInt64 = C) :
    castleCond right (b.white.full ||| b.black.full) em cm c (sideOf b (c != 0)) =
      (right && (E.all fun q => ((abs b).at q).isNone) && !C.any fun s => attacked (abs b) (c != 0) s) := by
  unfold castleCond
  rw [C05.occupancy_in_check b hd c, hC, and_eq_zero_all, hE]
  congr 2
  congr 1
  funext q
  rw [← at_isSome]
  cases (abs b).at q <;> rfl

/-- `bitsAsc` is ascending: the order of `between` on the king's side, its reverse on the queen's -/
theorem castleMask_squares (w kingSide : Bool) :
    let ks := (castleSquares w kingSide).1
    let kt := (castleSquares w kingSide).2.1
    let rs := (castleSquares w kingSide).2.2.1
    bitsAsc (castleMask w kingSide).1.toUInt64 = (if kingSide then between ks rs else (between ks rs).reverse) ∧
    bitsAsc (castleMask w kingSide).2.toUInt64 = (if kingSide then [ks, (ks + kt) / 2, kt] else [kt, (ks + kt) / 2, ks]) ∧
    ks = E1 - (if w then 0 else 56) ∧ rs = (if kingSide then H1 else A1) - (if w then 0 else 56) := by
  cases w <;> cases kingSide <;> decide

section
variable {b : Board} (hw : PawnWF b)
include hw

theorem castleTest_spec (kingSide : Bool) : castleTest b kingSide = specCastleCond (abs b) b.whiteTurn kingSide := by
  have hright : specRight (abs b) b.whiteTurn kingSide = (if kingSide then b.active.ks else b.active.qs) := by
    rcases sides_cases b with ⟨ht, ha, -⟩ | ⟨ht, ha, -⟩ <;> rw [ht, ha] <;> cases kingSide <;> rfl
  obtain ⟨hE, hC, hK, hR⟩ := castleMask_squares b.whiteTurn kingSide
  have hocc : b.active.full ||| b.passive.full = b.white.full ||| b.black.full := by
    rcases sides_cases b with ⟨-, ha, hp⟩ | ⟨-, ha, hp⟩ <;> rw [ha, hp]
    exact UInt64.or_comm _ _
  have hc : ((if b.whiteTurn then 0 else 1 : Nat) != 0) = !b.whiteTurn := by cases b.whiteTurn <;> rfl
  unfold castleTest specCastleCond
  dsimp only
  rw [hright, hocc, passive_eq, ← hc, castleCond_core b hw.disjoint _ _ _ _ _ _ hE hC, hc, clearBetween_eq]
  cases hr : (if kingSide then b.active.ks else b.active.qs)
  · simp
  · -- king and rook are at home because the right is held
    obtain ⟨hk, hrk⟩ := hw.facts.home kingSide hr
    rw [← hK, active_eq] at hk
    rw [← hR, active_eq] at hrk
    have h1 := (at_iff b hw.disjoint _ (testU_lt hk) _ .king).mpr hk
    have h2 := (at_iff b hw.disjoint _ (testU_lt hrk) _ .rook).mpr hrk
    cases kingSide <;> simp [h1, h2, List.all_reverse, Bool.and_assoc, Bool.and_comm, Bool.and_left_comm]

omit hw in
theorem Site.castle_inv {src tgt piece : Nat} {castle ep : Bool} {promo epOpp : Nat}
    (h : Site b src tgt piece castle ep promo epOpp) (hc : castle = true) :
    ∃ kingSide, castleTest b kingSide = true ∧ src = E1 - (if b.whiteTurn then 0 else 56) ∧
      tgt = (if kingSide then G1 else C1) - (if b.whiteTurn then 0 else 56) ∧ promo = NO_PIECE := by
  cases h with
  | castle kingSide hct hright hsrc htgt => exact ⟨kingSide, hct, hsrc, htgt, rfl⟩
  | _ => cases hc

omit hw in
theorem castle_squares (w kingSide : Bool) :
    (⟨E1 - if w then 0 else 56, (if kingSide then G1 else C1) - if w then 0 else 56, none⟩ : SMove) =
      ⟨(castleSquares w kingSide).1, (castleSquares w kingSide).2.1, none⟩ := by
  cases w <;> cases kingSide <;> rfl

theorem mem_castleSites (sm : SMove) :
    (∃ c : Call, c.Site b ∧ c.castle = true ∧ c.key.mv = sm) ↔ sm ∈ Spec.castleMoves (abs b) (abs b).whiteToMove := by
  rw [whiteToMove_eq, mem_castleMoves, ← castleTest_spec hw, ← castleTest_spec hw, ← castle_squares, ← castle_squares]
  constructor
  · rintro ⟨⟨src, tgt, piece, castle, ep, promo, epOpp⟩, hc, hcas, rfl⟩
    obtain ⟨kingSide, hct, rfl, rfl, rfl⟩ := Site.castle_inv hc hcas
    cases kingSide
    · exact Or.inl ⟨hct, rfl⟩
    · exact Or.inr ⟨hct, rfl⟩
  · have site : ∀ kingSide, castleTest b kingSide = true → Call.Site b
        (castleCall (E1 - if b.whiteTurn then 0 else 56) ((if kingSide then G1 else C1) - if b.whiteTurn then 0 else 56)) :=
      fun kingSide hct => (mem_calls hw.facts).mp (List.mem_append_right _ (mem_castleCalls.mpr ⟨kingSide, hct, rfl⟩))
    rintro (⟨hct, rfl⟩ | ⟨hct, rfl⟩)
    · exact ⟨_, site false hct, rfl, rfl⟩
    · exact ⟨_, site true hct, rfl, rfl⟩

end

end Inkayaku.GenSpec
