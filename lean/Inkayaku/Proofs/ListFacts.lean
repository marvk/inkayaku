/-!
Lists whose image under a map has no repetition: the map is injective on the list, the list has no repetition, and a filter
that only one element passes selects that element.
-/
namespace Inkayaku.ListFacts

theorem eq_of_nodup_map {α β : Type} (f : α → β) {l : List α} (h : (l.map f).Nodup) {x y : α}
    (hx : x ∈ l) (hy : y ∈ l) (e : f x = f y) : x = y := by
  have hp := List.pairwise_map.mp h
  exact List.Pairwise.forall_of_forall_of_flip (R := fun a b => f a = f b → a = b) (fun _ _ _ => rfl)
    (hp.imp fun hne e => absurd e hne) (hp.imp fun hne e => absurd e.symm hne) hx hy e

theorem nodup_of_nodup_map {α β : Type} (f : α → β) {l : List α} (h : (l.map f).Nodup) : l.Nodup :=
  (List.pairwise_map.mp h).imp fun hne e => hne (congrArg f e)

theorem filter_eq_singleton {α : Type} {l : List α} (hnd : l.Nodup) {p : α → Bool} {m : α} (hm : m ∈ l) (hp : p m = true)
    (huniq : ∀ x ∈ l, p x = true → x = m) : l.filter p = [m] := by
  induction l with
  | nil => cases hm
  | cons a t ih =>
    rw [List.nodup_cons] at hnd
    rcases List.mem_cons.mp hm with rfl | hm
    · have : t.filter p = [] := by
        rw [List.filter_eq_nil_iff]
        intro x hx hpx
        have := huniq x (List.mem_cons_of_mem _ hx) hpx
        subst this; exact hnd.1 hx
      rw [List.filter_cons, hp, if_pos rfl, this]
    · have hpa : p a = false := by
        cases h : p a with
        | false => rfl
        | true =>
          have := huniq a (List.mem_cons_self ..) h
          subst this; exact absurd hm hnd.1
      rw [List.filter_cons, hpa]
      exact ih hnd.2 hm (fun x hx => huniq x (List.mem_cons_of_mem _ hx))

theorem filter_beq_eq_singleton {α β : Type} [DecidableEq β] (f : α → β) (l : List α) (a : α) (hnd : (l.map f).Nodup)
    (ha : a ∈ l) : l.filter (fun x => f x == f a) = [a] :=
  filter_eq_singleton (nodup_of_nodup_map f hnd) ha (by simp)
    (fun x hx hp => eq_of_nodup_map f hnd hx ha (by simpa using hp))

end Inkayaku.ListFacts
