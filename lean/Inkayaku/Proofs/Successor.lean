import Inkayaku.Proofs.GenFacts
/-!
# `make` computes the successor position of the rules (helper for C02)

`make_eq_apply : wf b → m ∈ genPseudo b → Abs.abs (make b m) = Spec.apply (Abs.abs b) (Abs.absMove m.f)`.

The two `Spec.Pos` structures are compared field by field, from `Named b m.f` (what the generator guarantees about
the move: `GenFacts b m.f` as a record) and `Env b` (what is used of well-formedness):

* `sq`: pointwise for every square index `q < 64`.  `make` takes pieces off squares and puts pieces on squares
  (`MakeUnmake.rem`, `add`, `mkMover_plain`, `mkOther_plain`); a side at a fixed square is described by ONE piece code
  (`OneHot`: the word of code `c` has the bit, no other word has it), `rem`/`add` transform the code in the obvious way
  (`codes_hot`: after any move each side is one-hot at `q` for the codes `moverCode`, `otherCode`; `Proofs/MakeWf.lean`
  reads well-formedness of the successor off the same statement); the code pair (mover, other) at `q` determines the
  abstract piece (`cell`), which gives the mailbox after the move (`at_make`) in the shape `Spec.apply` writes it.
* side to move, the four castling rights (dropped by square in the code, by `touches` in the Spec), the e.p. target
  (`nextEp`, `NO_SQUARE = 0`, versus `some middle square`/`none`), the clocks.
-/
namespace Inkayaku.Successor
open Inkayaku.Board Inkayaku.WF Inkayaku.MakeUnmake Inkayaku.Attack Inkayaku.GenFacts Inkayaku.Abs

theorem testU_rem (s : Side) (p : Nat) {q src : Nat} (t : Nat) (hq : q ≤ 6) (hs : src < 64) :
    testU ((rem s p src).get q) t = (testU (s.get q) t && !(q == p && t == src)) := by
  unfold rem
  by_cases h : q = p
  · subst h
    rw [get_set_self _ hq, testU_clearBit _ _ _ hs]
    by_cases e : src = t
    · simp [e]
    · simp [e, Ne.symm e]
  · rw [get_set_ne _ (fun e => h e.symm)]
    simp [h]

theorem testU_add (s : Side) (p : Nat) {q tgt : Nat} (t : Nat) (hq : q ≤ 6) (ht : tgt < 64) :
    testU ((add s p tgt).get q) t = (testU (s.get q) t || (q == p && t == tgt)) := by
  unfold add
  by_cases h : q = p
  · subst h
    rw [get_set_self _ hq, Bits.testU_or, Bits.testU_bitU _ _ ht]
    by_cases e : tgt = t
    · simp [e]
    · simp [e, Ne.symm e]
  · rw [get_set_ne _ (fun e => h e.symm)]
    simp [h]

theorem onehot_rem {s : Side} {q c p src : Nat} (hs : src < 64) (h : OneHot s q c)
    (hsrc : q = src → c = p) : OneHot (rem s p src) q (if q = src then 0 else c) := by
  intro p' h1 h6
  rw [testU_rem _ _ _ h6 hs, h p' h1 h6]
  by_cases hq : q = src
  · have h0 : ¬ p' = 0 := by omega
    rw [hsrc hq]
    by_cases e : p' = p
    · simp [hq, ← e, h0]
    · simp [hq, e, h0]
  · simp [hq]

theorem onehot_add {s : Side} {q c p tgt : Nat} (ht : tgt < 64) (h : OneHot s q c)
    (htgt : q = tgt → c = 0) : OneHot (add s p tgt) q (if q = tgt then p else c) := by
  intro p' h1 h6
  rw [testU_add _ _ _ h6 ht, h p' h1 h6]
  by_cases hq : q = tgt
  · have h0 : ¬ p' = 0 := by omega
    rw [htgt hq]
    by_cases e : p' = p <;> simp [hq, e, h0]
  · simp [hq]

theorem onehot_drop {s : Side} {q c : Nat} (k r : Bool) (h : OneHot s q c) : OneHot (dropRights s k r) q c := by
  intro p h1 h6
  rw [get_dropRights]; exact h p h1 h6

/-- take `p` from `src`, put `p'` on `tgt` (`p' = p`: an ordinary move; `p = PAWN`, `p'` a piece: a promotion) -/
theorem onehot_move {s : Side} {q c p p' src tgt : Nat} (hs : src < 64) (ht : tgt < 64) (h : OneHot s q c)
    (hsrc : q = src → c = p) (htgt : q = tgt → c = 0) :
    OneHot (add (rem s p src) p' tgt) q (if q = tgt then p' else if q = src then 0 else c) := by
  apply onehot_add ht (onehot_rem hs h hsrc)
  intro hq
  split
  · rfl
  · exact htgt hq

/-- `MakeUnmake.mkMover_plain` for a generated move: `pieceMoved` is the piece on the source, a pawn for en passant and promotions -/
theorem mkMover_moved {b : Board} {f : MoveF} (n : Named b f) (s : Side) (hc : f.castle = false) :
    mkMover f s = add (rem (dropRights s f.selfLostKing f.selfLostQueen) f.pieceMoved f.source)
      (if f.promotion = 0 then f.pieceMoved else f.promotion) f.target := by
  have e1 : movedCode f = f.pieceMoved := by
    unfold movedCode; split
    · next h => exact (h.elim (fun h => (n.ep h).1) (fun h => (n.promo h).1)).symm
    · rfl
  have e2 : placedCode f = if f.promotion = 0 then f.pieceMoved else f.promotion := by
    unfold placedCode NO_PIECE; split
    · next h => rw [if_pos (n.ep h).2.2.1]; exact (n.ep h).1.symm
    · split
      · rfl
      · next h => rw [if_pos (Decidable.not_not.mp h)]
  rw [mkMover_plain s hc, e1, e2]

/-- `pieceAttacked` is a pawn for en passant; code 0, no man: `rem` writes the scratch word -/
theorem mkOther_captured {b : Board} {f : MoveF} (n : Named b f) (hc : f.castle = false) :
    mkOther f b.whiteTurn b.passive = rem (dropRights b.passive f.oppLostKing f.oppLostQueen) f.pieceAttacked
      (capSq b.whiteTurn f.enPassant f.target) := by
  have h := mkOther_plain b.whiteTurn b.passive (v := capSq b.whiteTurn f.enPassant f.target) hc (by
    cases hee : f.enPassant
    · rfl
    · obtain ⟨v, hv, hm, -⟩ := victim n hee
      rw [if_pos rfl, hv]
      exact hm)
  have hcode : (if f.enPassant = true then PAWN else f.pieceAttacked) = f.pieceAttacked := by
    split
    · next hee => exact (n.ep_attacked hee).symm
    · rfl
  rw [hcode] at h
  exact h

def cell (white : Bool) (m o : Nat) : Option Spec.Piece :=
  if white then (if m != 0 then some ⟨true, kindOf m⟩ else if o != 0 then some ⟨false, kindOf o⟩ else none)
  else (if o != 0 then some ⟨true, kindOf o⟩ else if m != 0 then some ⟨false, kindOf m⟩ else none)

theorem pieceOn_cell (b : Board) (q : Nat) :
    pieceOn b q = cell b.whiteTurn (b.active.pieceAt q) (b.passive.pieceAt q) := by
  unfold pieceOn cell Board.active Board.passive
  cases b.whiteTurn <;> simp

theorem pieceOn_make (b : Board) (f : MoveF) (q : Nat) :
    pieceOn (makeF b f) q =
      cell b.whiteTurn ((mkMover f b.active).pieceAt q) ((mkOther f b.whiteTurn b.passive).pieceAt q) := by
  rw [MakeUnmake.makeF_eq]
  unfold pieceOn cell
  cases b.whiteTurn <;> simp

theorem cell_mover (white : Bool) {m : Nat} (hm : m ≠ 0) : cell white m 0 = some ⟨white, kindOf m⟩ := by
  unfold cell; cases white <;> simp [hm]

theorem cell_none (white : Bool) : cell white 0 0 = none := by
  unfold cell; cases white <;> simp

def applySq (p : Spec.Pos) (m : Spec.SMove) (pc : Spec.Piece) : Array (Option Spec.Piece) :=
  let board := Spec.setSq p.sq m.src none
  let placed : Spec.Piece := match m.promo with | some k => ⟨pc.white, k⟩ | none => pc
  let board := Spec.setSq board m.tgt (some placed)
  let board :=
    if Spec.isEnPassant p m then Spec.setSq board (Spec.mkSq (Spec.fileOf m.tgt) (Spec.rowOf m.src)) none else board
  if Spec.isCastle p m then
    let (_, _, rs, rt) := Spec.castleSquares pc.white (Spec.fileOf m.tgt == 6)
    Spec.setSq (Spec.setSq board rs none) rt (some ⟨pc.white, .rook⟩)
  else board

theorem apply_eq {p : Spec.Pos} {m : Spec.SMove} {pc : Spec.Piece} (h : p.at m.src = some pc) :
    Spec.apply p m =
      { sq := applySq p m pc
        whiteToMove := !p.whiteToMove
        wk := p.wk && !(m.src == 60 || m.tgt == 60) && !(m.src == 63 || m.tgt == 63)
        wq := p.wq && !(m.src == 60 || m.tgt == 60) && !(m.src == 56 || m.tgt == 56)
        bk := p.bk && !(m.src == 4 || m.tgt == 4) && !(m.src == 7 || m.tgt == 7)
        bq := p.bq && !(m.src == 4 || m.tgt == 4) && !(m.src == 0 || m.tgt == 0)
        ep := if (pc.kind == .pawn && (Spec.rowOf m.tgt - Spec.rowOf m.src).natAbs == 2) = true
              then some (Spec.mkSq (Spec.fileOf m.src) ((Spec.rowOf m.src + Spec.rowOf m.tgt) / 2)) else none
        half := if (pc.kind == .pawn || Spec.isCapture p m) = true then 0 else p.half + 1
        full := if p.whiteToMove = true then p.full else p.full + 1 } := by
  unfold Spec.apply applySq
  rw [h]
  rfl

theorem at_isSome' (b : Board) (q : Nat) :
    ((abs b).at q).isSome = testU (b.active.full ||| b.passive.full) q := by
  rw [at_isSome, GenSpec.fullOcc_eq]

theorem at_cell (b : Board) {q : Nat} (hq : q < 64) :
    (abs b).at q = cell b.whiteTurn (b.active.pieceAt q) (b.passive.pieceAt q) := by
  rw [abs_at, if_pos hq, pieceOn_cell]

theorem passive_empty_of_active {b : Board} (he : Env b) {q : Nat} (hq : q < 64) (h : testU b.active.full q = true) :
    b.passive.pieceAt q = 0 := code_of_free hq (he.cross q h)

theorem active_empty_of_passive {b : Board} (he : Env b) {q : Nat} (hq : q < 64) (h : testU b.passive.full q = true) :
    b.active.pieceAt q = 0 := by
  apply code_of_free hq
  cases hh : testU b.active.full q
  · rfl
  · rw [he.cross q hh] at h; exact absurd h (by decide)

theorem kindOf_pawn {p : Nat} (h1 : 1 ≤ p) (h6 : p ≤ 6) : (kindOf p == Spec.Kind.pawn) = (p == PAWN) := by
  have : p = 1 ∨ p = 2 ∨ p = 3 ∨ p = 4 ∨ p = 5 ∨ p = 6 := by omega
  rcases this with rfl | rfl | rfl | rfl | rfl | rfl <;> decide

theorem kindOf_king {p : Nat} (h1 : 1 ≤ p) (h6 : p ≤ 6) : (kindOf p == Spec.Kind.king) = (p == KING) := by
  have : p = 1 ∨ p = 2 ∨ p = 3 ∨ p = 4 ∨ p = 5 ∨ p = 6 := by omega
  rcases this with rfl | rfl | rfl | rfl | rfl | rfl <;> decide

section
variable {b : Board} {f : MoveF}

theorem at_src (he : Env b) (n : Named b f) :
    (abs b).at (absMove f).src = some ⟨b.whiteTurn, kindOf f.pieceMoved⟩ := by
  have hp := n.piece_range
  show (abs b).at f.source = _
  rw [at_cell b n.source_lt, ← n.moved, passive_empty_of_active he n.source_lt (get_le_full _ hp.1 hp.2 n.on_source)]
  exact cell_mover _ (by omega)

theorem isEnPassant_eq (he : Env b) (n : Named b f) : Spec.isEnPassant (abs b) (absMove f) = f.enPassant := by
  have hat := at_src he n
  unfold Spec.isEnPassant
  rw [hat]
  simp only [kindOf_pawn n.piece_range.1 n.piece_range.2]
  show (f.pieceMoved == PAWN && (abs b).ep == some f.target && Spec.fileOf f.source != Spec.fileOf f.target
    && ((abs b).at f.target).isNone) = f.enPassant
  have hnone : ((abs b).at f.target).isNone = !testU (b.active.full ||| b.passive.full) f.target := by
    rw [← at_isSome']; cases (abs b).at f.target <;> rfl
  rw [hnone]
  cases hee : f.enPassant
  · -- not e.p.: a pawn move that changes file captures a piece standing on the target
    by_cases hp : f.pieceMoved = PAWN
    · obtain ⟨-, -, hfile, -⟩ := n.pawn hp
      by_cases hfl : f.source % 8 = f.target % 8
      · have : (Spec.fileOf f.source != Spec.fileOf f.target) = false := by
          simp only [Spec.fileOf, bne_eq_false_iff_eq]; omega
        simp [this]
      · rcases hfile hfl with h | h
        · rw [hee] at h; exact absurd h (by decide)
        · have : testU (b.active.full ||| b.passive.full) f.target = true := testU_or_right h
          simp [this]
    · have : (f.pieceMoved == PAWN) = false := by simpa using hp
      simp [this]
  · obtain ⟨hpp, -, -, -, hbe, hb0, hempty, hfl, -⟩ := n.ep hee
    have h1 : (f.pieceMoved == PAWN) = true := by simp [hpp]
    have h2 : ((abs b).ep == some f.target) = true := by
      have : (b.ep == 0) = false := by simpa using hb0
      show ((if (b.ep == 0) = true then none else some b.ep : Option Nat) == some f.target) = true
      rw [this, hbe]; simp
    have h3 : (Spec.fileOf f.source != Spec.fileOf f.target) = true := by
      simp only [Spec.fileOf, bne_iff_ne, ne_eq]; omega
    rw [h1, h2, h3, hempty]; rfl

theorem isCastle_eq (he : Env b) (n : Named b f) : Spec.isCastle (abs b) (absMove f) = f.castle := by
  have hat := at_src he n
  unfold Spec.isCastle
  rw [hat]
  simp only [kindOf_king n.piece_range.1 n.piece_range.2]
  show (f.pieceMoved == KING && (Spec.fileOf f.target - Spec.fileOf f.source).natAbs == 2) = f.castle
  cases hc : f.castle
  · by_cases hk : f.pieceMoved = KING
    · have := n.king hk hc
      have : ((Spec.fileOf f.target - Spec.fileOf f.source).natAbs == 2) = false := by
        simp only [Spec.fileOf, beq_eq_false_iff_ne, ne_eq]; omega
      simp [this]
    · have : (f.pieceMoved == KING) = false := by simpa using hk
      simp [this]
  · obtain ⟨hpk, -, -, -, hsE, -, hside⟩ := n.castle hc
    have h1 : (f.pieceMoved == KING) = true := by simp [hpk]
    rw [h1, Bool.true_and]
    simp only [Spec.fileOf, beq_iff_eq]
    unfold dHome at hsE hside
    simp only [E1, C1, G1] at hsE hside
    cases hw : b.whiteTurn <;> rw [hw] at hsE hside <;> rcases hside with ⟨h, -⟩ | ⟨h, -⟩ <;> rw [hsE, h] <;> decide

theorem isCapture_eq (he : Env b) (n : Named b f) :
    Spec.isCapture (abs b) (absMove f) = (f.pieceAttacked != NO_PIECE) := by
  have hiep := isEnPassant_eq he n
  have hpa0 := n.attacked_zero
  unfold Spec.isCapture
  rw [hiep]
  show (((abs b).at f.target).isSome || f.enPassant) = _
  rw [at_isSome', Bits.testU_or, n.target_free, Bool.false_or]
  cases hee : f.enPassant
  · simp only [capSq, hee, Bool.false_eq_true, if_false] at hpa0
    cases hP : testU b.passive.full f.target
    · have := hpa0.mpr hP; simp [this, NO_PIECE]
    · have : f.pieceAttacked ≠ 0 := fun h => by rw [hpa0.mp h] at hP; exact absurd hP (by decide)
      simp [this, NO_PIECE]
  · simp [(n.ep_victim hee).2, NO_PIECE]

end

theorem right_mover {r : Bool} {src tgt kh rh : Nat} (h : r = true → tgt ≠ kh ∧ tgt ≠ rh) :
    (if (r && (src == rh || src == kh)) = true then false else r)
      = (r && !(src == kh || tgt == kh) && !(src == rh || tgt == rh)) := by
  cases r
  · rfl
  · obtain ⟨h1, h2⟩ := h rfl
    have e1 : (tgt == kh) = false := by simpa using h1
    have e2 : (tgt == rh) = false := by simpa using h2
    rw [e1, e2]
    cases (src == rh) <;> cases (src == kh) <;> rfl

theorem right_other {r : Bool} {src tgt kh rh : Nat} (h : r = true → src ≠ kh ∧ src ≠ rh ∧ tgt ≠ kh) :
    (if (r && tgt == rh) = true then false else r)
      = (r && !(src == kh || tgt == kh) && !(src == rh || tgt == rh)) := by
  cases r
  · rfl
  · obtain ⟨h1, h2, h3⟩ := h rfl
    have e1 : (src == kh) = false := by simpa using h1
    have e2 : (src == rh) = false := by simpa using h2
    have e3 : (tgt == kh) = false := by simpa using h3
    rw [e1, e2, e3]
    cases (tgt == rh) <;> rfl

theorem ne_of_bits {x : UInt64} {a c : Nat} (ha : testU x a = true) (hc : testU x c = false) : c ≠ a := by
  intro h; rw [h, ha] at hc; exact absurd hc (by decide)

section
variable {b : Board} {f : MoveF}

theorem rights_eq (he : Env b) (n : Named b f) :
    (makeF b f).white.ks = (b.white.ks && !(f.source == 60 || f.target == 60) && !(f.source == 63 || f.target == 63)) ∧
    (makeF b f).white.qs = (b.white.qs && !(f.source == 60 || f.target == 60) && !(f.source == 56 || f.target == 56)) ∧
    (makeF b f).black.ks = (b.black.ks && !(f.source == 4 || f.target == 4) && !(f.source == 7 || f.target == 7)) ∧
    (makeF b f).black.qs = (b.black.qs && !(f.source == 4 || f.target == 4) && !(f.source == 0 || f.target == 0)) := by
  have hoq := n.oppLostQueen
  have hok := n.oppLostKing
  have hsq := n.selfLostQueen
  have hsk := n.selfLostKing
  have hAsrc : testU b.active.full f.source = true := get_le_full _ n.piece_range.1 n.piece_range.2 n.on_source
  have hPsrc : testU b.passive.full f.source = false := he.cross _ hAsrc
  have hw := he.w
  -- a home square holding a piece of the mover is not the target; one holding a piece of the other side is not the
  -- source; the other side's king square is not the target
  have mover : ∀ {p k : Nat}, 1 ≤ p → p ≤ 6 → testU (b.active.get p) k = true → f.target ≠ k :=
    fun h1 h6 h => ne_of_bits (get_le_full _ h1 h6 h) n.target_free
  have other : ∀ {p k : Nat}, 1 ≤ p → p ≤ 6 → testU (b.passive.get p) k = true → f.source ≠ k :=
    fun h1 h6 h => ne_of_bits (get_le_full _ h1 h6 h) hPsrc
  have oking : ∀ {k : Nat}, testU b.passive.kings k = true → f.target ≠ k := fun h => ne_of_bits h n.target_not_king
  rw [MakeUnmake.makeF_eq]
  rcases (sides_cases b).symm with ⟨hwt, hA, hP⟩ | ⟨hwt, hA, hP⟩
  · rw [hA] at mover hsk hsq; rw [hP] at other oking hok hoq; rw [hwt]
    simp only [hwt, dHome, Bool.false_eq_true, if_false, H1, E1, A1, A8, H8, Nat.reduceSub, Nat.reduceAdd] at hsk hsq hok hoq
    simp only [Bool.false_eq_true, if_false]
    rw [mkOther_ks, mkOther_qs, mkMover_ks, mkMover_qs, hA, hP, hsk, hsq, hok, hoq]
    refine ⟨right_other ?_, ?_, right_mover ?_, right_mover ?_⟩
    · intro h; have := hw.wks h
      exact ⟨other (p := 6) (by decide) (by decide) this.1, other (p := 4) (by decide) (by decide) this.2, oking this.1⟩
    · have := @right_other b.white.qs f.source f.target 60 56 (fun h => by
        have := hw.wqs h
        exact ⟨other (p := 6) (by decide) (by decide) this.1, other (p := 4) (by decide) (by decide) this.2, oking this.1⟩)
      exact this
    · intro h; have := hw.bks h
      exact ⟨mover (p := 6) (by decide) (by decide) this.1, mover (p := 4) (by decide) (by decide) this.2⟩
    · intro h; have := hw.bqs h
      exact ⟨mover (p := 6) (by decide) (by decide) this.1, mover (p := 4) (by decide) (by decide) this.2⟩
  · rw [hA] at mover hsk hsq; rw [hP] at other oking hok hoq; rw [hwt]
    simp only [hwt, dHome, if_true, H1, E1, A1, A8, H8, Nat.sub_zero, Nat.add_zero] at hsk hsq hok hoq
    simp only [if_true]
    rw [mkOther_ks, mkOther_qs, mkMover_ks, mkMover_qs, hA, hP, hsk, hsq, hok, hoq]
    refine ⟨right_mover ?_, right_mover ?_, right_other ?_, right_other ?_⟩
    · intro h; have := hw.wks h
      exact ⟨mover (p := 6) (by decide) (by decide) this.1, mover (p := 4) (by decide) (by decide) this.2⟩
    · intro h; have := hw.wqs h
      exact ⟨mover (p := 6) (by decide) (by decide) this.1, mover (p := 4) (by decide) (by decide) this.2⟩
    · intro h; have := hw.bks h
      exact ⟨other (p := 6) (by decide) (by decide) this.1, other (p := 4) (by decide) (by decide) this.2, oking this.1⟩
    · intro h; have := hw.bqs h
      exact ⟨other (p := 6) (by decide) (by decide) this.1, other (p := 4) (by decide) (by decide) this.2, oking this.1⟩

end

section
variable {b : Board} {f : MoveF}

theorem ep_eq (n : Named b f) :
    (if (f.nextEp == 0) = true then none else some f.nextEp) =
      (if (kindOf f.pieceMoved == Spec.Kind.pawn && (Spec.rowOf f.target - Spec.rowOf f.source).natAbs == 2) = true
       then some (Spec.mkSq (Spec.fileOf f.source) ((Spec.rowOf f.source + Spec.rowOf f.target) / 2)) else none) := by
  obtain ⟨r0, r1⟩ := nextEp_rows n
  rw [kindOf_pawn n.piece_range.1 n.piece_range.2]
  by_cases h0 : f.nextEp = 0
  · have : (f.pieceMoved == PAWN && (Spec.rowOf f.target - Spec.rowOf f.source).natAbs == 2) = false := by
      by_cases hp : f.pieceMoved = PAWN
      · have := r0 h0 hp
        simp only [Spec.rowOf, Bool.and_eq_false_imp, beq_eq_false_iff_ne, ne_eq]
        omega
      · simp [hp]
    simp [h0, this]
  · obtain ⟨hp, hd, hmid⟩ := r1 h0
    have e1 : (f.pieceMoved == PAWN && (Spec.rowOf f.target - Spec.rowOf f.source).natAbs == 2) = true := by
      simp only [hp, Spec.rowOf, beq_self_eq_true, Bool.true_and, beq_iff_eq]; omega
    have e2 : Spec.mkSq (Spec.fileOf f.source) ((Spec.rowOf f.source + Spec.rowOf f.target) / 2) = f.nextEp := by
      simp only [Spec.rowOf, Spec.fileOf, Spec.mkSq]; omega
    have e3 : (f.nextEp == 0) = false := by simpa using h0
    rw [e1, e2, e3]; rfl

theorem full_eq (n : Named b f) :
    b.fullmove + b.turn = (if (b.turn == 0) = true then b.fullmove else b.fullmove + 1) := by
  have hturn := n.turn
  have : b.turn = 0 ∨ b.turn = 1 := by omega
  rcases this with h | h <;> rw [h] <;> rfl

theorem half_eq (he : Env b) (n : Named b f) :
    (if f.halfmoveReset = true then 0 else b.halfmove + 1) =
      (if (kindOf f.pieceMoved == Spec.Kind.pawn || Spec.isCapture (abs b) (absMove f)) = true then 0
       else b.halfmove + 1) := by
  rw [isCapture_eq he n]
  rw [kindOf_pawn n.piece_range.1 n.piece_range.2, n.halfmoveReset]

/-- the fields of a position other than the piece placement -/
def MetaEq (p p' : Spec.Pos) : Prop :=
  p.whiteToMove = p'.whiteToMove ∧ p.wk = p'.wk ∧ p.wq = p'.wq ∧ p.bk = p'.bk ∧ p.bq = p'.bq ∧ p.ep = p'.ep ∧
  p.half = p'.half ∧ p.full = p'.full

theorem meta_eq (he : Env b) (n : Named b f) : MetaEq (abs (makeF b f)) (Spec.apply (abs b) (absMove f)) := by
  rw [apply_eq (at_src he n)]
  obtain ⟨r1, r2, r3, r4⟩ := rights_eq he n
  exact ⟨Bits.other_beq_zero b.turn, r1, r2, r3, r4, ep_eq n, half_eq he n, full_eq n⟩

end

section
variable {b : Board} {f : MoveF}

/-- home and landing square of the castling rook, by the king's target -/
def rookSq (tgt : Nat) : Nat × Nat := (castleRook tgt).getD (0, 0)

theorem rookSq_of {tgt rs rt : Nat} (h : castleRook tgt = some (rs, rt)) : rookSq tgt = (rs, rt) := by
  unfold rookSq; rw [h]; rfl

/-- the code of the mover's piece on `q` after the move -/
def moverCode (b : Board) (f : MoveF) (q : Nat) : Nat :=
  if q = f.target then (if f.promotion = 0 then f.pieceMoved else f.promotion)
  else if q = f.source then 0
  else if f.castle = true ∧ q = (rookSq f.target).2 then 4
  else if f.castle = true ∧ q = (rookSq f.target).1 then 0
  else b.active.pieceAt q

/-- the code of the other side's piece on `q` after the move -/
def otherCode (b : Board) (f : MoveF) (q : Nat) : Nat :=
  if q = capSq b.whiteTurn f.enPassant f.target then 0 else b.passive.pieceAt q

theorem codes_hot (he : Env b) (n : Named b f) {q : Nat} (hq : q < 64) :
    OneHot (mkMover f b.active) q (moverCode b f q) ∧ OneHot (mkOther f b.whiteTurn b.passive) q (otherCode b f q) := by
  unfold moverCode otherCode
  have hpa := n.attacked
  have hA := onehot_drop f.selfLostKing f.selfLostQueen (he.act q hq)
  have hO := onehot_drop f.oppLostKing f.oppLostQueen (he.pas q hq)
  have hAs : q = f.source → b.active.pieceAt q = f.pieceMoved := fun h => by rw [h]; exact n.moved.symm
  have hAt : q = f.target → b.active.pieceAt q = 0 := fun h => by rw [h]; exact code_of_free n.target_lt n.target_free
  cases hc : f.castle
  · simp only [Bool.false_eq_true, false_and, if_false]
    constructor
    · rw [mkMover_moved n _ hc]
      exact onehot_move n.source_lt n.target_lt hA hAs hAt
    · -- the captured piece leaves the capture square; without a capture its code is 0 and `rem` writes the scratch word
      rw [mkOther_captured n hc]
      exact onehot_rem n.capSq_lt hO (fun h => by rw [h]; exact hpa.symm)
  · obtain ⟨rs, rt, hr, -, hrs, hrt, -, d2, d3, d4, d5, -, hrook, hfr, hft, hpk⟩ := castle_squares n hc
    obtain ⟨-, hee, hpr, -⟩ := n.castle hc
    rw [rookSq_of hr, hee, if_pos hpr, hpk]
    simp only [true_and]
    constructor
    · -- first the rook, then the king
      rw [mkMover_castle _ hc hr]
      have h1 := onehot_move (p := 4) (p' := 4) hrs hrt hA
        (fun h => by rw [h]; exact he.act.code (by decide) (by decide) hrook)
        (fun h => by rw [h]; exact code_of_free hrt (occ_false hfr).1)
      exact onehot_move (p := 6) (p' := 6) n.source_lt n.target_lt h1
        (fun h => by rw [if_neg (by omega), if_neg (by omega), hAs h, hpk]; rfl)
        (fun h => by rw [if_neg (by omega), if_neg (by omega), hAt h])
    · -- nothing is captured: the king's target is empty
      rw [mkOther_castle _ _ hc]
      have : b.passive.pieceAt q = (if q = capSq b.whiteTurn false f.target then 0 else b.passive.pieceAt q) := by
        split
        · next h => rw [h]; exact code_of_free n.target_lt (occ_false hft).2
        · rfl
      rw [← this]
      exact hO

theorem moverCode_le (n : Named b f) (q : Nat) : moverCode b f q ≤ 6 := by
  have hA6 := pieceAt_le b.active q
  unfold moverCode
  split
  · split
    · exact n.piece_range.2
    · next hp => have := n.promo hp; omega
  · repeat' split
    all_goals omega

theorem otherCode_le (b : Board) (f : MoveF) (q : Nat) : otherCode b f q ≤ 6 := by
  have := pieceAt_le b.passive q
  unfold otherCode; split <;> omega

theorem codes (he : Env b) (n : Named b f) {q : Nat} (hq : q < 64) :
    (mkMover f b.active).pieceAt q = moverCode b f q ∧ (mkOther f b.whiteTurn b.passive).pieceAt q = otherCode b f q :=
  ⟨(codes_hot he n hq).1.pieceAt hq (moverCode_le n q),
   (codes_hot he n hq).2.pieceAt hq (otherCode_le b f q)⟩

end

section
variable {b : Board} {f : MoveF}

theorem cell_other (white : Bool) {o : Nat} (ho : o ≠ 0) : cell white 0 o = some ⟨!white, kindOf o⟩ := by
  unfold cell; cases white <;> simp [ho]

theorem at_make (he : Env b) (n : Named b f) {q : Nat} (hq : q < 64) :
    (abs (makeF b f)).at q =
      if f.castle = true ∧ q = (rookSq f.target).2 then some ⟨b.whiteTurn, .rook⟩
      else if f.castle = true ∧ q = (rookSq f.target).1 then none
      else if f.enPassant = true ∧ q = capSq b.whiteTurn true f.target then none
      else if q = f.target then some ⟨b.whiteTurn, kindOf (if f.promotion = 0 then f.pieceMoved else f.promotion)⟩
      else if q = f.source then none
      else (abs b).at q := by
  obtain ⟨hM, hO⟩ := codes he n hq
  rw [abs_at, if_pos hq, pieceOn_make, hM, hO, at_cell b hq]
  unfold moverCode otherCode
  have htgt := n.target_free
  have hp := n.piece_range
  have hPsrc := passive_empty_of_active he n.source_lt (get_le_full _ hp.1 hp.2 n.on_source)
  have hpl : (if f.promotion = 0 then f.pieceMoved else f.promotion) ≠ 0 := by split <;> omega
  have hne := n.source_ne_target
  cases hc : f.castle
  · cases hee : f.enPassant
    · simp only [capSq, Bool.false_eq_true, false_and, if_false]
      by_cases h1 : q = f.target
      · simp only [h1, ↓reduceIte]
        exact cell_mover _ hpl
      · by_cases h2 : q = f.source
        · simp only [h2, hne, ↓reduceIte, hPsrc]
          exact cell_none _
        · simp only [h1, h2, ↓reduceIte]
    · obtain ⟨v, hv, -, -, hv64, -, -, hvt, hvs, hpawn⟩ := victim n hee
      have hAv := active_empty_of_passive he hv64 (get_le_full b.passive (p := 1) (by decide) (by decide) hpawn)
      have hPtgt : b.passive.pieceAt f.target = 0 := code_of_free n.target_lt (occ_false (n.ep hee).2.2.2.2.2.2.1).2
      simp only [hv, Bool.false_eq_true, false_and, true_and, if_false]
      by_cases h0 : q = v
      · simp only [h0, hvt, hvs, ↓reduceIte, hAv]
        exact cell_none _
      · by_cases h1 : q = f.target
        · simp only [h1, Ne.symm hvt, ↓reduceIte, hPtgt]
          exact cell_mover _ hpl
        · by_cases h2 : q = f.source
          · simp only [h2, hne, Ne.symm hvs, ↓reduceIte, hPsrc]
            exact cell_none _
          · simp only [h0, h1, h2, ↓reduceIte]
  · obtain ⟨rs, rt, hr, -, hrs, hrt, -, d2, d3, d4, d5, d6, hrook, hfr, hft, -⟩ := castle_squares n hc
    have hee := (n.castle hc).2.1
    have hPtgt : b.passive.pieceAt f.target = 0 := code_of_free n.target_lt (occ_false hft).2
    have hPrt : b.passive.pieceAt rt = 0 := code_of_free hrt (occ_false hfr).2
    have hPrs := passive_empty_of_active he hrs (get_le_full b.active (p := 4) (by decide) (by decide) hrook)
    simp only [rookSq_of hr, hee, capSq, Bool.false_eq_true, false_and, true_and, if_false]
    by_cases h0 : q = rt
    · simp only [h0, Ne.symm d3, Ne.symm d5, ↓reduceIte, hPrt]
      exact cell_mover (m := 4) _ (by decide)
    · by_cases h1 : q = rs
      · simp only [h1, Ne.symm d2, Ne.symm d4, d6, ↓reduceIte, hPrs]
        exact cell_none _
      · by_cases h2 : q = f.target
        · simp only [h2, d4, d5, ↓reduceIte]
          exact cell_mover _ hpl
        · by_cases h3 : q = f.source
          · simp only [h3, hne, d2, d3, ↓reduceIte, hPsrc]
            exact cell_none _
          · simp only [h0, h1, h2, h3, ↓reduceIte]

theorem getD_setSq (a : Array (Option Spec.Piece)) {s : Nat} (v : Option Spec.Piece) (q : Nat) (hs : s < a.size) :
    (Spec.setSq a s v).getD q none = if q = s then v else a.getD q none := by
  simp only [Spec.setSq, Array.getD_eq_getD_getElem?, Array.getElem?_setIfInBounds, hs, if_true]
  by_cases h : q = s
  · simp [h]
  · simp [h, Ne.symm h]

theorem size_setSq (a : Array (Option Spec.Piece)) (s : Nat) (v : Option Spec.Piece) : (Spec.setSq a s v).size = a.size := by
  simp [Spec.setSq]

theorem base_size (b : Board) : ((abs b).sq).size = 64 := by simp [abs]

theorem applySq_size (p : Spec.Pos) (m : Spec.SMove) (pc : Spec.Piece) : (applySq p m pc).size = p.sq.size := by
  unfold applySq
  simp only
  split <;> split <;> simp only [size_setSq]

theorem ext64 {a a' : Array (Option Spec.Piece)} (h : a.size = 64) (h' : a'.size = 64)
    (hq : ∀ q, q < 64 → a.getD q none = a'.getD q none) : a = a' := by
  refine Array.ext (h.trans h'.symm) fun i hi hi' => ?_
  have := hq i (by omega)
  simpa [Array.getD, hi, hi'] using this

theorem sq_eq (he : Env b) (n : Named b f) : (abs (makeF b f)).sq = (Spec.apply (abs b) (absMove f)).sq := by
  rw [apply_eq (at_src he n)]
  refine ext64 (base_size _) ((applySq_size ..).trans (base_size b)) fun q hq => ?_
  show (abs (makeF b f)).at q = _
  rw [at_make he n hq]
  have hpl : (match (absMove f).promo with
      | some k => (⟨b.whiteTurn, k⟩ : Spec.Piece)
      | none => ⟨b.whiteTurn, kindOf f.pieceMoved⟩) =
      ⟨b.whiteTurn, kindOf (if f.promotion = 0 then f.pieceMoved else f.promotion)⟩ := by
    unfold absMove
    by_cases hp : f.promotion = 0
    · simp [hp]
    · have : (f.promotion == 0) = false := by simpa using hp
      simp [hp, this]
  unfold applySq
  simp only [isEnPassant_eq he n, isCastle_eq he n, hpl, show (absMove f).src = f.source from rfl,
    show (absMove f).tgt = f.target from rfl]
  cases hc : f.castle
  · cases hee : f.enPassant
    · simp only [getD_setSq, size_setSq, base_size, n.source_lt, n.target_lt, Bool.false_eq_true, false_and, if_false]
      rfl
    · obtain ⟨v, hv, -, hm, hv64, -⟩ := victim n hee
      simp only [getD_setSq, size_setSq, base_size, n.source_lt, n.target_lt, hm, hv, hv64, Bool.false_eq_true, false_and,
        true_and, if_false, if_true]
      rfl
  · obtain ⟨rs, rt, hr, hsq, hrs, hrt, -⟩ := castle_squares n hc
    simp only [getD_setSq, size_setSq, base_size, n.source_lt, n.target_lt, hsq, hrs, hrt, rookSq_of hr, (n.castle hc).2.1,
      Bool.false_eq_true, false_and, true_and, if_false, if_true]
    rfl

end

theorem pos_ext {p p' : Spec.Pos} (hsq : p.sq = p'.sq) (hm : MetaEq p p') : p = p' := by
  obtain ⟨a1, a2, a3, a4, a5, a6, a7, a8, a9⟩ := p
  obtain ⟨b1, b2, b3, b4, b5, b6, b7, b8, b9⟩ := p'
  obtain ⟨m1, m2, m3, m4, m5, m6, m7, m8⟩ := hm
  simp only at hsq m1 m2 m3 m4 m5 m6 m7 m8
  subst hsq m1 m2 m3 m4 m5 m6 m7 m8
  rfl

theorem abs_makeF_eq {b : Board} {f : MoveF} (he : Env b) (n : Named b f) :
    abs (makeF b f) = Spec.apply (abs b) (absMove f) :=
  pos_ext (sq_eq he n) (meta_eq he n)

/-- **C02**: for every well-formed position and every generated (pseudo-legal, hence every legal) move, the position
after `make`, seen through the abstraction map, is the successor position defined by the rules -/
theorem make_eq_apply {b : Board} (h : wf b = true) {m : Move} (hm : m ∈ genPseudo b) :
    abs (make b m) = Spec.apply (abs b) (absMove m.f) :=
  abs_makeF_eq (env_of_wf h) (genPseudo_facts h m hm).named

theorem make_eq_apply_meta {b : Board} (h : wf b = true) {m : Move} (hm : m ∈ genPseudo b) :
    MetaEq (abs (make b m)) (Spec.apply (abs b) (absMove m.f)) :=
  meta_eq (env_of_wf h) (genPseudo_facts h m hm).named

theorem make_eq_apply_nonQuiescent {b : Board} (h : wf b = true) {m : Move} (hm : m ∈ genNonQuiescent b) :
    abs (make b m) = Spec.apply (abs b) (absMove m.f) :=
  make_eq_apply h (GenSpec.genNonQuiescent_subset (GenOK.wf_facts h) m hm)

#print axioms make_eq_apply
#print axioms make_eq_apply_meta

end Inkayaku.Successor
