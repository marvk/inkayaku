import Inkayaku.Proofs.Geometry
import Inkayaku.Proofs.Mirror
/-!
# C11 (search half): the rules of chess commute with the colour flip

Everything here is about the mailbox Spec (`Spec/Chess.lean`) only: no bitboards.

`SFlip p p'` says "`p'` is the colour flip of `p`" as a RELATION on mailbox positions: square by square through `Pos.at`
with `mir` (row `r` ↦ row `7 − r`) and `recolor`, side to move, castling rights swapped, e.p. square mirrored, same half-move
clock; the full-move number is NOT related – it does not commute with the flip.  `attacksGeom_flip` and `attacked_flip` are the
instances of `geomBy_mir` / `AttackedBy_mir` (`Proofs/Mirror.lean`) at the lookups of a mailbox position.
-/
namespace Inkayaku.SearchFlip
open Inkayaku.Spec Inkayaku.Geometry

def recolor (pc : Piece) : Piece := ⟨!pc.white, pc.kind⟩

theorem recolor_recolor (pc : Piece) : recolor (recolor pc) = pc := by cases pc; simp [recolor]

def flipSM (m : SMove) : SMove := ⟨mir m.src, mir m.tgt, m.promo⟩

structure SFlip (p p' : Pos) : Prop where
  size : p.sq.size = 64
  size' : p'.sq.size = 64
  at_ : ∀ s, s < 64 → p'.at (mir s) = (p.at s).map recolor
  turn : p'.whiteToMove = !p.whiteToMove
  wk : p'.wk = p.bk
  wq : p'.wq = p.bq
  bk : p'.bk = p.wk
  bq : p'.bq = p.wq
  ep : p'.ep = p.ep.map mir
  epLt : ∀ e, p.ep = some e → e < 64
  half : p'.half = p.half

theorem at_ge {p : Pos} (hsz : p.sq.size = 64) {s : Nat} (h : 64 ≤ s) : p.at s = none := by
  unfold Pos.at
  simp [Array.getD, hsz, show ¬ s < 64 by omega]

theorem SFlip.at' {p p' : Pos} (h : SFlip p p') {s : Nat} (hs : s < 64) : p'.at s = (p.at (mir s)).map recolor := by
  have := h.at_ (mir s) (mir_lt hs)
  rwa [mir_mir hs] at this

theorem SFlip.symm {p p' : Pos} (h : SFlip p p') : SFlip p' p where
  size := h.size'
  size' := h.size
  at_ := by
    intro s hs
    rw [h.at' hs]
    cases p.at (mir s) with
    | none => rfl
    | some pc => simp [recolor_recolor]
  turn := by rw [h.turn]; simp
  wk := h.bk.symm
  wq := h.bq.symm
  bk := h.wk.symm
  bq := h.wq.symm
  ep := by
    rw [h.ep]
    cases he : p.ep with
    | none => rfl
    | some e => simp [mir_mir (h.epLt e he)]
  epLt := by
    intro e he
    rw [h.ep] at he
    cases he' : p.ep with
    | none => rw [he'] at he; cases he
    | some e0 =>
      rw [he'] at he
      simp only [Option.map_some, Option.some.injEq] at he
      rw [← he]; exact mir_lt (h.epLt e0 he')
  half := h.half.symm

theorem SFlip.isNone {p p' : Pos} (h : SFlip p p') {s : Nat} (hs : s < 64) : (p'.at (mir s)).isNone = (p.at s).isNone := by
  rw [h.at_ s hs, Option.isNone_map]

theorem SFlip.isSome {p p' : Pos} (h : SFlip p p') {s : Nat} (hs : s < 64) : (p'.at (mir s)).isSome = (p.at s).isSome := by
  rw [h.at_ s hs, Option.isSome_map]

theorem map_recolor_beq (o : Option Piece) (w : Bool) (k : Kind) :
    (o.map recolor == some ⟨!w, k⟩) = (o == some ⟨w, k⟩) := by
  cases o with
  | none => rfl
  | some pc =>
    cases pc with
    | mk pw pk =>
      rw [Bool.eq_iff_iff, beq_iff_eq, beq_iff_eq]
      simp only [Option.map_some, recolor, Option.some.injEq, Piece.mk.injEq]
      cases pw <;> cases w <;> simp

theorem SFlip.ep_beq {p p' : Pos} (h : SFlip p p') {t : Nat} (ht : t < 64) : (p'.ep == some (mir t)) = (p.ep == some t) := by
  rw [h.ep]
  cases he : p.ep with
  | none => rfl
  | some e =>
    rw [Bool.eq_iff_iff, beq_iff_eq, beq_iff_eq]
    simp only [Option.map_some, Option.some.injEq]
    exact mir_inj (h.epLt e he) ht

theorem clearBetween_flip {p p' : Pos} (h : SFlip p p') {a b : Nat} (ha : a < 64) (hb : b < 64)
    (hl : (rookLine a b || bishLine a b) = true) : clearBetween p' (mir a) (mir b) = clearBetween p a b := by
  rw [clearBetween_eq, clearBetween_eq]
  exact clear_mir (fun _ hq => h.isNone hq) ha hb hl

theorem attacksGeom_flip {p p' : Pos} (h : SFlip p p') (k : Kind) (w : Bool) {a b : Nat} (ha : a < 64) (hb : b < 64) :
    attacksGeom p' k (!w) (mir a) (mir b) = attacksGeom p k w a b := by
  rw [attacksGeom_eq, attacksGeom_eq]
  exact geomBy_mir (fun _ hq => h.isNone hq) k w ha hb

theorem attacked_flip {p p' : Pos} (h : SFlip p p') (w : Bool) {s : Nat} (hs : s < 64) :
    attacked p' (!w) (mir s) = attacked p w s := by
  rw [Bool.eq_iff_iff, attacked_iff_by, attacked_iff_by]
  exact AttackedBy_mir (fun k t ht => by rw [h.at_ t ht, map_recolor_beq]) (fun _ hq => h.isNone hq) w hs

end Inkayaku.SearchFlip
