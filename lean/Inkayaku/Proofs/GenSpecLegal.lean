import Inkayaku.Proofs.GenSpecNodup
import Inkayaku.Proofs.GenSpecIff
import Inkayaku.Proofs.GenStrong
/-!
# UCI text, no duplicates, legal moves

`Move.uci` is `SMove.uci` of the abstracted move and determines the triple; so no UCI string is produced twice.
`genLegal_eq_spec`: the legal moves of the board are the legal moves of the rules, given the successor property (C02,
`hsucc`) and that `make` keeps the structural invariant (`hstruct`); `search_filter`: the filter of the perft/search path is `genLegal b`.
-/
namespace Inkayaku.GenSpec
open Inkayaku.Board Inkayaku.Gen Inkayaku.Bits Inkayaku.Abs Inkayaku.Spec

theorem squareString_eq (s : Nat) (h : s < 64) : squareString s = sqName s := by
  simp [squareString, sqName, fileChar, rankChar, h]

theorem pieceString_eq : ∀ p, p ≤ 6 →
    pieceString p = (match promoOf p with | some k => String.ofList [kindLetter k] | none => "") := by decide

theorem uci_agree (f : MoveF) (hs : f.source < 64) (ht : f.target < 64) (hp : f.promotion ≤ 6) :
    f.uci = (absMove f).uci := by
  unfold MoveF.uci SMove.uci absMove
  simp only
  rw [squareString_eq _ hs, squareString_eq _ ht, pieceString_eq _ hp]
  rfl

theorem fileChar_inj : ∀ a, a < 8 → ∀ c, c < 8 → Char.ofNat (97 + a) = Char.ofNat (97 + c) → a = c := by decide
theorem rankChar_inj : ∀ a, a < 8 → ∀ c, c < 8 → Char.ofNat (56 - a) = Char.ofNat (56 - c) → a = c := by decide

theorem kindLetter_inj (a c : Kind) (h : kindLetter a = kindLetter c) : a = c := by
  cases a <;> cases c <;> first | rfl | (revert h; decide)

theorem uci_toList (m : SMove) : m.uci.toList =
    [Char.ofNat (97 + m.src % 8), Char.ofNat (56 - m.src / 8), Char.ofNat (97 + m.tgt % 8),
      Char.ofNat (56 - m.tgt / 8)] ++ (match m.promo with | some k => [kindLetter k] | none => []) := by
  unfold SMove.uci sqName
  rw [String.toList_append, String.toList_append, String.toList_ofList, String.toList_ofList]
  cases m.promo <;> simp

theorem uci_injective {a c : SMove} (ha : a.src < 64 ∧ a.tgt < 64) (hc : c.src < 64 ∧ c.tgt < 64)
    (h : a.uci = c.uci) : a = c := by
  have h' := congrArg String.toList h
  rw [uci_toList, uci_toList] at h'
  simp only [List.cons_append, List.nil_append, List.cons.injEq] at h'
  obtain ⟨h1, h2, h3, h4, h5⟩ := h'
  have e1 := fileChar_inj _ (Nat.mod_lt _ (by decide)) _ (Nat.mod_lt _ (by decide)) h1
  have e2 := rankChar_inj (a.src / 8) (by omega) (c.src / 8) (by omega) h2
  have e3 := fileChar_inj _ (Nat.mod_lt _ (by decide)) _ (Nat.mod_lt _ (by decide)) h3
  have e4 := rankChar_inj (a.tgt / 8) (by omega) (c.tgt / 8) (by omega) h4
  obtain ⟨as, at_, ap⟩ := a
  obtain ⟨cs, ct, cp⟩ := c
  simp only at e1 e2 e3 e4 h5 ha hc
  have hs : as = cs := by omega
  have ht : at_ = ct := by omega
  have hp : ap = cp := by
    cases ap <;> cases cp
    · rfl
    · simp at h5
    · simp at h5
    · simp only [List.cons.injEq, and_true] at h5
      rw [kindLetter_inj _ _ h5]
  rw [hs, ht, hp]

theorem kindOf_seven : kindOf 7 = .king := rfl

theorem gen_bounds {b : Board} (h : WF.wf b = true) {m : Move} (hm : m ∈ genPseudo b) :
    m.f.source < 64 ∧ m.f.target < 64 ∧ m.f.promotion ≤ 6 := by
  obtain ⟨src, tgt, piece, castle, ep, promo, epOpp, hf, ha⟩ := GenStrong.genPseudo_strong h m hm
  rw [hf]
  refine ⟨ha.src_lt, ha.tgt_lt, ?_⟩
  show promo ≤ 6
  by_cases h0 : promo = 0
  · omega
  · have := (ha.promo_ h0).2.2.1
    omega

theorem uci_of_generated {b : Board} (h : WF.wf b = true) {m : Move} (hm : m ∈ genPseudo b) :
    m.uci = (absMove m.f).uci := by
  obtain ⟨hs, ht, hp⟩ := gen_bounds h hm
  exact uci_agree m.f hs ht hp

theorem map_uci_genPseudo {b : Board} (h : WF.wf b = true) :
    (genPseudo b).map Move.uci = ((genPseudo b).map (absMove ∘ Move.f)).map SMove.uci := by
  rw [List.map_map]
  apply List.map_congr_left
  intro m hm
  exact uci_of_generated h hm

theorem nodup_map_of_inj {α β : Type} {l : List α} {f : α → β} (hl : l.Nodup)
    (hinj : ∀ a ∈ l, ∀ c ∈ l, f a = f c → a = c) : (l.map f).Nodup := by
  unfold List.Nodup at hl ⊢
  rw [List.pairwise_map]
  exact List.Pairwise.imp_of_mem (fun ha hc hne he => hne (hinj _ ha _ hc he)) hl

theorem genPseudo_nodup_triples {b : Board} (h : WF.wf b = true) :
    ((genPseudo b).map (absMove ∘ Move.f)).Nodup := by
  have hw := pawnWF_of_wf h
  have : (genPseudo b).map (absMove ∘ Move.f) = (calls b).map (fun c => c.key.mv) := by
    rw [genPseudo_map, List.map_map]
    exact List.map_congr_left (fun c hc =>
      congrArg Key.mv (Call.key_mkM (Site.fit hw.facts.basic ((mem_calls hw.facts).mp hc))))
  rw [this]
  unfold List.Nodup
  rw [List.pairwise_map]
  exact noDup_calls hw

theorem genPseudo_nodup {b : Board} (h : WF.wf b = true) : ((genPseudo b).map Move.uci).Nodup := by
  rw [map_uci_genPseudo h]
  apply nodup_map_of_inj (genPseudo_nodup_triples h)
  intro a ha c hc he
  obtain ⟨m, hm, rfl⟩ := List.mem_map.mp ha
  obtain ⟨m', hm', rfl⟩ := List.mem_map.mp hc
  obtain ⟨h1, h2, -⟩ := gen_bounds h hm
  obtain ⟨h1', h2', -⟩ := gen_bounds h hm'
  exact uci_injective ⟨h1, h2⟩ ⟨h1', h2'⟩ he

theorem genLegal_nodup {b : Board} (h : WF.wf b = true) : ((genLegal b).map Move.uci).Nodup := by
  unfold genLegal
  exact List.Pairwise.sublist (List.Sublist.map _ (List.filter_sublist)) (genPseudo_nodup h)

theorem isMoveLegal_eq {b : Board} (h : WF.wf b = true) {m : Move}
    (hsucc : abs (make b m) = Spec.apply (abs b) (absMove m.f))
    (hstruct : Check.Struct (make b m)) :
    isMoveLegal b m = !Spec.inCheck (Spec.apply (abs b) (absMove m.f)) (abs b).whiteToMove := by
  have ht : b.turn ≤ 1 := (Check.struct_of_wf h).2
  have ht' : (make b m).turn ≤ 1 := by rw [make_turn]; omega
  rw [C05.move_legal b m hstruct ht', hsucc]
  have : (!(abs (make b m)).whiteToMove) = (abs b).whiteToMove := by
    show (!((make b m).turn == 0)) = (b.turn == 0)
    rw [make_turn]
    have : b.turn = 0 ∨ b.turn = 1 := by omega
    rcases this with h0 | h0 <;> simp [h0]
  rw [← hsucc, this]

/-- `hsucc` is property C02 (`Successor.make_eq_apply`), `hstruct` is `GenSpec.struct_make` -/
theorem genLegal_eq_spec {b : Board} (h : WF.wf b = true)
    (hsucc : ∀ m ∈ genPseudo b, abs (make b m) = Spec.apply (abs b) (absMove m.f))
    (hstruct : ∀ m ∈ genPseudo b, Check.Struct (make b m)) (sm : SMove) :
    sm ∈ (genLegal b).map (absMove ∘ Move.f) ↔ sm ∈ Spec.legalMoves (abs b) := by
  unfold genLegal Spec.legalMoves
  rw [List.mem_map, List.mem_filter, ← genPseudo_iff h, List.mem_map]
  constructor
  · rintro ⟨m, hm, rfl⟩
    obtain ⟨hm1, hm2⟩ := List.mem_filter.mp hm
    rw [isMoveLegal_eq h (hsucc m hm1) (hstruct m hm1)] at hm2
    exact ⟨⟨m, hm1, rfl⟩, hm2⟩
  · rintro ⟨⟨m, hm, rfl⟩, hP⟩
    refine ⟨m, List.mem_filter.mpr ⟨hm, ?_⟩, rfl⟩
    rw [isMoveLegal_eq h (hsucc m hm) (hstruct m hm)]
    exact hP

theorem genLegal_uci_eq_spec {b : Board} (h : WF.wf b = true)
    (hsucc : ∀ m ∈ genPseudo b, abs (make b m) = Spec.apply (abs b) (absMove m.f))
    (hstruct : ∀ m ∈ genPseudo b, Check.Struct (make b m)) (s : String) :
    s ∈ (genLegal b).map Move.uci ↔ s ∈ (Spec.legalMoves (abs b)).map SMove.uci := by
  have hmap : (genLegal b).map Move.uci = ((genLegal b).map (absMove ∘ Move.f)).map SMove.uci := by
    rw [List.map_map]
    apply List.map_congr_left
    intro m hm
    exact uci_of_generated h (List.mem_filter.mp hm).1
  rw [hmap, List.mem_map, List.mem_map]
  constructor
  · rintro ⟨sm, hsm, rfl⟩; exact ⟨sm, (genLegal_eq_spec h hsucc hstruct sm).mp hsm, rfl⟩
  · rintro ⟨sm, hsm, rfl⟩; exact ⟨sm, (genLegal_eq_spec h hsucc hstruct sm).mpr hsm, rfl⟩

theorem filterMap_fst {α β : Type} (l : List α) (p : α → Bool) (g : α → β) :
    (l.filterMap fun m => if p m then some (m, g m) else none).map Prod.fst = l.filter p := by
  induction l with
  | nil => rfl
  | cons a t ih =>
    rw [List.filterMap_cons, List.filter_cons]
    cases hp : p a
    · simpa using ih
    · simp only [if_true, List.map_cons, ih]

/-- the filter used by perft and by the search loop (`make`, then `is_valid`) is `is_move_legal` -/
theorem search_filter (b : Board) : (genPseudo b).filter (fun m => isValid (make b m)) = genLegal b := rfl

end Inkayaku.GenSpec
