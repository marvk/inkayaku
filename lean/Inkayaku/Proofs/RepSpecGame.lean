import Inkayaku.Model.RepSpec
import Inkayaku.Proofs.AlphaBeta
/-!
# The specification game with the repetition rule (`Model/RepSpec.lean`)

Alpha-beta on `repChess`, for any move order and any capture order, computes the exact path-dependent minimax `mm repGame`
(`rep_search_eq_mm`: the horizon functions are those of `SpecSearch.chess` on the board component, the repetition value
`drawScore ± contempt` is a generated constant inside the score range).  `mm_repetition`, `mm_norep_terminal`, `mm_zero_norep`,
`mm_succ_norep` say what `mm repGame` is at each kind of node and thereby state the rule.
-/
namespace Inkayaku.RepSpec
open Inkayaku.Board Inkayaku.Eval Inkayaku.Minimax Inkayaku.SpecSearch

def repetitionValue (ply : Nat) : Int := Gen.drawScore + (if ply % 2 == 0 then 1 else -1) * Gen.contempt

theorem repetitionValue_cases (ply : Nat) :
    repetitionValue ply = Gen.drawScore + Gen.contempt ∨ repetitionValue ply = Gen.drawScore - Gen.contempt := by
  unfold repetitionValue
  by_cases h : (ply % 2 == 0) = true
  · left; rw [if_pos h]; omega
  · right; rw [if_neg h]; omega

theorem repetitionValue_bound (ply : Nat) : -176000 ≤ repetitionValue ply ∧ repetitionValue ply ≤ 176000 := by
  have h1 : -176000 ≤ Gen.drawScore + Gen.contempt ∧ Gen.drawScore + Gen.contempt ≤ 176000 := by decide
  have h2 : -176000 ≤ Gen.drawScore - Gen.contempt ∧ Gen.drawScore - Gen.contempt ≤ 176000 := by decide
  rcases repetitionValue_cases ply with h | h <;> rw [h] <;> omega

theorem isOrder_byMvvLvaR : IsOrder byMvvLvaR := fun _ l => List.mergeSort_perm l _

theorem repGame_moves (qorder : RPos → List Move → List Move) (p : RPos) :
    (repChess.game qorder).moves p = if isRepetition p then [] else rootMoves p.board p.only := rfl

theorem repGame_child (qorder : RPos → List Move → List Move) (p : RPos) (m : Move) :
    (repChess.game qorder).child p m =
      { board := make p.board m, only := [], ply := p.ply + 1, before := key p.board :: p.before } := rfl

theorem repGame_term (qorder : RPos → List Move → List Move) (p : RPos) :
    (repChess.game qorder).term p =
      if isRepetition p then repetitionValue p.ply else Search.evalFor p.board p.board.turn false := rfl

theorem repGame_loss (qorder : RPos → List Move → List Move) : (repChess.game qorder).loss = lossScore := rfl

theorem moves_repGame (p : RPos) : repGame.moves p = if isRepetition p then [] else rootMoves p.board p.only := rfl

theorem term_repGame (p : RPos) :
    repGame.term p = if isRepetition p then repetitionValue p.ply else Search.evalFor p.board p.board.turn false := rfl

theorem rep_leafOk (qorder : RPos → List Move → List Move) (hq : IsOrder qorder) : LeafOk (repChess.game qorder) :=
  searchGame_leafOk repChess qorder hq

theorem rep_term_ge (qorder : RPos → List Move → List Move) (p : RPos) :
    (repChess.game qorder).loss ≤ (repChess.game qorder).term p := by
  rw [repGame_term, repGame_loss]
  split
  · have := (repetitionValue_bound p.ply).1
    have := lossScore_val
    omega
  · exact term_ge_loss p.board

theorem rep_leaf_bound (qorder : RPos → List Move → List Move) (p : RPos) :
    -176000 ≤ (repChess.game qorder).leafExact p ∧ (repChess.game qorder).leafExact p ≤ 176000 := by
  show -176000 ≤ (if repChess.noisy p then Qexact repChess.qgame repChess.fuel p else repChess.static p) ∧
    (if repChess.noisy p then Qexact repChess.qgame repChess.fuel p else repChess.static p) ≤ 176000
  split
  · exact Qexact_bound repChess.qgame 176000 (fun p => standPat_bound p.board p.board.turn) _ _
  · exact standPat_bound p.board p.board.turn

theorem rep_search_eq_mm (order qorder : RPos → List Move → List Move) (ho : IsOrder order) (hq : IsOrder qorder)
    (d : Nat) (p : RPos) :
    (ab (repChess.game qorder) order d p lossScore (-lossScore)).1 = mm repGame d p := by
  have hl := lossScore_val
  rw [show repGame = repChess.game byMvvLvaR from rfl, searchGame_mm_qorder repChess byMvvLvaR qorder]
  exact root_exact' (repChess.game qorder) order ho (rep_leafOk qorder hq) (by show lossScore < 0; omega)
    (rep_term_ge qorder)
    (fun p => by have := (rep_leaf_bound qorder p).1; show lossScore ≤ _; omega)
    (fun p => by have := (rep_leaf_bound qorder p).2; show _ ≤ -lossScore; omega) d p

theorem repSearch_of_history {depth : Nat} {b0 : Board} {ucis only : List String} {b : Board} {before : List Key}
    (h : playHistory b0 ucis [] = some (b, before)) :
    repSearch depth b0 ucis only =
      some (b, (ab repGame byMvvLvaR depth ⟨b, only, 0, before⟩ lossScore (-lossScore)).1,
               (ab repGame byMvvLvaR depth ⟨b, only, 0, before⟩ lossScore (-lossScore)).2) := by
  unfold repSearch
  rw [h]

theorem repSearch_none {depth : Nat} {b0 : Board} {ucis only : List String} (h : playHistory b0 ucis [] = none) :
    repSearch depth b0 ucis only = none := by
  unfold repSearch
  rw [h]

theorem qexact_board (f : Nat) : ∀ (p : RPos) (only : List String),
    Qexact repChess.qgame f p = Qexact chess.qgame f (p.board, only) := by
  induction f with
  | zero => intro p only; rfl
  | succ f ih =>
    intro p only
    simp only [Qexact]
    show mmFold (Qexact repChess.qgame f) (Search.evalFor p.board p.board.turn true)
        ((legalCaptures p.board).map (repChess.child p)) =
      mmFold (Qexact chess.qgame f) (Search.evalFor p.board p.board.turn true)
        ((legalCaptures p.board).map (chess.child (p.board, only)))
    rw [mmFold_map, mmFold_map]
    apply mmFold_congr
    intro m _
    exact ih (repChess.child p m) []

theorem leafExact_board (qorder : RPos → List Move → List Move) (p : RPos) (only : List String) :
    (repChess.game qorder).leafExact p = game.leafExact (p.board, only) := by
  show (if noisy p.board then Qexact repChess.qgame quiescenceFuel p else Search.evalFor p.board p.board.turn true) =
    (if noisy p.board then Qexact chess.qgame quiescenceFuel (p.board, only) else Search.evalFor p.board p.board.turn true)
  rw [qexact_board quiescenceFuel p only]

theorem isRepetition_root (p : RPos) (h : p.ply = 0) : isRepetition p = false := by
  unfold isRepetition
  rw [h]
  rfl

theorem isRepetition_iff (p : RPos) : isRepetition p = true ↔ 0 < p.ply ∧ 3 ≤ occurrences p := by
  unfold isRepetition
  simp only [Bool.and_eq_true, decide_eq_true_eq, ge_iff_le, gt_iff_lt]

theorem mm_repetition (d : Nat) (p : RPos) (h : isRepetition p = true) : mm repGame d p = repetitionValue p.ply := by
  rw [mm_term repGame (by rw [moves_repGame, if_pos h]), term_repGame, if_pos h]

theorem moves_norep {p : RPos} (h : isRepetition p = false) : repGame.moves p = rootMoves p.board p.only := by
  rw [moves_repGame, h, if_neg Bool.false_ne_true]

theorem mm_norep_terminal (d : Nat) (p : RPos) (h : isRepetition p = false) (hn : rootMoves p.board p.only = []) :
    mm repGame d p = Search.evalFor p.board p.board.turn false := by
  rw [mm_term repGame (by rw [moves_norep h, hn]), term_repGame, h, if_neg Bool.false_ne_true]

theorem mm_zero_norep_eq (p : RPos) (h : isRepetition p = false) : mm repGame 0 p = mm game 0 (p.board, p.only) := by
  show (if (repGame.moves p).isEmpty then repGame.term p else repGame.leafExact p) = _
  rw [moves_norep h, term_repGame, h, show repGame.leafExact p = _ from leafExact_board _ p p.only]
  rfl

theorem mm_zero_norep (p : RPos) (h : isRepetition p = false) (hn : rootMoves p.board p.only ≠ []) :
    mm repGame 0 p = game.leafExact (p.board, p.only) :=
  (mm_zero_norep_eq p h).trans (mm_zero_moves game hn)

theorem mm_succ_norep (d : Nat) (p : RPos) (h : isRepetition p = false) (hn : rootMoves p.board p.only ≠ []) :
    mm repGame (d + 1) p =
      mmFold (mm repGame d) lossScore
        ((rootMoves p.board p.only).map fun m =>
          ({ board := make p.board m, only := [], ply := p.ply + 1, before := key p.board :: p.before } : RPos)) := by
  rw [mm_succ_moves repGame (by rw [moves_norep h]; exact hn)]
  unfold Game.children
  rw [moves_norep h]
  rfl

/-- every value of the game with the rule lies between "mated on the spot" and "mates with the next move": the value of a
repetition node is a constant within ±176000, like the static values -/
theorem rep_between (d : Nat) (p : RPos) (hs : Small p.board d) :
    lossScore + (p.board.fullmove : Int) ≤ mm repGame d p ∧
      mm repGame d p ≤ Gen.winScore - ((p.board.fullmove : Int) + (p.board.turn : Int)) :=
  mm_between repGame (fun d p => Small p.board d)
    (fun p => lossScore + (p.board.fullmove : Int)) (fun p => Gen.winScore - ((p.board.fullmove : Int) + (p.board.turn : Int)))
    (fun _ _ m hp _ => hp.make m)
    (fun d p hp _ => by
      rw [term_repGame]
      split
      · exact (board_bracket p.board d hp).2.1 _ (repetitionValue_bound _).1 (repetitionValue_bound _).2
      · exact (board_bracket p.board d hp).1)
    (fun p hp _ => (board_bracket p.board 0 hp).2.1 _ (rep_leaf_bound byMvvLvaR p).1
      (rep_leaf_bound byMvvLvaR p).2)
    (fun _ p hp => (board_bracket p.board _ hp).2.2.1)
    (fun _ p m hp _ => (board_bracket p.board _ hp).2.2.2 m) d p hs

theorem rep_root_bounds (d : Nat) (p : RPos) (hs : Small p.board (d + 1)) (hfm : 1 ≤ p.board.fullmove) :
    lossScore < mm repGame (d + 1) p ∧ mm repGame (d + 1) p < Gen.winScore := by
  have := rep_between (d + 1) p hs
  omega

end Inkayaku.RepSpec
