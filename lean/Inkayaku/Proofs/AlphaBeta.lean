import Inkayaku.Proofs.MinimaxValue
import Inkayaku.Model.SpecSearch
import Inkayaku.Proofs.MakeSides
import Inkayaku.Proofs.EvalBound
/-!
# Alpha-beta = minimax (helper proofs for C08)

On the abstract game of `Spec/Minimax.lean`: the fail-hard quiescence is the clamp of the exhaustive capture resolution
(`quiescence_clamp`).  Alpha-beta has ONE correctness theorem, `abT_sound`: the search with a transposition table, state dependent
move order and hint state obeys the fail-soft contract `Ok` w.r.t. plain minimax (the move loop's invariant is `LoopInv`, the loop is
`abTLoop_sound`), for any set `U` of searched (position, depth) pairs closed under the moves and any property `E` of table entries
that makes an entry true of every depth it may answer for and that a true entry of a searched depth has.  The table probed at equal
draft (`abT_ok`) is the instance `U p d := draft p = d`; the search without table (`ab`) is `abT` with a heuristic that stores nothing
(`abT_plain`), whence `ab_ok`, `ab_move`.  Then the board instance: value ranges, forced mates (`mate_threshold`), the root value.
-/
namespace Inkayaku.Minimax

variable {P μ : Type}

theorem Ok.refl (m α β : Int) : Ok m m α β := ⟨fun _ => Int.le_refl _, fun _ => Int.le_refl _, fun _ _ => rfl⟩

theorem Ok.eq {m r α β : Int} (h : Ok m r α β) (hlo : α ≤ m) (hhi : m ≤ β) : r = m := by
  obtain ⟨a, b, c⟩ := h
  by_cases h1 : r ≤ α
  · have := a h1; omega
  · by_cases h2 : β ≤ r
    · have := b h2; omega
    · exact c (by omega) (by omega)

theorem ok_clamp (x α β : Int) (h : α < β) : Ok x (clamp x α β) α β := by
  unfold Ok clamp
  refine ⟨?_, ?_, ?_⟩ <;> omega

theorem qLoop_eq (f : P → Int → Int → Int) (e : P → Int) (child : μ → P)
    (hf : ∀ c a b, a < b → f c a b = clamp (e c) a b)
    (ms : List μ) (α β : Int) (h : α < β) :
    qLoop f child ms α β = min β (mmFold e α (ms.map child)) := by
  induction ms generalizing α with
  | nil => simp only [qLoop, List.map_nil, mmFold_nil]; omega
  | cons m ms ih =>
    simp only [qLoop, List.map_cons, mmFold_cons]
    rw [hf (child m) (-β) (-α) (by omega)]
    unfold clamp
    generalize e (child m) = ec
    by_cases h1 : - max (-β) (min ec (-α)) ≥ β
    · simp only [h1, if_true]
      have := le_mmFold e (max α (-ec)) (ms.map child)
      omega
    · simp only [h1, if_false]
      by_cases h2 : - max (-β) (min ec (-α)) > α
      · simp only [h2, if_true]
        rw [ih _ (by omega)]
        have : - max (-β) (min ec (-α)) = max α (-ec) := by omega
        rw [this]
      · simp only [h2, if_false]
        rw [ih _ h]
        have : max α (-ec) = α := by omega
        rw [this]

theorem quiescence_clamp (h : QGame P μ) (order : P → List μ → List μ) (ho : IsOrder order)
    (fuel : Nat) (p : P) (α β : Int) (hαβ : α < β) :
    q h order fuel p α β = clamp (Qexact h fuel p) α β := by
  induction fuel generalizing p α β with
  | zero =>
    simp only [q, Qexact, clamp]
    split <;> omega
  | succ f ih =>
    simp only [q, Qexact]
    have hmono := le_mmFold (Qexact h f) (h.standPat p) ((h.captures p).map (h.child p))
    by_cases hs : h.standPat p ≥ β
    · simp only [hs, if_true, clamp]; omega
    · simp only [hs, if_false]
      rw [qLoop_eq (q h order f) (Qexact h f) (h.child p) (fun c a b hab => ih c a b hab) _ _ _ (by omega)]
      rw [mmFold_perm _ _ ((ho p (h.captures p)).map (h.child p)), mmFold_max_init]
      unfold clamp
      omega

theorem quiescence_ok (h : QGame P μ) (order : P → List μ → List μ) (ho : IsOrder order)
    (fuel : Nat) (p : P) (α β : Int) (hαβ : α < β) :
    Ok (Qexact h fuel p) (q h order fuel p α β) α β := by
  rw [quiescence_clamp h order ho fuel p α β hαβ]
  exact ok_clamp _ _ _ hαβ

theorem quiescence_order_irrelevant (h : QGame P μ) (o₁ o₂ : P → List μ → List μ) (h₁ : IsOrder o₁) (h₂ : IsOrder o₂)
    (fuel : Nat) (p : P) (α β : Int) (hαβ : α < β) : q h o₁ fuel p α β = q h o₂ fuel p α β := by
  rw [quiescence_clamp h o₁ h₁ fuel p α β hαβ, quiescence_clamp h o₂ h₂ fuel p α β hαβ]

theorem Qexact_fuel_stable (h : QGame P μ) (rank : P → Nat)
    (hr : ∀ p m, m ∈ h.captures p → rank (h.child p m) < rank p) :
    ∀ n p, rank p ≤ n → ∀ f, n ≤ f → Qexact h f p = Qexact h n p := by
  intro n
  induction n with
  | zero =>
    intro p hp f _
    have hnil : h.captures p = [] := by
      cases hc : h.captures p with
      | nil => rfl
      | cons m ms => have := hr p m (by rw [hc]; exact List.mem_cons_self); omega
    cases f with
    | zero => rfl
    | succ f => simp [Qexact, hnil, mmFold]
  | succ n ih =>
    intro p hp f hf
    cases f with
    | zero => omega
    | succ f =>
      simp only [Qexact]
      apply mmFold_congr
      intro c hc
      obtain ⟨m, hm, rfl⟩ := List.mem_map.mp hc
      have := hr p m hm
      exact ih _ (by omega) f (by omega)

theorem Qexact_bound (h : QGame P μ) (B : Int) (hB : ∀ p, -B ≤ h.standPat p ∧ h.standPat p ≤ B) :
    ∀ f p, -B ≤ Qexact h f p ∧ Qexact h f p ≤ B := by
  intro f
  induction f with
  | zero => intro p; exact hB p
  | succ f ih =>
    intro p
    simp only [Qexact]
    constructor
    · have := le_mmFold (Qexact h f) (h.standPat p) ((h.captures p).map (h.child p))
      have := (hB p).1
      omega
    · apply mmFold_le _ _ _ _ (hB p).2
      intro c _
      have := (ih c).1
      omega

def Chosen (e : P → Int) (child : μ → P) (S : μ → Prop) (bm : Option μ) (best : Int) : Prop :=
  ∃ m, bm = some m ∧ S m ∧ - e (child m) = best

theorem ok_iff {m r α β : Int} (h : α < β) : Ok m r α β ↔ (r < β → m ≤ r) ∧ (α < r → r ≤ m) := by
  unfold Ok
  omega

/-- The invariant of the move loop.  `α₀` is the window bottom at loop entry, `α` the raised bottom, `best` the best
returned value so far and `M` the exact maximum over the moves already done: as long as the loop has not cut off, `best` is an
upper bound of `M`, and a lower bound once it is above `α₀`. -/
structure LoopInv (α₀ α β best M : Int) : Prop where
  lt : α < β
  al : α = max α₀ best
  up : M ≤ best
  lo : α₀ < best → best ≤ M

theorem LoopInv.done {α₀ α β best M : Int} (I : LoopInv α₀ α β best M) : Ok M best α₀ β :=
  (ok_iff (by have := I.lt; have := I.al; omega)).mpr ⟨fun _ => I.up, I.lo⟩

theorem LoopInv.improve {α₀ α β best M ec r : Int} (I : LoopInv α₀ α β best M) (hr : Ok ec r (-β) (-α))
    (hv : -r > best) :
    (β ≤ max α (-r) → β ≤ -r ∧ ∀ Mall, max M (-ec) ≤ Mall → Ok Mall (-r) α₀ β) ∧
    (max α (-r) < β → LoopInv α₀ (max α (-r)) β (-r) (max M (-ec)) ∧ (α₀ < -r → -ec = -r)) := by
  obtain ⟨a, b, c, d⟩ := I
  obtain ⟨c1, c2⟩ := (ok_iff (by omega)).mp hr
  constructor
  · intro h
    have hβ : β ≤ -r := by omega
    have := c1 (by omega)
    exact ⟨hβ, fun Mall hM => (ok_iff (by omega)).mpr ⟨fun _ => by omega, fun _ => by omega⟩⟩
  · intro h
    have := c2 (by omega)
    refine ⟨⟨h, by omega, by omega, fun h' => ?_⟩, fun h' => ?_⟩
    · have := c1 (by omega)
      omega
    · have := c1 (by omega)
      omega

theorem LoopInv.keep {α₀ α β best M ec r : Int} (I : LoopInv α₀ α β best M) (hr : Ok ec r (-β) (-α))
    (hv : ¬ -r > best) : max α best < β ∧ LoopInv α₀ (max α best) β best (max M (-ec)) := by
  obtain ⟨a, b, c, d⟩ := I
  have := ((ok_iff (by omega)).mp hr).2 (by omega)
  refine ⟨by omega, by omega, by omega, by omega, fun h => ?_⟩
  have := d h
  omega

theorem LoopInv.init {α β L : Int} (h : α < β) (hL : L ≤ α) : LoopInv α α β L L :=
  ⟨h, by omega, Int.le_refl _, fun _ => Int.le_refl _⟩

def LeafOk (g : Game P μ) : Prop :=
  ∀ p a b, g.loss ≤ a → a < b → b ≤ -g.loss → Ok (g.leafExact p) (g.leaf p a b) a b

/-- an entry tells the truth about the minimax value OF ITS OWN DRAFT -/
def EntryValid (g : Game P μ) (p : P) (e : Entry μ) : Prop :=
  match e.bound with
  | .exact => e.value = mm g e.depth p
  | .lower => e.value ≤ mm g e.depth p
  | .upper => mm g e.depth p ≤ e.value

def TTValid (g : Game P μ) (tt : P → Option (Entry μ)) : Prop := ∀ p e, tt p = some e → EntryValid g p e

/-- **the SameDraft restriction**: `draft p` is the remaining depth with which `p` is searched (it drops by one from a
node above the horizon to its children); no entry is deeper.
Then an entry accepted by the probe (`e.depth ≥ draft p`) has exactly the remaining draft.  For a table keyed by the
full position (clocks included) this holds for every depth, because the ply of a position is determined by its clocks;
for the engine's table, keyed by a hash that ignores the clocks, it needs `d ≤ 3` (C08 stops there). -/
def SameDraft (draft : P → Nat) (tt : P → Option (Entry μ)) : Prop := ∀ p e, tt p = some e → e.depth ≤ draft p

theorem ok_widen (m r α β α' β' : Int) (hα : α ≤ α') (hβ : β' ≤ β)
    (hlo : α < α' → α' ≤ m) (hhi : β' < β → m ≤ β') (h : Ok m r α' β') : Ok m r α β := by
  obtain ⟨a, b, c⟩ := h
  refine ⟨fun h => by omega, fun h => by omega, fun h1 h2 => ?_⟩
  by_cases x : r ≤ α'
  · have := a x; omega
  · by_cases y : β' ≤ r
    · have := b y; omega
    · exact c (by omega) (by omega)

/-- The bound class stored with the value `r` of a node that was entered with the window `(α, β)` and searched, after
the probe, with `(α', β')`: the test is against the original `α` and the narrowed `β'`, and each class is truthful. -/
theorem store_class {T : Type} (C : T → Prop) (up lo ex : T) {m r α β α' β' : Int} (h : Ok m r α β)
    (h' : Ok m r α' β') (hβ : β' ≤ β) (hup : m ≤ r → C up) (hlo : r ≤ m → C lo) (hex : r = m → C ex) :
    C (if r ≤ α then up else if r ≥ β' then lo else ex) := by
  by_cases x : r ≤ α
  · rw [if_pos x]; exact hup (h.1 x)
  · rw [if_neg x]
    by_cases y : r ≥ β'
    · rw [if_pos y]; exact hlo (h'.2.1 y)
    · rw [if_neg y]; exact hex (h.2.2 (by omega) (by omega))

def EntryTrue (v : Int) (e : Entry μ) : Prop :=
  match e.bound with
  | .exact => e.value = v
  | .lower => e.value ≤ v
  | .upper => v ≤ e.value

theorem probe_spec (m : Int) (e : Option (Entry μ)) (d : Nat) (α β : Int) (hαβ : α < β)
    (hv : ∀ x, e = some x → x.depth ≥ d → EntryTrue m x) :
    match probe e d α β with
    | .inl r => Ok m r.1 α β
    | .inr (α', β') => α ≤ α' ∧ β' ≤ β ∧ α' < β' ∧ (α < α' → α' ≤ m) ∧ (β' < β → m ≤ β') := by
  cases e with
  | none => simp only [probe]; omega
  | some x =>
    simp only [probe]
    by_cases hd : x.depth ≥ d
    · have := hv x rfl hd
      unfold EntryTrue at this
      simp only [hd, if_true]
      cases hb : x.bound with
      | exact =>
        simp only [hb] at this ⊢
        rw [this]; exact Ok.refl _ _ _
      | lower =>
        simp only [hb] at this ⊢
        by_cases hc : max α x.value ≥ β
        · simp only [hc, if_true]
          refine ⟨fun h => by omega, fun h => by omega, fun h1 h2 => by omega⟩
        · simp only [hc, if_false]; omega
      | upper =>
        simp only [hb] at this ⊢
        by_cases hc : α ≥ min β x.value
        · simp only [hc, if_true]
          refine ⟨fun h => by omega, fun h => by omega, fun h1 h2 => by omega⟩
        · simp only [hc, if_false]; omega
    · simp only [hd, if_false]; omega

section TT
variable {H : Type}

def Inv (g : Game P μ) (draft : P → Nat) (s : TState P μ H) : Prop := TTValid g s.tt ∧ SameDraft draft s.tt

theorem abTLoop_sound (J : TState P μ H → Prop) (L : Int)
    (f : P → Int → Int → TState P μ H → (Int × Option μ) × TState P μ H) (e : P → Int) (child : μ → P)
    (cut : TState P μ H → μ → TState P μ H) (S : μ → Prop)
    (hcut : ∀ s m, J s → J (cut s m))
    (hf : ∀ m a b s, S m → L ≤ a → a < b → b ≤ -L → J s →
      Ok (e (child m)) (f (child m) a b s).1.1 a b ∧ J (f (child m) a b s).2)
    (cs : List μ) (α₀ α β best M : Int) (bm : Option μ) (s : TState P μ H)
    (hS : ∀ m ∈ cs, S m) (hs : J s)
    (hL : L ≤ α₀) (hβ : β ≤ -L) (I : LoopInv α₀ α β best M)
    (h3 : α₀ < best → Chosen e child S bm best) :
    Ok (mmFold e M (cs.map child)) (abTLoop f child cut cs α β best bm s).1.1 α₀ β ∧
      J (abTLoop f child cut cs α β best bm s).2 ∧
      (α₀ < (abTLoop f child cut cs α β best bm s).1.1 → (abTLoop f child cut cs α β best bm s).1.1 < β →
        Chosen e child S (abTLoop f child cut cs α β best bm s).1.2 (abTLoop f child cut cs α β best bm s).1.1) := by
  induction cs generalizing α best M bm s with
  | nil => exact ⟨I.done, hs, fun h _ => h3 h⟩
  | cons c cs ih =>
    have hS' : ∀ m ∈ cs, S m := fun m hm => hS m (List.mem_cons_of_mem _ hm)
    obtain ⟨hr, hs'⟩ := hf c (-β) (-α) s (hS c List.mem_cons_self) (by omega) (by have := I.lt; omega)
      (by have := I.al; omega) hs
    simp only [abTLoop, List.map_cons, mmFold_cons]
    generalize f (child c) (-β) (-α) s = res at hr hs'
    obtain ⟨⟨r, rm⟩, s1⟩ := res
    simp only at hr hs'
    by_cases hv : -r > best
    · simp only [hv, if_true]
      obtain ⟨k1, k2⟩ := I.improve hr hv
      by_cases hc : max α (-r) ≥ β
      · simp only [hc, if_true]
        exact ⟨(k1 hc).2 _ (le_mmFold _ _ _), hcut _ _ hs', fun _ h => absurd h (by have := (k1 hc).1; omega)⟩
      · simp only [hc, if_false]
        obtain ⟨I', hch⟩ := k2 (by omega)
        exact ih _ _ _ _ s1 hS' hs' I' (fun h => ⟨c, rfl, hS c List.mem_cons_self, hch h⟩)
    · simp only [hv, if_false]
      obtain ⟨k1, I'⟩ := I.keep hr hv
      rw [if_neg (by omega)]
      exact ih _ _ _ _ s1 hS' hs' I' h3

def NodeOk [DecidableEq P] (g : Game P μ) (E : P → Entry μ → Prop) (d : Nat) (p : P) (α β : Int) (s : TState P μ H)
    (R : (Int × Option μ) × TState P μ H) : Prop :=
  Ok (mm g d p) R.1.1 α β ∧ (∀ q e, R.2.tt q = some e → E q e) ∧
  (s.tt p = none → ∀ d', d = d' + 1 → (g.moves p).isEmpty = false → α < R.1.1 → R.1.1 < β →
    Chosen (mm g d') (g.child p) (· ∈ g.moves p) R.1.2 R.1.1)

/-- **alpha-beta = minimax.**  `U` = the (position, depth) pairs that are searched, `E` = what is known of every table entry. -/
theorem abT_sound [DecidableEq P] (g : Game P μ) (hr : Heur P μ H) (ho : hr.IsOrder) (hleaf : LeafOk g)
    (U : P → Nat → Prop) (E : P → Entry μ → Prop)
    (hcl : ∀ p d m, U p (d + 1) → m ∈ g.moves p → U (g.child p m) d)
    (huse : ∀ p d e, U p d → E p e → d ≤ e.depth → EntryTrue (mm g d p) e)
    (hstore : ∀ p d e, U p d → e.depth = d → hr.storable e.value = true → EntryTrue (mm g d p) e → E p e) :
    ∀ d p α β s, U p d → g.loss ≤ α → α < β → β ≤ -g.loss → (∀ q e, s.tt q = some e → E q e) →
      NodeOk g E d p α β s (abT g hr d p α β s) := by
  intro d
  induction d with
  | zero => exact step 0 (fun d' h => by cases h)
  | succ d ih => exact step (d + 1) (fun d' h => by cases h; exact ih)
where
  /-- one level: the probe, the node without moves, the horizon, and, given the contract one level down, the move loop with
  its store (`abT` matches on the depth only after the probe, so the level is proved for a variable depth) -/
  step (d : Nat)
      (ih : ∀ d', d = d' + 1 → ∀ p α β s, U p d' → g.loss ≤ α → α < β → β ≤ -g.loss → (∀ q e, s.tt q = some e → E q e) →
        NodeOk g E d' p α β s (abT g hr d' p α β s)) :
      ∀ p α β s, U p d → g.loss ≤ α → α < β → β ≤ -g.loss → (∀ q e, s.tt q = some e → E q e) →
        NodeOk g E d p α β s (abT g hr d p α β s) := by
    intro p α β s hUp hL h hU hs
    have hp := probe_spec (mm g d p) (s.tt p) d α β h (fun x hx hxd => huse p d x hUp (hs p x hx) hxd)
    have hfresh : s.tt p = none → probe (s.tt p) d α β = .inr (α, β) := fun h0 => by rw [h0]; rfl
    unfold NodeOk abT
    revert hp hfresh
    cases probe (s.tt p) d α β with
    | inl r => intro hp hfresh; exact ⟨hp, hs, fun h0 => by cases hfresh h0⟩
    | inr w =>
      obtain ⟨α', β'⟩ := w
      intro hp hfresh
      simp only at hp ⊢
      obtain ⟨w1, w2, w3, w4, w5⟩ := hp
      by_cases hne : (g.moves p).isEmpty = true
      · cases d <;> simp only [hne, if_true, mm] <;>
          exact ⟨Ok.refl _ _ _, hs, fun _ _ _ hne' => by cases hne'⟩
      · have hne : (g.moves p).isEmpty = false := by simpa using hne
        cases d with
        | zero =>
          simp only [hne, Bool.false_eq_true, if_false]
          refine ⟨?_, hs, fun _ d' hd => by cases hd⟩
          apply ok_widen _ _ α β α' β' w1 w2 w4 w5
          simp only [mm, hne, Bool.false_eq_true, if_false] at w4 w5 ⊢
          exact hleaf p α' β' (by omega) w3 (by omega)
        | succ d =>
          simp only [hne, Bool.false_eq_true, if_false]
          have hloop := abTLoop_sound (fun s => ∀ q e, s.tt q = some e → E q e) g.loss (abT g hr d) (mm g d) (g.child p)
            (fun s m => { s with hints := hr.onCut s.hints (d + 1) p m }) (fun m => m ∈ g.moves p)
            (fun _ _ h => h)
            (fun m a b s hm ha hab hb hs =>
              have := ih d rfl (g.child p m) a b s (hcl p d m hUp hm) ha hab hb hs
              ⟨this.1, this.2.1⟩)
            (hr.order s.hints (s.tt p) (d + 1) p (g.moves p)) α' α' β' g.loss g.loss none s
            (fun m hm => (ho _ _ _ _ _).mem_iff.mp hm) hs (by omega) (by omega) (LoopInv.init w3 (by omega))
            (fun h => by omega)
          rw [mmFold_perm _ _ ((ho s.hints (s.tt p) (d + 1) p (g.moves p)).map (g.child p))] at hloop
          have hmm : mm g (d + 1) p = mmFold (mm g d) g.loss (g.children p) := by simp [mm, hne]
          rw [← Game.children, ← hmm] at hloop
          generalize abTLoop (abT g hr d) (g.child p) _ _ α' β' g.loss none s = res at hloop
          obtain ⟨⟨r, rm⟩, s'⟩ := res
          obtain ⟨hok', hs', hch⟩ := hloop
          simp only at hok' hs' hch ⊢
          have hok := ok_widen _ _ α β α' β' w1 w2 w4 w5 hok'
          have hmove : s.tt p = none → ∀ d', d + 1 = d' + 1 → α < r → r < β →
              Chosen (mm g d') (g.child p) (· ∈ g.moves p) rm r := by
            intro h0 d' hd h1 h2
            cases hd
            have := hfresh h0
            simp only [Sum.inr.injEq, Prod.mk.injEq] at this
            obtain ⟨rfl, rfl⟩ := this
            exact hch h1 h2
          split
          · rename_i hst
            refine ⟨hok, ?_, fun h0 d' hd _ => hmove h0 d' hd⟩
            intro q e hq
            simp only [TState.store] at hq
            split at hq
            · cases hq
              subst q
              exact hstore p (d + 1) _ hUp rfl hst
                (store_class (fun b => EntryTrue (mm g (d + 1) p) { depth := d + 1, value := r, bound := b, mv := rm })
                  .upper .lower .exact hok hok' w2 id id id)
            · exact hs' q e hq
          · exact ⟨hok, hs', fun h0 d' hd _ => hmove h0 d' hd⟩

theorem abT_ok [DecidableEq P] (g : Game P μ) (hr : Heur P μ H) (ho : hr.IsOrder) (hleaf : LeafOk g)
    (draft : P → Nat) (hdraft : ∀ p m, m ∈ g.moves p → 0 < draft p → draft (g.child p m) + 1 = draft p) :
    ∀ d p α β s, draft p = d → g.loss ≤ α → α < β → β ≤ -g.loss → Inv g draft s →
      Ok (mm g d p) (abT g hr d p α β s).1.1 α β ∧ Inv g draft (abT g hr d p α β s).2 := by
  intro d p α β s hd hL h hU hs
  obtain ⟨h1, h2, -⟩ := abT_sound g hr ho hleaf (fun p d => draft p = d) (fun p e => EntryValid g p e ∧ e.depth ≤ draft p)
    (fun p d m hp hm => by have := hdraft p m hm (by omega); omega)
    (fun p d e hp he hde => by
      have : e.depth = d := by have := he.2; omega
      rw [← this]; exact he.1)
    (fun p d e hp hde _ ht => ⟨by unfold EntryValid; rw [hde]; exact ht, by omega⟩)
    d p α β s hd hL h hU (fun q e hq => ⟨hs.1 q e hq, hs.2 q e hq⟩)
  exact ⟨h1, fun q e hq => (h2 q e hq).1, fun q e hq => (h2 q e hq).2⟩

theorem abT_root_exact [DecidableEq P] (g : Game P μ) (hr : Heur P μ H) (ho : hr.IsOrder) (hleaf : LeafOk g)
    (draft : P → Nat) (hdraft : ∀ p m, m ∈ g.moves p → 0 < draft p → draft (g.child p m) + 1 = draft p)
    (d : Nat) (p : P) (s : TState P μ H) (hd : draft p = d) (hs : Inv g draft s) (hneg : g.loss < 0)
    (hlo : g.loss ≤ mm g d p) (hhi : mm g d p ≤ -g.loss) :
    (abT g hr d p g.loss (-g.loss) s).1.1 = mm g d p ∧ Inv g draft (abT g hr d p g.loss (-g.loss) s).2 := by
  obtain ⟨hok, hs'⟩ := abT_ok g hr ho hleaf draft hdraft d p g.loss (-g.loss) s hd (Int.le_refl _) (by omega)
    (Int.le_refl _) hs
  exact ⟨hok.eq hlo hhi, hs'⟩

theorem inv_empty (g : Game P μ) (draft : P → Nat) (h : H) : Inv g draft ({ tt := fun _ => none, hints := h } : TState P μ H) :=
  And.intro (fun _ _ hx => by cases hx) (fun _ _ hx => by cases hx)

theorem inv_deepen (g : Game P μ) (draft draft' : P → Nat) (hle : ∀ p, draft p ≤ draft' p) (s : TState P μ H)
    (hs : Inv g draft s) : Inv g draft' s :=
  And.intro hs.1 (fun p e hx => Nat.le_trans (hs.2 p e hx) (hle p))

end TT

def Heur.plain (order : P → List μ → List μ) : Heur P μ Unit :=
  { order := fun _ _ _ p l => order p l, onCut := fun h _ _ _ => h, storable := fun _ => false }

def TState.empty : TState P μ Unit := { tt := fun _ => none, hints := () }

theorem abTLoop_plain (f : P → Int → Int → TState P μ Unit → (Int × Option μ) × TState P μ Unit)
    (f' : P → Int → Int → Int × Option μ) (child : μ → P) (cut : TState P μ Unit → μ → TState P μ Unit) (s₀ : TState P μ Unit)
    (hf : ∀ c a b, f c a b s₀ = (f' c a b, s₀)) (hcut : ∀ m, cut s₀ m = s₀) (ms : List μ) (α β best : Int) (bm : Option μ) :
    abTLoop f child cut ms α β best bm s₀ = (abLoop (fun c a b => (f' c a b).1) child ms α β best bm, s₀) := by
  induction ms generalizing α best bm with
  | nil => rfl
  | cons m ms ih =>
    simp only [abTLoop, abLoop, hf, hcut, ih]
    rw [apply_ite (fun x => (x, s₀))]

theorem abT_plain [DecidableEq P] (g : Game P μ) (order : P → List μ → List μ) :
    ∀ d p α β, abT g (Heur.plain order) d p α β TState.empty = (ab g order d p α β, TState.empty) := by
  intro d
  induction d with
  | zero =>
    intro p α β
    unfold abT ab
    simp only [TState.empty, probe]
    split <;> rfl
  | succ d ih =>
    intro p α β
    unfold abT ab
    rw [show probe ((TState.empty : TState P μ Unit).tt p) (d + 1) α β = .inr (α, β) from rfl]
    simp only
    split
    · rfl
    · have e := abTLoop_plain (abT g (Heur.plain order) d) (ab g order d) (g.child p)
        (fun s m => { s with hints := (Heur.plain order).onCut s.hints (d + 1) p m }) TState.empty ih (fun _ => rfl)
      simp only [e]
      rfl

theorem ab_sound (g : Game P μ) (order : P → List μ → List μ) (ho : IsOrder order) (hleaf : LeafOk g)
    (d : Nat) (p : P) (α β : Int) (hL : g.loss ≤ α) (h : α < β) (hU : β ≤ -g.loss) :
    Ok (mm g d p) (ab g order d p α β).1 α β ∧
    (∀ d', d = d' + 1 → (g.moves p).isEmpty = false → α < (ab g order d p α β).1 → (ab g order d p α β).1 < β →
      Chosen (mm g d') (g.child p) (· ∈ g.moves p) (ab g order d p α β).2 (ab g order d p α β).1) := by
  have _ : DecidableEq P := Classical.typeDecidableEq P
  have := abT_sound g (Heur.plain order) (fun _ _ _ p l => ho p l) hleaf (fun _ _ => True) (fun _ _ => False)
    (fun _ _ _ _ _ => trivial) (fun _ _ _ _ h _ => h.elim) (fun _ _ _ _ _ h => by cases h)
    d p α β TState.empty trivial hL h hU (fun _ _ h => by cases h)
  unfold NodeOk at this
  rw [abT_plain] at this
  exact ⟨this.1, this.2.2 rfl⟩

variable (g : Game P μ) (order : P → List μ → List μ)

theorem ab_ok (ho : IsOrder order) (hleaf : LeafOk g) :
    ∀ d p α β, g.loss ≤ α → α < β → β ≤ -g.loss → Ok (mm g d p) (ab g order d p α β).1 α β :=
  fun d p α β hL h hU => (ab_sound g order ho hleaf d p α β hL h hU).1

theorem ab_move (ho : IsOrder order) (hleaf : LeafOk g)
    (d : Nat) (p : P) (α β : Int) (hne : (g.moves p).isEmpty = false)
    (hL : g.loss ≤ α) (h : α < β) (hU : β ≤ -g.loss)
    (hlo : α < (ab g order (d + 1) p α β).1) (hhi : (ab g order (d + 1) p α β).1 < β) :
    ∃ m, (ab g order (d + 1) p α β).2 = some m ∧ m ∈ g.moves p ∧
      - mm g d (g.child p m) = (ab g order (d + 1) p α β).1 :=
  (ab_sound g order ho hleaf (d + 1) p α β hL h hU).2 d rfl hne hlo hhi

theorem root_exact (ho : IsOrder order) (hleaf : LeafOk g) (d : Nat) (p : P) (hneg : g.loss < 0)
    (hlo : g.loss ≤ mm g d p) (hhi : mm g d p ≤ -g.loss) :
    (ab g order d p g.loss (-g.loss)).1 = mm g d p :=
  (ab_ok g order ho hleaf d p g.loss (-g.loss) (Int.le_refl _) (by omega) (Int.le_refl _)).eq hlo hhi

theorem order_irrelevant (o₁ o₂ : P → List μ → List μ) (h₁ : IsOrder o₁) (h₂ : IsOrder o₂) (hleaf : LeafOk g)
    (d : Nat) (p : P) (hneg : g.loss < 0) (hlo : g.loss ≤ mm g d p) (hhi : mm g d p ≤ -g.loss) :
    (ab g o₁ d p g.loss (-g.loss)).1 = (ab g o₂ d p g.loss (-g.loss)).1 := by
  rw [root_exact g o₁ h₁ hleaf d p hneg hlo hhi, root_exact g o₂ h₂ hleaf d p hneg hlo hhi]

theorem best_move_optimal (ho : IsOrder order) (hleaf : LeafOk g) (d : Nat) (p : P)
    (hne : (g.moves p).isEmpty = false)
    (hlo : g.loss < mm g (d + 1) p) (hhi : mm g (d + 1) p < -g.loss) :
    ∃ m, (ab g order (d + 1) p g.loss (-g.loss)).2 = some m ∧ m ∈ g.moves p ∧
      - mm g d (g.child p m) = mm g (d + 1) p := by
  have hv := root_exact g order ho hleaf (d + 1) p (by omega) (by omega) (by omega)
  obtain ⟨m, h1, h2, h3⟩ := ab_move g order ho hleaf d p g.loss (-g.loss) hne (Int.le_refl _) (by omega) (Int.le_refl _)
    (by omega) (by omega)
  exact ⟨m, h1, h2, by omega⟩

theorem best_move_mem_optimal (ho : IsOrder order) (hleaf : LeafOk g) (d : Nat) (p : P)
    (hne : (g.moves p).isEmpty = false)
    (hlo : g.loss < mm g (d + 1) p) (hhi : mm g (d + 1) p < -g.loss) :
    ∃ m, (ab g order (d + 1) p g.loss (-g.loss)).2 = some m ∧ m ∈ optimalMoves g (d + 1) p := by
  obtain ⟨m, h1, h2, h3⟩ := best_move_optimal g order ho hleaf d p hne hlo hhi
  refine ⟨m, h1, ?_⟩
  simp only [optimalMoves, List.mem_filter, beq_iff_eq]
  exact ⟨h2, h3⟩

theorem optimalMoves_ne_nil (d : Nat) (p : P) (hne : (g.moves p).isEmpty = false) (hlo : g.loss < mm g (d + 1) p) :
    optimalMoves g (d + 1) p ≠ [] := by
  have hm := List.isEmpty_eq_false_iff.mp hne
  rcases (le_mm_succ_iff g hm d _).mp (Int.le_refl _) with h | ⟨m, hm', h⟩
  · omega
  · apply List.ne_nil_of_mem (a := m)
    simp only [optimalMoves, List.mem_filter, beq_iff_eq]
    exact ⟨hm', Int.le_antisymm ((le_mm_succ_iff g hm d _).mpr (Or.inr ⟨m, hm', Int.le_refl _⟩)) h⟩

theorem mm_ge_loss (hterm : ∀ p, g.loss ≤ g.term p) (hleafLo : ∀ p, g.loss ≤ g.leafExact p) :
    ∀ d p, g.loss ≤ mm g d p := by
  intro d p
  cases d with
  | zero => simp only [mm]; split; exact hterm p; exact hleafLo p
  | succ d => simp only [mm]; split; exact hterm p; exact le_mmFold _ _ _

theorem mm_le_of_moves (hterm : ∀ p, g.loss ≤ g.term p) (hleafLo : ∀ p, g.loss ≤ g.leafExact p)
    (hleafHi : ∀ p, g.leafExact p ≤ -g.loss) (hneg : g.loss ≤ 0)
    (d : Nat) (p : P) (hne : (g.moves p).isEmpty = false) : mm g d p ≤ -g.loss := by
  cases d with
  | zero => simp only [mm, hne]; exact hleafHi p
  | succ d =>
    simp only [mm, hne]
    apply mmFold_le _ _ _ _ (by omega)
    intro c _
    have := mm_ge_loss g hterm hleafLo d c
    omega

theorem root_exact' (ho : IsOrder order) (hleaf : LeafOk g) (hneg : g.loss < 0)
    (hterm : ∀ p, g.loss ≤ g.term p) (hleafLo : ∀ p, g.loss ≤ g.leafExact p) (hleafHi : ∀ p, g.leafExact p ≤ -g.loss)
    (d : Nat) (p : P) : (ab g order d p g.loss (-g.loss)).1 = mm g d p := by
  by_cases hne : (g.moves p).isEmpty = true
  · cases d <;> simp [ab, mm, hne]
  · have hne' : (g.moves p).isEmpty = false := by simpa using hne
    exact root_exact g order ho hleaf d p hneg (mm_ge_loss g hterm hleafLo d p)
      (mm_le_of_moves g hterm hleafLo hleafHi (by omega) d p hne')

theorem searchGame_leafOk (s : SearchGame P μ) (qorder : P → List μ → List μ) (hq : IsOrder qorder) :
    LeafOk (s.game qorder) := by
  intro p a b _ hab _
  simp only [SearchGame.game]
  split
  · exact quiescence_ok s.qgame qorder hq s.fuel p a b hab
  · exact Ok.refl _ _ _

theorem searchGame_mm_qorder (s : SearchGame P μ) (q₁ q₂ : P → List μ → List μ) (d : Nat) (p : P) :
    mm (s.game q₁) d p = mm (s.game q₂) d p := by
  induction d generalizing p with
  | zero => rfl
  | succ d ih =>
    simp only [mm]
    show (if (s.moves p).isEmpty then s.term p else _) = (if (s.moves p).isEmpty then s.term p else _)
    split
    · rfl
    · exact mmFold_congr _ _ _ _ (fun c _ => ih c)

end Inkayaku.Minimax

namespace Inkayaku.SpecSearch
open Inkayaku.Board Inkayaku.Eval Inkayaku.Gen Inkayaku.Minimax

theorem lossScore_val : lossScore = -16777216 := by decide

theorem tables_bounded : Within 50 whiteTables ∧ Within 50 blackTables := by decide +kernel

/-- the static evaluation of the current build is far inside the score range: 137600 of material (`pieceValue_bound`) and
768 · 50 of piece-square values -/
theorem evaluateOngoing_bound (b : Board) : -176000 ≤ evaluateOngoing b ∧ evaluateOngoing b ≤ 176000 := by
  unfold evaluateOngoing
  have hw := pieceValue_bound b.white
  have hb := pieceValue_bound b.black
  have := pieceSquareValue_bound (by decide) tables_bounded.1 tables_bounded.2 b
  omega

theorem factor_cases (c : Nat) : Search.factor c = 1 ∨ Search.factor c = -1 := by
  unfold Search.factor; split <;> simp

theorem standPat_bound (b : Board) (c : Nat) :
    -176000 ≤ Search.evalFor b c true ∧ Search.evalFor b c true ≤ 176000 := by
  unfold Search.evalFor evaluate
  simp only [if_true]
  have h := evaluateOngoing_bound b
  have hd := drawScore_val
  rcases factor_cases c with hf | hf <;> rw [hf] <;> split <;> omega

theorem term_value (b : Board) :
    Search.evalFor b b.turn false = if isCurrentInCheck b then lossScore + (b.fullmove : Int) else 0 := by
  unfold Search.evalFor Search.factor evaluate
  have hd := drawScore_val
  have hl : lossScore = -winScore := rfl
  by_cases h : (b.turn == 0) = true <;> by_cases hc : isCurrentInCheck b = true <;> simp [h, hc, hd, hl] <;> omega

theorem term_ge_loss (b : Board) : lossScore ≤ Search.evalFor b b.turn false := by
  have hl := lossScore_val
  rw [term_value]
  split <;> omega

theorem isOrder_natural : IsOrder natural := fun _ l => List.Perm.refl l
theorem isOrder_byMvvLva : IsOrder byMvvLva := fun _ l => List.mergeSort_perm l _
theorem isOrder_searchOrder : IsOrder searchOrder := isOrder_byMvvLva

theorem game_leafOk (qorder : Pos → List Move → List Move) (hq : IsOrder qorder) : LeafOk (chess.game qorder) :=
  searchGame_leafOk chess qorder hq

theorem game_loss (qorder : Pos → List Move → List Move) : (chess.game qorder).loss = lossScore := rfl

theorem game_term_ge (qorder : Pos → List Move → List Move) (p : Pos) :
    (chess.game qorder).loss ≤ (chess.game qorder).term p := term_ge_loss p.1

theorem game_leaf_bound (qorder : Pos → List Move → List Move) (p : Pos) :
    -176000 ≤ (chess.game qorder).leafExact p ∧ (chess.game qorder).leafExact p ≤ 176000 := by
  show -176000 ≤ (if chess.noisy p then Qexact chess.qgame chess.fuel p else chess.static p) ∧
    (if chess.noisy p then Qexact chess.qgame chess.fuel p else chess.static p) ≤ 176000
  split
  · exact Qexact_bound chess.qgame 176000 (fun p => standPat_bound p.1 p.1.turn) _ _
  · exact standPat_bound p.1 p.1.turn

/-- minimax value of a position without `searchmoves` restriction -/
def V (d : Nat) (b : Board) : Int := mm game d (b, [])

theorem moves_nil (b : Board) : game.moves (b, []) = genLegal b := by
  simp [game, SearchGame.game, chess, rootMoves]

theorem V_term (d : Nat) (b : Board) (h : genLegal b = []) : V d b = Search.evalFor b b.turn false :=
  mm_term game (p := (b, [])) (by rw [moves_nil]; exact h) d

theorem V_zero_eq (b : Board) (h : genLegal b ≠ []) : V 0 b = game.leafExact (b, []) :=
  mm_zero_moves game (p := (b, [])) (by rw [moves_nil]; exact h)

theorem V_zero (b : Board) (h : genLegal b ≠ []) : -176000 ≤ V 0 b ∧ V 0 b ≤ 176000 := by
  rw [V_zero_eq b h]
  exact game_leaf_bound byMvvLva (b, [])

theorem V_succ (d : Nat) (b : Board) (h : genLegal b ≠ []) :
    V (d + 1) b = mmFold (fun m => V d (make b m)) lossScore (genLegal b) := by
  show mm game (d + 1) (b, []) = _
  rw [mm_succ_moves game (by rw [moves_nil]; exact h), Game.children, mmFold_map, moves_nil]
  rfl

/-- clocks that leave room for `d` more plies in the range where mate scores and static values cannot be confused -/
def Small (b : Board) (d : Nat) : Prop := b.turn ≤ 1 ∧ b.fullmove + d < 8388608

theorem Small.make {b : Board} {d : Nat} (hs : Small b (d + 1)) (m : Move) : Small (make b m) d := by
  unfold Small at *
  rw [make_turn, make_fullmove]
  omega

/-- what `mm_between` needs of a board whose clocks leave room for `d` more plies, for the bounds "mated on the spot" and "mates
with the next move": the terminal value and every static value (±176000) lie between them, and a move swaps them -/
theorem board_bracket (b : Board) (d : Nat) (hs : Small b d) :
    (lossScore + (b.fullmove : Int) ≤ Search.evalFor b b.turn false ∧
      Search.evalFor b b.turn false ≤ winScore - ((b.fullmove : Int) + (b.turn : Int))) ∧
    (∀ x : Int, -176000 ≤ x → x ≤ 176000 →
      lossScore + (b.fullmove : Int) ≤ x ∧ x ≤ winScore - ((b.fullmove : Int) + (b.turn : Int))) ∧
    lossScore ≤ winScore - ((b.fullmove : Int) + (b.turn : Int)) ∧
    ∀ m, lossScore + (b.fullmove : Int) ≤ - (winScore - (((make b m).fullmove : Int) + ((make b m).turn : Int))) ∧
      - (lossScore + ((make b m).fullmove : Int)) ≤ winScore - ((b.fullmove : Int) + (b.turn : Int)) := by
  obtain ⟨h1, h2⟩ := hs
  have hw := winScore_val
  have hl := lossScore_val
  refine ⟨?_, fun x _ _ => by omega, by omega, fun m => ?_⟩
  · rw [term_value]; split <;> omega
  · rw [make_turn, make_fullmove]; omega

/-- every value lies between "mated on the spot" and "mates with the next move", at every node of the game (a `searchmoves`
restriction included); the clock bound keeps both apart from the static values -/
theorem game_between (d : Nat) (p : Pos) (hs : Small p.1 d) :
    lossScore + (p.1.fullmove : Int) ≤ mm game d p ∧ mm game d p ≤ winScore - ((p.1.fullmove : Int) + (p.1.turn : Int)) :=
  mm_between game (fun d p => Small p.1 d) (fun p => lossScore + (p.1.fullmove : Int))
    (fun p => winScore - ((p.1.fullmove : Int) + (p.1.turn : Int)))
    (fun _ _ m hp _ => hp.make m)
    (fun d p hp _ => (board_bracket p.1 d hp).1)
    (fun p hp _ => (board_bracket p.1 0 hp).2.1 _ (game_leaf_bound byMvvLva p).1 (game_leaf_bound byMvvLva p).2)
    (fun _ p hp => (board_bracket p.1 _ hp).2.2.1)
    (fun _ p m hp _ => (board_bracket p.1 _ hp).2.2.2 m) d p hs

theorem V_bounds (d : Nat) (b : Board) (hs : Small b d) :
    lossScore + (b.fullmove : Int) ≤ V d b ∧ V d b ≤ winScore - ((b.fullmove : Int) + (b.turn : Int)) :=
  game_between d (b, []) hs

/-! ## The board instance: forced mates

`X` is the full-move number at which the mate stands.  `ForcedMate` and "the value reaches `winScore - X`" unfold in the same two
steps of one ply each: `threshold_move` (the mover reaches "mates by move `X`" iff some move leaves the opponent at most "mated at
move `X`") and `threshold_reply` (the opponent is at most "mated at move `X`" iff he is mated now, or has replies, is searched one
ply deeper, and every reply leaves the mover at least "mates by move `X`").  Hence `mate_threshold` is one induction on the depth. -/

theorem mateFull_grandchild (b : Board) (m m' : Move) (n : Nat) (ht : b.turn ≤ 1) :
    mateFull (make (make b m) m') n = mateFull b (n + 1) := by
  unfold mateFull
  rw [make_turn, make_turn, make_fullmove, make_fullmove, make_turn]
  omega

theorem le_V_succ_iff {b : Board} (h : genLegal b ≠ []) (d : Nat) (X : Int) :
    X ≤ V (d + 1) b ↔ X ≤ lossScore ∨ ∃ m ∈ genLegal b, X ≤ - V d (make b m) := by
  rw [V_succ d b h, le_mmFold_iff]

theorem V_succ_le_iff {b : Board} (h : genLegal b ≠ []) (d : Nat) (B : Int) :
    V (d + 1) b ≤ B ↔ lossScore ≤ B ∧ ∀ m ∈ genLegal b, - V d (make b m) ≤ B := by
  rw [V_succ d b h, mmFold_le_iff]

theorem threshold_move (d : Nat) (b : Board) (X : Int) (hfm : b.fullmove < 8388608) (hX : X ≤ 8388608) :
    winScore - X ≤ V d b ↔ ∃ d', d = d' + 1 ∧ ∃ m ∈ genLegal b, V d' (make b m) ≤ lossScore + X := by
  have hw := winScore_val
  have hl := lossScore_val
  by_cases ht : genLegal b = []
  · rw [V_term _ b ht, term_value]
    exact ⟨fun hv => by split at hv <;> omega, fun ⟨_, _, m, hm, _⟩ => by rw [ht] at hm; cases hm⟩
  · cases d with
    | zero =>
      have := V_zero b ht
      exact ⟨fun hv => by omega, fun ⟨_, h, _⟩ => by cases h⟩
    | succ d =>
      rw [le_V_succ_iff ht d]
      constructor
      · rintro (h | ⟨m, hm, h⟩)
        · omega
        · exact ⟨d, rfl, m, hm, by omega⟩
      · rintro ⟨d', hd, m, hm, hv⟩
        cases hd
        exact Or.inr ⟨m, hm, by omega⟩

theorem threshold_reply (d : Nat) (c : Board) (X : Int) (hlo : (c.fullmove : Int) ≤ X) (hX : X ≤ 8388608) :
    V d c ≤ lossScore + X ↔
      Checkmated c ∨ (genLegal c ≠ [] ∧ ∃ d', d = d' + 1 ∧ ∀ m' ∈ genLegal c, winScore - X ≤ V d' (make c m')) := by
  have hw := winScore_val
  have hl := lossScore_val
  by_cases ht : genLegal c = []
  · rw [V_term _ c ht, term_value]
    unfold Checkmated
    by_cases hc : isCurrentInCheck c = true
    · simp only [hc, if_true, ht, ne_eq, not_true_eq_false, false_and, or_false, and_self]
      exact ⟨fun _ => trivial, fun _ => by omega⟩
    · simp only [hc, if_false, ht, ne_eq, not_true_eq_false, false_and, or_false, and_false, Bool.false_eq_true]
      exact ⟨fun h => by omega, fun h => h.elim⟩
  · cases d with
    | zero =>
      have := V_zero c ht
      constructor
      · intro h; omega
      · rintro (⟨h, _⟩ | ⟨_, d', hd, _⟩)
        · exact absurd h ht
        · omega
    | succ d =>
      rw [V_succ_le_iff ht d]
      constructor
      · rintro ⟨_, hall⟩
        exact Or.inr ⟨ht, d, rfl, fun m' hm' => by have := hall m' hm'; omega⟩
      · rintro (⟨h, _⟩ | ⟨_, d', hd, hall⟩)
        · exact absurd h ht
        · cases hd
          exact ⟨by omega, fun m' hm' => by have := hall m' hm'; omega⟩

/-- **mate threshold**: a value that reaches "mates by the `K`-th move" comes from a forced mate in `K` (every depth), and a
forced mate in `K` is seen from depth `2K − 1` on -/
theorem mate_threshold : ∀ d b K, Small b d → mateFull b K ≤ 8388608 →
    (winScore - mateFull b K ≤ V d b → ForcedMate K b) ∧
    (2 * K ≤ d + 1 → ForcedMate K b → winScore - mateFull b K ≤ V d b) := by
  have hw := winScore_val
  have hl := lossScore_val
  intro d
  induction d using Nat.strongRecOn with
  | ind d ih =>
    intro b K hs hK
    cases K with
    | zero =>
      have := (V_bounds d b hs).2
      exact ⟨fun hv => by unfold mateFull at hv; omega, fun _ h => h.elim⟩
    | succ K =>
      obtain ⟨h1, h2⟩ := hs
      -- both sides unfold to "some move `m`, after which the opponent is mated or every reply …"
      have hreply : ∀ m, (make b m).fullmove ≤ mateFull b (K + 1) := fun m => by
        rw [make_fullmove]; unfold mateFull; omega
      have hgrand : ∀ m m' d', d = d' + 1 + 1 → Small (make (make b m) m') d' ∧
          mateFull (make (make b m) m') K = mateFull b (K + 1) := fun m m' d' hd =>
        ⟨by subst hd; exact Small.make (Small.make ⟨h1, h2⟩ m) m',
          mateFull_grandchild b m m' K h1⟩
      rw [threshold_move d b _ (by omega) hK]
      constructor
      · rintro ⟨d1, rfl, m, hm, hv⟩
        refine ⟨m, hm, ?_⟩
        rcases (threshold_reply d1 _ _ (hreply m) hK).mp hv with h | ⟨hne, d', rfl, hall⟩
        · exact Or.inl h
        · refine Or.inr ⟨hne, fun m' hm' => ?_⟩
          obtain ⟨g1, g2⟩ := hgrand m m' d' rfl
          exact (ih d' (by omega) _ K g1 (by rw [g2]; exact hK)).1 (by rw [g2]; exact hall m' hm')
      · rintro hd ⟨m, hm, hk⟩
        obtain ⟨d1, rfl⟩ : ∃ d1, d = d1 + 1 := ⟨d - 1, by omega⟩
        refine ⟨d1, rfl, m, hm, (threshold_reply d1 _ _ (hreply m) hK).mpr ?_⟩
        rcases hk with h | ⟨hne, hall⟩
        · exact Or.inl h
        · cases K with
          | zero =>
            obtain ⟨m', hm'⟩ := List.exists_mem_of_ne_nil _ hne
            exact (hall m' hm').elim
          | succ K =>
            obtain ⟨d', rfl⟩ : ∃ d', d1 = d' + 1 := ⟨d1 - 1, by omega⟩
            refine Or.inr ⟨hne, d', rfl, fun m' hm' => ?_⟩
            obtain ⟨g1, g2⟩ := hgrand m m' d' rfl
            rw [← g2]
            exact (ih d' (by omega) _ (K + 1) g1 (by rw [g2]; exact hK)).2 (by omega) (hall m' hm')

theorem forcedMate_iff (d : Nat) (b : Board) (K : Nat) (hs : Small b d) (hK : mateFull b K ≤ 8388608) (hd : 2 * K ≤ d + 1) :
    ForcedMate K b ↔ winScore - mateFull b K ≤ V d b :=
  ⟨(mate_threshold d b K hs hK).2 hd, (mate_threshold d b K hs hK).1⟩

theorem keeps_of_value (d : Nat) (b : Board) (K : Nat) (m : Move) (hs : Small b (d + 1))
    (hK : mateFull b (K + 1) ≤ 8388608)
    (hv : V d (make b m) ≤ lossScore + mateFull b (K + 1)) : KeepsMate (ForcedMate K) b m := by
  rcases (threshold_reply d _ _ (by rw [make_fullmove]; unfold mateFull; omega) hK).mp hv with h | ⟨hne, d', hd, hall⟩
  · exact Or.inl h
  · refine Or.inr ⟨hne, fun m' hm' => ?_⟩
    have g2 := mateFull_grandchild b m m' K hs.1
    exact (mate_threshold d' _ K
      ⟨by rw [make_turn, make_turn]; omega,
        by rw [make_fullmove, make_fullmove, make_turn]; have := hs.1; have := hs.2; omega⟩
      (by rw [g2]; exact hK)).1 (by rw [g2]; exact hall m' hm')

theorem root_bounds (d : Nat) (b : Board) (only : List String) (hs : Small b (d + 1)) (hfm : 1 ≤ b.fullmove) :
    lossScore < mm game (d + 1) (b, only) ∧ mm game (d + 1) (b, only) < winScore := by
  have := game_between (d + 1) (b, only) hs
  simp only at this
  omega

end Inkayaku.SpecSearch
