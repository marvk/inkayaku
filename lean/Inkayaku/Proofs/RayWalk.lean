import Inkayaku.Spec.Rays
/-!
Membership in the attack set computed by the ray walk of `Spec.Rays`:
a square is in `scan occ r` iff it occurs on the ray and every ray square before it is empty.
No distinctness assumption on the ray is needed (the first occurrence decides).
-/
namespace Inkayaku.RayWalk
open Inkayaku.Rays

theorem testBit_bit (s t : Nat) : (bit s).testBit t = decide (s = t) := by
  simp [bit, Nat.one_shiftLeft, Nat.testBit_two_pow]

/-- one equation for both defining cases of `scan` (`[s]` and `s :: t :: rest`) -/
theorem scan_cons (occ s : Nat) (rest : List Nat) :
    scan occ (s :: rest) = bit s ||| (if occ.testBit s then 0 else scan occ rest) := by
  cases rest with
  | nil => simp [scan]
  | cons a t => rfl

theorem scan_testBit (occ : Nat) (r : List Nat) (t : Nat) :
    (scan occ r).testBit t = true ↔
      ∃ i, r[i]? = some t ∧ ∀ q ∈ r.take i, occ.testBit q = false := by
  induction r with
  | nil => simp [scan]
  | cons s rest ih =>
    rw [scan_cons, Nat.testBit_or, testBit_bit, Bool.or_eq_true, decide_eq_true_eq]
    constructor
    · rintro (h | h)
      · exact ⟨0, by simp [h], by simp⟩
      · by_cases hs : occ.testBit s = true
        · simp [hs] at h
        · simp only [hs, Bool.false_eq_true, if_false] at h
          obtain ⟨i, hi, hfree⟩ := ih.mp h
          refine ⟨i + 1, by simpa using hi, ?_⟩
          intro q hq
          simp only [List.take_succ_cons, List.mem_cons] at hq
          rcases hq with rfl | hq
          · simpa using hs
          · exact hfree q hq
    · rintro ⟨i, hi, hfree⟩
      cases i with
      | zero => left; simpa using hi
      | succ i =>
        right
        have hs : occ.testBit s = false := hfree s (by simp)
        simp only [hs, Bool.false_eq_true, if_false]
        apply ih.mpr
        refine ⟨i, by simpa using hi, ?_⟩
        intro q hq
        exact hfree q (by simp [hq])

theorem foldl_scan_testBit (occ : Nat) (rs : List (List Nat)) (acc t : Nat) :
    (rs.foldl (fun acc r => acc ||| scan occ r) acc).testBit t = true ↔
      acc.testBit t = true ∨ ∃ r ∈ rs, (scan occ r).testBit t = true := by
  induction rs generalizing acc with
  | nil => simp
  | cons r rs ih =>
    rw [List.foldl_cons, ih, Nat.testBit_or, Bool.or_eq_true]
    simp only [List.mem_cons, exists_eq_or_imp]
    exact or_assoc

theorem slideOn_testBit (occ : Nat) (rs : List (List Nat)) (t : Nat) :
    (slideOn occ rs).testBit t = true ↔ ∃ r ∈ rs, (scan occ r).testBit t = true := by
  simp [slideOn, foldl_scan_testBit]

theorem slide_testBit (dirs : List Dir) (sq occ t : Nat) :
    (slide dirs sq occ).testBit t = true ↔
      ∃ d ∈ dirs, ∃ i, (ray sq d)[i]? = some t ∧ ∀ q ∈ (ray sq d).take i, occ.testBit q = false := by
  simp only [slide, slideOn_testBit, rays, List.mem_map, scan_testBit]
  constructor
  · rintro ⟨r, ⟨d, hd, rfl⟩, h⟩; exact ⟨d, hd, h⟩
  · rintro ⟨d, hd, h⟩; exact ⟨_, ⟨d, hd, rfl⟩, h⟩

end Inkayaku.RayWalk
