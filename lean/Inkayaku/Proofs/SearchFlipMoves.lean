import Inkayaku.Proofs.SearchFlipWf
import Inkayaku.Proofs.GenSpecStruct
import Inkayaku.Proofs.Successor
import Inkayaku.Proofs.WfStepProof
import Inkayaku.Model.SpecSearch
/-!
# C11 (search half): legal moves, captures and the successor of the BOARD MODEL commute with the colour flip

`FlipRel k c c'` – both boards are well-formed with clock budget `k` and their abstractions are related by `SFlip`
(i.e. `c'` is `flipBoard c` up to the scratch words and the full-move number, `flipRel_vis`).

Route: C01 (`GenSpec.genPseudo_iff`: `genPseudo` = the rules' pseudo-legal moves), C02 (`Successor.make_eq_apply`: `make` =
the rules' successor), the Spec-level equivariance of `Proofs/SearchFlipRules.lean`, and back through `flip_of_sflip`.
-/
namespace Inkayaku.SearchFlip
open Inkayaku.Board Inkayaku.WF Inkayaku.Abs Inkayaku.Generate Inkayaku.Check Inkayaku.Eval Inkayaku.Search
  Inkayaku.SpecSearch

def FlipRel (k : Nat) (c c' : Board) : Prop := Inv k c ∧ Inv k c' ∧ SFlip (abs c) (abs c')

theorem FlipRel.symm {k : Nat} {c c' : Board} (h : FlipRel k c c') : FlipRel k c' c := ⟨h.2.1, h.1, h.2.2.symm⟩

theorem FlipRel.mono {k k' : Nat} {c c' : Board} (hk : k' ≤ k) (h : FlipRel k c c') : FlipRel k' c c' :=
  ⟨Inv_mono hk h.1, Inv_mono hk h.2.1, h.2.2⟩

theorem inv_flipBoard {k : Nat} {b : Board} (h : Inv k b) : Inv k (flipBoard b) := ⟨wf_flipBoard h.1, h.2.1, h.2.2⟩

theorem flipRel_root {k : Nat} {b : Board} (h : Inv k b) : FlipRel k b (flipBoard b) :=
  ⟨h, inv_flipBoard h, abs_flipBoard h.1⟩

theorem flipRel_vis {k : Nat} {c c' : Board} (h : FlipRel k c c') :
    vis c' = vis { flipBoard c with fullmove := c'.fullmove } :=
  flip_of_sflip (struct_of_wf h.1.1).1 (struct_of_wf h.2.1.1).1 (struct_of_wf h.1.1).2 (struct_of_wf h.2.1.1).2 h.2.2

theorem flipRel_turn {k : Nat} {c c' : Board} (h : FlipRel k c c') : c'.turn = 1 - c.turn ∧ c.turn ≤ 1 :=
  ⟨abs_turn_eq (struct_of_wf h.1.1).2 (struct_of_wf h.2.1.1).2 h.2.2.turn, (struct_of_wf h.1.1).2⟩

theorem factor_flip {t : Nat} (ht : t ≤ 1) : Search.factor (1 - t) = - Search.factor t := by
  have : t = 0 ∨ t = 1 := by omega
  rcases this with e | e <;> rw [e] <;> rfl

theorem evaluate_true_fullmove (b : Board) (n : Nat) : evaluate { b with fullmove := n } true = evaluate b true := by
  unfold evaluate evaluateOngoing pieceSquareValue gameStage
  rfl

theorem evalFor_flip_static {k : Nat} {c c' : Board} (h : FlipRel k c c') :
    evalFor c' c'.turn true = evalFor c c.turn true := by
  obtain ⟨ht, ht1⟩ := flipRel_turn h
  unfold evalFor
  rw [BoardCongr.evaluate_congr (flipRel_vis h), evaluate_true_fullmove, EvalFlip.evaluate_flip_ongoing, ht, factor_flip ht1]
  exact Int.neg_mul_neg _ _

theorem isCurrentInCheck_fullmove (b : Board) (n : Nat) : isCurrentInCheck { b with fullmove := n } = isCurrentInCheck b := rfl

theorem isCurrentInCheck_flipRel {k : Nat} {c c' : Board} (h : FlipRel k c c') :
    isCurrentInCheck c' = isCurrentInCheck c := by
  rw [BoardCongr.isCurrentInCheck_congr (flipRel_vis h), isCurrentInCheck_fullmove]
  exact EvalFlip.isCurrentInCheck_flip c (EvalFlip.wf_turn_king c h.1.1).1 (EvalFlip.wf_turn_king c h.1.1).2

theorem isValid_fullmove (b : Board) (n : Nat) : isValid { b with fullmove := n } = isValid b := rfl

/-- structural hypotheses only: used for successors before they are known to be well-formed -/
theorem isValid_of_sflip {x y : Board} (hx : Struct x) (hy : Struct y) (hxt : x.turn ≤ 1) (hyt : y.turn ≤ 1)
    (h : SFlip (abs x) (abs y)) : isValid y = isValid x := by
  have hv := flip_of_sflip hx hy hxt hyt h
  rw [BoardCongr.isValid_congr hv, isValid_fullmove]
  exact EvalFlip.isValid_flip x hxt hx.whiteKing hx.blackKing

theorem isAttack_eq {c : Board} (hwf : wf c = true) {m : Move} (hm : m ∈ genPseudo c) :
    m.isAttack = Spec.isCapture (abs c) (absMove m.f) :=
  (Successor.isCapture_eq (GenFacts.env_of_wf hwf) (GenFacts.genPseudo_facts hwf m hm).named).symm

theorem isPromotion_eq (m : Move) : m.isPromotion = (absMove m.f).promo.isSome := by
  unfold Move.isPromotion absMove NO_PIECE
  by_cases h : m.f.promotion = 0
  · simp [h]
  · have : (m.f.promotion == 0) = false := by simpa using h
    simp [h, this]

theorem pseudo_step {k : Nat} {c c' : Board} (h : FlipRel k c c') {m : Move} (hm : m ∈ genPseudo c) :
    ∃ m' ∈ genPseudo c', absMove m'.f = flipSM (absMove m.f) ∧ SFlip (abs (make c m)) (abs (make c' m')) ∧
      GenSpec.isNoisy m' = GenSpec.isNoisy m ∧ isValid (make c' m') = isValid (make c m) := by
  have hwf := h.1.1
  have hwf' := h.2.1.1
  have hsm : absMove m.f ∈ Spec.pseudoMoves (abs c) :=
    (GenSpec.genPseudo_iff hwf _).mp (List.mem_map.mpr ⟨m, hm, rfl⟩)
  have hsm' := pseudoMoves_flip h.2.2 hsm
  obtain ⟨m', hm', e⟩ := List.mem_map.mp ((GenSpec.genPseudo_iff hwf' _).mpr hsm')
  have e' : absMove m'.f = flipSM (absMove m.f) := e
  obtain ⟨hs, ht, -⟩ := GenSpec.gen_bounds hwf hm
  have hsf : SFlip (abs (make c m)) (abs (make c' m')) := by
    rw [Successor.make_eq_apply hwf hm, Successor.make_eq_apply hwf' hm', e']
    exact apply_flip h.2.2 _ hs ht
  refine ⟨m', hm', e', hsf, ?_, ?_⟩
  · unfold GenSpec.isNoisy
    rw [isAttack_eq hwf hm, isAttack_eq hwf' hm', isPromotion_eq, isPromotion_eq, e', isCapture_flip h.2.2 _ hs ht]
    rfl
  · have ht1 := (struct_of_wf hwf).2
    have ht1' := (struct_of_wf hwf').2
    exact isValid_of_sflip (GenSpec.struct_make hwf hm) (GenSpec.struct_make hwf' hm')
      (by show 1 - c.turn ≤ 1; omega) (by show 1 - c'.turn ≤ 1; omega) hsf

theorem legal_step {k : Nat} {c c' : Board} (h : FlipRel (k + 1) c c') {m : Move} (hm : m ∈ genLegal c) :
    ∃ m' ∈ genLegal c', FlipRel k (make c m) (make c' m') ∧ GenSpec.isNoisy m' = GenSpec.isNoisy m ∧
      absMove m'.f = flipSM (absMove m.f) := by
  obtain ⟨hp, hv⟩ := List.mem_filter.mp hm
  obtain ⟨m', hm', he, hsf, hn, hval⟩ := pseudo_step h hp
  have hv' : isMoveLegal c' m' = true := by
    unfold isMoveLegal at hv ⊢
    rw [hval]; exact hv
  refine ⟨m', List.mem_filter.mpr ⟨hm', hv'⟩, ⟨?_, ?_, hsf⟩, hn, he⟩
  · exact make_inv k c m h.1 (Or.inl hp) hv
  · exact make_inv k c' m' h.2.1 (Or.inl hm') hv'

theorem mem_legalCaptures {c : Board} (hwf : wf c = true) (m : Move) :
    m ∈ legalCaptures c ↔ m ∈ genLegal c ∧ GenSpec.isNoisy m = true := by
  unfold legalCaptures genLegal
  rw [GenSpec.genNonQuiescent_eq_filter hwf]
  simp only [List.mem_filter, GenSpec.isNoisy]
  constructor
  · rintro ⟨⟨a, b⟩, c⟩; exact ⟨⟨a, c⟩, b⟩
  · rintro ⟨⟨a, c⟩, b⟩; exact ⟨⟨a, b⟩, c⟩

theorem capture_step {k : Nat} {c c' : Board} (h : FlipRel (k + 1) c c') {m : Move} (hm : m ∈ legalCaptures c) :
    ∃ m' ∈ legalCaptures c', FlipRel k (make c m) (make c' m') := by
  obtain ⟨hl, hn⟩ := (mem_legalCaptures h.1.1 m).mp hm
  obtain ⟨m', hm', hr, hn', -⟩ := legal_step h hl
  exact ⟨m', (mem_legalCaptures h.2.1.1 m').mpr ⟨hm', by rw [hn', hn]⟩, hr⟩

theorem noisy_flip {k : Nat} {c c' : Board} (h : FlipRel k c c') : SpecSearch.noisy c' = SpecSearch.noisy c := by
  have key : ∀ {k : Nat} {c c' : Board}, FlipRel k c c' → SpecSearch.noisy c = true → SpecSearch.noisy c' = true := by
    intro k c c' h hn
    unfold SpecSearch.noisy at hn ⊢
    rw [List.any_eq_true] at hn ⊢
    obtain ⟨m, hm, hmn⟩ := hn
    obtain ⟨m', hm', -, -, hn', -⟩ := pseudo_step h hm
    exact ⟨m', hm', by unfold GenSpec.isNoisy at hn'; rw [hn']; exact hmn⟩
  rw [Bool.eq_iff_iff]
  exact ⟨key h.symm, key h⟩

theorem genLegal_nil_flip {k : Nat} {c c' : Board} (h : FlipRel (k + 1) c c') : genLegal c' = [] ↔ genLegal c = [] := by
  have key : ∀ {c c' : Board}, FlipRel (k + 1) c c' → genLegal c' = [] → genLegal c = [] := by
    intro c c' h h0
    cases hg : genLegal c with
    | nil => rfl
    | cons m ms =>
      obtain ⟨m', hm', -⟩ := legal_step h (by rw [hg]; exact List.mem_cons_self)
      rw [h0] at hm'; cases hm'
  exact ⟨key h, key h.symm⟩

end Inkayaku.SearchFlip
