import Inkayaku.Proofs.SearchSimCheck
import Inkayaku.Proofs.SearchPvRules
/-!
# The hash hypotheses of C08 evaluated with the hashes threaded down by XOR

`SearchSim.reachList` (C08) and `Search.level` (C16, `Proofs/SearchPvRules.lean`) are one function under two names, each used in the
statements of its property; `Search.levelH` is that enumeration with the hash of every board beside it, updated move by move as the search does
it, so that an evaluation hashes one board from scratch.  `Search.Reach` is `SearchSim.Reach` through well-formed boards, and
`HashInj b D` is `HashInjVis (ReachLe b D)` plus the ply clock (`hashInj_of_vis`); so `hashInjB` and `hashNonzeroB` may be
established by the threaded checks `injCheckH`, `hashNonzeroH`.
-/
namespace Inkayaku.SearchSim
open Inkayaku.Board Inkayaku.WF Inkayaku.BoardCongr Inkayaku.Search

theorem level_eq_reachList (b : Board) : ∀ k, Search.level b k = SearchSim.reachList b k
  | 0 => rfl
  | k + 1 => by rw [Search.level, SearchSim.reachList, level_eq_reachList b k]

theorem Reach.toPv {b : Board} {B : Nat} (hinv : Inv B b) : ∀ {k : Nat} {p : Board}, k ≤ B → SearchSim.Reach b k p →
    Search.Reach b k p
  | 0, _, _, h => h
  | k + 1, _, hk, ⟨q, m, hq, hm, hl, hv⟩ =>
    ⟨q, m, Reach.toPv hinv (by omega) hq, Reach.wf hinv (by omega) hq, hm, hl, hv⟩

theorem hashInj_of_vis {b : Board} {D : Nat} (hinv : Inv D b) (h : HashInjVis (ReachLe b D)) : HashInj b D := by
  intro k' k p' p hk' hk hr' hr he
  have hv := h p' p ⟨k', by omega, hr'.toPv hinv (by omega)⟩ ⟨k, hk, hr.toPv hinv hk⟩ he
  have e' := (Reach.inv hinv (by omega) hr').2
  have e := (Reach.inv hinv hk hr).2
  rw [ply2_congr hv] at e'
  exact ⟨by omega, hv⟩

theorem hashInjB_of_hashInj {b : Board} {D : Nat} (h : HashInj b D) : hashInjB b D = true := by
  unfold hashInjB
  simp only [List.all_eq_true, List.mem_range]
  intro k' hk' k hk p' hp' p hp
  by_cases he : Zobrist.hash p' = Zobrist.hash p
  · obtain ⟨e, hv⟩ := h k' k p' p hk' (by omega) ((reach_iff b k' p').mpr ⟨p', hp', rfl⟩)
      ((reach_iff b k p).mpr ⟨p, hp, rfl⟩) he
    simp [e, hv]
  · simp [he]

/-- `hashNonzeroB` on the levels that bring their hashes along -/
def hashNonzeroH (b : Board) (D : Nat) : Bool :=
  (List.range (D + 1)).all fun k => k == 0 || (levelH b k).all fun p => p.2 != 0

theorem hashNonzeroB_of_H {b : Board} {D : Nat} (hinv : Inv D b) (h : hashNonzeroH b D = true) : hashNonzeroB b D = true := by
  unfold hashNonzeroH at h
  unfold hashNonzeroB
  simp only [List.all_eq_true, List.mem_range, Bool.or_eq_true, beq_iff_eq, bne_iff_ne] at h ⊢
  intro k hk
  refine (h k hk).imp id fun hall p hp => ?_
  rw [← level_eq_reachList, ← levelH_fst] at hp
  obtain ⟨ph, hph, rfl⟩ := List.mem_map.mp hp
  rw [← (levelH_ok k (D - k) (by rw [Nat.add_sub_cancel' (by omega)]; exact hinv) ph hph).1]
  exact hall ph hph

end Inkayaku.SearchSim
