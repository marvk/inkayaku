import Inkayaku.Model.Search
/-!
# The search functions, cut into named phases

`negamax (fuel+1)` is rewritten (by `rfl`) as a pipeline of small non-recursive functions
(`pollStep`, `timedOut`, `enter`, `isRep`, `probe`, `rootBuffer`, `horizon`, `finish`) around the recursive calls;
`negamaxLoop`, `quiescence`, `quiescenceLoop` get one equation per constructor.  `quiescence_induct` and `negamax_induct` are
the induction over the two mutual recursions, one case per way out of a node or of a loop iteration; later proofs about all
runs are instances of them (or of their position-indexed versions in `Proofs/SearchBracket.lean`), proofs about one node use
the equations (`negamax_succ_cases`); `deepen_induct` is the induction over the iterative deepening together with the list
`iters` of the root results it runs through; nothing unfolds the model.
-/
namespace Inkayaku.Search
open Inkayaku.Board Inkayaku.Eval

/-- `should_check_flags` -/
def pollFlag (s : St) : Bool := s.negamaxNodes % s.pollPeriod == 0 && s.negamaxNodes > 0

def pollStep (s : St) : St :=
  if pollFlag s then
    let s := checkMessages s
    s.emit (.info none (some (s.elapsedNs / 1000000)) s.totalNodes none none)
  else s

def timedOut (s : St) : Bool :=
  pollFlag s && (match (pollStep s).go.moveTime with | some mt => (pollStep s).elapsedNs > mt | none => false)

def enter (s : St) (hash : UInt64) : St :=
  let s := pollStep s
  let s := { s with negamaxNodes := s.negamaxNodes + 1 }
  { s with history := historySet s.history (plyClock s.board) hash.toNat }

def isRep (s : St) (ply : Nat) : Bool :=
  ply > 0 && History.countRepetitions (fun i => s.history.getD i 0) (plyClock s.board) (s.board.halfmove % 65536) ≥ 3

def repValue (ply : Nat) : Int := Gen.drawScore + (if ply % 2 == 0 then 1 else -1) * Gen.contempt

def probe (entry : Option TtEntry) (remaining : Nat) (alpha0 beta0 : Int) : Option VM × Int × Int :=
  match entry with
  | some e =>
    if e.depth ≥ remaining then
      match e.nodeType with
      | .exact => (some e.mv, alpha0, beta0)
      | .lower =>
        let a := max alpha0 e.value
        if a ≥ beta0 then (some e.mv, a, beta0) else (none, a, beta0)
      | .upper =>
        let b := min beta0 e.value
        if alpha0 ≥ b then (some e.mv, alpha0, b) else (none, alpha0, b)
    else (none, alpha0, beta0)
  | none => (none, alpha0, beta0)

def rootBuffer (s : St) (ply : Nat) : List Move :=
  if ply == 0 && !s.go.searchMoves.isEmpty then (genPseudo s.board).filter (fun m => s.go.searchMoves.contains m.uci)
  else genPseudo s.board

def ttMoveOf (entry : Option TtEntry) : Option Move := match entry with | some e => e.mv.mv | none => none

def pvMoveOf (s : St) (isPv : Bool) (ply : Nat) : Option Move :=
  if isPv then (match s.pv with | some l => l[ply]? | none => none) else none

def acc0 (alpha : Int) : LoopAcc :=
  { alpha := alpha, bestValue := lossScore, bestMove := none, bestChild := none, legalSeen := false }

/-- what `search_negamax` does after its move loop -/
def finish (color : Nat) (alpha0 beta : Int) (hash : UInt64) (remaining : Nat) (r : LoopAcc × Bool × St) : VM × St :=
  let (acc, aborted, s) := r
  if aborted then (.mk 0 none none, s)
  else if !acc.legalSeen then (VM.leaf (evalFor s.board color false), s)
  else
    let result := VM.mk acc.bestValue acc.bestMove acc.bestChild
    if !isCheckmateValue acc.bestValue then
      let nodeType := if acc.bestValue ≤ alpha0 then NodeType.upper else if acc.bestValue ≥ beta then .lower else .exact
      (result, { s with tt := s.tt.insert hash { mv := result, depth := remaining, value := acc.bestValue, nodeType } })
    else (result, s)

def horizon (fuel : Nat) (color : Nat) (s : St) (buffer : List Move) (alpha beta : Int) : VM × St :=
  let legalRemaining := isAnyMoveLegal s.board buffer
  if legalRemaining && buffer.any (fun m => m.isAttack || m.isPromotion) then quiescence fuel s alpha beta
  else (VM.leaf (evalFor s.board color legalRemaining), s)

def childPvOf (isPv : Bool) (pvMove : Option Move) (m : Move) : Bool :=
  isPv && (match pvMove with | some p => p.bits == m.bits | none => false)

def accUpdate (acc : LoopAcc) (m : Move) (child : VM) : LoopAcc :=
  let childValue := -child.value
  let acc := if childValue > acc.bestValue then
      { acc with bestValue := childValue, bestMove := some m, bestChild := some child, legalSeen := true }
    else { acc with legalSeen := true }
  { acc with alpha := max acc.alpha acc.bestValue }

theorem negamax_zero (s : St) (ply maxPly : Nat) (a b : Int) (isPv : Bool) (h ph : UInt64) :
    negamax 0 s ply maxPly a b isPv h ph = (VM.leaf 0, s) := by
  rw [negamax]

theorem negamax_succ (fuel : Nat) (s : St) (ply maxPly : Nat) (alpha0 beta0 : Int) (isPv : Bool) (hash ph : UInt64) :
    negamax (fuel + 1) s ply maxPly alpha0 beta0 isPv hash ph =
      if timedOut s then (VM.leaf 0, { pollStep s with stop := true })
      else
        let s3 := enter s hash
        if isRep s3 ply then (VM.leaf (repValue ply), s3)
        else
          let entry := s3.tt.get? hash
          match probe entry (maxPly - ply) alpha0 beta0 with
          | (some r, _, _) => (r, s3)
          | (none, alpha, beta) =>
            let buffer := rootBuffer s3 ply
            if ply == 0 && buffer.isEmpty then (VM.leaf 0, s3)
            else if ply == maxPly then horizon fuel s.board.turn s3 buffer alpha beta
            else
              finish s.board.turn alpha0 beta hash (maxPly - ply)
                (negamaxLoop fuel s3
                  (sortMoves buffer (pvMoveOf s3 isPv ply) (ttMoveOf entry) (killerGet s3.killers (maxPly - ply)))
                  ply maxPly beta isPv (pvMoveOf s3 isPv ply) hash ph (maxPly - ply) (acc0 alpha)) := by
  rw [negamax]
  rfl

theorem negamaxLoop_nil (fuel : Nat) (s : St) (ply maxPly : Nat) (beta : Int) (isPv : Bool) (pvMove : Option Move)
    (hash ph : UInt64) (remaining : Nat) (acc : LoopAcc) :
    negamaxLoop fuel s [] ply maxPly beta isPv pvMove hash ph remaining acc = (acc, false, s) := by
  rw [negamaxLoop]

theorem negamaxLoop_cons (fuel : Nat) (s : St) (m : Move) (rest : List Move) (ply maxPly : Nat) (beta : Int) (isPv : Bool)
    (pvMove : Option Move) (hash ph : UInt64) (remaining : Nat) (acc : LoopAcc) :
    negamaxLoop fuel s (m :: rest) ply maxPly beta isPv pvMove hash ph remaining acc =
      if !isValid (make s.board m) then
        negamaxLoop fuel { s with board := unmake (make s.board m) m } rest ply maxPly beta isPv pvMove hash ph remaining acc
      else
        let r := negamax fuel { s with board := make s.board m } (ply + 1) maxPly (-beta) (-acc.alpha)
          (childPvOf isPv pvMove m) (hash ^^^ (Zobrist.xorOf m.f).1) (ph ^^^ (Zobrist.xorOf m.f).2)
        if r.2.stop then (acc, true, { r.2 with board := unmake r.2.board m })
        else
          let acc' := accUpdate acc m r.1
          let s3 := { r.2 with board := unmake r.2.board m }
          if acc'.alpha ≥ beta then (acc', false, { s3 with killers := killerPut s3.killers remaining m })
          else negamaxLoop fuel s3 rest ply maxPly beta isPv pvMove hash ph remaining acc' := by
  conv => lhs; rw [negamaxLoop.eq_def]
  rfl

theorem quiescence_zero (s : St) (a b : Int) : quiescence 0 s a b = (VM.leaf a, s) := by
  rw [quiescence]

theorem quiescence_succ (fuel : Nat) (s : St) (alpha0 beta0 : Int) :
    quiescence (fuel + 1) s alpha0 beta0 =
      if evalFor s.board s.board.turn true ≥ beta0 then (VM.leaf beta0, s)
      else quiescenceLoop fuel s (sortMoves (genNonQuiescent s.board) none none none)
        (max alpha0 (evalFor s.board s.board.turn true)) beta0 none none := by
  rw [quiescence]

theorem quiescenceLoop_nil (fuel : Nat) (s : St) (alpha beta0 : Int) (bm : Option Move) (bc : Option VM) :
    quiescenceLoop fuel s [] alpha beta0 bm bc = (.mk alpha bm bc, s) := by
  rw [quiescenceLoop]

theorem quiescenceLoop_cons (fuel : Nat) (s : St) (m : Move) (rest : List Move) (alpha beta0 : Int) (bm : Option Move)
    (bc : Option VM) :
    quiescenceLoop fuel s (m :: rest) alpha beta0 bm bc =
      if !isValid (make s.board m) then
        quiescenceLoop fuel { s with board := unmake (make s.board m) m } rest alpha beta0 bm bc
      else
        let r := quiescence fuel { s with board := make s.board m, quiescenceNodes := s.quiescenceNodes + 1 } (-beta0) (-alpha)
        let s3 := { r.2 with board := unmake r.2.board m }
        if -r.1.value ≥ beta0 then (.mk beta0 (some m) (some r.1), s3)
        else if -r.1.value > alpha then quiescenceLoop fuel s3 rest (-r.1.value) beta0 (some m) (some r.1)
        else quiescenceLoop fuel s3 rest alpha beta0 bm bc := by
  conv => lhs; rw [quiescenceLoop]

theorem VM.value_mk (v : Int) (m : Option Move) (c : Option VM) : (VM.mk v m c).value = v := rfl
theorem VM.mk_value (v : Int) (m : Option Move) (c : Option VM) : (VM.mk v m c).value = v := rfl
theorem VM.value_leaf (v : Int) : (VM.leaf v).value = v := rfl

theorem VM.pv_leaf (v : Int) : (VM.leaf v).pv = [] := by
  unfold VM.leaf; rw [VM.pv.eq_def]

theorem VM.pv_none_none (v : Int) : (VM.mk v none none).pv = [] := by
  rw [VM.pv.eq_def]

theorem VM.pv_some_some (v : Int) (m : Move) (c : VM) : (VM.mk v (some m) (some c)).pv = m :: c.pv := by
  rw [VM.pv.eq_def]

theorem VM.pv_value (v v' : Int) (m : Option Move) (c : Option VM) : (VM.mk v m c).pv = (VM.mk v' m c).pv := by
  rw [VM.pv.eq_def, VM.pv.eq_def]

theorem VM.pv_of_mv {c : VM} {m : Move} (h : c.mv = some m) : ∃ rest, c.pv = m :: rest := by
  cases c with
  | mk v mv ch =>
    simp only [VM.mv] at h
    subst h
    rw [VM.pv.eq_def]
    exact ⟨_, rfl⟩

theorem mem_sortMoves {m : Move} {ms : List Move} {a b c : Option Move} : m ∈ sortMoves ms a b c ↔ m ∈ ms := by
  unfold sortMoves
  exact List.mem_mergeSort

theorem mem_rootBuffer {m : Move} {s : St} {ply : Nat} :
    m ∈ rootBuffer s ply ↔ m ∈ genPseudo s.board ∧ (ply = 0 → s.go.searchMoves ≠ [] → m.uci ∈ s.go.searchMoves) := by
  unfold rootBuffer
  cases hsm : s.go.searchMoves with
  | nil => simp
  | cons x xs => cases ply <;> simp

theorem mem_rootBuffer_genPseudo {m : Move} {s : St} {ply : Nat} (h : m ∈ rootBuffer s ply) : m ∈ genPseudo s.board :=
  (mem_rootBuffer.mp h).1

/-- what `check_messages` does with one message -/
def msgStep (s : St) (m : Msg) : St :=
  match m with
  | .newGame => { s with resetNext := true }
  | .stop => { s with stop := true }
  | .quit => { s with stop := true, quit := true }
  | _ => s

theorem checkMessages_def (s : St) : checkMessages s = { s.pending.foldl msgStep s with pending := [] } := rfl

/-- (stop, quit, resetNext) after one message -/
def msgFlags (f : Bool × Bool × Bool) : Msg → Bool × Bool × Bool
  | .newGame => (f.1, f.2.1, true)
  | .stop => (true, f.2.1, f.2.2)
  | .quit => (true, true, f.2.2)
  | _ => f

def pollFlags (s : St) : Bool × Bool × Bool := s.pending.foldl msgFlags (s.stop, s.quit, s.resetNext)

theorem foldl_msgStep_flags (l : List Msg) (s : St) :
    l.foldl msgStep s =
      { s with stop := (l.foldl msgFlags (s.stop, s.quit, s.resetNext)).1,
               quit := (l.foldl msgFlags (s.stop, s.quit, s.resetNext)).2.1,
               resetNext := (l.foldl msgFlags (s.stop, s.quit, s.resetNext)).2.2 } := by
  induction l generalizing s with
  | nil => rfl
  | cons m l ih =>
    rw [List.foldl_cons, List.foldl_cons, ih]
    cases m <;> rfl

theorem checkMessages_flags (s : St) :
    checkMessages s =
      { s with stop := (pollFlags s).1, quit := (pollFlags s).2.1, resetNext := (pollFlags s).2.2, pending := [] } := by
  rw [checkMessages_def, foldl_msgStep_flags]
  rfl

def pollInfo (s : St) : Out := .info none (some (s.elapsedNs / 1000000)) s.totalNodes none none

theorem pollStep_flags (s : St) :
    pollStep s =
      if pollFlag s then
        { s with stop := (pollFlags s).1, quit := (pollFlags s).2.1, resetNext := (pollFlags s).2.2, pending := [],
                 out := pollInfo s :: s.out }
      else s := by
  unfold pollStep
  split
  · simp only
    rw [checkMessages_flags]
    rfl
  · rfl

theorem pollStep_eq (s : St) :
    pollStep s = s ∨ ∃ st q rn, pollStep s =
      { s with stop := st, quit := q, resetNext := rn, pending := [], out := pollInfo s :: s.out } := by
  rw [pollStep_flags]
  split
  · exact Or.inr ⟨_, _, _, rfl⟩
  · exact Or.inl rfl

theorem pollStep_board (s : St) : (pollStep s).board = s.board := by
  rcases pollStep_eq s with h | ⟨st, q, rn, h⟩ <;> rw [h]

theorem pollStep_tt (s : St) : (pollStep s).tt = s.tt := by
  rcases pollStep_eq s with h | ⟨st, q, rn, h⟩ <;> rw [h]

theorem pollStep_setBoard (s : St) (b' : Board) : pollStep { s with board := b' } = { pollStep s with board := b' } := by
  rw [pollStep_flags, pollStep_flags]
  show (if pollFlag s then _ else _) = _
  split <;> rfl

theorem timedOut_setBoard (s : St) (b' : Board) : timedOut { s with board := b' } = timedOut s := by
  unfold timedOut
  rw [pollStep_setBoard]
  rfl

theorem enter_board (s : St) (h : UInt64) : (enter s h).board = s.board := pollStep_board s

theorem enter_tt (s : St) (h : UInt64) : (enter s h).tt = s.tt := pollStep_tt s

theorem probe_cases (entry : Option TtEntry) (rem : Nat) (a b : Int) :
    (∃ e α β, entry = some e ∧ rem ≤ e.depth ∧ probe entry rem a b = (some e.mv, α, β)) ∨
    (∃ α β, probe entry rem a b = (none, α, β) ∧
      (α = a ∨ ∃ e, entry = some e ∧ rem ≤ e.depth ∧ α = e.value) ∧
      (β = b ∨ ∃ e, entry = some e ∧ rem ≤ e.depth ∧ β = e.value)) := by
  unfold probe
  cases entry with
  | none => exact Or.inr ⟨a, b, rfl, Or.inl rfl, Or.inl rfl⟩
  | some e =>
    simp only
    split
    · rename_i hd
      split
      · exact Or.inl ⟨e, _, _, rfl, hd, rfl⟩
      · split
        · exact Or.inl ⟨e, _, _, rfl, hd, rfl⟩
        · refine Or.inr ⟨_, _, rfl, ?_, Or.inl rfl⟩
          rcases Int.le_total a e.value with h | h
          · exact Or.inr ⟨e, rfl, hd, Int.max_eq_right h⟩
          · exact Or.inl (Int.max_eq_left h)
      · split
        · exact Or.inl ⟨e, _, _, rfl, hd, rfl⟩
        · refine Or.inr ⟨_, _, rfl, Or.inl rfl, ?_⟩
          rcases Int.le_total b e.value with h | h
          · exact Or.inl (Int.min_eq_left h)
          · exact Or.inr ⟨e, rfl, hd, Int.min_eq_right h⟩
    · exact Or.inr ⟨a, b, rfl, Or.inl rfl, Or.inl rfl⟩

theorem probe_fresh {entry : Option TtEntry} {rem : Nat} (a b : Int) (h : ∀ e, entry = some e → e.depth < rem) :
    probe entry rem a b = (none, a, b) := by
  unfold probe
  cases entry with
  | none => rfl
  | some e =>
    have := h e rfl
    simp only
    rw [if_neg (by omega)]

theorem finish_cases (c : Nat) (a b : Int) (h : UInt64) (rem : Nat) (acc : LoopAcc) (ab : Bool) (s : St) :
    let r := finish c a b h rem (acc, ab, s)
    let best := VM.mk acc.bestValue acc.bestMove acc.bestChild
    (ab = true ∧ r = (.mk 0 none none, s)) ∨
    (ab = false ∧ acc.legalSeen = false ∧ r = (VM.leaf (evalFor s.board c false), s)) ∨
    (ab = false ∧ acc.legalSeen = true ∧ isCheckmateValue acc.bestValue = true ∧ r = (best, s)) ∨
    (ab = false ∧ acc.legalSeen = true ∧ isCheckmateValue acc.bestValue = false ∧ ∃ nt,
      r = (best, { s with tt := s.tt.insert h ⟨best, rem, acc.bestValue, nt⟩ })) := by
  intro r best
  simp only [r, best]
  unfold finish
  cases ab
  · cases hl : acc.legalSeen
    · exact Or.inr (Or.inl ⟨rfl, rfl, by simp [hl]⟩)
    · cases hc : isCheckmateValue acc.bestValue
      · exact Or.inr (Or.inr (Or.inr ⟨rfl, rfl, rfl, _, by simp [hl, hc]; rfl⟩))
      · exact Or.inr (Or.inr (Or.inl ⟨rfl, rfl, rfl, by simp [hl, hc]⟩))
  · exact Or.inl ⟨rfl, rfl⟩

theorem finish_state (c : Nat) (a b : Int) (h : UInt64) (rem : Nat) (r : LoopAcc × Bool × St) :
    ∃ tt, (finish c a b h rem r).2 = { r.2.2 with tt := tt } := by
  obtain ⟨acc, ab, s⟩ := r
  rcases finish_cases c a b h rem acc ab s with ⟨-, e⟩ | ⟨-, -, e⟩ | ⟨-, -, -, e⟩ | ⟨-, -, -, nt, e⟩ <;> rw [e]
  · exact ⟨s.tt, rfl⟩
  · exact ⟨s.tt, rfl⟩
  · exact ⟨s.tt, rfl⟩
  · exact ⟨_, rfl⟩

theorem accUpdate_cases (acc : LoopAcc) (m : Move) (c : VM) :
    (-c.value > acc.bestValue ∧ accUpdate acc m c =
      { alpha := max acc.alpha (-c.value), bestValue := -c.value, bestMove := some m, bestChild := some c, legalSeen := true }) ∨
    (¬ -c.value > acc.bestValue ∧ accUpdate acc m c =
      { alpha := max acc.alpha acc.bestValue, bestValue := acc.bestValue, bestMove := acc.bestMove,
        bestChild := acc.bestChild, legalSeen := true }) := by
  unfold accUpdate
  simp only
  split
  · rename_i h; exact Or.inl ⟨h, rfl⟩
  · rename_i h; exact Or.inr ⟨h, rfl⟩

theorem negamax_succ_cases (fuel : Nat) (s : St) (ply maxPly : Nat) (a b : Int) (isPv : Bool) (h ph : UInt64) :
    let r := negamax (fuel + 1) s ply maxPly a b isPv h ph
    let s3 := enter s h
    let pr := probe (s3.tt.get? h) (maxPly - ply) a b
    (timedOut s = true ∧ r = (VM.leaf 0, { pollStep s with stop := true })) ∨
    (∃ v, ((isRep s3 ply = true ∧ v = repValue ply) ∨ (ply = 0 ∧ rootBuffer s3 ply = [] ∧ v = 0) ∨
      (ply = maxPly ∧ v = evalFor s3.board s3.board.turn (isAnyMoveLegal s3.board (rootBuffer s3 ply)))) ∧ r = (VM.leaf v, s3)) ∨
    (∃ e, s3.tt.get? h = some e ∧ maxPly - ply ≤ e.depth ∧ r = (e.mv, s3)) ∨
    (∃ α β, pr = (none, α, β) ∧ ply = maxPly ∧ r = quiescence fuel s3 α β) ∨
    (∃ α β, pr = (none, α, β) ∧ ply ≠ maxPly ∧
      r = finish s3.board.turn a β h (maxPly - ply)
        (negamaxLoop fuel s3
          (sortMoves (rootBuffer s3 ply) (pvMoveOf s3 isPv ply) (ttMoveOf (s3.tt.get? h)) (killerGet s3.killers (maxPly - ply)))
          ply maxPly β isPv (pvMoveOf s3 isPv ply) h ph (maxPly - ply) (acc0 α))) := by
  intro r s3 pr
  simp only [r, s3, pr]
  rw [negamax_succ, ← enter_board s h]
  split
  · exact Or.inl ⟨‹_›, rfl⟩
  · simp only
    split
    · exact Or.inr (Or.inl ⟨_, Or.inl ⟨‹_›, rfl⟩, rfl⟩)
    · split
      · rename_i r α β heq
        refine Or.inr (Or.inr (Or.inl ?_))
        rcases probe_cases ((enter s h).tt.get? h) (maxPly - ply) a b with ⟨e, α', β', he, hd, hp⟩ | ⟨α', β', hp, -⟩ <;>
          rw [hp] at heq
        · cases heq
          exact ⟨e, he, hd, rfl⟩
        · cases heq
      · split
        · rename_i hc
          simp only [Bool.and_eq_true, beq_iff_eq, List.isEmpty_iff] at hc
          exact Or.inr (Or.inl ⟨_, Or.inr (Or.inl ⟨hc.1, hc.2, rfl⟩), rfl⟩)
        · split
          · rename_i hc
            unfold horizon
            simp only
            split
            · exact Or.inr (Or.inr (Or.inr (Or.inl ⟨_, _, ‹_›, beq_iff_eq.mp hc, rfl⟩)))
            · exact Or.inr (Or.inl ⟨_, Or.inr (Or.inr ⟨beq_iff_eq.mp hc, rfl⟩), rfl⟩)
          · rename_i hc
            exact Or.inr (Or.inr (Or.inr (Or.inr ⟨_, _, ‹_›, fun e => hc (beq_iff_eq.mpr e), rfl⟩)))

/-- Induction over `search_quiescence` and its move loop, as the code runs them (no hypothesis on the board; `quiescence_walk`
is the version that knows the position).  One case per way out of a node or of a loop iteration. -/
theorem quiescence_induct {QP : Nat → St → Int → Int → VM × St → Prop}
    {QL : Nat → List Move → St → Int → Int → Option Move → Option VM → VM × St → Prop}
    (zero : ∀ {s a b}, QP 0 s a b (VM.leaf a, s))
    (pat : ∀ {f s a b}, evalFor s.board s.board.turn true ≥ b → QP (f + 1) s a b (VM.leaf b, s))
    (loop : ∀ {f s a b res}, ¬ evalFor s.board s.board.turn true ≥ b →
      QL f (sortMoves (genNonQuiescent s.board) none none none) s (max a (evalFor s.board s.board.turn true)) b none none res →
      QP (f + 1) s a b res)
    (nil : ∀ {f s α b bm bc}, QL f [] s α b bm bc (.mk α bm bc, s))
    (skip : ∀ {f m rest s α b bm bc res}, isValid (make s.board m) = false →
      QL f rest { s with board := unmake (make s.board m) m } α b bm bc res → QL f (m :: rest) s α b bm bc res)
    (child : ∀ {f m rest s α b bm bc r}, isValid (make s.board m) = true →
      QP f { s with board := make s.board m, quiescenceNodes := s.quiescenceNodes + 1 } (-b) (-α) r →
      (-r.1.value ≥ b → QL f (m :: rest) s α b bm bc (.mk b (some m) (some r.1), { r.2 with board := unmake r.2.board m })) ∧
      (¬ -r.1.value ≥ b → -r.1.value > α →
        ∀ res, QL f rest { r.2 with board := unmake r.2.board m } (-r.1.value) b (some m) (some r.1) res →
          QL f (m :: rest) s α b bm bc res) ∧
      (¬ -r.1.value ≥ b → ¬ -r.1.value > α →
        ∀ res, QL f rest { r.2 with board := unmake r.2.board m } α b bm bc res → QL f (m :: rest) s α b bm bc res)) :
    (∀ fuel s a b, QP fuel s a b (quiescence fuel s a b)) ∧
    (∀ f moves s α b bm bc, QL f moves s α b bm bc (quiescenceLoop f s moves α b bm bc)) := by
  have hl : ∀ f, (∀ s a b, QP f s a b (quiescence f s a b)) →
      ∀ moves s α b bm bc, QL f moves s α b bm bc (quiescenceLoop f s moves α b bm bc) := by
    intro f hq moves
    induction moves with
    | nil => intro s α b bm bc; rw [quiescenceLoop_nil]; exact nil
    | cons m rest ih =>
      intro s α b bm bc
      rw [quiescenceLoop_cons]
      cases hv : isValid (make s.board m)
      · exact skip hv (ih _ α b bm bc)
      · obtain ⟨c1, c2, c3⟩ := child (rest := rest) (bm := bm) (bc := bc) hv (hq _ (-b) (-α))
        simp only [Bool.not_true, Bool.false_eq_true, if_false]
        split
        · exact c1 ‹_›
        · split
          · exact c2 ‹_› ‹_› _ (ih _ _ b _ _)
          · exact c3 ‹_› ‹_› _ (ih _ α b bm bc)
  have hq : ∀ fuel s a b, QP fuel s a b (quiescence fuel s a b) := by
    intro fuel
    induction fuel with
    | zero => intro s a b; rw [quiescence_zero]; exact zero
    | succ f ih =>
      intro s a b
      rw [quiescence_succ]
      split
      · exact pat ‹_›
      · exact loop ‹_› (hl f ih _ s _ b none none)
  exact ⟨hq, fun f => hl f (hq f)⟩

/-- Induction over `search_negamax` and its move loop, as the code runs them (no hypothesis on the board; `negamax_walk` is
the version that knows the position).  `NB` speaks about a node after `enter`.  One case per way out of a node or of a loop
iteration (`leaf`: the three reasons for which an entered node answers with a static value: repetition, no root move,
horizon without noisy move); `child` also says which call returned `r`. -/
theorem negamax_induct {NP NB : Nat → St → Nat → Nat → Int → Int → UInt64 → VM × St → Prop}
    {NL : Nat → List Move → St → Nat → Nat → Int → UInt64 → LoopAcc → LoopAcc × Bool × St → Prop}
    (zero : ∀ {s ply maxPly a b h}, NP 0 s ply maxPly a b h (VM.leaf 0, s))
    (timeout : ∀ {f s ply maxPly a b h}, timedOut s = true →
      NP (f + 1) s ply maxPly a b h (VM.leaf 0, { pollStep s with stop := true }))
    (entered : ∀ {f s ply maxPly a b h res}, NB f (enter s h) ply maxPly a b h res → NP (f + 1) s ply maxPly a b h res)
    (leaf : ∀ {f s ply maxPly a b h v}, (isRep s ply = true ∧ v = repValue ply) ∨ (ply = 0 ∧ rootBuffer s ply = [] ∧ v = 0) ∨
      (ply = maxPly ∧ v = evalFor s.board s.board.turn (isAnyMoveLegal s.board (rootBuffer s ply))) →
      NB f s ply maxPly a b h (VM.leaf v, s))
    (hit : ∀ {f s ply maxPly a b h e}, s.tt.get? h = some e → maxPly - ply ≤ e.depth → NB f s ply maxPly a b h (e.mv, s))
    (quiesce : ∀ {f s ply maxPly a b h α β}, probe (s.tt.get? h) (maxPly - ply) a b = (none, α, β) → ply = maxPly →
      NB f s ply maxPly a b h (quiescence f s α β))
    (loop : ∀ {f s ply maxPly a b h α β o1 o2 o3 lr}, probe (s.tt.get? h) (maxPly - ply) a b = (none, α, β) → ply ≠ maxPly →
      NL f (sortMoves (rootBuffer s ply) o1 o2 o3) s ply maxPly β h (acc0 α) lr →
      NB f s ply maxPly a b h (finish s.board.turn a β h (maxPly - ply) lr))
    (nil : ∀ {f s ply maxPly β h acc}, NL f [] s ply maxPly β h acc (acc, false, s))
    (skip : ∀ {f m rest s ply maxPly β h acc res}, isValid (make s.board m) = false →
      NL f rest { s with board := unmake (make s.board m) m } ply maxPly β h acc res → NL f (m :: rest) s ply maxPly β h acc res)
    (child : ∀ {f m rest s ply maxPly β h acc k r}, isValid (make s.board m) = true →
      (∃ isPv ph, r = negamax f { s with board := make s.board m } (ply + 1) maxPly (-β) (-acc.alpha) isPv
        (h ^^^ (Zobrist.xorOf m.f).1) ph) →
      NP f { s with board := make s.board m } (ply + 1) maxPly (-β) (-acc.alpha) (h ^^^ (Zobrist.xorOf m.f).1) r →
      (r.2.stop = true → NL f (m :: rest) s ply maxPly β h acc (acc, true, { r.2 with board := unmake r.2.board m })) ∧
      (r.2.stop = false → (accUpdate acc m r.1).alpha ≥ β →
        NL f (m :: rest) s ply maxPly β h acc
          (accUpdate acc m r.1, false, { r.2 with board := unmake r.2.board m, killers := k })) ∧
      (r.2.stop = false → ¬ (accUpdate acc m r.1).alpha ≥ β →
        ∀ res, NL f rest { r.2 with board := unmake r.2.board m } ply maxPly β h (accUpdate acc m r.1) res →
          NL f (m :: rest) s ply maxPly β h acc res)) :
    (∀ fuel s ply maxPly a b isPv h ph, NP fuel s ply maxPly a b h (negamax fuel s ply maxPly a b isPv h ph)) ∧
    (∀ f moves s ply maxPly β isPv pvMove h ph rem acc,
      NL f moves s ply maxPly β h acc (negamaxLoop f s moves ply maxPly β isPv pvMove h ph rem acc)) := by
  have hl : ∀ f, (∀ s ply maxPly a b isPv h ph, NP f s ply maxPly a b h (negamax f s ply maxPly a b isPv h ph)) →
      ∀ moves s ply maxPly β isPv pvMove h ph rem acc,
        NL f moves s ply maxPly β h acc (negamaxLoop f s moves ply maxPly β isPv pvMove h ph rem acc) := by
    intro f hn moves
    induction moves with
    | nil => intro s ply maxPly β isPv pvMove h ph rem acc; rw [negamaxLoop_nil]; exact nil
    | cons m rest ih =>
      intro s ply maxPly β isPv pvMove h ph rem acc
      rw [negamaxLoop_cons]
      cases hv : isValid (make s.board m)
      · exact skip hv (ih _ ply maxPly β isPv pvMove h ph rem acc)
      · obtain ⟨c1, c2, c3⟩ := child (rest := rest) (k := killerPut
          (negamax f { s with board := make s.board m } (ply + 1) maxPly (-β) (-acc.alpha) (childPvOf isPv pvMove m)
            (h ^^^ (Zobrist.xorOf m.f).1) (ph ^^^ (Zobrist.xorOf m.f).2)).2.killers rem m) hv ⟨_, _, rfl⟩ (hn _ (ply + 1) maxPly (-β) (-acc.alpha) (childPvOf isPv pvMove m) _ (ph ^^^ (Zobrist.xorOf m.f).2))
        simp only [Bool.not_true, Bool.false_eq_true, if_false]
        split
        · exact c1 ‹_›
        · have hst : _ = false := Bool.eq_false_iff.mpr ‹_›
          split
          · exact c2 hst ‹_›
          · exact c3 hst ‹_› _ (ih _ ply maxPly β isPv pvMove h ph rem _)
  have hn : ∀ fuel s ply maxPly a b isPv h ph, NP fuel s ply maxPly a b h (negamax fuel s ply maxPly a b isPv h ph) := by
    intro fuel
    induction fuel with
    | zero => intro s ply maxPly a b isPv h ph; rw [negamax_zero]; exact zero
    | succ f ih =>
      intro s ply maxPly a b isPv h ph
      rcases negamax_succ_cases f s ply maxPly a b isPv h ph with
        ⟨hto, e⟩ | ⟨v, hv, e⟩ | ⟨t, hget, hd, e⟩ | ⟨α, β, hpr, hp, e⟩ | ⟨α, β, hpr, hp, e⟩ <;> rw [e]
      · exact timeout hto
      · exact entered (leaf hv)
      · exact entered (hit hget hd)
      · exact entered (quiesce hpr hp)
      · exact entered (loop hpr hp (hl f ih _ _ _ _ _ _ _ _ _ _ _))
  exact ⟨hn, fun f => hl f (hn f)⟩

def rootSearch (s : St) (d : Nat) : VM × St :=
  negamax (fuelFor d) s 0 d lossScore Gen.winScore s.pv.isSome (Zobrist.hash s.board) (Zobrist.pawnHash s.board)

/-- `aborted` of `best_move`: the iteration was interrupted (or found no move) -/
def iterAborted (r : VM × St) : Bool := r.2.stop || r.1.mv.isNone

def iterState (r : VM × St) (d : Nat) (score : Option Score) (uciPv : Option (List Move)) : St :=
  if iterAborted r then
    r.2.emit (.info (some (d - 1)) (some (r.2.elapsedNs / 1000000)) r.2.totalNodes score uciPv)
  else
    ({ r.2 with pv := some r.1.pv } : St).emit
      (.info (some d) (some (r.2.elapsedNs / 1000000)) r.2.totalNodes (some (scoreFromValue r.1.value r.2.board)) (some r.1.pv))

theorem iterAborted_eq_false {r : VM × St} : iterAborted r = false ↔ r.2.stop = false ∧ ∃ m, r.1.mv = some m := by
  unfold iterAborted
  cases r.2.stop <;> cases r.1.mv <;> simp

theorem deepen_zero (s : St) (d mt : Nat) (best : Option VM) (u : Option (List Move)) (sc : Option Score) :
    deepen 0 s d mt best u sc = (best, s) := by
  rw [deepen]

theorem deepen_succ (n : Nat) (s : St) (d mt : Nat) (best : Option VM) (u : Option (List Move)) (sc : Option Score) :
    deepen (n + 1) s d mt best u sc =
      let r := rootSearch s d
      if iterAborted r then (best, iterState r d sc u)
      else if r.2.elapsedNs > mt / 3 then (some r.1, iterState r d sc u)
      else deepen n (iterState r d sc u) (d + 1) mt (some r.1) (some r.1.pv) (some (scoreFromValue r.1.value r.2.board)) := by
  rw [deepen]
  by_cases h1 : ((rootSearch s d).2.stop || (rootSearch s d).1.mv.isNone) = true
  · simp only [rootSearch] at h1
    simp only [rootSearch, iterState, iterAborted, h1, Bool.not_true, Bool.false_eq_true, if_false, Bool.true_or, if_true]
  · have h1' : ((rootSearch s d).2.stop || (rootSearch s d).1.mv.isNone) = false := Bool.eq_false_iff.mpr h1
    simp only [rootSearch] at h1'
    simp only [rootSearch, iterState, iterAborted, h1', Bool.not_false, if_true, Bool.false_or, Bool.false_eq_true, if_false,
      decide_eq_true_eq]
    split <;> rfl

def iters : Nat → St → Nat → Nat → Option (List Move) → Option Score → List (VM × St)
  | 0, _, _, _, _, _ => []
  | n + 1, s, d, mt, u, sc =>
    let r := rootSearch s d
    r :: (if iterAborted r || r.2.elapsedNs > mt / 3 then []
          else iters n (iterState r d sc u) (d + 1) mt (some r.1.pv) (some (scoreFromValue r.1.value r.2.board)))

/-- Induction over the iterative deepening as the code runs it: `M` speaks of the iterations left, the state, the depth, the
three variables of `best_move`, the root results of the iterations run (`iters`) and the RESULT (in `next` also known as the
value of the remaining loop).  `stop`: the loop ends with this iteration (aborted: the old `best` stays; out of time after a
completed iteration: the new one); `next`: on to the next depth. -/
theorem deepen_induct
    {M : Nat → St → Nat → Option VM → Option (List Move) → Option Score → List (VM × St) → Option VM × St → Prop} (mt : Nat)
    (zero : ∀ {s d best u sc}, M 0 s d best u sc [] (best, s))
    (stop : ∀ {n s d best u sc b'},
      (iterAborted (rootSearch s d) = true ∧ b' = best) ∨
      (iterAborted (rootSearch s d) = false ∧ (rootSearch s d).2.elapsedNs > mt / 3 ∧ b' = some (rootSearch s d).1) →
      M (n + 1) s d best u sc [rootSearch s d] (b', iterState (rootSearch s d) d sc u))
    (next : ∀ {n s d best u sc its res}, iterAborted (rootSearch s d) = false → ¬ (rootSearch s d).2.elapsedNs > mt / 3 →
      res = deepen n (iterState (rootSearch s d) d sc u) (d + 1) mt (some (rootSearch s d).1) (some (rootSearch s d).1.pv)
        (some (scoreFromValue (rootSearch s d).1.value (rootSearch s d).2.board)) →
      M n (iterState (rootSearch s d) d sc u) (d + 1) (some (rootSearch s d).1) (some (rootSearch s d).1.pv)
        (some (scoreFromValue (rootSearch s d).1.value (rootSearch s d).2.board)) its res →
      M (n + 1) s d best u sc (rootSearch s d :: its) res) :
    ∀ n s d best u sc, M n s d best u sc (iters n s d mt u sc) (deepen n s d mt best u sc) := by
  intro n
  induction n with
  | zero => intro s d best u sc; rw [deepen_zero]; exact zero
  | succ n ih =>
    intro s d best u sc
    rw [deepen_succ]
    simp only [iters]
    cases ha : iterAborted (rootSearch s d)
    · rw [if_neg Bool.false_ne_true, Bool.false_or]
      by_cases ht : (rootSearch s d).2.elapsedNs > mt / 3
      · rw [if_pos ht, if_pos (decide_eq_true ht)]; exact stop (Or.inr ⟨ha, ht, rfl⟩)
      · rw [if_neg ht, if_neg (by rw [decide_eq_false ht]; exact Bool.false_ne_true)]; exact next ha ht rfl (ih _ _ _ _ _)
    · rw [if_pos rfl, Bool.true_or, if_pos rfl]
      exact stop (Or.inl ⟨ha, rfl⟩)

/-- `reset_for_go` and the preamble of `best_move`: the state in which iteration 1 starts -/
def goPrep (s : St) (g : GoParams) : St :=
  let s := if s.resetNext then { s with tt := {}, killers := [] } else s
  let s := { s with negamaxNodes := 0, quiescenceNodes := 0, stop := false, quit := false, resetNext := false, go := g }
  let s := { s with tt := {}, killers := s.killers.drop 2 }
  let s := continuePv s
  match s.go.moveTime with
  | none => { s with go := { s.go with moveTime := (maxThinkingNs s).map (· * 2) } }
  | some _ => s

def goIters (g : GoParams) (maxIter : Nat) : Nat :=
  min (match g.depth with | some d => max d 1 | none => 999999) maxIter

def goMaxThinking (s : St) : Nat := match s.go.moveTime with | some t => t | none => 2 ^ 80

def bestMoveOf (best : Option VM) : Option Move := match best with | some vm => vm.mv | none => none

def ponderOf (best : Option VM) (s : St) : Option Move :=
  match bestMoveOf best with
  | some _ => (match s.pv with | some l => l[1]? | none => none)
  | none => none

def goDeepen (s : St) (g : GoParams) (maxIter : Nat) : Option VM × St :=
  deepen (goIters g maxIter) (goPrep s g) 1 (goMaxThinking (goPrep s g)) none none none

theorem goCmd_eq (s : St) (g : GoParams) (maxIter : Nat) :
    goCmd s g maxIter =
      (goDeepen s g maxIter).2.emit
        (.bestMove (bestMoveOf (goDeepen s g maxIter).1) (ponderOf (goDeepen s g maxIter).1 (goDeepen s g maxIter).2)) := by
  rfl

theorem iterState_eq (r : VM × St) (d : Nat) (sc : Option Score) (u : Option (List Move)) :
    ∃ p o, iterState r d sc u = { r.2 with pv := p, out := o } := by
  unfold iterState
  split <;> exact ⟨_, _, rfl⟩

theorem continuePv_eq (s : St) : ∃ p, continuePv s = { s with pv := p } := by
  unfold continuePv
  simp only
  repeat' split
  all_goals exact ⟨_, rfl⟩

/-- `reset_for_go` and the table reset of `best_move` -/
def goHead (s : St) (g : GoParams) : St :=
  let s := if s.resetNext then { s with tt := {}, killers := [] } else s
  let s := { s with negamaxNodes := 0, quiescenceNodes := 0, stop := false, quit := false, resetNext := false, go := g }
  { s with tt := {}, killers := s.killers.drop 2 }

def goTail (s : St) : St :=
  let s := continuePv s
  match s.go.moveTime with
  | none => { s with go := { s.go with moveTime := (maxThinkingNs s).map (· * 2) } }
  | some _ => s

theorem goPrep_split (s : St) (g : GoParams) : goPrep s g = goTail (goHead s g) := rfl

theorem goTail_eq (s : St) : ∃ p mt, goTail s = { s with pv := p, go := { s.go with moveTime := mt } } := by
  unfold goTail
  obtain ⟨p, h⟩ := continuePv_eq s
  rw [h]
  simp only
  split
  · exact ⟨_, _, rfl⟩
  · exact ⟨_, _, rfl⟩

theorem goHead_eq (s : St) (g : GoParams) : ∃ k, goHead s g =
    { s with tt := {}, killers := k, negamaxNodes := 0, quiescenceNodes := 0, stop := false, quit := false,
             resetNext := false, go := g } := by
  unfold goHead
  cases s.resetNext <;> exact ⟨_, rfl⟩

theorem goPrep_eq (s : St) (g : GoParams) : ∃ k p mt, goPrep s g =
    { s with tt := {}, killers := k, pv := p, negamaxNodes := 0, quiescenceNodes := 0, stop := false, quit := false,
             resetNext := false, go := { g with moveTime := mt } } := by
  obtain ⟨k, h1⟩ := goHead_eq s g
  obtain ⟨p, mt, h2⟩ := goTail_eq (goHead s g)
  rw [goPrep_split, h2, h1]
  exact ⟨k, p, mt, rfl⟩

theorem goPrep_searchMoves (s : St) (g : GoParams) : (goPrep s g).go.searchMoves = g.searchMoves := by
  obtain ⟨k, p, mt, h⟩ := goPrep_eq s g; rw [h]

end Inkayaku.Search
