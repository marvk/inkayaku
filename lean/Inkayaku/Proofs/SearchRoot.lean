import Inkayaku.Proofs.SearchBracket
import Inkayaku.Proofs.SearchTrace
/-!
# The move returned by a root search is a legal move of the root position (C07)

* `nLoop_best`: the best move of a move loop is one of the looped moves whose `make` passed `isValid`;
* `root_move_at` (`root_move_from_buffer` is its case `b0 = s.board`): a root search (ply 0, depth ≥ 1) that is not answered
  from the transposition table returns `none` or a move of the (searchmoves-filtered) pseudo-legal buffer that is legal;
* `RootInv`, `rootIter_step`: what every iteration of a `go` finds and hands on, so that `TTRootFresh` holds in every
  iteration; `iters_legal`;
* `go_bestmove_legal`.
-/
namespace Inkayaku.Search
open Inkayaku.Board Inkayaku.Eval Inkayaku.WF Inkayaku.BoardCongr

def LegalRoot (b : Board) (sm : List String) (m : Move) : Prop :=
  m ∈ genPseudo b ∧ isValid (make b m) = true ∧ (sm ≠ [] → m.uci ∈ sm)

def TTRootFresh (s : St) (hash : UInt64) (d : Nat) : Prop := ∀ e, s.tt.get? hash = some e → e.depth < d

theorem accUpdate_bestMove (acc : LoopAcc) (m : Move) (child : VM) :
    (accUpdate acc m child).bestMove = some m ∨ (accUpdate acc m child).bestMove = acc.bestMove := by
  rcases accUpdate_cases acc m child with ⟨-, e⟩ | ⟨-, e⟩ <;> rw [e]
  · exact Or.inl rfl
  · exact Or.inr rfl

theorem finish_mv {c : Nat} {a b : Int} {h : UInt64} {rem : Nat} {r : LoopAcc × Bool × St} {m : Move}
    (hm : (finish c a b h rem r).1.mv = some m) : r.1.bestMove = some m := by
  obtain ⟨acc, ab, s⟩ := r
  rcases finish_cases c a b h rem acc ab s with ⟨-, e⟩ | ⟨-, -, e⟩ | ⟨-, -, -, e⟩ | ⟨-, -, -, nt, e⟩ <;> rw [e] at hm
  · cases hm
  · cases hm
  · exact hm
  · exact hm

section
variable (L : BoardLaws)
include L

theorem nLoop_best {fuel : Nat} (b0 : Board) (hinv : Inv (fuel + 1) b0) (P : Move → Prop) (moves : List Move)
    (hmem : ∀ m ∈ moves, Generated b0 m) (hP : ∀ m ∈ moves, isValid (make b0 m) = true → P m) (s : St) (ply maxPly : Nat)
    (beta : Int) (isPv : Bool) (pvMove : Option Move) (h ph : UInt64) (rem : Nat) (acc : LoopAcc) (hs : vis s.board = vis b0)
    (hacc : ∀ m, acc.bestMove = some m → P m) :
    ∀ m, (negamaxLoop fuel s moves ply maxPly beta isPv pvMove h ph rem acc).1.bestMove = some m → P m :=
  (nLoop_walk L hinv ply maxPly beta h
    (NL := fun moves _ acc res => (∀ m ∈ moves, isValid (make b0 m) = true → P m) →
      (∀ m, acc.bestMove = some m → P m) → ∀ m, res.1.bestMove = some m → P m)
    (nil := fun _ hacc => hacc)
    (skip := fun _ ih hP hacc => ih (List.forall_mem_cons.mp hP).2 hacc)
    (child := by
      intro m rest _ acc _ r _ hv _ _
      have hacc' : (∀ x ∈ m :: rest, isValid (make b0 x) = true → P x) → (∀ x, acc.bestMove = some x → P x) →
          ∀ x, (accUpdate acc m r.1).bestMove = some x → P x := by
        intro hP hacc x hx
        rcases accUpdate_bestMove acc m r.1 with h1 | h1 <;> rw [h1] at hx
        · cases hx
          exact hP m List.mem_cons_self hv
        · exact hacc x hx
      exact ⟨fun _ _ hacc => hacc, fun _ _ => hacc',
        fun _ _ _ ih hP hacc => ih (List.forall_mem_cons.mp hP).2 (hacc' hP hacc)⟩)
    isPv pvMove ph rem moves hmem s acc hs).1 hP hacc

theorem root_move_at (fuel : Nat) (b0 : Board) (s : St) (maxPly : Nat) (a b : Int) (isPv : Bool) (hash ph : UInt64)
    (hinv : Inv fuel b0) (hs : vis s.board = vis b0) (hpos : 0 < maxPly) (hfresh : TTRootFresh s hash maxPly) (m : Move)
    (hm : (negamax fuel s 0 maxPly a b isPv hash ph).1.mv = some m) :
    m ∈ rootBuffer s 0 ∧ isValid (make b0 m) = true := by
  cases fuel with
  | zero => rw [negamax_zero] at hm; exact absurd hm (by simp [VM.mv, VM.leaf])
  | succ fuel =>
    have he : (enter s hash).board = s.board := enter_board s hash
    obtain ⟨-, -, hgo, -, -⟩ := enter_rel (kept_stepRel 0) s hash
    have htt : (enter s hash).tt = s.tt := enter_tt s hash
    have hbuf : rootBuffer (enter s hash) 0 = rootBuffer s 0 := by
      unfold rootBuffer; rw [he, hgo]
    rcases negamax_succ_cases fuel s 0 maxPly a b isPv hash ph with
      ⟨-, e⟩ | ⟨v, -, e⟩ | ⟨t, hget, hd, e⟩ | ⟨α, β, -, hz, -⟩ | ⟨α, β, -, -, e⟩ <;> try rw [e] at hm
    · cases hm
    · cases hm
    · have := hfresh t (htt ▸ hget)
      omega
    · omega
    · exact nLoop_best L b0 hinv (fun x => x ∈ rootBuffer s 0 ∧ isValid (make b0 x) = true)
        _ (fun x hx => Or.inl (genPseudo_congr hs ▸ he ▸ mem_rootBuffer_genPseudo (mem_sortMoves.mp hx)))
        (fun x hx hv => ⟨by rw [← hbuf]; exact mem_sortMoves.mp hx, hv⟩)
        (enter s hash) 0 maxPly _ isPv _ hash ph (maxPly - 0) (acc0 _) (he ▸ hs)
        (fun x hx => by cases hx) m (finish_mv hm)

theorem root_move_from_buffer (fuel : Nat) (s : St) (maxPly : Nat) (a b : Int) (isPv : Bool) (hash ph : UInt64)
    (hinv : Inv fuel s.board) (hpos : 0 < maxPly) (hfresh : TTRootFresh s hash maxPly) (m : Move)
    (hm : (negamax fuel s 0 maxPly a b isPv hash ph).1.mv = some m) :
    m ∈ rootBuffer s 0 ∧ isValid (make s.board m) = true :=
  root_move_at L fuel s.board s maxPly a b isPv hash ph hinv rfl hpos hfresh m hm

end

section
variable (L : BoardLaws)
include L

/-- what every iteration of a `go` finds (`n` iterations left, depth `d`): clock budget for the fuels still to come, the
position `root`, and a table all of whose entries are shallower than the iteration depth (the table is emptied by `go`, and
iteration `d` stores depths ≤ `d` only), so that it cannot answer at the root -/
def RootInv (root : Board) (n d : Nat) (s : St) : Prop :=
  Inv (fuelFor d + n) root ∧ vis s.board = vis root ∧ 1 ≤ d ∧ TTBound (d - 1) s

omit L in
theorem rootInv_goPrep (s : St) (g : GoParams) (maxIter : Nat) (hinv : Inv (goBudget maxIter) s.board) :
    RootInv s.board (goIters g maxIter) 1 (goPrep s g) :=
  ⟨Inv_mono (by have := goIters_le g maxIter; unfold fuelFor goBudget; omega) hinv, by rw [goPrep_board], Nat.le_refl 1,
    goPrep_ttBound s g⟩

theorem rootIter_step {root : Board} {n d : Nat} {s : St} (h : RootInv root (n + 1) d s) :
    Inv (fuelFor d) root ∧ TTRootFresh s (Zobrist.hash s.board) d ∧ vis (rootSearch s d).2.board = vis root ∧
    ∀ p o, RootInv root n (d + 1) { (rootSearch s d).2 with pv := p, out := o } := by
  obtain ⟨hinv0, hs, hd, htt⟩ := h
  have hwf : Inv (fuelFor d) root := Inv_mono (Nat.le_add_right _ _) hinv0
  have hb := rootSearch_board L root s d hwf hs
  refine ⟨hwf, fun e he => by have := htt _ e he; omega, hb, fun p o => ?_⟩
  exact ⟨Inv_mono (by unfold fuelFor; omega) hinv0, hb, by omega,
    rootSearch_rel (ttRel_stepRel (Nat.le_refl d)) s (fun h e he => Nat.le_trans (htt h e he) (Nat.sub_le _ _))⟩

theorem legal_iterStep (b0 : Board) (sm : List String) :
    IterStep (fun r => ∀ m, r.1.mv = some m → LegalRoot b0 sm m) (fun n d s => RootInv b0 n d s ∧ s.go.searchMoves = sm) := by
  intro n d s ⟨hI, hsm⟩
  obtain ⟨hwf, hfresh, -, hnext⟩ := rootIter_step L hI
  refine ⟨fun m hm => ?_, fun _ p o => ⟨hnext p o, ?_⟩⟩
  · obtain ⟨h1, h2⟩ := root_move_at L _ b0 s d _ _ _ _ _ hwf hI.2.1 (by have := hI.2.2.1; omega) hfresh m hm
    obtain ⟨h3, h4⟩ := mem_rootBuffer.mp h1
    exact ⟨by rw [← genPseudo_congr hI.2.1]; exact h3, h2, by rw [← hsm]; exact h4 rfl⟩
  · exact (rootSearch_rel (kept_stepRel d) s).2.2.1 ▸ hsm

theorem iters_legal (b0 : Board) (sm : List String) (n : Nat) (s : St) (d mt : Nat) (u : Option (List Move)) (sc : Option Score)
    (hI : RootInv b0 n d s) (hsm : s.go.searchMoves = sm) :
    ∀ r ∈ iters n s d mt u sc, ∀ m, r.1.mv = some m → LegalRoot b0 sm m :=
  iters_all (legal_iterStep L b0 sm) n s d mt u sc ⟨hI, hsm⟩

theorem go_bestmove_legal (s : St) (g : GoParams) (maxIter : Nat) (hinv : Inv (goBudget maxIter) s.board) (m : Move)
    (hm : bestMoveOf (goDeepen s g maxIter).1 = some m) : LegalRoot s.board g.searchMoves m := by
  rw [goDeepen_best] at hm
  cases hl : (completed (goIterations s g maxIter)).getLast? with
  | none => rw [hl] at hm; simp [bestMoveOf] at hm
  | some r =>
    rw [hl] at hm
    have hr : r ∈ goIterations s g maxIter := by
      have := List.mem_of_getLast? hl
      unfold completed at this
      exact (List.mem_filter.mp this).1
    exact iters_legal L s.board g.searchMoves _ (goPrep s g) 1 _ none none (rootInv_goPrep s g maxIter hinv)
      (goPrep_searchMoves s g) r hr m hm

end

end Inkayaku.Search
