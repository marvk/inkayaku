import Inkayaku.Proofs.GenSpecPawn
import Inkayaku.Proofs.ZobristStep
/-!
# What the generator guarantees about every move it emits (helper for C02 and C06)

`GenFacts b f` pins down every decoded field `f` of a generated move in terms of the position `b` (who moves, the
piece on the source, the captured piece and its square, the lost-right flags, the half-move reset, the next e.p. square)
and the shape of the move; `MakeUnmake.MoveOK` only says that `make`/`unmake` do not go wrong.  `CallOK` is the part about
the arguments of a `make_move` call, proved per call site (`site_callOK`); `Proofs/Successor.lean` and C06 build on it.
`Named` is `GenFacts` with its conjuncts under names; `castle_squares` and `victim` say what `CastleFacts` and `EpFacts`
give with the constants of the two colours evaluated: the rook's two squares, the square of the pawn taken en passant.
-/
namespace Inkayaku.GenFacts
open Inkayaku.Board Inkayaku.Gen Inkayaku.WF Inkayaku.MakeUnmake Inkayaku.MoveBits Inkayaku.Attack

/-- the square the captured piece stands on: the target, or for en passant the square behind it -/
def capSq (white ep : Bool) (tgt : Nat) : Nat := if ep then (if white then tgt + 8 else tgt - 8) else tgt

/-- `d_castle` of `make_move`: 0 when white moves, 56 when black moves -/
def dHome (white : Bool) : Nat := if white then 0 else 56

def CastleFacts (b : Board) (src tgt piece : Nat) (ep : Bool) (promo epOpp : Nat) : Prop :=
  let d := dHome b.whiteTurn
  let occ := b.active.full ||| b.passive.full
  piece = KING ∧ ep = false ∧ promo = 0 ∧ epOpp = 0 ∧ src = E1 - d ∧ testU occ tgt = false ∧
  ((tgt = C1 - d ∧ b.active.qs = true ∧ testU b.active.rooks (A1 - d) = true ∧ testU occ (D1 - d) = false) ∨
   (tgt = G1 - d ∧ b.active.ks = true ∧ testU b.active.rooks (H1 - d) = true ∧ testU occ (F1 - d) = false))

def EpFacts (b : Board) (src tgt piece : Nat) (castle : Bool) (promo epOpp : Nat) : Prop :=
  piece = PAWN ∧ castle = false ∧ promo = 0 ∧ epOpp = 0 ∧ b.ep = tgt ∧ b.ep ≠ 0 ∧
  testU (b.active.full ||| b.passive.full) tgt = false ∧ src % 8 ≠ tgt % 8 ∧
  (if b.whiteTurn then tgt + 8 < 64 ∧ testU b.passive.pawns (tgt + 8) = true
   else 8 ≤ tgt ∧ testU b.passive.pawns (tgt - 8) = true)

/-- `epOpp` (the next e.p. square) is non-zero exactly for the double step and then is the square stepped over -/
def PawnFacts (b : Board) (src tgt : Nat) (castle ep : Bool) (promo epOpp : Nat) : Prop :=
  castle = false ∧ (promo ≠ 0 ↔ (if b.whiteTurn then tgt < 8 else 56 ≤ tgt)) ∧
  (src % 8 ≠ tgt % 8 → ep = true ∨ testU b.passive.full tgt = true) ∧
  (if epOpp = 0 then (if b.whiteTurn then src / 8 = tgt / 8 + 1 else tgt / 8 = src / 8 + 1)
   else ep = false ∧ promo = 0 ∧ testU b.passive.full tgt = false ∧
     (if b.whiteTurn then src = tgt + 16 ∧ epOpp = tgt + 8 else tgt = src + 16 ∧ epOpp = src + 8))

/-- what the generator guarantees about the arguments of a call of `make_move` -/
def CallOK (b : Board) (src tgt piece : Nat) (castle ep : Bool) (promo epOpp : Nat) : Prop :=
  src < 64 ∧ tgt < 64 ∧ 1 ≤ piece ∧ piece ≤ 6 ∧
  testU (b.active.get piece) src = true ∧ testU b.active.full tgt = false ∧ testU b.passive.kings tgt = false ∧
  (castle = true → CastleFacts b src tgt piece ep promo epOpp) ∧
  (ep = true → EpFacts b src tgt piece castle promo epOpp) ∧
  (promo ≠ 0 → piece = PAWN ∧ 2 ≤ promo ∧ promo ≤ 5) ∧
  (piece = PAWN → PawnFacts b src tgt castle ep promo epOpp) ∧
  (piece ≠ PAWN → ep = false ∧ promo = 0 ∧ epOpp = 0) ∧
  (piece = KING → castle = false → src % 8 ≤ tgt % 8 + 1 ∧ tgt % 8 ≤ src % 8 + 1)

def GenFacts (b : Board) (f : MoveF) : Prop :=
  let white := b.whiteTurn
  let d := dHome white
  let cs := capSq white f.enPassant f.target
  b.turn ≤ 1 ∧ f.side = b.turn ∧ f.prevEp = b.ep ∧ f.prevHalfmove = b.halfmove ∧
  f.pieceMoved = b.active.pieceAt f.source ∧
  cs < 64 ∧ f.pieceAttacked = b.passive.pieceAt cs ∧ (f.pieceAttacked = 0 ↔ testU b.passive.full cs = false) ∧
  f.pieceAttacked ≠ KING ∧
  f.halfmoveReset = (f.pieceMoved == PAWN || f.pieceAttacked != NO_PIECE) ∧
  -- the lost-right flags: right held ∧ home square touched, exactly as `make_move` computes them
  f.oppLostQueen = (b.passive.qs && f.target == A8 + d) ∧
  f.oppLostKing = (b.passive.ks && f.target == H8 + d) ∧
  f.selfLostQueen = (b.active.qs && (f.source == A1 - d || f.source == E1 - d)) ∧
  f.selfLostKing = (b.active.ks && (f.source == H1 - d || f.source == E1 - d)) ∧
  CallOK b f.source f.target f.pieceMoved f.castle f.enPassant f.promotion f.nextEp

instance (b : Board) (s t p : Nat) (e : Bool) (pr eo : Nat) : Decidable (CastleFacts b s t p e pr eo) := by
  unfold CastleFacts; exact inferInstance
instance (b : Board) (s t p : Nat) (c : Bool) (pr eo : Nat) : Decidable (EpFacts b s t p c pr eo) := by
  unfold EpFacts; exact inferInstance
instance (b : Board) (s t : Nat) (c e : Bool) (pr eo : Nat) : Decidable (PawnFacts b s t c e pr eo) := by
  unfold PawnFacts; exact inferInstance
instance (b : Board) (s t p : Nat) (c e : Bool) (pr eo : Nat) : Decidable (CallOK b s t p c e pr eo) := by
  unfold CallOK; exact inferInstance
instance (b : Board) (f : MoveF) : Decidable (GenFacts b f) := by unfold GenFacts; exact inferInstance

/-- `GenFacts b f` with every conjunct under a name (the fields of `CallOK` follow those of `GenFacts`) -/
structure Named (b : Board) (f : MoveF) : Prop where
  turn : b.turn ≤ 1
  side : f.side = b.turn
  prevEp : f.prevEp = b.ep
  prevHalfmove : f.prevHalfmove = b.halfmove
  moved : f.pieceMoved = b.active.pieceAt f.source
  capSq_lt : capSq b.whiteTurn f.enPassant f.target < 64
  attacked : f.pieceAttacked = b.passive.pieceAt (capSq b.whiteTurn f.enPassant f.target)
  attacked_zero : f.pieceAttacked = 0 ↔ testU b.passive.full (capSq b.whiteTurn f.enPassant f.target) = false
  attacked_ne_king : f.pieceAttacked ≠ KING
  halfmoveReset : f.halfmoveReset = (f.pieceMoved == PAWN || f.pieceAttacked != NO_PIECE)
  oppLostQueen : f.oppLostQueen = (b.passive.qs && f.target == A8 + dHome b.whiteTurn)
  oppLostKing : f.oppLostKing = (b.passive.ks && f.target == H8 + dHome b.whiteTurn)
  selfLostQueen : f.selfLostQueen = (b.active.qs && (f.source == A1 - dHome b.whiteTurn || f.source == E1 - dHome b.whiteTurn))
  selfLostKing : f.selfLostKing = (b.active.ks && (f.source == H1 - dHome b.whiteTurn || f.source == E1 - dHome b.whiteTurn))
  source_lt : f.source < 64
  target_lt : f.target < 64
  piece_range : 1 ≤ f.pieceMoved ∧ f.pieceMoved ≤ 6
  on_source : testU (b.active.get f.pieceMoved) f.source = true
  target_free : testU b.active.full f.target = false
  target_not_king : testU b.passive.kings f.target = false
  castle : f.castle = true → CastleFacts b f.source f.target f.pieceMoved f.enPassant f.promotion f.nextEp
  ep : f.enPassant = true → EpFacts b f.source f.target f.pieceMoved f.castle f.promotion f.nextEp
  promo : f.promotion ≠ 0 → f.pieceMoved = PAWN ∧ 2 ≤ f.promotion ∧ f.promotion ≤ 5
  pawn : f.pieceMoved = PAWN → PawnFacts b f.source f.target f.castle f.enPassant f.promotion f.nextEp
  not_pawn : f.pieceMoved ≠ PAWN → f.enPassant = false ∧ f.promotion = 0 ∧ f.nextEp = 0
  king : f.pieceMoved = KING → f.castle = false →
    f.source % 8 ≤ f.target % 8 + 1 ∧ f.target % 8 ≤ f.source % 8 + 1

theorem GenFacts.named {b : Board} {f : MoveF} (h : GenFacts b f) : Named b f := by
  obtain ⟨h1, h2, h3, h4, h5, h6, h7, h8, h9, h10, h11, h12, h13, h14,
    c1, c2, p1, p6, c5, c6, c7, c8, c9, c10, c11, c12, c13⟩ := h
  exact ⟨h1, h2, h3, h4, h5, h6, h7, h8, h9, h10, h11, h12, h13, h14, c1, c2, ⟨p1, p6⟩, c5, c6, c7, c8, c9, c10, c11, c12, c13⟩

theorem castle_squares {b : Board} {f : MoveF} (n : Named b f) (hc : f.castle = true) :
    ∃ rs rt, castleRook f.target = some (rs, rt) ∧
      Spec.castleSquares b.whiteTurn (Spec.fileOf f.target == 6) = (f.source, f.target, rs, rt) ∧
      rs < 64 ∧ rt < 64 ∧ f.source ≠ f.target ∧ f.source ≠ rs ∧ f.source ≠ rt ∧ f.target ≠ rs ∧ f.target ≠ rt ∧ rs ≠ rt ∧
      testU b.active.rooks rs = true ∧ testU (b.active.full ||| b.passive.full) rt = false ∧
      testU (b.active.full ||| b.passive.full) f.target = false ∧ f.pieceMoved = KING := by
  obtain ⟨hpk, -, -, -, hsE, hfree, hside⟩ := n.castle hc
  unfold dHome at hsE hside
  simp only [E1, C1, G1, A1, D1, H1, F1] at hsE hside
  cases hw : b.whiteTurn <;> rw [hw] at hsE hside <;> rcases hside with ⟨h, -, hr, hfr⟩ | ⟨h, -, hr, hfr⟩ <;>
    rw [h] at hfree ⊢ <;> rw [hsE]
  · exact ⟨0, 3, by decide, by decide, by decide, by decide, by decide, by decide, by decide, by decide, by decide,
      by decide, hr, hfr, hfree, hpk⟩
  · exact ⟨7, 5, by decide, by decide, by decide, by decide, by decide, by decide, by decide, by decide, by decide,
      by decide, hr, hfr, hfree, hpk⟩
  · exact ⟨56, 59, by decide, by decide, by decide, by decide, by decide, by decide, by decide, by decide, by decide,
      by decide, hr, hfr, hfree, hpk⟩
  · exact ⟨63, 61, by decide, by decide, by decide, by decide, by decide, by decide, by decide, by decide, by decide,
      by decide, hr, hfr, hfree, hpk⟩

/-- the pawn an en-passant capture removes stands on `v`: in the code's terms the capture square `capSq` and the mask
`epVictim`, in the Spec's the target's file on the source's row -/
theorem victim {b : Board} {f : MoveF} (n : Named b f) (hee : f.enPassant = true) :
    ∃ v, capSq b.whiteTurn true f.target = v ∧ epVictim b.whiteTurn (bitU f.target) = bitU v ∧
      Spec.mkSq (Spec.fileOf f.target) (Spec.rowOf f.source) = v ∧ v < 64 ∧ v / 8 = f.source / 8 ∧
      v % 8 = f.target % 8 ∧ v ≠ f.target ∧ v ≠ f.source ∧ testU b.passive.pawns v = true := by
  have hs := n.source_lt
  have ht := n.target_lt
  obtain ⟨hpp, -, -, heo, -, -, -, hfl, hv⟩ := n.ep hee
  obtain ⟨-, -, -, hrow⟩ := n.pawn hpp
  rw [if_pos heo] at hrow
  unfold capSq epVictim
  simp only [Spec.mkSq, Spec.fileOf, Spec.rowOf, if_true]
  cases hw : b.whiteTurn <;> rw [hw] at hv hrow
  · simp only [Bool.false_eq_true, if_false] at hv hrow ⊢
    exact ⟨_, rfl, Bits.bitU_shr8 _ ht hv.1, by omega, by omega, by omega, by omega, by omega, by omega, hv.2⟩
  · simp only [if_true] at hv hrow ⊢
    exact ⟨_, rfl, Bits.bitU_shl8 _ (by omega), by omega, by omega, by omega, by omega, by omega, by omega, hv.2⟩

theorem Named.ep_victim {b : Board} {f : MoveF} (h : Named b f) (he : f.enPassant = true) :
    testU b.passive.pawns (capSq b.whiteTurn true f.target) = true ∧ f.pieceAttacked ≠ 0 := by
  obtain ⟨v, hv, -, -, -, -, -, -, -, hp⟩ := victim h he
  rw [hv]
  refine ⟨hp, fun h0 => ?_⟩
  have := h.attacked_zero.mp h0
  rw [he, hv, get_le_full b.passive (p := 1) (by decide) (by decide) hp] at this
  cases this

/-- `Side.pieceAt` tests the pawn word first -/
theorem Named.ep_attacked {b : Board} {f : MoveF} (h : Named b f) (he : f.enPassant = true) : f.pieceAttacked = 1 := by
  have hlt := h.capSq_lt
  have ha := h.attacked
  rw [he] at hlt ha
  rw [ha, pieceAt_bits _ hlt, (h.ep_victim he).1]
  rfl

theorem Named.source_ne_target {b : Board} {f : MoveF} (h : Named b f) : f.source ≠ f.target := fun e => by
  have := get_le_full _ h.piece_range.1 h.piece_range.2 h.on_source
  rw [e, h.target_free] at this
  cases this

theorem Named.pawn_target {b : Board} {f : MoveF} (h : Named b f) (hp : f.pieceMoved = PAWN) (h0 : f.promotion = 0) :
    8 ≤ f.target ∧ f.target < 56 := by
  have hs := h.source_lt
  have ht := h.target_lt
  obtain ⟨-, hlast, -, hrow⟩ := h.pawn hp
  have hnl : ¬ (if b.whiteTurn then f.target < 8 else 56 ≤ f.target) := fun hc => hlast.mpr hc h0
  cases hw : b.whiteTurn <;> simp only [hw, if_true, Bool.false_eq_true, if_false] at hnl hrow <;>
    split at hrow <;> omega

theorem testU_clearBit (x : UInt64) (s t : Nat) (hs : s < 64) :
    testU (clearBit x (bitU s)) t = (testU x t && !decide (s = t)) := by
  rw [Bits.testU_clearBit, Bits.testU_bitU s t hs]

def activeWords (b : Board) : List UInt64 := sideWords b.active
def passiveWords (b : Board) : List UInt64 := sideWords b.passive

/-- the passive king is not attacked: no attack lookup FROM a piece of the mover hits it -/
structure NoHit (b : Board) : Prop where
  rook : ∀ src tgt, src < 64 → tgt < 64 → testU (b.active.rooks ||| b.active.queens) src = true →
    testU (rookAttacks src (b.active.full ||| b.passive.full)) tgt = true → testU b.passive.kings tgt = false
  bishop : ∀ src tgt, src < 64 → tgt < 64 → testU (b.active.bishops ||| b.active.queens) src = true →
    testU (bishopAttacks src (b.active.full ||| b.passive.full)) tgt = true → testU b.passive.kings tgt = false
  knight : ∀ src tgt, src < 64 → tgt < 64 → testU b.active.knights src = true →
    testU (leaperAttacks knightTable src) tgt = true → testU b.passive.kings tgt = false
  king : ∀ src tgt, src < 64 → tgt < 64 → testU b.active.kings src = true →
    testU (leaperAttacks kingTable src) tgt = true → testU b.passive.kings tgt = false
  pawn : ∀ src tgt, src < 64 → tgt < 64 → testU b.active.pawns src = true →
    testU (leaperAttacks (if b.whiteTurn then whitePawnTable else blackPawnTable) src) tgt = true →
    testU b.passive.kings tgt = false

/-- everything the generator proofs use of `wf b`: what the comparison with the rules uses (`PawnWF`) and, from `isValid b`,
that the passive king is not attacked -/
structure Env (b : Board) : Prop where
  pawn : GenSpec.PawnWF b
  noHit : NoHit b

theorem Env.w {b : Board} (he : Env b) : GenOK.WFacts b := he.pawn.facts
theorem Env.act {b : Board} (he : Env b) : Holds b.active b.active.pieceAt := he.pawn.disjoint.holds.1
theorem Env.pas {b : Board} (he : Env b) : Holds b.passive b.passive.pieceAt := he.pawn.disjoint.holds.2.1

theorem Env.cross {b : Board} (he : Env b) (t : Nat) (ht : testU b.active.full t = true) : testU b.passive.full t = false := by
  have := he.pawn.disjoint.holds.2.2 t (Bits.testU_lt ht)
  rwa [pieceAt_zero _ _ (Bits.testU_lt ht), pieceAt_zero _ _ (Bits.testU_lt ht), ht, or_iff_right (by decide)] at this

theorem Env.epEmpty {b : Board} (he : Env b) (hne : b.ep ≠ 0) : testU (b.active.full ||| b.passive.full) b.ep = false :=
  (GenSpec.fullOcc_eq b _).trans (he.pawn.epEmpty hne)

theorem single_bit' (x : UInt64) (h : popcount x = 1) :
    trailingZeros x < 64 ∧ ∀ t, testU x t = true → t = trailingZeros x := by
  obtain ⟨s, hs64, htz, hf⟩ := Check.single_bit x h
  obtain ⟨s', hs'⟩ := List.length_eq_one_iff.mp h
  have hmem : ∀ t, testU x t = true → t = s' := by
    intro t ht
    have : t ∈ bitsAsc x := (Bits.mem_bitsAsc x t).mpr ht
    rw [hs'] at this
    simpa using this
  have hs's : testU x s' = true := (Bits.mem_bitsAsc x s').mp (by rw [hs']; simp)
  have hxs : testU x s = true := List.find?_some hf
  have : s = s' := hmem s hxs
  subst this
  rw [htz]
  exact ⟨hs64, hmem⟩

/-- `isValid b` (conjunct (4) of `wf`) read through C05: the passive king's square is not attacked under the rules, and
every attack lookup of the mover is an attack under the rules (`attacks_iff_geom`) -/
theorem king_safe {b : Board} (h : wf b = true) (k : Spec.Kind) {s t : Nat}
    (hs : testU (b.active.get (Abs.kindCode k)) s = true) (ha : GenStrong.Attacks b (Abs.kindCode k) s t) :
    testU b.passive.kings t = false := by
  have hst := (Check.struct_of_wf h).1
  have hd := hst.disjoint
  have hv := (parts_of_wf h).valid
  rw [Check.isValid_iff b hst, GenSpec.whiteToMove_eq] at hv
  cases hk : testU b.passive.kings t
  · rfl
  · exfalso
    have hs64 := Bits.testU_lt hs
    have ht64 := Bits.testU_lt hk
    have hpk : popcount b.passive.kings = 1 := by
      unfold Board.passive; split
      · exact hst.blackKing
      · exact hst.whiteKing
    obtain ⟨s0, -, htz, hfind⟩ := Check.single_bit _ hpk
    have ht0 : t = s0 := by rw [← htz]; exact (single_bit' _ hpk).2 t hk
    subst ht0
    have hks : Spec.kingSquare (Abs.abs b) (!b.whiteTurn) = some t := by
      rw [Check.kingSquare_eq b hd, ← GenSpec.passive_eq]; exact hfind
    have hatt : Spec.attacked (Abs.abs b) b.whiteTurn t = true :=
      (attacked_iff _ _ _).mpr ⟨s, hs64, k, (at_iff b hd s hs64 _ k).mpr hs, (GenSpec.attacks_iff_geom b k hs64 ht64).mp ha⟩
    simp [Spec.inCheck, hks, hatt] at hv

/-- the five lookups of `NoHit` are the lookups `Attacks` names -/
theorem noHit_of_wf {b : Board} (h : wf b = true) : NoHit b := by
  have or_get : ∀ {x y : UInt64} {s : Nat}, testU (x ||| y) s = true → testU x s = true ∨ testU y s = true := by
    intro x y s hxy; rw [Bits.testU_or, Bool.or_eq_true] at hxy; exact hxy
  refine ⟨?_, ?_, ?_, ?_, ?_⟩
  · intro s t _ _ hs ha
    rcases or_get hs with hs | hs
    · exact king_safe h .rook hs (Or.inl ⟨Or.inl rfl, ha⟩)
    · exact king_safe h .queen hs (Or.inl ⟨Or.inr rfl, ha⟩)
  · intro s t _ _ hs ha
    rcases or_get hs with hs | hs
    · exact king_safe h .bishop hs (Or.inr (Or.inl ⟨Or.inl rfl, ha⟩))
    · exact king_safe h .queen hs (Or.inr (Or.inl ⟨Or.inr rfl, ha⟩))
  · intro s t _ _ hs ha
    exact king_safe h .knight hs (Or.inr (Or.inr (Or.inl ⟨rfl, ha⟩)))
  · intro s t _ _ hs ha
    exact king_safe h .king hs (Or.inr (Or.inr (Or.inr (Or.inl ⟨rfl, ha⟩))))
  · intro s t _ _ hs ha
    exact king_safe h .pawn hs (Or.inr (Or.inr (Or.inr (Or.inr ⟨rfl, ha⟩))))

theorem env_of_wf {b : Board} (h : wf b = true) : Env b := ⟨GenSpec.pawnWF_of_wf h, noHit_of_wf h⟩

theorem callOK_capSq_lt {b : Board} {src tgt piece promo epOpp : Nat} {castle ep : Bool}
    (hc : CallOK b src tgt piece castle ep promo epOpp) : capSq b.whiteTurn ep tgt < 64 := by
  obtain ⟨hs, ht, -, -, -, -, -, -, hep, -⟩ := hc
  unfold capSq
  cases he : ep
  · simpa using ht
  · obtain ⟨-, -, -, -, -, -, -, -, h9⟩ := hep he
    simp only [if_true]
    split at h9 <;> simp_all <;> omega

theorem facts_mkF {b : Board} {castle ep : Bool} {src tgt piece promo epOpp : Nat}
    (he : Env b) (hc : CallOK b src tgt piece castle ep promo epOpp) :
    GenFacts b (GenSpec.mkF b src tgt piece castle ep promo epOpp) := by
  have hb := he.w.basic
  have hcs := callOK_capSq_lt hc
  have hcap : GenSpec.attackSq b tgt ep = capSq b.whiteTurn ep tgt := by
    unfold GenSpec.attackSq capSq; cases ep <;> cases b.whiteTurn <;> simp
  obtain ⟨hs, ht, hp1, hp6, hsrc, htgt, hking, hcastle, hep, hpromo, hpawn, hnp, hkstep⟩ := hc
  unfold GenFacts GenSpec.mkF
  dsimp only
  rw [hcap]
  generalize hcsq : capSq b.whiteTurn ep tgt = cs at hcs
  have hlost : (!(b.passive.qs && tgt == A8 + (if b.whiteTurn = true then 0 else 56)) && b.passive.ks &&
      tgt == H8 + (if b.whiteTurn = true then 0 else 56))
      = (b.passive.ks && tgt == H8 + dHome b.whiteTurn) := by
    unfold dHome
    by_cases h1 : tgt = A8 + (if b.whiteTurn = true then 0 else 56)
    · have : (tgt == H8 + (if b.whiteTurn = true then 0 else 56)) = false := by
        simp only [A8, H8] at h1 ⊢; simp only [beq_eq_false_iff_ne, ne_eq]; omega
      simp [this]
    · have : (tgt == A8 + (if b.whiteTurn = true then 0 else 56)) = false := by simpa using h1
      simp [this]
  refine ⟨hb.turn, rfl, rfl, rfl, ?_, hcs, rfl, ?_, ?_, rfl, rfl, hlost, rfl, rfl,
    hs, ht, hp1, hp6, hsrc, htgt, hking, hcastle, hep, hpromo, hpawn, hnp, hkstep⟩
  · exact (he.act.code hp1 hp6 hsrc).symm
  · exact pieceAt_zero _ _ hcs
  · -- the captured piece is not a king
    intro hk
    have hkk : testU b.passive.kings cs = true := ((he.pas cs hcs).bit (k := 6) (by decide) (by decide)).mpr hk
    cases hee : ep
    · subst hcsq; simp only [capSq, hee, Bool.false_eq_true, if_false] at hkk
      rw [hking] at hkk; exact absurd hkk (by decide)
    · obtain ⟨-, -, -, -, -, -, -, -, h9⟩ := hep hee
      have hpw : testU b.passive.pawns cs = true := by
        subst hcsq; simp only [capSq, hee, if_true]
        split at h9 <;> simp_all
      have := he.pas.code (k := 1) (by decide) (by decide) hpw
      rw [this] at hk; exact absurd hk (by decide)

theorem testU_or_left {a c : UInt64} {t : Nat} (h : testU a t = true) : testU (a ||| c) t = true := by
  rw [Bits.testU_or, h]; rfl
theorem testU_or_right {a c : UInt64} {t : Nat} (h : testU c t = true) : testU (a ||| c) t = true := by
  rw [Bits.testU_or, h]; simp

theorem callOK_piece {b : Board} {src tgt piece : Nat} (hs : src < 64) (ht : tgt < 64) (hp2 : 2 ≤ piece) (hp6 : piece ≤ 6)
    (hS : testU (b.active.get piece) src = true) (hT : testU b.active.full tgt = false)
    (hK : testU b.passive.kings tgt = false)
    (hstep : piece = KING → src % 8 ≤ tgt % 8 + 1 ∧ tgt % 8 ≤ src % 8 + 1) :
    CallOK b src tgt piece false false NO_PIECE 0 :=
  ⟨hs, ht, by omega, hp6, hS, hT, hK, fun h => absurd h (by decide), fun h => absurd h (by decide),
   fun h => absurd rfl h, fun h => by simp only [PAWN] at h; omega, fun _ => ⟨rfl, rfl, rfl⟩, fun hk _ => hstep hk⟩

theorem king_step {a t : Nat} (h : Geometry.kingGeom a t = true) : a % 8 ≤ t % 8 + 1 ∧ t % 8 ≤ a % 8 + 1 := by
  simp only [Geometry.kingGeom, Spec.fileOf, Bool.and_eq_true] at h
  have := of_decide_eq_true h.2.1
  omega

theorem pawn_geom (w : Bool) {a t : Nat} (h : Geometry.pawnGeom w a t = true) :
    a % 8 ≠ t % 8 ∧ (if w then a / 8 = t / 8 + 1 else t / 8 = a / 8 + 1) := by
  cases w <;> simp only [Geometry.pawnGeom, Spec.fileOf, Spec.rowOf, Bool.and_eq_true, beq_iff_eq, if_true,
    Bool.false_eq_true, if_false] at h ⊢ <;> omega

theorem callOK_pawn {b : Board} {src tgt promo : Nat} (hs : src < 64) (ht : tgt < 64)
    (hS : testU b.active.pawns src = true) (hT : testU b.active.full tgt = false)
    (hK : testU b.passive.kings tgt = false)
    (hpr : promo ≠ 0 → 2 ≤ promo ∧ promo ≤ 5)
    (hlast : promo ≠ 0 ↔ (if b.whiteTurn then tgt < 8 else 56 ≤ tgt))
    (hfile : src % 8 ≠ tgt % 8 → testU b.passive.full tgt = true)
    (hrow : if b.whiteTurn then src / 8 = tgt / 8 + 1 else tgt / 8 = src / 8 + 1) :
    CallOK b src tgt PAWN false false promo 0 :=
  ⟨hs, ht, by decide, by decide, hS, hT, hK, fun h => absurd h (by decide), fun h => absurd h (by decide),
   fun h => ⟨rfl, hpr h⟩, fun _ => ⟨rfl, hlast, fun h => Or.inr (hfile h), by rw [if_pos rfl]; exact hrow⟩,
   fun h => absurd rfl h, fun h => absurd h (by decide)⟩

theorem callOK_push {b : Board} {src tgt promo : Nat} (hs : src < 64) (ht : tgt < 64)
    (hS : testU b.active.pawns src = true) (hfree : testU (b.active.full ||| b.passive.full) tgt = false)
    (hpr : promo ≠ 0 → 2 ≤ promo ∧ promo ≤ 5)
    (hlast : promo ≠ 0 ↔ (if b.whiteTurn then tgt < 8 else 56 ≤ tgt))
    (hfile : src % 8 = tgt % 8)
    (hrow : if b.whiteTurn then src / 8 = tgt / 8 + 1 else tgt / 8 = src / 8 + 1) :
    CallOK b src tgt PAWN false false promo 0 :=
  callOK_pawn hs ht hS (occ_false hfree).1 (full_false_words (occ_false hfree).2).2.2.2.2.2 hpr hlast
    (fun h => absurd hfile h) hrow

theorem callOK_double {b : Board} {src tgt mid : Nat} (hs : src < 64) (ht : tgt < 64)
    (hS : testU b.active.pawns src = true) (hfree : testU (b.active.full ||| b.passive.full) tgt = false)
    (hmid0 : mid ≠ 0) (hfile : src % 8 = tgt % 8) (hnl : ¬ (if b.whiteTurn then tgt < 8 else 56 ≤ tgt))
    (hgeo : if b.whiteTurn then src = tgt + 16 ∧ mid = tgt + 8 else tgt = src + 16 ∧ mid = src + 8) :
    CallOK b src tgt PAWN false false NO_PIECE mid :=
  ⟨hs, ht, by decide, by decide, hS, (occ_false hfree).1, (full_false_words (occ_false hfree).2).2.2.2.2.2,
   fun h => absurd h (by decide), fun h => absurd h (by decide), fun h => absurd rfl h,
   fun _ => ⟨rfl, ⟨fun h => absurd rfl h, fun h => absurd h hnl⟩, fun h => absurd hfile h,
     by rw [if_neg hmid0]; exact ⟨rfl, rfl, (occ_false hfree).2, hgeo⟩⟩,
   fun h => absurd rfl h, fun h => absurd h (by decide)⟩

theorem callOK_castle {b : Board} {src tgt : Nat} (hs : src < 64) (ht : tgt < 64)
    (hK : testU b.active.kings src = true) (hfree : testU (b.active.full ||| b.passive.full) tgt = false)
    (hc : CastleFacts b src tgt KING false NO_PIECE 0) : CallOK b src tgt KING true false NO_PIECE 0 :=
  ⟨hs, ht, by decide, by decide, hK, (occ_false hfree).1, (full_false_words (occ_false hfree).2).2.2.2.2.2,
   fun _ => hc, fun h => absurd h (by decide), fun h => absurd rfl h, fun h => absurd h (by decide),
   fun _ => ⟨rfl, rfl, rfl⟩, fun _ h => absurd h (by decide)⟩

theorem promo_last {b : Board} {tgt promo : Nat} (hpr : GenSpec.PromoAt tgt promo)
    (hdir : if b.whiteTurn then tgt < 56 else 8 ≤ tgt) :
    (promo ≠ 0 → 2 ≤ promo ∧ promo ≤ 5) ∧ (promo ≠ 0 ↔ if b.whiteTurn then tgt < 8 else 56 ≤ tgt) := by
  unfold GenSpec.PromoAt GenSpec.lastRank at hpr
  simp only [Bool.or_eq_true, decide_eq_true_eq, NO_PIECE] at hpr
  cases hwt : b.whiteTurn <;> simp only [hwt, if_true, Bool.false_eq_true, if_false] at hdir ⊢ <;> split at hpr <;> omega

theorem site_callOK {b : Board} (he : Env b) {src tgt piece : Nat} {castle ep : Bool} {promo epOpp : Nat}
    (h : GenSpec.Site b src tgt piece castle ep promo epOpp) : CallOK b src tgt piece castle ep promo epOpp := by
  have hb := he.w.basic
  cases h with
  | piece hp2 hp6 hs ha ht =>
    have hsl := Bits.testU_lt hs
    have htl := ha.tgt_lt
    refine callOK_piece hsl htl hp2 hp6 hs ht ?_ (fun hk => ?_)
    · rcases ha with ⟨rfl | rfl, ha⟩ | ⟨rfl | rfl, ha⟩ | ⟨rfl, ha⟩ | ⟨rfl, ha⟩ | ⟨rfl, -⟩
      · exact he.noHit.rook _ _ hsl htl (testU_or_left hs) ha
      · exact he.noHit.rook _ _ hsl htl (testU_or_right hs) ha
      · exact he.noHit.bishop _ _ hsl htl (testU_or_left hs) ha
      · exact he.noHit.bishop _ _ hsl htl (testU_or_right hs) ha
      · exact he.noHit.knight _ _ hsl htl hs ha
      · exact he.noHit.king _ _ hsl htl hs ha
      · exact absurd hp2 (by decide)
    · subst hk
      rcases ha with ⟨h, -⟩ | ⟨h, -⟩ | ⟨h, -⟩ | ⟨-, ha⟩ | ⟨h, -⟩
      · exact absurd h (by decide)
      · exact absurd h (by decide)
      · exact absurd h (by decide)
      · rw [kingLookup_eq _ _ hsl htl] at ha
        exact king_step ha
      · exact absurd h (by decide)
  | capture hs ha hpr hep =>
    have hsl := Bits.testU_lt hs
    have htl := Bits.testU_lt ha
    obtain ⟨hatt, hcap, hf⟩ := (GenSpec.testU_pawnAttSet hb).mp ha
    rw [GenSpec.rank18_iff tgt htl] at hcap
    have hK : testU b.passive.kings tgt = false := he.noHit.pawn src tgt hsl htl hs hatt
    have hgeo := pawn_geom b.whiteTurn ((pawnLookup_eq b.whiteTurn src tgt hsl htl).symm.trans hatt)
    have hdir : if b.whiteTurn then tgt < 56 else 8 ≤ tgt := by
      have := hgeo.2
      cases hwt : b.whiteTurn <;> simp only [hwt, if_true, Bool.false_eq_true, if_false] at this ⊢ <;> omega
    obtain ⟨hpr25, hlast⟩ := promo_last hpr hdir
    cases hee : ep
    · -- not e.p.: the target holds an enemy piece
      have hP : testU b.passive.full tgt = true := by
        rcases hcap with h | ⟨h1, h2⟩
        · exact h
        · rw [hee, h2, h1] at hep; simp at hep
      exact callOK_pawn hsl htl hs hf hK hpr25 hlast (fun _ => hP) hgeo.2
    · rw [hee] at hep
      have hep' : GenSpec.lastRank tgt = false ∧ tgt = b.ep := by simpa using hep.symm
      have hp0 : promo = 0 := by simpa [GenSpec.PromoAt, hep'.1, NO_PIECE] using hpr
      subst hp0
      have hep0 : b.ep ≠ 0 := by
        have := hep'.1
        simp only [GenSpec.lastRank, Bool.or_eq_false_iff, decide_eq_false_iff_not] at this
        omega
      obtain ⟨hep8, hep56, -, hv⟩ := GenSpec.ep_victim he.w hep0
      have hempty := he.epEmpty hep0
      refine ⟨hsl, htl, by decide, by decide, hs, hf, hK, fun h => absurd h (by decide), fun _ => ?_,
        fun h => absurd rfl h, fun _ => ⟨rfl, hlast, fun _ => Or.inl rfl, by rw [if_pos rfl]; exact hgeo.2⟩,
        fun h => absurd rfl h, fun h => absurd h (by decide)⟩
      refine ⟨rfl, rfl, rfl, rfl, hep'.2.symm, hep0, by rw [hep'.2]; exact hempty, hgeo.1, ?_⟩
      rw [hep'.2]
      unfold GenSpec.attackSq at hv
      split
      · next hwt => rw [if_pos hwt] at hv; exact ⟨by omega, hv⟩
      · next hwt => rw [if_neg hwt] at hv; exact ⟨hep8, hv⟩
  | push hs h8 h56 htgt hfree hpr =>
    have hnum : tgt < 64 ∧ src % 8 = tgt % 8 ∧ (if b.whiteTurn then tgt < 56 else 8 ≤ tgt) ∧
        (if b.whiteTurn then src / 8 = tgt / 8 + 1 else tgt / 8 = src / 8 + 1) := by
      cases hwt : b.whiteTurn <;> simp only [hwt, GenSpec.fwd, if_true, Bool.false_eq_true, if_false] at htgt ⊢ <;> omega
    obtain ⟨hpr25, hlast⟩ := promo_last hpr hnum.2.2.1
    exact callOK_push (Bits.testU_lt hs) hnum.1 hs hfree hpr25 hlast hnum.2.1 hnum.2.2.2
  | double hs h8 h56 hhome hmid htgt hfm hft =>
    have hnum : tgt < 64 ∧ epOpp ≠ 0 ∧ src % 8 = tgt % 8 ∧ ¬ (if b.whiteTurn then tgt < 8 else 56 ≤ tgt) ∧
        (if b.whiteTurn then src = tgt + 16 ∧ epOpp = tgt + 8 else tgt = src + 16 ∧ epOpp = src + 8) := by
      cases hwt : b.whiteTurn <;>
        simp only [hwt, GenSpec.fwd, if_true, Bool.false_eq_true, if_false, decide_eq_true_eq] at hhome hmid htgt ⊢ <;> omega
    exact callOK_double (Bits.testU_lt hs) hnum.1 hs hft hnum.2.1 hnum.2.2.1 hnum.2.2.2.1 hnum.2.2.2.2
  | castle kingSide hc hright hsrc htgt hrs hrt hk hr hft hfr =>
    have hnum : src < 64 ∧ tgt < 64 := by
      rw [hsrc, htgt]
      cases b.whiteTurn <;> cases kingSide <;> decide
    refine callOK_castle hnum.1 hnum.2 hk hft ⟨rfl, rfl, rfl, rfl, hsrc, hft, ?_⟩
    rw [hrs] at hr
    rw [hrt] at hfr
    cases kingSide
    · exact Or.inl ⟨htgt, hright, hr, hfr⟩
    · exact Or.inr ⟨htgt, hright, hr, hfr⟩

theorem genPseudo_facts {b : Board} (h : wf b = true) : ∀ m ∈ genPseudo b, GenFacts b m.f :=
  GenSpec.forall_genPseudo (env_of_wf h).w (fun hs => facts_mkF (env_of_wf h) (site_callOK (env_of_wf h) hs))

theorem genNonQuiescent_facts {b : Board} (h : wf b = true) : ∀ m ∈ genNonQuiescent b, GenFacts b m.f :=
  fun m hm => genPseudo_facts h m (GenSpec.genNonQuiescent_subset (env_of_wf h).w m hm)

theorem castleOK_of {m : Side} {f : MoveF} {t rs rt : Nat} (ht : f.target = t) (hr : castleRook t = some (rs, rt))
    (hs : f.source = if t == C1 || t == G1 then E1 else E8) (hk : testU m.kings f.source = true)
    (hkt : testU m.kings f.target = false) (hrs : testU m.rooks rs = true) (hrt : testU m.rooks rt = false) :
    ZobristStep.CastleOK m f := by
  unfold ZobristStep.CastleOK
  rw [ht] at hkt ⊢
  rw [hr]
  exact ⟨hs, hk, hkt, hrs, hrt⟩

theorem hashok_of_facts {b : Board} {f : MoveF} (n : Named b f) : ZobristStep.HashMoveOK b f := by
  have hpa := n.attacked
  have hsrc := n.on_source
  have hfw := full_false_words n.target_free
  refine ⟨n.turn, n.side, n.prevEp, n.source_lt, n.target_lt, ?_, ?_, ?_, ?_, ?_⟩
  · intro hh; rw [n.selfLostKing] at hh; simp only [Bool.and_eq_true] at hh; exact hh.1
  · intro hh; rw [n.selfLostQueen] at hh; simp only [Bool.and_eq_true] at hh; exact hh.1
  · intro hh; rw [n.oppLostKing] at hh; simp only [Bool.and_eq_true] at hh; exact hh.1
  · intro hh; rw [n.oppLostQueen] at hh; simp only [Bool.and_eq_true] at hh; exact hh.1
  by_cases hc : f.castle = true
  · rw [if_pos hc]
    obtain ⟨hpk, -, -, -, hsE, hfree, hside2⟩ := n.castle hc
    rw [hpk] at hsrc
    have hk : testU b.active.kings f.source = true := hsrc
    cases hw : b.whiteTurn <;> rw [hw] at hsE hside2
    · rcases hside2 with ⟨htE, -, hr, hfr⟩ | ⟨htE, -, hr, hfr⟩
      · exact castleOK_of (t := 2) htE (by decide) hsE hk hfw.2.2.2.2.2 hr (full_false_words (occ_false hfr).1).2.2.2.1
      · exact castleOK_of (t := 6) htE (by decide) hsE hk hfw.2.2.2.2.2 hr (full_false_words (occ_false hfr).1).2.2.2.1
    · rcases hside2 with ⟨htE, -, hr, hfr⟩ | ⟨htE, -, hr, hfr⟩
      · exact castleOK_of (t := 58) htE (by decide) hsE hk hfw.2.2.2.2.2 hr (full_false_words (occ_false hfr).1).2.2.2.1
      · exact castleOK_of (t := 62) htE (by decide) hsE hk hfw.2.2.2.2.2 hr (full_false_words (occ_false hfr).1).2.2.2.1
  rw [if_neg hc]
  by_cases he : f.enPassant = true
  · rw [if_pos he]
    obtain ⟨hpp, -, -, -, -, -, -, -, hv⟩ := n.ep he
    rw [hpp] at hsrc
    refine ⟨hsrc, hfw.1, ?_⟩
    by_cases h0 : b.turn = 0
    · have hwt : b.whiteTurn = true := by simp [Board.whiteTurn, h0]
      rw [if_pos h0]; rw [hwt] at hv; exact hv
    · have hwt : b.whiteTurn = false := by simp [Board.whiteTurn, h0]
      rw [if_neg h0]; rw [hwt] at hv; exact hv
  rw [if_neg he]
  have he' : f.enPassant = false := by simpa using he
  simp only [capSq, he', Bool.false_eq_true, if_false] at hpa
  refine ⟨?_, by rw [hpa]; exact pieceAt_le _ _, fun hne => ?_⟩
  · by_cases hp : f.promotion ≠ NO_PIECE
    · rw [if_pos hp]
      obtain ⟨hpp, h2, h5⟩ := n.promo hp
      rw [hpp] at hsrc
      exact ⟨h2, by simp only [KING]; omega, hsrc, get_of_full_false _ (by omega) (by omega) n.target_free⟩
    · rw [if_neg hp]
      exact ⟨n.piece_range.1, n.piece_range.2, hsrc, get_of_full_false _ n.piece_range.1 n.piece_range.2 n.target_free⟩
  · rw [hpa] at hne ⊢
    exact get_of_pieceAt _ n.target_lt hne

/-- **the hypothesis of the C06 incremental-hash theorems holds for every generated move** -/
theorem genPseudo_hashok {b : Board} (h : wf b = true) : ∀ m ∈ genPseudo b, ZobristStep.HashMoveOK b m.f :=
  fun m hm => hashok_of_facts (genPseudo_facts h m hm).named

theorem genNonQuiescent_hashok {b : Board} (h : wf b = true) :
    ∀ m ∈ genNonQuiescent b, ZobristStep.HashMoveOK b m.f :=
  fun m hm => hashok_of_facts (genNonQuiescent_facts h m hm).named

theorem nextEp_rows {b : Board} {f : MoveF} (n : Named b f) :
    (f.nextEp = 0 → f.pieceMoved = PAWN → f.source / 8 ≤ f.target / 8 + 1 ∧ f.target / 8 ≤ f.source / 8 + 1) ∧
    (f.nextEp ≠ 0 → f.pieceMoved = PAWN ∧ (f.source = f.target + 16 ∨ f.target = f.source + 16) ∧
      2 * f.nextEp = f.source + f.target) := by
  refine ⟨fun h0 hp => ?_, fun h0 => ?_⟩
  · have h4 := (n.pawn hp).2.2.2
    rw [if_pos h0] at h4
    split at h4 <;> omega
  · have hp : f.pieceMoved = PAWN := Decidable.byContradiction fun hp => h0 (n.not_pawn hp).2.2
    have h4 := (n.pawn hp).2.2.2
    rw [if_neg h0] at h4
    have h5 := h4.2.2.2
    exact ⟨hp, by split at h5 <;> omega, by split at h5 <;> omega⟩

theorem nextEp_iff {b : Board} {f : MoveF} (h : GenFacts b f) :
    (f.nextEp ≠ 0 ↔ f.pieceMoved = PAWN ∧ (f.source = f.target + 16 ∨ f.target = f.source + 16)) ∧
    (f.nextEp ≠ 0 → 2 * f.nextEp = f.source + f.target) := by
  obtain ⟨r0, r1⟩ := nextEp_rows h.named
  refine ⟨⟨fun hne => ⟨(r1 hne).1, (r1 hne).2.1⟩, fun ⟨hp, hd⟩ h0 => ?_⟩, fun hne => (r1 hne).2.2⟩
  have := r0 h0 hp
  omega

#print axioms genPseudo_facts
#print axioms genNonQuiescent_facts
#print axioms genPseudo_hashok

end Inkayaku.GenFacts
