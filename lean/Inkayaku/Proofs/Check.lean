import Inkayaku.Proofs.Attack
/-!
# `_is_in_check_by_bits`, `is_valid`, `is_current_in_check` versus the rules (`_is_occupancy_in_check`: `Props/C05.lean`)

With exactly one king per side `trailing_zeros(kings)` is the king's square = `Spec.kingSquare`, and
`Attack.squareInCheck_iff_occ` does the rest.
-/
namespace Inkayaku.Check
open Inkayaku.Board Inkayaku.Bits Inkayaku.Attack

/-- the structural part of `WF.wf` the check tests rely on: disjoint piece words and exactly one king per side.
It deliberately does NOT contain `isValid b` (conjunct (4) of `WF.wf`), so that `isValid_iff` is not circular. -/
structure Struct (b : Board) : Prop where
  disjoint : Disjoint b
  whiteKing : WF.popcount b.white.kings = 1
  blackKing : WF.popcount b.black.kings = 1

theorem struct_of_wf {b : Board} (h : WF.wf b = true) : Struct b ∧ b.turn ≤ 1 :=
  have p := WF.parts_of_wf h
  ⟨⟨p.disj, p.wk, p.bk⟩, p.turn⟩

theorem find?_congr' {α} {p q : α → Bool} {l : List α} (h : ∀ x ∈ l, p x = q x) : l.find? p = l.find? q := by
  induction l with
  | nil => rfl
  | cons a t ih =>
    simp only [List.find?_cons, h a (by simp)]
    rw [ih (fun x hx => h x (by simp [hx]))]

theorem any_congr' {α} {p q : α → Bool} {l : List α} (h : ∀ x ∈ l, p x = q x) : l.any p = l.any q := by
  induction l with
  | nil => rfl
  | cons a t ih =>
    simp only [List.any_cons, h a (by simp)]
    rw [ih (fun x hx => h x (by simp [hx]))]

theorem single_bit (x : UInt64) (h : WF.popcount x = 1) :
    ∃ s, s < 64 ∧ trailingZeros x = s ∧ (List.range 64).find? (testU x) = some s := by
  obtain ⟨s, hs⟩ := List.length_eq_one_iff.mp h
  have hf : (List.range 64).find? (testU x) = some s := by
    rw [← List.head?_filter]
    show (bitsAsc x).head? = some s
    rw [hs]; rfl
  refine ⟨s, ?_, ?_, hf⟩
  · exact List.mem_range.mp (List.mem_of_find?_eq_some hf)
  · unfold trailingZeros; rw [hf]; rfl

theorem kingSquare_eq (b : Board) (hd : Disjoint b) (w : Bool) :
    Spec.kingSquare (Abs.abs b) w = (List.range 64).find? (testU (sideOf b w).kings) := by
  unfold Spec.kingSquare
  apply find?_congr'
  intro s hs
  have := at_iff b hd s (List.mem_range.mp hs) w .king
  rw [Bool.eq_iff_iff, beq_iff_eq]
  exact this

theorem side_full_occ (b : Board) (w : Bool) (q : Nat) :
    testU ((sideOf b w).full ||| (sideOf b (!w)).full) q = testU (b.white.full ||| b.black.full) q := by
  cases w
  · simp only [sideOf, Bool.false_eq_true, if_false, Bool.not_false, if_true, testU_or, Bool.or_comm]
  · simp only [sideOf, if_true, Bool.not_true, Bool.false_eq_true, if_false]

theorem inCheck_unfold (b : Board) (c : Nat) :
    Board.inCheck b c = squareInCheck c (sideOf b (c != 0)) (trailingZeros (sideOf b (c == 0)).kings)
      ((sideOf b (c == 0)).full ||| (sideOf b (c != 0)).full) := by
  unfold Board.inCheck sideOf
  by_cases hc : c = 0
  · subst hc; simp
  · have h1 : (c == 0) = false := by simpa using hc
    have h2 : (c != 0) = true := by simpa using hc
    simp [h1, h2]

/-- `_is_in_check_by_bits(color)` = "the king of `color` is attacked by an enemy piece under the rules".
`c = 0` is white; every other value is treated as black by the code (`color == WHITE`), hence no bound on `c`. -/
theorem inCheck_iff' (b : Board) (hs : Struct b) (c : Nat) :
    Board.inCheck b c = Spec.inCheck (Abs.abs b) (c == 0) := by
  have hk : WF.popcount (sideOf b (c == 0)).kings = 1 := by
    unfold sideOf; split
    · exact hs.whiteKing
    · exact hs.blackKing
  obtain ⟨s, hs64, htz, hfind⟩ := single_bit _ hk
  rw [inCheck_unfold, htz]
  unfold Spec.inCheck
  rw [kingSquare_eq b hs.disjoint, hfind]
  exact squareInCheck_iff_occ b hs.disjoint c s hs64 _ (side_full_occ b (c == 0))

/-- `is_current_in_check` = the side to move is in check under the rules -/
theorem isCurrentInCheck_iff (b : Board) (hs : Struct b) :
    isCurrentInCheck b = Spec.inCheck (Abs.abs b) (Abs.abs b).whiteToMove :=
  inCheck_iff' b hs b.turn

/-- `is_valid` = the side that just moved (the one NOT to move) did not leave its own king attacked -/
theorem isValid_iff (b : Board) (hs : Struct b) :
    isValid b = !Spec.inCheck (Abs.abs b) (!(Abs.abs b).whiteToMove) := by
  unfold isValid
  rw [inCheck_iff' b hs]
  rw [other_beq_zero]
  rfl

end Inkayaku.Check
