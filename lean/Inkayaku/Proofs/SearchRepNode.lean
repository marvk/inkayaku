import Inkayaku.Proofs.SearchRepHist
/-!
# C10 at the search level: the repetition test of a `search_negamax` node

A node is entered with board `c = s.board` after the line `b0 :: T` (game positions, then the positions of the current search
line).  `NodeHyp b0 T s`: the boards form a line of legal moves with clock budget and without 16-bit wrap; the history holds
the line (`LineHist`: cells at and above the node's own index are arbitrary); `hash c ≠ 0` (zero is the content of the never
written cells) and `c` does not collide with a line position inside the window.  Then the test `search_negamax` performs after
recording the node's hash is true exactly when `3 ≤ occurrences (b0 :: T) c` (`isRep_enter_iff`), and the node returns
`ValuedMove::leaf(draw_score ± contempt)` in that case and goes on with the table probe otherwise (`negamax_of_isRep_iff`, for
any proposition the test is equivalent to; `C10Search.node_repetition` is its instance at `isRep_enter_iff`).
The test is stated first for a position `c` of which the state's board shows the visible part (`isRep_enter_iff_of`):
the boards the search passes through differ from the positions of the line in their scratch words.
-/
namespace Inkayaku.SearchRep
open Inkayaku.Board Inkayaku.WF Inkayaku.BoardCongr Inkayaku.Search Inkayaku.SearchSim Inkayaku.History Inkayaku.Eval
open Inkayaku.C06 (HashKey)

structure NodeHyp (b0 : Board) (T : List Board) (s : St) : Prop where
  line : IsLine (b0 :: (T ++ [s.board]))
  inv : Inv (T.length + 1) b0
  nowrap : ply2 b0 + (T.length + 1) < 65536
  hist : LineHist (plyClock b0) (b0 :: T) s.history
  nz : Zobrist.hash s.board ≠ 0
  coll : ∀ (i : Nat) (b : Board), (b0 :: T)[i]? = some b → T.length + 1 - s.board.halfmove ≤ i →
    Zobrist.hash b = Zobrist.hash s.board → HashKey b = HashKey s.board

theorem getElem?_snoc_last (b0 : Board) (T : List Board) (c : Board) : (b0 :: (T ++ [c]))[T.length + 1]? = some c := by
  rw [← List.cons_append, List.getElem?_append_right (by simp)]
  simp

theorem line_last {b0 : Board} {T : List Board} {c : Board} (hl : IsLine (b0 :: (T ++ [c]))) (hinv : Inv (T.length + 1) b0)
    (hnw : ply2 b0 + (T.length + 1) < 65536) :
    wf c = true ∧ c.halfmove ≤ 4095 ∧ plyClock c = plyClock b0 + (T.length + 1) := by
  have hTc : (T ++ [c]).length = T.length + 1 := by simp
  obtain ⟨hi, hp⟩ := line_facts (T ++ [c]) b0 (T.length + 1) hl hinv (by rw [hTc]; exact Nat.le_refl _)
    (T.length + 1) c (getElem?_snoc_last b0 T c)
  exact ⟨hi.wf, by have := hi.2.1; omega, plyClock_add hp hnw⟩

theorem isRep_enter_iff_of {b0 : Board} {T : List Board} {c : Board} {s : St} (hv : vis s.board = vis c)
    (hl : IsLine (b0 :: (T ++ [c]))) (hinv : Inv (T.length + 1) b0) (hnw : ply2 b0 + (T.length + 1) < 65536)
    (hh : LineHist (plyClock b0) (b0 :: T) s.history) (hnz : Zobrist.hash c ≠ 0)
    (hcoll : ∀ (i : Nat) (b : Board), (b0 :: T)[i]? = some b → T.length + 1 - c.halfmove ≤ i →
      Zobrist.hash b = Zobrist.hash c → HashKey b = HashKey c) (ply : Nat) (hply : 0 < ply) :
    isRep (enter s (Zobrist.hash s.board)) ply = true ↔ 3 ≤ occurrences (b0 :: T) c := by
  obtain ⟨hwf, hhm, hpc⟩ := line_last hl hinv hnw
  unfold isRep
  rw [enter_board, enter_history, plyClock_congr hv, hash_congr hv, halfmove_congr hv, hpc, Nat.mod_eq_of_lt (by omega)]
  have hp : decide (ply > 0) = true := by simpa using hply
  rw [hp, Bool.true_and, decide_eq_true_eq]
  exact countRepetitions_ge3_iff b0 T c _ (plyClock b0) hl hinv (hh.snoc c) hnz hcoll

theorem isRep_enter_iff {b0 : Board} {T : List Board} {s : St} (H : NodeHyp b0 T s) (ply : Nat) (hply : 0 < ply) :
    isRep (enter s (Zobrist.hash s.board)) ply = true ↔ 3 ≤ occurrences (b0 :: T) s.board :=
  isRep_enter_iff_of rfl H.line H.inv H.nowrap H.hist H.nz H.coll ply hply

/-- what `search_negamax` does after the repetition test (table probe, horizon, move loop) -/
def nodeBody (fuel : Nat) (s : St) (ply maxPly : Nat) (alpha0 beta0 : Int) (isPv : Bool) (hash ph : UInt64) : VM × St :=
  let s3 := enter s hash
  let entry := s3.tt.get? hash
  match probe entry (maxPly - ply) alpha0 beta0 with
  | (some r, _, _) => (r, s3)
  | (none, alpha, beta) =>
    let buffer := rootBuffer s3 ply
    if ply == 0 && buffer.isEmpty then (VM.leaf 0, s3)
    else if ply == maxPly then horizon fuel s.board.turn s3 buffer alpha beta
    else
      finish s.board.turn alpha0 beta hash (maxPly - ply)
        (negamaxLoop fuel s3
          (sortMoves buffer (pvMoveOf s3 isPv ply) (ttMoveOf entry) (killerGet s3.killers (maxPly - ply)))
          ply maxPly beta isPv (pvMoveOf s3 isPv ply) hash ph (maxPly - ply) (acc0 alpha))

theorem negamax_of_isRep_iff {s : St} {ply : Nat} {hash : UInt64} {P : Prop} [Decidable P]
    (hiff : isRep (enter s hash) ply = true ↔ P) (fuel maxPly : Nat) (alpha0 beta0 : Int) (isPv : Bool) (ph : UInt64)
    (hto : timedOut s = false) :
    negamax (fuel + 1) s ply maxPly alpha0 beta0 isPv hash ph =
      if P then (VM.leaf (repValue ply), enter s hash) else nodeBody fuel s ply maxPly alpha0 beta0 isPv hash ph := by
  rw [negamax_succ]
  show (if timedOut s then (VM.leaf 0, { pollStep s with stop := true })
    else if isRep (enter s hash) ply then (VM.leaf (repValue ply), enter s hash)
    else nodeBody fuel s ply maxPly alpha0 beta0 isPv hash ph) = _
  rw [hto]
  simp only [Bool.false_eq_true, if_false]
  by_cases h3 : P
  · rw [if_pos h3, if_pos (hiff.mpr h3)]
  · rw [if_neg h3, if_neg (fun h => h3 (hiff.mp h))]

theorem repValue_eq (ply : Nat) :
    repValue ply = if ply % 2 = 0 then Gen.drawScore + Gen.contempt else Gen.drawScore - Gen.contempt := by
  unfold repValue
  by_cases h : ply % 2 = 0
  · simp only [h, beq_self_eq_true, if_true]; omega
  · have : (ply % 2 == 0) = false := by simpa using h
    simp only [this, h, if_false, Bool.false_eq_true]; omega

theorem lastBoard_eq_getLast : ∀ (T : List Board) (b0 : Board), lastBoard b0 T = (b0 :: T).getLast (List.cons_ne_nil _ _)
  | [], _ => rfl
  | q :: T, b0 => by rw [List.getLast_cons (List.cons_ne_nil _ _)]; exact lastBoard_eq_getLast T q

theorem getElem?_lastBoard (T : List Board) (b0 : Board) : (b0 :: T)[T.length]? = some (lastBoard b0 T) := by
  rw [lastBoard_eq_getLast, List.getLast_eq_getElem, List.getElem?_eq_getElem]; rfl

theorem last_facts {b0 : Board} {T : List Board} {B : Nat} (hl : IsLine (b0 :: T)) (hinv : Inv (T.length + B) b0) :
    Inv B (lastBoard b0 T) ∧ ply2 (lastBoard b0 T) = ply2 b0 + T.length := by
  obtain ⟨hi, hp⟩ := line_facts T b0 (T.length + B) hl hinv (by omega) T.length _ (getElem?_lastBoard T b0)
  have : T.length + B - T.length = B := by omega
  rw [this] at hi
  exact ⟨hi, hp⟩

theorem lastBoard_append : ∀ (T E : List Board) (b0 : Board), lastBoard b0 (T ++ E) = lastBoard (lastBoard b0 T) E
  | [], _, _ => rfl
  | q :: T, E, _ => lastBoard_append T E q

theorem lastBoard_snoc (T : List Board) (b0 c : Board) : lastBoard b0 (T ++ [c]) = c :=
  lastBoard_append T [c] b0

theorem isLine_snoc : ∀ (T : List Board) (b0 c : Board), IsLine (b0 :: T) → Step (lastBoard b0 T) c → IsLine (b0 :: (T ++ [c]))
  | [], _, _, _, hs => ⟨hs, trivial⟩
  | q :: T, _, c, hl, hs => ⟨hl.1, isLine_snoc T q c hl.2 hs⟩

theorem isLine_child {b0 : Board} {T : List Board} (hl : IsLine (b0 :: T)) {m : Move} (hm : m ∈ genLegal (lastBoard b0 T)) :
    IsLine (b0 :: (T ++ [make (lastBoard b0 T) m])) :=
  isLine_snoc T b0 _ hl ⟨m, hm, rfl⟩

/-- the root node of a search re-writes the hash of the last game position at its own index: `LineHist` is kept -/
theorem lineHist_enter_root {b0 : Board} {T : List Board} {p : St} (hl : IsLine (b0 :: T)) {B : Nat} (hinv : Inv (T.length + B) b0)
    (hnw : ply2 b0 + T.length < 65536) (hb : vis p.board = vis (lastBoard b0 T))
    (hh : LineHist (plyClock b0) (b0 :: T) p.history) :
    LineHist (plyClock b0) (b0 :: T) (enter p (Zobrist.hash p.board)).history := by
  rw [enter_history]
  have hg := getElem?_lastBoard T b0
  have hpc := line_plyClock hl (Inv_mono (by omega) hinv) hnw T.length _ hg
  rw [plyClock_congr hb, hpc, hash_congr hb]
  exact hh.set_last T.length _ hg

end Inkayaku.SearchRep

namespace Inkayaku.C10Search.Example
open Inkayaku.Board Inkayaku.SearchRep
open Inkayaku.C06 (HashKey)

/-- the collision hypothesis of a node (`NodeHyp.coll`), executable -/
def collB (L : List Board) (c : Board) : Bool :=
  (List.range L.length).all fun i =>
    match L[i]? with
    | some b => decide (L.length - c.halfmove ≤ i → Zobrist.hash b = Zobrist.hash c → HashKey b = HashKey c)
    | none => true

theorem coll_of_collB {L : List Board} {c : Board} (h : collB L c = true) (i : Nat) (b : Board) (hb : L[i]? = some b) :
    L.length - c.halfmove ≤ i → Zobrist.hash b = Zobrist.hash c → HashKey b = HashKey c := by
  have hi := lt_of_getElem? hb
  have := List.all_eq_true.mp h i (List.mem_range.mpr hi)
  rw [hb] at this
  exact of_decide_eq_true this

end Inkayaku.C10Search.Example
