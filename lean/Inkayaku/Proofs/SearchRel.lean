import Inkayaku.Proofs.SearchShape
/-!
# Board-blind invariants of the search, proved once

`StepRel maxPly R` lists the elementary state changes of `search_negamax`/`search_quiescence` (flag poll, stop flag,
node counters, history, killers, transposition-table store of an entry of depth ≤ `maxPly`, any change of the board).
If a reflexive transitive relation `R` on search states is closed under them, then `R s s'` holds between the state
given to `quiescence`/`negamax`/the move loops and the state they return — for every fuel and all arguments
(`quiescence_rel`, `negamax_rel`).  The instances used by C07/C09/C16 follow:

* `Kept`: previous PV, played moves, go parameters, poll period and clock rate are unchanged;
* `PollOnly`: the output grows by periodic infos (no depth, score or PV) only;
* `Frame`: the clock rate is unchanged, the node counters grow, and the output grows by infos only whose node counts
  are sorted and whose time is the virtual clock of their node count (depth, score and PV of these infos are left open);
* `TTBound D`: every table entry has depth ≤ `D`.
-/
namespace Inkayaku.Search
open Inkayaku.Board Inkayaku.Eval

structure QStepRel (R : St → St → Prop) : Prop where
  refl : ∀ s, R s s
  trans : ∀ {a b c}, R a b → R b c → R a c
  board : ∀ s b, R s { s with board := b }
  qnode : ∀ s, R s { s with quiescenceNodes := s.quiescenceNodes + 1 }

structure StepRel (maxPly : Nat) (R : St → St → Prop) : Prop extends QStepRel R where
  poll : ∀ s, R s (pollStep s)
  stop : ∀ s, R s { s with stop := true }
  node : ∀ s, R s { s with negamaxNodes := s.negamaxNodes + 1 }
  hist : ∀ s h, R s { s with history := h }
  killers : ∀ s k, R s { s with killers := k }
  tt : ∀ s h e, e.depth ≤ maxPly → R s { s with tt := s.tt.insert h e }

section
variable {R : St → St → Prop} (H : QStepRel R)
include H

theorem quiescence_rel (fuel : Nat) (s : St) (a b : Int) : R s (quiescence fuel s a b).2 :=
  (quiescence_induct (QP := fun _ s _ _ res => R s res.2) (QL := fun _ _ s _ _ _ _ res => R s res.2)
    (zero := H.refl _) (pat := fun _ => H.refl _) (loop := fun _ hl => hl) (nil := H.refl _)
    (skip := fun _ ih => H.trans (H.board _ _) ih)
    (child := fun {_ m _ s _ _ _ _ r} _ hc =>
      have h3 : R s { r.2 with board := unmake r.2.board m } :=
        H.trans (H.trans (H.trans (H.qnode s) (H.board _ _)) hc) (H.board _ _)
      ⟨fun _ => h3, fun _ _ _ ih => H.trans h3 ih, fun _ _ _ ih => H.trans h3 ih⟩)).1 fuel s a b

end

section
variable {R : St → St → Prop} {maxPly : Nat} (H : StepRel maxPly R)
include H

theorem enter_rel (s : St) (h : UInt64) : R s (enter s h) := by
  unfold enter
  exact H.trans (H.poll s) (H.trans (H.node _) (H.hist _ _))

theorem finish_rel (c : Nat) (a b : Int) (h : UInt64) (rem : Nat) (hrem : rem ≤ maxPly) (r : LoopAcc × Bool × St) :
    R r.2.2 (finish c a b h rem r).2 := by
  obtain ⟨acc, ab, s⟩ := r
  rcases finish_cases c a b h rem acc ab s with ⟨-, e⟩ | ⟨-, -, e⟩ | ⟨-, -, -, e⟩ | ⟨-, -, -, nt, e⟩ <;> rw [e]
  · exact H.refl s
  · exact H.refl s
  · exact H.refl s
  · exact H.tt s h _ hrem

theorem search_rel :
    (∀ (fuel : Nat) (s : St) (ply : Nat) (a b : Int) (isPv : Bool) (h ph : UInt64),
      R s (negamax fuel s ply maxPly a b isPv h ph).2) ∧
    (∀ (fuel : Nat) (moves : List Move) (s : St) (ply : Nat) (beta : Int) (isPv : Bool) (pvMove : Option Move) (h ph : UInt64)
      (rem : Nat) (acc : LoopAcc), R s (negamaxLoop fuel s moves ply maxPly beta isPv pvMove h ph rem acc).2.2) := by
  have w := negamax_induct
    (NP := fun _ s _ mp _ _ _ res => mp ≤ maxPly → R s res.2) (NB := fun _ s _ mp _ _ _ res => mp ≤ maxPly → R s res.2)
    (NL := fun _ _ s _ mp _ _ _ res => mp ≤ maxPly → R s res.2.2)
    (zero := fun _ => H.refl _)
    (timeout := fun _ _ => H.trans (H.poll _) (H.stop _))
    (entered := fun hb hm => H.trans (enter_rel H _ _) (hb hm))
    (leaf := fun _ _ => H.refl _)
    (hit := fun _ _ _ => H.refl _)
    (quiesce := fun _ _ _ => quiescence_rel H.toQStepRel _ _ _ _)
    (loop := fun _ _ hl hm => H.trans (hl hm) (finish_rel H _ _ _ _ _ (Nat.le_trans (Nat.sub_le _ _) hm) _))
    (nil := fun _ => H.refl _)
    (skip := fun _ ih hm => H.trans (H.board _ _) (ih hm))
    (child := fun {_ m _ s _ _ _ _ _ _ r} _ _ hc =>
      have h3 := fun hm => show R s { r.2 with board := unmake r.2.board m } from
        H.trans (H.trans (H.board s _) (hc hm)) (H.board _ _)
      ⟨fun _ hm => h3 hm, fun _ _ hm => H.trans (h3 hm) (H.killers _ _), fun _ _ _ ih hm => H.trans (h3 hm) (ih hm)⟩)
  exact ⟨fun fuel s ply a b isPv h ph => w.1 fuel s ply maxPly a b isPv h ph (Nat.le_refl _),
    fun fuel moves s ply beta isPv pvMove h ph rem acc => w.2 fuel moves s ply maxPly beta isPv pvMove h ph rem acc (Nat.le_refl _)⟩

theorem negamax_rel (fuel : Nat) (s : St) (ply : Nat) (a b : Int) (isPv : Bool) (h ph : UInt64) :
    R s (negamax fuel s ply maxPly a b isPv h ph).2 :=
  (search_rel H).1 fuel s ply a b isPv h ph

end

def Quiet (s s' : St) : Prop := ∃ b q, s' = { s with board := b, quiescenceNodes := q }

theorem quiet_qStepRel : QStepRel Quiet where
  refl := fun s => ⟨s.board, s.quiescenceNodes, rfl⟩
  trans := by
    rintro a b c ⟨b1, q1, rfl⟩ ⟨b2, q2, rfl⟩
    exact ⟨b2, q2, rfl⟩
  board := fun s b => ⟨b, s.quiescenceNodes, rfl⟩
  qnode := fun s => ⟨s.board, _, rfl⟩

theorem quiescence_quiet (fuel : Nat) (s : St) (a b : Int) : Quiet s (quiescence fuel s a b).2 :=
  quiescence_rel quiet_qStepRel fuel s a b

theorem quiescence_tt (fuel : Nat) (s : St) (a b : Int) : (quiescence fuel s a b).2.tt = s.tt := by
  obtain ⟨b', q, h⟩ := quiescence_quiet fuel s a b; rw [h]

theorem quiescence_history (fuel : Nat) (s : St) (a b : Int) : (quiescence fuel s a b).2.history = s.history := by
  obtain ⟨b', q, h⟩ := quiescence_quiet fuel s a b; rw [h]

def Kept (s s' : St) : Prop :=
  s'.pv = s.pv ∧ s'.playedMoves = s.playedMoves ∧ s'.go = s.go ∧ s'.pollPeriod = s.pollPeriod ∧ s'.nsPerNode = s.nsPerNode

theorem kept_stepRel (D : Nat) : StepRel D Kept where
  refl := fun s => ⟨rfl, rfl, rfl, rfl, rfl⟩
  trans := fun ⟨a1, a2, a3, a4, a5⟩ ⟨b1, b2, b3, b4, b5⟩ =>
    ⟨b1.trans a1, b2.trans a2, b3.trans a3, b4.trans a4, b5.trans a5⟩
  board := fun _ _ => ⟨rfl, rfl, rfl, rfl, rfl⟩
  poll := fun s => by
    rcases pollStep_eq s with h | ⟨st, q, rn, h⟩ <;> rw [h] <;> exact ⟨rfl, rfl, rfl, rfl, rfl⟩
  stop := fun _ => ⟨rfl, rfl, rfl, rfl, rfl⟩
  node := fun _ => ⟨rfl, rfl, rfl, rfl, rfl⟩
  hist := fun _ _ => ⟨rfl, rfl, rfl, rfl, rfl⟩
  qnode := fun _ => ⟨rfl, rfl, rfl, rfl, rfl⟩
  killers := fun _ _ => ⟨rfl, rfl, rfl, rfl, rfl⟩
  tt := fun _ _ _ _ => ⟨rfl, rfl, rfl, rfl, rfl⟩

def IsPollInfo : Out → Prop
  | .info none _ _ none none => True
  | _ => False

def PollOnly (s s' : St) : Prop := ∃ news, s'.out = news ++ s.out ∧ ∀ o ∈ news, IsPollInfo o

theorem pollOnly_refl (s : St) : PollOnly s s := ⟨[], rfl, by simp⟩

theorem pollOnly_stepRel (D : Nat) : StepRel D PollOnly where
  refl := pollOnly_refl
  trans := by
    rintro a b c ⟨n1, h1, p1⟩ ⟨n2, h2, p2⟩
    refine ⟨n2 ++ n1, by rw [h2, h1, List.append_assoc], ?_⟩
    intro o ho
    rcases List.mem_append.mp ho with h | h
    · exact p2 o h
    · exact p1 o h
  board := fun s _ => pollOnly_refl s
  poll := fun s => by
    rcases pollStep_eq s with h | ⟨st, q, rn, h⟩ <;> rw [h]
    · exact pollOnly_refl s
    · refine ⟨[pollInfo s], rfl, ?_⟩
      intro o ho
      rw [List.mem_singleton.mp ho]
      exact trivial
  stop := fun s => pollOnly_refl s
  node := fun s => pollOnly_refl s
  hist := fun s _ => pollOnly_refl s
  qnode := fun s => pollOnly_refl s
  killers := fun s _ => pollOnly_refl s
  tt := fun s _ _ _ => pollOnly_refl s

def elapsedOf (k : Option Nat) (n : Nat) : Nat := match k with | some k => n * k | none => 0

theorem elapsedNs_eq (s : St) : s.elapsedNs = elapsedOf s.nsPerNode s.totalNodes := rfl

theorem elapsedOf_mono (k : Option Nat) {a b : Nat} (h : a ≤ b) : elapsedOf k a ≤ elapsedOf k b := by
  unfold elapsedOf
  cases k with
  | none => exact Nat.le_refl _
  | some k => exact Nat.mul_le_mul_right k h

def nodesOf : Out → Nat
  | .info _ _ n _ _ => n
  | .bestMove _ _ => 0

def InfoOK (k : Option Nat) (lo hi : Nat) : Out → Prop
  | .info _ t n _ _ => t = some (elapsedOf k n / 1000000) ∧ lo ≤ n ∧ n ≤ hi
  | .bestMove _ _ => False

def Chain (k : Option Nat) (lo hi : Nat) (l : List Out) : Prop :=
  (∀ o ∈ l, InfoOK k lo hi o) ∧ l.Pairwise (fun a b => nodesOf b ≤ nodesOf a)

theorem InfoOK.mono {k : Option Nat} {lo hi lo' hi' : Nat} {o : Out} (h : InfoOK k lo hi o) (h1 : lo' ≤ lo) (h2 : hi ≤ hi') :
    InfoOK k lo' hi' o := by
  cases o with
  | info d t n sc pv => exact ⟨h.1, Nat.le_trans h1 h.2.1, Nat.le_trans h.2.2 h2⟩
  | bestMove _ _ => exact h

theorem InfoOK.nodes {k : Option Nat} {lo hi : Nat} {o : Out} (h : InfoOK k lo hi o) : lo ≤ nodesOf o ∧ nodesOf o ≤ hi := by
  cases o with
  | info d t n sc pv => exact h.2
  | bestMove _ _ => exact h.elim

theorem Chain.nil (k : Option Nat) (lo hi : Nat) : Chain k lo hi [] := ⟨by simp, List.Pairwise.nil⟩

theorem Chain.append {k : Option Nat} {lo mid hi : Nat} {l2 l1 : List Out} (h2 : Chain k mid hi l2) (h1 : Chain k lo mid l1)
    (hlo : lo ≤ mid) (hhi : mid ≤ hi) : Chain k lo hi (l2 ++ l1) := by
  refine ⟨?_, ?_⟩
  · intro o ho
    rcases List.mem_append.mp ho with h | h
    · exact (h2.1 o h).mono hlo (Nat.le_refl _)
    · exact (h1.1 o h).mono (Nat.le_refl _) hhi
  · rw [List.pairwise_append]
    refine ⟨h2.2, h1.2, ?_⟩
    intro a ha b hb
    exact Nat.le_trans (h1.1 b hb).nodes.2 (h2.1 a ha).nodes.1

theorem Chain.mono {k : Option Nat} {lo hi lo' hi' : Nat} {l : List Out} (h : Chain k lo hi l) (h1 : lo' ≤ lo) (h2 : hi ≤ hi') :
    Chain k lo' hi' l :=
  ⟨fun o ho => (h.1 o ho).mono h1 h2, h.2⟩

theorem Chain.single {k : Option Nat} {lo hi : Nat} {o : Out} (h : InfoOK k lo hi o) : Chain k lo hi [o] :=
  ⟨by intro x hx; rw [List.mem_singleton.mp hx]; exact h, List.pairwise_singleton _ _⟩

structure Frame (s s' : St) : Prop where
  nsPerNode : s'.nsPerNode = s.nsPerNode
  nn : s.negamaxNodes ≤ s'.negamaxNodes
  qn : s.quiescenceNodes ≤ s'.quiescenceNodes
  out : ∃ news, s'.out = news ++ s.out ∧ Chain s.nsPerNode s.totalNodes s'.totalNodes news

theorem Frame.total {s s' : St} (h : Frame s s') : s.totalNodes ≤ s'.totalNodes :=
  Nat.add_le_add h.nn h.qn

theorem Frame.of_count {s s' : St} (h1 : s'.nsPerNode = s.nsPerNode) (h2 : s.negamaxNodes ≤ s'.negamaxNodes)
    (h3 : s.quiescenceNodes ≤ s'.quiescenceNodes) (h4 : s'.out = s.out) : Frame s s' where
  nsPerNode := h1
  nn := h2
  qn := h3
  out := ⟨[], by rw [h4]; rfl, Chain.nil _ _ _⟩

theorem Frame.of_same {s s' : St} (h1 : s'.nsPerNode = s.nsPerNode) (h2 : s'.negamaxNodes = s.negamaxNodes)
    (h3 : s'.quiescenceNodes = s.quiescenceNodes) (h4 : s'.out = s.out) : Frame s s' :=
  Frame.of_count h1 (Nat.le_of_eq h2.symm) (Nat.le_of_eq h3.symm) h4

theorem Frame.trans {a b c : St} (h1 : Frame a b) (h2 : Frame b c) : Frame a c where
  nsPerNode := h2.nsPerNode.trans h1.nsPerNode
  nn := Nat.le_trans h1.nn h2.nn
  qn := Nat.le_trans h1.qn h2.qn
  out := by
    obtain ⟨n1, e1, c1⟩ := h1.out
    obtain ⟨n2, e2, c2⟩ := h2.out
    refine ⟨n2 ++ n1, by rw [e2, e1, List.append_assoc], ?_⟩
    rw [h1.nsPerNode] at c2
    exact c2.append c1 h1.total h2.total

theorem frame_stepRel (D : Nat) : StepRel D Frame where
  refl := fun s => Frame.of_same rfl rfl rfl rfl
  trans := Frame.trans
  board := fun _ _ => Frame.of_same rfl rfl rfl rfl
  poll := fun s => by
    rcases pollStep_eq s with h | ⟨st, q, rn, h⟩ <;> rw [h]
    · exact Frame.of_same rfl rfl rfl rfl
    · exact ⟨rfl, Nat.le_refl _, Nat.le_refl _, [pollInfo s], rfl,
        Chain.single ⟨rfl, Nat.le_refl _, Nat.le_refl _⟩⟩
  stop := fun _ => Frame.of_same rfl rfl rfl rfl
  node := fun _ => Frame.of_count rfl (Nat.le_succ _) (Nat.le_refl _) rfl
  hist := fun _ _ => Frame.of_same rfl rfl rfl rfl
  qnode := fun _ => Frame.of_count rfl (Nat.le_refl _) (Nat.le_succ _) rfl
  killers := fun _ _ => Frame.of_same rfl rfl rfl rfl
  tt := fun _ _ _ _ => Frame.of_same rfl rfl rfl rfl

def TTAll (P : UInt64 → TtEntry → Prop) (tt : Std.HashMap UInt64 TtEntry) : Prop := ∀ h e, tt.get? h = some e → P h e

theorem TTAll.empty (P : UInt64 → TtEntry → Prop) : TTAll P {} := by
  intro h e he
  simp [Std.HashMap.get?_eq_getElem?] at he

theorem TTAll.insert {P : UInt64 → TtEntry → Prop} {tt : Std.HashMap UInt64 TtEntry} (htt : TTAll P tt) (h : UInt64)
    (e : TtEntry) (he : P h e) : TTAll P (tt.insert h e) := by
  intro h' e' hget
  simp only [Std.HashMap.get?_eq_getElem?, Std.HashMap.getElem?_insert] at hget
  split at hget
  · rename_i heq
    cases hget
    rw [← eq_of_beq heq]
    exact he
  · exact htt h' e' (by simpa [Std.HashMap.get?_eq_getElem?] using hget)

def TTBound (D : Nat) (s : St) : Prop := ∀ h e, s.tt.get? h = some e → e.depth ≤ D

def TTRel (D : Nat) (s s' : St) : Prop := TTBound D s → TTBound D s'

theorem ttRel_stepRel {maxPly D : Nat} (hD : maxPly ≤ D) : StepRel maxPly (TTRel D) where
  refl := fun _ h => h
  trans := fun h1 h2 h => h2 (h1 h)
  board := fun _ _ h => h
  poll := fun s => by
    rcases pollStep_eq s with h | ⟨st, q, rn, h⟩ <;> rw [h] <;> exact fun x => x
  stop := fun _ h => h
  node := fun _ h => h
  hist := fun _ _ h => h
  qnode := fun _ h => h
  killers := fun _ _ h => h
  tt := fun _ h e he hb => TTAll.insert (P := fun _ e => e.depth ≤ D) hb h e (Nat.le_trans he hD)

end Inkayaku.Search
