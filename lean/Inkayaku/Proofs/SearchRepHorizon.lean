import Inkayaku.Proofs.SearchSimFuel
import Inkayaku.Proofs.SearchRepGo
namespace Inkayaku.SearchRep
open Inkayaku.Board Inkayaku.Eval Inkayaku.WF Inkayaku.BoardCongr Inkayaku.Minimax Inkayaku.SpecSearch Inkayaku.Search
open Inkayaku.SearchSim Inkayaku.History

theorem rootMoves_single {b : Board} (hwf : wf b = true) {m : Move} (hm : m ∈ genLegal b) : rootMoves b [m.uci] = [m] := by
  unfold rootMoves
  have : ([m.uci] : List String).isEmpty = false := rfl
  rw [this]
  simp only [Bool.false_eq_true, if_false]
  have := ListFacts.filter_beq_eq_singleton Move.uci (genLegal b) m (GenSpec.genLegal_nodup hwf) hm
  rw [← this]
  apply List.filter_congr
  intro x _
  simp only [List.contains_cons, List.contains_nil, Bool.or_false]

/-- the depth-1 specification value under `searchmoves m` is the negated horizon value of the position after `m` -/
theorem specValueOnly_single {b : Board} (hwf : wf b = true) {m : Move} (hm : m ∈ genLegal b) :
    specValueOnly 1 b [m.uci] = max lossScore (-(mm game 0 (make b m, []))) := by
  rw [C08.specValueOnly_eq_mm, mm_succ]
  have hmv : game.moves (b, [m.uci]) = [m] := rootMoves_single hwf hm
  have hch : game.children (b, [m.uci]) = [(make b m, [])] := by
    unfold Game.children
    rw [hmv]
    rfl
  rw [hmv, hch]
  rfl

end Inkayaku.SearchRep
