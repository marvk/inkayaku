import Inkayaku.Proofs.GenSpecKeys
import Inkayaku.Proofs.SpecMoves
/-!
# The calls of `make_move` that the generator makes

`Site b src tgt piece castle ep promo epOpp`: a call `make_move(src, tgt, piece, castle, ep, promo, epOpp)` in the loops of
`generate_pseudo_legal_moves`, with the conditions under which the loop reaches it.  The loops are walked once:
`mem_calls` (on `WFacts b` a call is in `calls b` iff it is a site), hence `mem_genPseudo` and `forall_genPseudo`: what holds of
the stored fields `mkF b …` at every site holds of every generated move.
-/
namespace Inkayaku.GenStrong
open Inkayaku.Board Inkayaku.Gen

def dCastle (b : Board) : Nat := if b.whiteTurn then 0 else 56

def fullOcc (b : Board) : UInt64 := b.active.full ||| b.passive.full

def Attacks (b : Board) (piece src tgt : Nat) : Prop :=
  ((piece = ROOK ∨ piece = QUEEN) ∧ testU (rookAttacks src (fullOcc b)) tgt = true) ∨
  ((piece = BISHOP ∨ piece = QUEEN) ∧ testU (bishopAttacks src (fullOcc b)) tgt = true) ∨
  (piece = KNIGHT ∧ testU (leaperAttacks knightTable src) tgt = true) ∨
  (piece = KING ∧ testU (leaperAttacks kingTable src) tgt = true) ∨
  (piece = PAWN ∧ testU (leaperAttacks (if b.whiteTurn then whitePawnTable else blackPawnTable) src) tgt = true)

theorem Attacks.tgt_lt {b : Board} {p s t : Nat} (h : Attacks b p s t) : t < 64 := by
  rcases h with ⟨-, h⟩ | ⟨-, h⟩ | ⟨-, h⟩ | ⟨-, h⟩ | ⟨-, h⟩ <;> exact Bits.testU_lt h

end Inkayaku.GenStrong

namespace Inkayaku.GenSpec
open Inkayaku.Board Inkayaku.Gen Inkayaku.MoveBits Inkayaku.GenOK Inkayaku.Bits
open GenStrong (Attacks)

def PromoAt (tgt promo : Nat) : Prop := if lastRank tgt then 2 ≤ promo ∧ promo ≤ 5 else promo = NO_PIECE

def castleMask (white kingSide : Bool) : Nat × Nat :=
  match white, kingSide with
  | true, false => (whiteQueenSideCastleEmpty, whiteQueenSideCastleCheck)
  | true, true => (whiteKingSideCastleEmpty, whiteKingSideCastleCheck)
  | false, false => (blackQueenSideCastleEmpty, blackQueenSideCastleCheck)
  | false, true => (blackKingSideCastleEmpty, blackKingSideCastleCheck)

def castleTest (b : Board) (kingSide : Bool) : Bool :=
  castleCond (if kingSide then b.active.ks else b.active.qs) (b.active.full ||| b.passive.full)
    (castleMask b.whiteTurn kingSide).1 (castleMask b.whiteTurn kingSide).2 (if b.whiteTurn then 0 else 1) b.passive

inductive Site (b : Board) : Nat → Nat → Nat → Bool → Bool → Nat → Nat → Prop
  | piece {src tgt piece : Nat} (hp2 : 2 ≤ piece) (hp6 : piece ≤ 6) (hs : testU (b.active.get piece) src = true)
      (ha : Attacks b piece src tgt) (ht : testU b.active.full tgt = false) : Site b src tgt piece false false NO_PIECE 0
  /-- `ep` is only tested off the last rank; on it square 0 would match "no e.p. square" -/
  | capture {src tgt promo : Nat} {ep : Bool} (hs : testU b.active.pawns src = true)
      (ha : testU (pawnAttSet b b.active.full b.passive.full src) tgt = true) (hpr : PromoAt tgt promo)
      (hep : ep = (!lastRank tgt && tgt == b.ep)) : Site b src tgt PAWN false ep promo 0
  | push {src tgt promo : Nat} (hs : testU b.active.pawns src = true) (h8 : 8 ≤ src) (h56 : src < 56)
      (htgt : tgt = fwd b.whiteTurn src 8)
      (hfree : testU (b.active.full ||| b.passive.full) tgt = false) (hpr : PromoAt tgt promo) :
      Site b src tgt PAWN false false promo 0
  | double {src mid tgt : Nat} (hs : testU b.active.pawns src = true) (h8 : 8 ≤ src) (h56 : src < 56)
      (hhome : (if b.whiteTurn then decide (48 ≤ src) else decide (src < 16)) = true)
      (hmid : mid = fwd b.whiteTurn src 8) (htgt : tgt = fwd b.whiteTurn src 16)
      (hfm : testU (b.active.full ||| b.passive.full) mid = false)
      (hft : testU (b.active.full ||| b.passive.full) tgt = false) : Site b src tgt PAWN false false NO_PIECE mid
  /-- `hc` is the test the loop made; the rest follows from it on `WFacts b` (`castleTest_facts`): the rook goes from `rs`
  to `rt`, king and rook are at home because the right is held -/
  | castle {src tgt rs rt : Nat} (kingSide : Bool) (hc : castleTest b kingSide = true)
      (hright : (if kingSide then b.active.ks else b.active.qs) = true)
      (hsrc : src = E1 - if b.whiteTurn then 0 else 56)
      (htgt : tgt = (if kingSide then G1 else C1) - if b.whiteTurn then 0 else 56)
      (hrs : rs = (if kingSide then H1 else A1) - if b.whiteTurn then 0 else 56)
      (hrt : rt = (if kingSide then F1 else D1) - if b.whiteTurn then 0 else 56)
      (hk : testU b.active.kings src = true) (hr : testU b.active.rooks rs = true)
      (hft : testU (b.active.full ||| b.passive.full) tgt = false)
      (hfr : testU (b.active.full ||| b.passive.full) rt = false) : Site b src tgt KING true false NO_PIECE 0

def Call.Site (b : Board) (c : Call) : Prop := GenSpec.Site b c.src c.tgt c.piece c.castle c.ep c.promo c.epOpp

theorem testU_not (x : UInt64) (t : Nat) : testU (~~~x) t = (decide (t < 64) && !testU x t) := by
  show (~~~x).toBitVec.getLsbD t = (decide (t < 64) && !x.toBitVec.getLsbD t)
  rw [UInt64.toBitVec_not, BitVec.getLsbD_not]

theorem testU_masked {att full : UInt64} {t : Nat} :
    testU (att &&& ~~~full) t = true ↔ testU att t = true ∧ testU full t = false := by
  rw [testU_and, testU_not, Bool.and_eq_true, Bool.and_eq_true, Bool.not_eq_true', decide_eq_true_eq]
  exact ⟨fun h => ⟨h.1, h.2.2⟩, fun h => ⟨h.1, testU_lt h.1, h.2⟩⟩

theorem mem_piecesC {pieceOcc act : UInt64} {att : Nat → UInt64} {piece : Nat} {c : Call} :
    c ∈ piecesC pieceOcc act att piece ↔
      ∃ s t, testU pieceOcc s = true ∧ testU (att s) t = true ∧ testU act t = false ∧ c = quietC piece s t := by
  simp only [piecesC, List.mem_flatMap, List.mem_map, mem_bitsAsc, testU_masked]
  constructor
  · rintro ⟨s, hs, t, ⟨ha, ht⟩, rfl⟩; exact ⟨s, t, hs, ha, ht, rfl⟩
  · rintro ⟨s, t, hs, ha, ht, rfl⟩; exact ⟨s, hs, t, ⟨ha, ht⟩, rfl⟩

theorem mem_pieceCalls {b : Board} {c : Call} :
    c ∈ pieceCalls b ↔ ∃ piece s t, (2 ≤ piece ∧ piece ≤ 6) ∧ testU (b.active.get piece) s = true ∧
      Attacks b piece s t ∧ testU b.active.full t = false ∧ c = quietC piece s t := by
  simp only [pieceCalls, List.mem_append, mem_piecesC, sliderAtt, if_true, Bool.false_eq_true, if_false]
  constructor
  · rintro (((((⟨s, t, hs, ha, ht, rfl⟩ | ⟨s, t, hs, ha, ht, rfl⟩) | ⟨s, t, hs, ha, ht, rfl⟩) | ⟨s, t, hs, ha, ht, rfl⟩) |
      ⟨s, t, hs, ha, ht, rfl⟩) | ⟨s, t, hs, ha, ht, rfl⟩)
    · exact ⟨QUEEN, s, t, by decide, hs, Or.inl ⟨Or.inr rfl, ha⟩, ht, rfl⟩
    · exact ⟨QUEEN, s, t, by decide, hs, Or.inr (Or.inl ⟨Or.inr rfl, ha⟩), ht, rfl⟩
    · exact ⟨BISHOP, s, t, by decide, hs, Or.inr (Or.inl ⟨Or.inl rfl, ha⟩), ht, rfl⟩
    · exact ⟨ROOK, s, t, by decide, hs, Or.inl ⟨Or.inl rfl, ha⟩, ht, rfl⟩
    · exact ⟨KNIGHT, s, t, by decide, hs, Or.inr (Or.inr (Or.inl ⟨rfl, ha⟩)), ht, rfl⟩
    · exact ⟨KING, s, t, by decide, hs, Or.inr (Or.inr (Or.inr (Or.inl ⟨rfl, ha⟩))), ht, rfl⟩
  · rintro ⟨piece, s, t, hp, hs, ha, ht, rfl⟩
    rcases ha with ⟨rfl | rfl, ha⟩ | ⟨rfl | rfl, ha⟩ | ⟨rfl, ha⟩ | ⟨rfl, ha⟩ | ⟨rfl, -⟩
    · exact Or.inl (Or.inl (Or.inr ⟨s, t, hs, ha, ht, rfl⟩))
    · exact Or.inl (Or.inl (Or.inl (Or.inl (Or.inl ⟨s, t, hs, ha, ht, rfl⟩))))
    · exact Or.inl (Or.inl (Or.inl (Or.inr ⟨s, t, hs, ha, ht, rfl⟩)))
    · exact Or.inl (Or.inl (Or.inl (Or.inl (Or.inr ⟨s, t, hs, ha, ht, rfl⟩))))
    · exact Or.inl (Or.inr ⟨s, t, hs, ha, ht, rfl⟩)
    · exact Or.inr ⟨s, t, hs, ha, ht, rfl⟩
    · exact absurd hp.1 (by decide)

theorem mem_promotionsC {s t : Nat} {c : Call} :
    c ∈ promotionsC s t ↔ ∃ p, (2 ≤ p ∧ p ≤ 5) ∧ c = { src := s, tgt := t, piece := PAWN, promo := p } := by
  simp only [promotionsC, List.map_cons, List.map_nil, List.mem_cons, List.not_mem_nil, or_false]
  constructor
  · rintro (rfl | rfl | rfl | rfl)
    · exact ⟨QUEEN, by decide, rfl⟩
    · exact ⟨ROOK, by decide, rfl⟩
    · exact ⟨BISHOP, by decide, rfl⟩
    · exact ⟨KNIGHT, by decide, rfl⟩
  · rintro ⟨p, hp, rfl⟩
    have : p = 5 ∨ p = 4 ∨ p = 3 ∨ p = 2 := by omega
    rcases this with rfl | rfl | rfl | rfl
    · exact Or.inl rfl
    · exact Or.inr (Or.inl rfl)
    · exact Or.inr (Or.inr (Or.inl rfl))
    · exact Or.inr (Or.inr (Or.inr rfl))

theorem promoAt_iff {t p : Nat} : PromoAt t p ↔ (lastRank t = true ∧ 2 ≤ p ∧ p ≤ 5) ∨ (lastRank t = false ∧ p = NO_PIECE) := by
  unfold PromoAt
  cases lastRank t <;> simp

theorem mem_pawnAttackC {b : Board} {s t : Nat} (ht : t < 64) {c : Call} :
    c ∈ pawnAttackC b s t ↔ ∃ promo, PromoAt t promo ∧
      c = { src := s, tgt := t, piece := PAWN, ep := !lastRank t && t == b.ep, promo } := by
  unfold pawnAttackC
  rw [lastRank_iff t ht]
  simp only [promoAt_iff]
  cases hl : lastRank t
  · simp [NO_PIECE]
  · simp [mem_promotionsC, and_assoc]

theorem mem_captureCalls {b : Board} {c : Call} :
    c ∈ captureCalls b ↔ ∃ s t promo, testU b.active.pawns s = true ∧
      testU (pawnAttSet b b.active.full b.passive.full s) t = true ∧ PromoAt t promo ∧
      c = { src := s, tgt := t, piece := PAWN, ep := !lastRank t && t == b.ep, promo } := by
  simp only [captureCalls, pawnAttacksC, List.mem_flatMap, mem_bitsAsc]
  constructor
  · rintro ⟨s, hs, t, ht, hc⟩
    obtain ⟨promo, hp, rfl⟩ := (mem_pawnAttackC (testU_lt ht)).mp hc
    exact ⟨s, t, promo, hs, ht, hp, rfl⟩
  · rintro ⟨s, t, promo, hs, ht, hp, rfl⟩
    exact ⟨s, hs, t, ht, (mem_pawnAttackC (testU_lt ht)).mpr ⟨promo, hp, rfl⟩⟩

/-- the pushes of one pawn, in the square form of `pawnStepC_eq` -/
theorem mem_pushes {full : UInt64} {s t1 t2 : Nat} {cc : Bool} {c : Call} :
    c ∈ (if testU full t1 then [] else if lastRank t1 then promotionsC s t1
      else ({ src := s, tgt := t1, piece := PAWN } : Call) ::
        (if cc && !testU full t2 then [{ src := s, tgt := t2, piece := PAWN, epOpp := t1 }] else [])) ↔
    testU full t1 = false ∧ ((∃ promo, PromoAt t1 promo ∧ c = { src := s, tgt := t1, piece := PAWN, promo }) ∨
      (lastRank t1 = false ∧ cc = true ∧ testU full t2 = false ∧
        c = { src := s, tgt := t2, piece := PAWN, epOpp := t1 })) := by
  simp only [promoAt_iff]
  cases testU full t1 <;> cases hl : lastRank t1 <;> cases cc <;> cases testU full t2 <;>
    simp [mem_promotionsC, NO_PIECE, and_assoc]

theorem mem_pushCalls {b : Board} (hw : WFacts b) {c : Call} :
    c ∈ pushCalls b ↔ ∃ s, testU b.active.pawns s = true ∧ (8 ≤ s ∧ s < 56) ∧
      testU (b.active.full ||| b.passive.full) (fwd b.whiteTurn s 8) = false ∧
      ((∃ promo, PromoAt (fwd b.whiteTurn s 8) promo ∧
          c = { src := s, tgt := fwd b.whiteTurn s 8, piece := PAWN, promo }) ∨
       ((if b.whiteTurn then decide (48 ≤ s) else decide (s < 16)) = true ∧
        testU (b.active.full ||| b.passive.full) (fwd b.whiteTurn s 16) = false ∧
        c = { src := s, tgt := fwd b.whiteTurn s 16, piece := PAWN, epOpp := fwd b.whiteTurn s 8 })) := by
  simp only [pushCalls, pawnMovesC, List.mem_flatMap, mem_bitsAsc]
  refine exists_congr fun s => and_congr_right fun hs => ?_
  obtain ⟨h8, h56⟩ := pawn_mid' hw ((mem_bitsAsc _ _).mpr hs)
  rw [pawnStepC_eq b _ s h8 h56]
  refine mem_pushes.trans ?_
  have hex : (if b.whiteTurn then decide (48 ≤ s) else decide (s < 16)) = true → lastRank (fwd b.whiteTurn s 8) = false := by
    cases b.whiteTurn <;> simp [fwd, lastRank] <;> omega
  constructor
  · rintro ⟨hf, h⟩; exact ⟨⟨h8, h56⟩, hf, h.imp id fun ⟨_, hcc, h2, e⟩ => ⟨hcc, h2, e⟩⟩
  · rintro ⟨-, hf, h⟩; exact ⟨hf, h.imp id fun ⟨hcc, h2, e⟩ => ⟨hex hcc, hcc, h2, e⟩⟩

theorem testU_pawnAttSet {b : Board} (hb : Basic b) {active passive : UInt64} {s t : Nat} :
    testU (pawnAttSet b active passive s) t = true ↔
      testU (leaperAttacks (if b.whiteTurn then whitePawnTable else blackPawnTable) s) t = true ∧
      (testU passive t = true ∨ b.ep = t ∧ testU rank18 t = false) ∧ testU active t = false := by
  rw [pawnAttSet, testU_masked, testU_and, Bool.and_eq_true, testU_or, Bool.or_eq_true, testU_masked,
    testU_bitU _ _ hb.ep, decide_eq_true_eq, and_assoc]

theorem castleCond_free {right : Bool} {full : UInt64} {em cm c : Nat} {p : Side}
    (h : castleCond right full em cm c p = true) :
    right = true ∧ ∀ t, testU em.toUInt64 t = true → testU full t = false := by
  simp only [castleCond, Bool.and_eq_true, beq_iff_eq] at h
  refine ⟨h.1.1, fun t ht => ?_⟩
  cases hf : testU full t
  · rfl
  · exact absurd ⟨hf, ht⟩ ((and_eq_zero_iff _ _).mp h.1.2 t (testU_lt ht))

theorem mem_castleCalls {b : Board} {c : Call} :
    c ∈ castleCalls b ↔ ∃ kingSide : Bool, castleTest b kingSide = true ∧
      c = castleCall (E1 - if b.whiteTurn then 0 else 56) ((if kingSide then G1 else C1) - if b.whiteTurn then 0 else 56) := by
  unfold castleCalls castleC castleTest
  rcases Attack.sides_cases b with ⟨hwt, ha, hp⟩ | ⟨hwt, ha, hp⟩
  · simp only [hwt, if_true, List.mem_append, List.mem_ite_nil_right, List.mem_singleton, Bool.exists_bool,
      castleMask, ha, hp, Bool.false_eq_true, if_false]
    rfl
  · simp only [hwt, Bool.false_eq_true, if_false, List.mem_append, List.mem_ite_nil_right, List.mem_singleton, Bool.exists_bool,
      castleMask, ha, hp, if_true]
    rfl

theorem castleTest_facts {b : Board} (hw : WFacts b) {kingSide : Bool} (hc : castleTest b kingSide = true) :
    (if kingSide then b.active.ks else b.active.qs) = true ∧
    testU b.active.kings (E1 - if b.whiteTurn then 0 else 56) = true ∧
    testU b.active.rooks ((if kingSide then H1 else A1) - if b.whiteTurn then 0 else 56) = true ∧
    testU (b.active.full ||| b.passive.full) ((if kingSide then G1 else C1) - if b.whiteTurn then 0 else 56) = false ∧
    testU (b.active.full ||| b.passive.full) ((if kingSide then F1 else D1) - if b.whiteTurn then 0 else 56) = false := by
  obtain ⟨hright, hfree⟩ := castleCond_free hc
  refine ⟨hright, (hw.home kingSide hright).1, (hw.home kingSide hright).2, ?_⟩
  -- the two landing squares are in the colour's `…CastleEmpty` mask: four evaluations
  cases hwt : b.whiteTurn <;> rw [hwt] at hfree <;> cases kingSide <;>
    exact ⟨hfree _ (by decide), hfree _ (by decide)⟩

theorem mem_calls {b : Board} (hw : WFacts b) {c : Call} : c ∈ calls b ↔ c.Site b := by
  simp only [calls, List.mem_append]
  constructor
  · rintro (((h | h) | h) | h)
    · obtain ⟨piece, s, t, hp, hs, ha, ht, rfl⟩ := mem_pieceCalls.mp h
      exact Site.piece hp.1 hp.2 hs ha ht
    · obtain ⟨s, t, promo, hs, ha, hp, rfl⟩ := mem_captureCalls.mp h
      exact Site.capture hs ha hp rfl
    · obtain ⟨s, hs, ⟨h8, h56⟩, hfree, ⟨promo, hp, rfl⟩ | ⟨hcc, hf2, rfl⟩⟩ := (mem_pushCalls hw).mp h
      · exact Site.push hs h8 h56 rfl hfree hp
      · exact Site.double hs h8 h56 hcc rfl rfl hfree hf2
    · obtain ⟨kingSide, hc, rfl⟩ := mem_castleCalls.mp h
      obtain ⟨hright, hk, hr, hft, hfr⟩ := castleTest_facts hw hc
      exact Site.castle kingSide hc hright rfl rfl rfl rfl hk hr hft hfr
  · intro h
    obtain ⟨src, tgt, piece, castle, ep, promo, epOpp⟩ := c
    change Site b src tgt piece castle ep promo epOpp at h
    cases h with
    | piece hp2 hp6 hs ha ht => exact Or.inl (Or.inl (Or.inl (mem_pieceCalls.mpr ⟨_, _, _, ⟨hp2, hp6⟩, hs, ha, ht, rfl⟩)))
    | capture hs ha hpr hep =>
      subst hep
      exact Or.inl (Or.inl (Or.inr (mem_captureCalls.mpr ⟨_, _, _, hs, ha, hpr, rfl⟩)))
    | push hs h8 h56 htgt hfree hpr =>
      subst htgt
      exact Or.inl (Or.inr ((mem_pushCalls hw).mpr ⟨_, hs, ⟨h8, h56⟩, hfree, Or.inl ⟨_, hpr, rfl⟩⟩))
    | double hs h8 h56 hhome hmid' htgt hfm hft =>
      subst hmid' htgt
      exact Or.inl (Or.inr ((mem_pushCalls hw).mpr ⟨_, hs, ⟨h8, h56⟩, hfm, Or.inr ⟨hhome, hft, rfl⟩⟩))
    | castle kingSide hc hright hsrc htgt hrs hrt hk hr hft hfr =>
      subst hsrc htgt
      exact Or.inr (mem_castleCalls.mpr ⟨kingSide, hc, rfl⟩)

theorem Site.fit {b : Board} (hb : Basic b) {src tgt piece promo epOpp : Nat} {castle ep : Bool}
    (h : Site b src tgt piece castle ep promo epOpp) : ArgsFit b src tgt piece promo epOpp := by
  have promo_lt : ∀ {t p}, PromoAt t p → p < 8 := by
    intro t p hp
    rcases promoAt_iff.mp hp with ⟨-, -, h⟩ | ⟨-, rfl⟩
    · omega
    · decide
  cases h with
  | piece hp2 hp6 hs ha ht => exact ⟨hb, testU_lt hs, ha.tgt_lt, by omega, by decide, by decide⟩
  | capture hs ha hpr hep => exact ⟨hb, testU_lt hs, testU_lt ha, by decide, promo_lt hpr, by decide⟩
  | push hs h8 h56 htgt hfree hpr =>
    exact ⟨hb, by omega, by rw [htgt, fwd]; split <;> omega, by decide, promo_lt hpr, by decide⟩
  | double hs h8 h56 hhome hmid htgt hfm hft =>
    cases hwt : b.whiteTurn <;> simp only [hwt, fwd, if_true, Bool.false_eq_true, if_false, decide_eq_true_eq] at hhome hmid htgt <;>
      exact ⟨hb, by omega, by omega, by decide, by decide, by omega⟩
  | castle kingSide hc hright hsrc htgt hrs hrt hk hr hft hfr =>
    refine ⟨hb, testU_lt hk, ?_, by decide, by decide, by decide⟩
    rw [htgt]; cases kingSide <;> simp only [G1, C1, if_true, Bool.false_eq_true, if_false] <;> omega

theorem mem_genPseudo {b : Board} (hw : WFacts b) {m : Move} : m ∈ genPseudo b ↔ ∃ c : Call, c.Site b ∧ m = c.mkM b := by
  rw [genPseudo_map, List.mem_map]
  constructor
  · rintro ⟨c, hc, rfl⟩; exact ⟨c, (mem_calls hw).mp hc, rfl⟩
  · rintro ⟨c, hc, rfl⟩; exact ⟨c, (mem_calls hw).mpr hc, rfl⟩

theorem forall_genPseudo {b : Board} (hw : WFacts b) {P : MoveF → Prop}
    (h : ∀ {src tgt piece : Nat} {castle ep : Bool} {promo epOpp : Nat},
      Site b src tgt piece castle ep promo epOpp → P (mkF b src tgt piece castle ep promo epOpp)) :
    ∀ m ∈ genPseudo b, P m.f := by
  intro m hm
  obtain ⟨c, hc, rfl⟩ := (mem_genPseudo hw).mp hm
  rw [Call.mkM, mkM_f c.castle c.ep (Site.fit hw.basic hc)]
  exact h hc

/-- what `GenFacts.PawnFacts` does not record of a double step: it starts on the pawn's home rank and the square it passes
over (the next e.p. square, the only non-zero `epOpp` any call passes) was tested empty -/
def DblOK (b : Board) (f : MoveF) : Prop :=
  f.nextEp ≠ 0 → testU (b.active.full ||| b.passive.full) f.nextEp = false ∧
    (if b.whiteTurn then 48 ≤ f.source ∧ f.source < 56 else 8 ≤ f.source ∧ f.source < 16)

theorem genPseudo_dblOK {b : Board} (hw : WFacts b) : ∀ m ∈ genPseudo b, DblOK b m.f :=
  forall_genPseudo hw (P := DblOK b) fun hs hne => by
    cases hs with
    | double hs h8 h56 hhome hmid htgt hfm hft =>
      refine ⟨hfm, ?_⟩
      cases hwt : b.whiteTurn <;> simp only [mkF, hwt, if_true, Bool.false_eq_true, if_false, decide_eq_true_eq] at hhome ⊢ <;> omega
    | _ => exact absurd rfl hne

theorem genPseudo_stepped_empty {b : Board} (hw : WFacts b) :
    ∀ m ∈ genPseudo b, m.f.nextEp ≠ 0 → testU (b.active.full ||| b.passive.full) m.f.nextEp = false :=
  fun m hm hne => (genPseudo_dblOK hw m hm hne).1

theorem attackSq_false (b : Board) (t : Nat) : attackSq b t false = t := by
  unfold attackSq
  split <;> simp

theorem ep_victim {b : Board} (hw : WFacts b) (h0 : b.ep ≠ 0) :
    8 ≤ b.ep ∧ b.ep < 56 ∧ attackSq b b.ep true < 64 ∧ testU b.passive.pawns (attackSq b b.ep true) = true := by
  have hep := hw.epOK h0
  unfold attackSq
  by_cases ht0 : b.turn = 0
  · have hwt : b.whiteTurn = true := by simp [Board.whiteTurn, ht0]
    rw [if_pos ht0] at hep
    simp only [hwt, if_true, Board.passive]
    exact ⟨by omega, by omega, by omega, hep.2⟩
  · have hwt : b.whiteTurn = false := by simp [Board.whiteTurn, ht0]
    rw [if_neg ht0] at hep
    simp only [hwt, Bool.false_eq_true, if_false, Board.passive]
    exact ⟨by omega, by omega, by omega, hep.2⟩

end Inkayaku.GenSpec
