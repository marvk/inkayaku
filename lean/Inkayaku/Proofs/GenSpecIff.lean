import Inkayaku.Proofs.GenSpecCastle
/-!
# Pseudo-legal generation = the movement rules

`Spec.pseudoMoves` is split by piece kind (`mem_pseudoMoves`); what is said of the key of a generated move is said of the key of
a site (`exists_key_iff`), and the sites of each kind are the moves the rules allow (`site_step_iff`, `mem_pawnSites`,
`mem_castleSites`); hence the per-kind statements on the moves of `genPseudo b` and `genPseudo_iff` on (source, target,
promotion) triples.
-/
namespace Inkayaku.GenSpec
open Inkayaku.Board Inkayaku.Gen Inkayaku.Bits Inkayaku.Geometry Inkayaku.Attack Inkayaku.Abs Inkayaku.Spec

theorem exists_key_iff {b : Board} (hw : GenOK.WFacts b) (P : Key → Prop) :
    (∃ m ∈ genPseudo b, P (key m)) ↔ ∃ c : Call, c.Site b ∧ P c.key := by
  simp only [mem_genPseudo hw]
  constructor
  · rintro ⟨m, ⟨c, hc, rfl⟩, h⟩; exact ⟨c, hc, Call.key_mkM (Site.fit hw.basic hc) ▸ h⟩
  · rintro ⟨c, hc, h⟩; exact ⟨_, ⟨c, hc, rfl⟩, (Call.key_mkM (Site.fit hw.basic hc)).symm ▸ h⟩

theorem step_iff {b : Board} (h : WF.wf b = true) (k : Kind) (hk : k ≠ .pawn) (s t : Nat) :
    (∃ m ∈ genPseudo b, m.f.pieceMoved = kindCode k ∧ m.f.castle = false ∧ absMove m.f = ⟨s, t, none⟩) ↔
      Step (abs b) k s t := by
  have hw := pawnWF_of_wf h
  rw [← site_step_iff hw.disjoint k hk]
  refine (exists_key_iff hw.facts (fun x => x.piece = kindCode k ∧ x.castle = false ∧ x.mv = ⟨s, t, none⟩)).trans ?_
  constructor
  · rintro ⟨⟨src, tgt, piece, castle, ep, promo, epOpp⟩, hc, hp, hcas, hmv⟩
    change Site b src tgt piece castle ep promo epOpp at hc
    change piece = kindCode k at hp
    change castle = false at hcas
    simp only [Call.key, SMove.mk.injEq] at hmv
    have hkp : piece ≠ PAWN := by rw [hp]; cases k <;> first | exact absurd rfl hk | decide
    obtain ⟨-, -, -, -, rfl, rfl, rfl⟩ := hc.piece_inv hkp hcas
    rw [hp, hcas, hmv.1, hmv.2.1] at hc
    exact hc
  · intro hc
    exact ⟨quietC (kindCode k) s t, hc, rfl, rfl, rfl⟩

theorem pawn_iff {b : Board} (h : WF.wf b = true) (sm : SMove) :
    (∃ m ∈ genPseudo b, m.f.pieceMoved = PAWN ∧ absMove m.f = sm) ↔ PawnStep (abs b) sm :=
  (exists_key_iff (pawnWF_of_wf h).facts (fun x => x.piece = PAWN ∧ x.mv = sm)).trans (mem_pawnSites (pawnWF_of_wf h) sm)

theorem castle_iff {b : Board} (h : WF.wf b = true) (sm : SMove) :
    (∃ m ∈ genPseudo b, m.f.castle = true ∧ absMove m.f = sm) ↔
      sm ∈ Spec.castleMoves (abs b) (abs b).whiteToMove :=
  (exists_key_iff (pawnWF_of_wf h).facts (fun x => x.castle = true ∧ x.mv = sm)).trans
    (mem_castleSites (pawnWF_of_wf h) sm)

theorem kindCode_kindOf {p : Nat} (h2 : 2 ≤ p) (h6 : p ≤ 6) : kindCode (kindOf p) = p ∧ kindOf p ≠ .pawn := by
  have : p = 2 ∨ p = 3 ∨ p = 4 ∨ p = 5 ∨ p = 6 := by omega
  rcases this with rfl | rfl | rfl | rfl | rfl <;> exact ⟨rfl, by decide⟩

theorem genPseudo_iff {b : Board} (h : WF.wf b = true) (sm : SMove) :
    sm ∈ (genPseudo b).map (absMove ∘ Move.f) ↔ sm ∈ Spec.pseudoMoves (abs b) := by
  have hw := pawnWF_of_wf h
  have hmem : sm ∈ (genPseudo b).map (absMove ∘ Move.f) ↔ ∃ m ∈ genPseudo b, absMove m.f = sm := List.mem_map
  rw [mem_pseudoMoves, hmem]
  constructor
  · intro hm
    obtain ⟨⟨src, tgt, piece, castle, ep, promo, epOpp⟩, hc, hsm⟩ := (exists_key_iff hw.facts (fun x => x.mv = sm)).mp hm
    by_cases hcas : castle = true
    · exact Or.inr (Or.inr ((mem_castleSites hw sm).mp ⟨_, hc, hcas, hsm⟩))
    by_cases hp : piece = PAWN
    · exact Or.inr (Or.inl ((mem_pawnSites hw sm).mp ⟨_, hc, hp, hsm⟩))
    · have hcas : castle = false := by simpa using hcas
      change Site b src tgt piece castle ep promo epOpp at hc
      obtain ⟨⟨h2, h6⟩, -, -, -, rfl, rfl, rfl⟩ := hc.piece_inv hp hcas
      obtain ⟨hk, hkp⟩ := kindCode_kindOf h2 h6
      rw [hcas, ← hk] at hc
      exact Or.inl ⟨_, hkp, src, tgt, (site_step_iff hw.disjoint _ hkp _ _).mp hc, hsm.symm⟩
  · rintro (⟨k, hk, s, t, hst, rfl⟩ | hp | hc)
    · obtain ⟨m, hm, -, -, h3⟩ := (step_iff h k hk s t).mpr hst
      exact ⟨m, hm, h3⟩
    · obtain ⟨m, hm, -, h3⟩ := (pawn_iff h sm).mpr hp
      exact ⟨m, hm, h3⟩
    · obtain ⟨m, hm, -, h3⟩ := (castle_iff h sm).mpr hc
      exact ⟨m, hm, h3⟩

end Inkayaku.GenSpec
