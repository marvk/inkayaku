import Inkayaku.Proofs.SearchRepGame
import Inkayaku.Proofs.SearchSimRep
/-!
# C10 at the search level: the repetition history written by `set_position_from`

The loop of `Search.setPosition` walks through `gameBoards` and folds `ZobristHistory::set` over it (`setPosition_go_eq`).
After `position <b0> moves u1 … un` (all accepted) cell `plyClock b0 + i` holds `hash bi` for `i ≤ n` and every other cell `0`
(`history_of_setPosition`; no 16-bit wrap of the ply counter: `ply2 b0 + n < 65536`); a rejected string leaves the state alone.
`LineHist r L h` (`Proofs/SearchRepGame.lean`) is what a search node needs of a history `h`: zeros below the root index `r`, the
hashes of the line `L` from `r` on, the cells above arbitrary (stale entries of abandoned branches); `setPosition_game` says that
much of the state after `position <b0> moves …`, and is what the theorems about `go` after a game use.
-/
namespace Inkayaku.SearchRep
open Inkayaku.Board Inkayaku.WF Inkayaku.BoardCongr Inkayaku.Search Inkayaku.SearchSim Inkayaku.History

/-- `ZobristHistory::set` for every position played after the root -/
def histFold (h : Array Nat) (T : List Board) : Array Nat :=
  T.foldl (fun h q => historySet h (plyClock q) (Zobrist.hash q).toNat) h

def lastBoard : Board → List Board → Board
  | b, [] => b
  | _, q :: T => lastBoard q T

def lineCell (r : Nat) (L : List Board) (j : Nat) : Nat :=
  if r ≤ j then (match L[j - r]? with | some q => (Zobrist.hash q).toNat | none => 0) else 0

theorem setPosition_go_nil (b : Board) (h : Array Nat) (made : List Move) :
    setPosition.go b h made [] = some (b, h, made.reverse) := by
  rw [setPosition.go.eq_def]

theorem setPosition_go_cons (b : Board) (h : Array Nat) (made : List Move) (u : String) (rest : List String) :
    setPosition.go b h made (u :: rest) =
      match San.findUci b u with
      | (.ok m, b') =>
        setPosition.go (make b' m) (historySet h (plyClock (make b' m)) (Zobrist.hash (make b' m)).toNat) (m :: made) rest
      | (.error _, _) => none := by
  rw [setPosition.go.eq_def]
  rfl

theorem setPosition_go_play (b : Board) (h : Array Nat) (made : List Move) (u : String) (rest : List String) :
    (playUci b u = none → setPosition.go b h made (u :: rest) = none) ∧
    (∀ b', playUci b u = some b' → ∃ m, setPosition.go b h made (u :: rest) =
      setPosition.go b' (historySet h (plyClock b') (Zobrist.hash b').toNat) (m :: made) rest) := by
  rw [setPosition_go_cons]
  unfold playUci
  rcases San.findUci b u with ⟨r, bb⟩
  cases r with
  | error e => exact ⟨fun _ => rfl, fun _ e => by cases e⟩
  | ok m => exact ⟨fun e => (by cases e), fun _ e => by cases e; exact ⟨m, rfl⟩⟩

theorem setPosition_go_eq (us : List String) (b : Board) : ∀ (h : Array Nat) (made : List Move),
    (gameBoards b us = none → setPosition.go b h made us = none) ∧
    (∀ T, gameBoards b us = some (b :: T) → ∃ mv, setPosition.go b h made us = some (lastBoard b T, histFold h T, mv)) :=
  gameBoards_induct
    (motive := fun b us r => ∀ (h : Array Nat) (made : List Move), (r = none → setPosition.go b h made us = none) ∧
      (∀ T, r = some (b :: T) → ∃ mv, setPosition.go b h made us = some (lastBoard b T, histFold h T, mv)))
    (fun b h made => ⟨fun e => (by cases e), fun T e => by cases e; exact ⟨_, setPosition_go_nil b h made⟩⟩)
    (fun b u us hp h made => ⟨fun _ => (setPosition_go_play b h made u us).1 hp, fun T e => by cases e⟩)
    (fun b u us b' hp ih h made => by
      obtain ⟨m, em⟩ := (setPosition_go_play b h made u us).2 b' hp
      exact ⟨fun _ => em ▸ (ih _ _).1 rfl, fun T e => by cases e⟩)
    (fun b u us b' T hp ih h made => by
      obtain ⟨m, em⟩ := (setPosition_go_play b h made u us).2 b' hp
      exact ⟨fun e => (by cases e), fun T' e => by cases e; exact em ▸ (ih _ _).2 T rfl⟩)
    us b

theorem getD_histFold : ∀ (T : List Board) (h : Array Nat) (r : Nat),
    (∀ (i : Nat) (q : Board), T[i]? = some q → plyClock q = r + i) → ∀ j,
    (histFold h T).getD j 0 =
      if r ≤ j then (match T[j - r]? with | some q => (Zobrist.hash q).toNat | none => h.getD j 0) else h.getD j 0
  | [], h, r, _, j => by
    simp only [histFold, List.foldl_nil, List.getElem?_nil, ite_self]
  | q :: T, h, r, hpc, j => by
    have hq : plyClock q = r := by simpa using hpc 0 q rfl
    have ih := getD_histFold T (historySet h (plyClock q) (Zobrist.hash q).toNat) (r + 1)
      (fun i q' hi => by rw [hpc (i + 1) q' (by rw [List.getElem?_cons_succ]; exact hi)]; omega) j
    show (histFold (historySet h (plyClock q) (Zobrist.hash q).toNat) T).getD j 0 = _
    rw [ih, getD_historySet, hq]
    by_cases h1 : r + 1 ≤ j
    · have e : j - r = (j - (r + 1)) + 1 := by omega
      have hne : ¬ j = r := by omega
      simp only [if_pos h1, if_pos (show r ≤ j by omega), if_neg hne, e, List.getElem?_cons_succ]
    · by_cases h2 : j = r
      · subst h2
        simp only [if_neg h1, if_pos, Nat.le_refl, Nat.sub_self, List.getElem?_cons_zero]
      · simp only [if_neg h1, if_neg h2, if_neg (show ¬ r ≤ j by omega)]

theorem line_plyClock {b0 : Board} {T : List Board} (hl : IsLine (b0 :: T)) (hinv : Inv T.length b0)
    (hnw : ply2 b0 + T.length < 65536) (i : Nat) (q : Board) (hq : (b0 :: T)[i]? = some q) :
    plyClock q = plyClock b0 + i := by
  have hi : i < (b0 :: T).length := lt_of_getElem? hq
  simp only [List.length_cons] at hi
  exact plyClock_add (line_facts T b0 T.length hl hinv (Nat.le_refl _) i q hq).2 (by omega)

theorem setPosition_of_go_some (s : St) (b : Board) (ucis : List String) (b' : Board) (h : Array Nat) (made : List Move)
    (hgo : setPosition.go b (historySet (Array.replicate 5000 0) (plyClock b) (Zobrist.hash b).toNat) [] ucis =
      some (b', h, made)) :
    setPosition s b ucis = { s with board := b', history := h, playedMoves := made } := by
  unfold setPosition
  simp only [hgo]

theorem setPosition_of_go_none (s : St) (b : Board) (ucis : List String)
    (hgo : setPosition.go b (historySet (Array.replicate 5000 0) (plyClock b) (Zobrist.hash b).toNat) [] ucis = none) :
    setPosition s b ucis = s := by
  unfold setPosition
  simp only [hgo]

theorem history_of_setPosition (s : St) (b0 : Board) (ucis : List String) (T : List Board)
    (hg : gameBoards b0 ucis = some (b0 :: T)) (hinv : Inv T.length b0) (hnw : ply2 b0 + T.length < 65536) :
    (∃ mv, setPosition s b0 ucis =
      { s with board := lastBoard b0 T, history := (setPosition s b0 ucis).history, playedMoves := mv }) ∧
    (∀ j, (setPosition s b0 ucis).history.getD j 0 = lineCell (plyClock b0) (b0 :: T) j) ∧
    (∀ (i : Nat) (q : Board), (b0 :: T)[i]? = some q → plyClock q = plyClock b0 + i) ∧
    IsLine (b0 :: T) := by
  have hl := gameBoards_line (B := 0) hg hinv
  have hpc := line_plyClock hl hinv hnw
  obtain ⟨mv, hgo⟩ := (setPosition_go_eq ucis b0
    (historySet (Array.replicate 5000 0) (plyClock b0) (Zobrist.hash b0).toNat) []).2 T hg
  have hs := setPosition_of_go_some s b0 ucis _ _ _ hgo
  refine ⟨⟨mv, by rw [hs]⟩, ?_, hpc, hl⟩
  intro j
  rw [hs]
  show (histFold (Array.replicate 5000 0) (b0 :: T)).getD j 0 = _
  rw [getD_histFold (b0 :: T) _ (plyClock b0) hpc, getD_replicate_zero]
  rfl

theorem lineHist_of_cells {r : Nat} {L : List Board} {h : Array Nat} (hc : ∀ j, h.getD j 0 = lineCell r L j) :
    LineHist r L h := by
  refine ⟨fun j hj => by rw [hc, lineCell, if_neg (by omega)], ?_⟩
  intro i b hb
  rw [hc, lineCell, if_pos (by omega), show r + i - r = i from by omega, hb]

theorem setPosition_game (s : St) {b0 : Board} {ucis : List String} {T : List Board}
    (hg : gameBoards b0 ucis = some (b0 :: T)) {B : Nat} (hinv : Inv (T.length + B) b0) (hnw : ply2 b0 + T.length < 65536) :
    ∃ hist mv, LineHist (plyClock b0) (b0 :: T) hist ∧
      setPosition s b0 ucis = { s with board := lastBoard b0 T, history := hist, playedMoves := mv } := by
  obtain ⟨⟨mv, hs⟩, hc, -, -⟩ := history_of_setPosition s b0 ucis T hg (Inv_mono (by omega) hinv) hnw
  exact ⟨_, mv, lineHist_of_cells hc, hs⟩

theorem LineHist.set {r : Nat} {L : List Board} {h : Array Nat} (hl : LineHist r L h) (i v : Nat) (hi : r + L.length ≤ i) :
    LineHist r L (historySet h i v) := by
  refine ⟨fun j hj => by rw [getD_historySet, if_neg (by omega)]; exact hl.1 j hj, ?_⟩
  intro k b hb
  have := lt_of_getElem? hb
  rw [getD_historySet, if_neg (by omega)]
  exact hl.2 k b hb

/-- what the root node does on entering: the hash of a position of the line is written again at that position's index -/
theorem LineHist.set_last {r : Nat} {L : List Board} {h : Array Nat} (hl : LineHist r L h) (i : Nat) (b : Board)
    (hb : L[i]? = some b) : LineHist r L (historySet h (r + i) (Zobrist.hash b).toNat) := by
  refine ⟨fun j hj => by rw [getD_historySet, if_neg (by omega)]; exact hl.1 j hj, ?_⟩
  intro k b' hb'
  rw [getD_historySet]
  by_cases hk : r + k = r + i
  · have : k = i := by omega
    subst this
    rw [if_pos rfl]
    rw [hb] at hb'; cases hb'; rfl
  · rw [if_neg hk]; exact hl.2 k b' hb'

theorem LineHist.snoc {r : Nat} {L : List Board} {h : Array Nat} (hl : LineHist r L h) (c : Board) :
    LineHist r (L ++ [c]) (historySet h (r + L.length) (Zobrist.hash c).toNat) := by
  refine ⟨fun j hj => by rw [getD_historySet, if_neg (by omega)]; exact hl.1 j hj, ?_⟩
  intro k b hb
  rw [getD_historySet]
  by_cases hk : k < L.length
  · rw [List.getElem?_append_left hk] at hb
    rw [if_neg (by omega)]; exact hl.2 k b hb
  · have hlt := lt_of_getElem? hb
    simp only [List.length_append, List.length_cons, List.length_nil] at hlt
    have : k = L.length := by omega
    subst this
    rw [if_pos rfl]
    rw [List.getElem?_append_right (Nat.le_refl _)] at hb
    simp only [Nat.sub_self, List.getElem?_cons_zero, Option.some.injEq] at hb
    rw [hb]

end Inkayaku.SearchRep
