import Inkayaku.Proofs.SearchFlipMoves
import Inkayaku.Proofs.AlphaBeta
/-!
# C11 (search half): the minimax value of the specification search under the colour flip

`make` advances the full-move number after Black's move only, so it does not commute with `flipBoard`, and the RAW minimax
values of a position and of its flip agree only for centipawn values and "mated in N" values (`C11.mate_score_flip`).
The invariant of the induction is therefore stated through a normal form relative to the node:

  `nv b v = v + fullmove + turn` for `v > 2^23` (the mover mates: `2^24 + 1 − nv` = number of own moves until mate),
  `nv b v = v − fullmove`        for `v < −2^23` (the mover is mated: `2^24 + nv` = number of own moves until mated),
  `nv b v = v`                   otherwise (centipawns).

`nv b` is monotone and `score_from_value v b` reads `nv b v` only, so `V_flip` (every depth, quiescence included) gives the
reported score.
-/
namespace Inkayaku.SearchFlip
open Inkayaku.Board Inkayaku.Eval Inkayaku.Gen Inkayaku.Minimax Inkayaku.SpecSearch Inkayaku.Search

/-! ## quiescence: plain equality (all values are centipawn values) -/

theorem Q_flip (f : Nat) (c c' : Board) (h : FlipRel f c c') :
    Qexact chess.qgame f (c', []) = Qexact chess.qgame f (c, []) :=
  Qexact_hom chess.qgame chess.qgame (fun f p p' => FlipRel f p'.1 p.1) (fun _ _ _ h => evalFor_flip_static h)
    (fun _ _ _ h _ hm => by
      obtain ⟨m', hm', hr⟩ := capture_step h.symm hm
      exact ⟨m', hm', hr.symm⟩)
    (fun _ _ _ h _ hm => capture_step h hm) f _ _ h

theorem leaf_flip {c c' : Board} (h : FlipRel quiescenceFuel c c') :
    game.leafExact (c', []) = game.leafExact (c, []) := by
  show (if SpecSearch.noisy c' then Qexact chess.qgame quiescenceFuel (c', []) else evalFor c' c'.turn true) =
    (if SpecSearch.noisy c then Qexact chess.qgame quiescenceFuel (c, []) else evalFor c c.turn true)
  rw [noisy_flip h, Q_flip _ _ _ h, evalFor_flip_static h]

def nvf (F t v : Int) : Int := if v > 8388608 then v + F + t else if v < -8388608 then v - F else v

def nv (b : Board) (v : Int) : Int := nvf b.fullmove b.turn v

theorem nvf_hi {F t v : Int} (h : v > 8388608) : nvf F t v = v + F + t := if_pos h
theorem nvf_lo {F t v : Int} (h : v < -8388608) : nvf F t v = v - F := by
  unfold nvf
  rw [if_neg (by omega), if_pos h]
theorem nvf_mid {F t v : Int} (h1 : -8388608 ≤ v) (h2 : v ≤ 8388608) : nvf F t v = v := by
  unfold nvf
  rw [if_neg (by omega), if_neg (by omega)]

theorem nvf_mono (F t a b : Int) (hF : 0 ≤ F) (ht : 0 ≤ t) (h : a ≤ b) : nvf F t a ≤ nvf F t b := by
  unfold nvf
  split <;> split <;> (try split) <;> (try split) <;> omega

theorem nv_mono (b : Board) (x y : Int) (h : x ≤ y) : nv b x ≤ nv b y :=
  nvf_mono _ _ x y (by omega) (by omega) h

theorem nvf_class {F t F' t' v v' : Int} (hF : 0 ≤ F) (ht : 0 ≤ t) (hF' : 0 ≤ F') (ht' : 0 ≤ t')
    (h : nvf F t v = nvf F' t' v') :
    (v > 8388608 ∧ v' > 8388608 ∧ v + F + t = v' + F' + t') ∨ (v < -8388608 ∧ v' < -8388608 ∧ v - F = v' - F') ∨
      (-8388608 ≤ v ∧ v ≤ 8388608 ∧ v' = v) := by
  unfold nvf at h
  by_cases h1 : v > 8388608
  · rw [if_pos h1] at h
    exact .inl (by omega)
  · rw [if_neg h1] at h
    by_cases h2 : v < -8388608
    · rw [if_pos h2] at h
      exact .inr (.inl (by omega))
    · rw [if_neg h2] at h
      exact .inr (.inr (by omega))

/-- from a child to its parent, on both sides of the flip: the parent `(F, t)` has the child `(F + t, 1 − t)`, its flip
`(F', 1 − t)` the child `(F' + (1 − t), t)` -/
theorem nvf_neg {F F' t : Nat} {v v' : Int} (ht : t ≤ 1)
    (h : nvf ((F + t : Nat) : Int) ((1 - t : Nat) : Int) v
      = nvf ((F' + (1 - t) : Nat) : Int) ((1 - (1 - t) : Nat) : Int) v') :
    nvf F t (-v) = nvf F' ((1 - t : Nat) : Int) (-v') := by
  rcases nvf_class (by omega) (by omega) (by omega) (by omega) h with ⟨h1, h2, e⟩ | ⟨h1, h2, e⟩ | ⟨h1, h2, e⟩
  · rw [nvf_lo (by omega), nvf_lo (by omega)]
    omega
  · rw [nvf_hi (by omega), nvf_hi (by omega)]
    omega
  · rw [e, nvf_mid (by omega) (by omega), nvf_mid (by omega) (by omega)]

/-- the reported score as a function of the normal form: `2^24 + 1 − n` own moves until mate, `2^24 + n` until mated -/
def scoreOfNv (n : Int) : Score :=
  if n > 8388608 then .mate (16777217 - n) else if n < -8388608 then .mate (-(16777216 + n)) else .cp n

theorem scoreFromValue_eq (v : Int) {b : Board} (ht : b.turn ≤ 1) : scoreFromValue v b = scoreOfNv (nv b v) := by
  have hw := Eval.winScore_val
  unfold scoreOfNv nv
  by_cases h1 : v > 8388608
  · have hoff := Bits.ite_beq_zero_int ht
    rw [EvalFlip.scoreFromValue_pos v b (by omega), hoff, nvf_hi h1,
      if_pos (show v + (b.fullmove : Int) + (b.turn : Int) > 8388608 by omega)]
    congr 1
    omega
  · by_cases h2 : v < -8388608
    · rw [EvalFlip.scoreFromValue_neg v b (by omega), nvf_lo h2,
        if_neg (show ¬ v - (b.fullmove : Int) > 8388608 by omega), if_pos (show v - (b.fullmove : Int) < -8388608 by omega)]
      congr 1
      omega
    · rw [EvalFlip.score_cp v b (by omega), nvf_mid (by omega) (by omega), if_neg h1, if_neg h2]

theorem scoreFromValue_of_nv {b b' : Board} (ht : b.turn ≤ 1) (ht' : b'.turn ≤ 1) {v v' : Int}
    (h : nv b v = nv b' v') : scoreFromValue v' b' = scoreFromValue v b := by
  rw [scoreFromValue_eq v ht, scoreFromValue_eq v' ht', h]

theorem term_case {k : Nat} {c c' : Board} (h : FlipRel k c c') (hF : c.fullmove < 8388608) (hF' : c'.fullmove < 8388608) :
    nv c (evalFor c c.turn false) = nv c' (evalFor c' c'.turn false) := by
  have hl := SpecSearch.lossScore_val
  rw [term_value, term_value, isCurrentInCheck_flipRel h]
  unfold nv
  split
  · rw [nvf_lo (by omega), nvf_lo (by omega)]
    omega
  · rw [nvf_mid (by omega) (by omega), nvf_mid (by omega) (by omega)]

theorem leaf_case {c c' : Board} (h : FlipRel quiescenceFuel c c') :
    nv c (game.leafExact (c, [])) = nv c' (game.leafExact (c', [])) := by
  have hb : -176000 ≤ game.leafExact (c, []) ∧ game.leafExact (c, []) ≤ 176000 := game_leaf_bound byMvvLva (c, [])
  rw [leaf_flip h]
  unfold nv
  rw [nvf_mid (by omega) (by omega), nvf_mid (by omega) (by omega)]

theorem loss_le_child {d : Nat} {c : Board} (ht : c.turn ≤ 1) (hF : c.fullmove + (d + 1) < 8388608) (m : Move) :
    lossScore ≤ - V d (make c m) := by
  have hw := Eval.winScore_val
  have hl := SpecSearch.lossScore_val
  have h := (V_bounds d (make c m) (Small.make ⟨ht, hF⟩ m)).2
  omega

theorem V_flip : ∀ (d : Nat) (c c' : Board), FlipRel (d + quiescenceFuel) c c' →
    c.fullmove + d < 8388608 → c'.fullmove + d < 8388608 → nv c (V d c) = nv c' (V d c') := by
  intro d
  induction d with
  | zero =>
    intro c c' h hF hF'
    have h1 : FlipRel (0 + (quiescenceFuel - 1) + 1) c c' := h
    by_cases ht : genLegal c = []
    · have ht' := (genLegal_nil_flip h1).mpr ht
      rw [V_term 0 c ht, V_term 0 c' ht']
      exact term_case h (by omega) (by omega)
    · have ht' : genLegal c' ≠ [] := fun e => ht ((genLegal_nil_flip h1).mp e)
      rw [V_zero_eq c ht, V_zero_eq c' ht']
      exact leaf_case (h.mono (by omega))
  | succ d ih =>
    intro c c' h hF hF'
    have h1 : FlipRel (d + quiescenceFuel + 1) c c' := h.mono (by omega)
    by_cases ht : genLegal c = []
    · have ht' := (genLegal_nil_flip h1).mpr ht
      rw [V_term _ c ht, V_term _ c' ht']
      exact term_case h (by omega) (by omega)
    · have ht' : genLegal c' ≠ [] := fun e => ht ((genLegal_nil_flip h1).mp e)
      have key : ∀ {c c' : Board}, FlipRel (d + quiescenceFuel + 1) c c' → c.fullmove + (d + 1) < 8388608 →
          c'.fullmove + (d + 1) < 8388608 →
          ∀ m ∈ genLegal c, ∃ m' ∈ genLegal c', nv c (- V d (make c m)) = nv c' (- V d (make c' m')) := by
        intro c c' h hF hF' m hm
        obtain ⟨htc', htc⟩ := flipRel_turn h
        obtain ⟨m', hm', hr, -⟩ := legal_step h hm
        have e := ih (make c m) (make c' m') hr (by rw [make_fullmove]; omega) (by rw [make_fullmove]; omega)
        refine ⟨m', hm', ?_⟩
        unfold nv at e ⊢
        rw [make_fullmove, make_fullmove, make_turn, make_turn, htc'] at e
        rw [htc']
        exact nvf_neg htc e
      obtain ⟨htc', htc⟩ := flipRel_turn h1
      rw [V_succ d c ht, V_succ d c' ht']
      apply mmFold_rel (fun m => V d (make c m)) (fun m => V d (make c' m)) (nv c) (nv c') (nv_mono c) (nv_mono c')
      · right
        constructor
        · obtain ⟨m, hm⟩ := List.exists_mem_of_ne_nil _ ht
          exact ⟨m, hm, loss_le_child htc hF m⟩
        · obtain ⟨m, hm⟩ := List.exists_mem_of_ne_nil _ ht'
          exact ⟨m, hm, loss_le_child (by omega) hF' m⟩
      · exact key h1 hF hF'
      · intro m hm
        obtain ⟨m', hm', e⟩ := key h1.symm hF' hF m hm
        exact ⟨m', hm', e.symm⟩

end Inkayaku.SearchFlip
