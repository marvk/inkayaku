import Inkayaku.Proofs.RepSpecOcc
import Inkayaku.Proofs.SearchRepNode
import Inkayaku.Proofs.SearchSimInv
/-!
# C10 below the root: nodes of the search with their line, the line-dependent table invariant

`Props/C08Sim.lean` simulates the search model by the plain minimax `mm game` assuming a fresh repetition history (`HistZero`),
so that the repetition return is never taken.  After `position <b0> moves …` a node's value depends on the LINE that led to it;
here the simulation by `mm RepSpec.repGame` is set up.  `RNode b0 T k Lb p`: `p` is the board of a node at ply `k` below the last
position of the game `b0 :: T`, `Lb` the boards before it, and `rnode Lb p k` its specification node; a node at ply `k + 1` is a node
at ply `k` after the game extended by the first move of its line (`rnode_zero`, `rnode_succ`), and the facts about nodes are
inductions on `k` over these two.  `RTTOK`: every table entry
belongs to a node `(k, Lb, p)`, `k < D`, and tells the truth about `mm repGame draft (rnode Lb p k)`, the value ON THAT LINE (it is
`Sim.TTOK` of `Proofs/SearchSimGen.lean` at the instance `rsim` of `Proofs/SearchRepDeepNode.lean`, where its lemmas are).
`RHashInj b0 T D` is the explicit hypothesis in the place of `SearchSim.HashInj`: a stored and a probed node with the same hash stand
at the same ply, show the same position and have the same values `mm repGame draft`; it holds when their lines have the same keys
inside the window of the repetition test (`rhashInj_of_window`, by `mm_rep_window`), and for `D ≤ 3` it follows from `NoCollision`
(`Proofs/SearchRepDeepHash.lean`).  `RHyp` bundles the explicit hypotheses; `rep_iff`: the repetition test of a node below the
root is `RepSpec.isRepetition` of its specification node.
-/
namespace Inkayaku.SearchRepDeep
open Inkayaku.Board Inkayaku.Eval Inkayaku.WF Inkayaku.BoardCongr Inkayaku.Minimax Inkayaku.SpecSearch Inkayaku.Search
open Inkayaku.SearchSim Inkayaku.History Inkayaku.SearchRep
open Inkayaku.C06 (HashKey)
open Inkayaku.RepSpec (RPos Key key repGame isRepetition)

theorem snoc_lastBoard (T : List Board) (b0 : Board) : (b0 :: T).dropLast ++ [lastBoard b0 T] = b0 :: T := by
  rw [lastBoard_eq_getLast]
  exact List.dropLast_concat_getLast _

theorem LineHist.prefix {r : Nat} {L L' : List Board} {h : Array Nat} (hl : LineHist r (L ++ L') h) : LineHist r L h := by
  refine ⟨hl.1, ?_⟩
  intro i b hb
  apply hl.2 i b
  rw [List.getElem?_append_left (lt_of_getElem? hb)]
  exact hb

theorem key_congr {b b' : Board} (h : vis b = vis b') : key b = key b' :=
  (RepSpec.key_eq_iff b b').mpr (hashKey_vis h)

def rnode (Lb : List Board) (p : Board) (k : Nat) : RPos := { board := p, only := [], ply := k, before := Lb.reverse.map key }

/-- a canonical search line below `q`: every board is `make` of its predecessor by a legal move (equality, not only the same
visible position: these are the boards the specification game `repGame` walks through) -/
def CLine : Board → List Board → Prop
  | _, [] => True
  | q, c :: E => (∃ m, m ∈ genLegal q ∧ c = make q m) ∧ CLine c E

/-- `p` = the board of a search node at ply `k` below the last position of the game `b0 :: T`; `Lb` = the boards before it (game,
then search line).  `E` = the boards of the search line at the plies `1 … k` (canonical: `CLine`). -/
def RNode (b0 : Board) (T : List Board) (k : Nat) (Lb : List Board) (p : Board) : Prop :=
  ∃ E : List Board, E.length = k ∧ IsLine (b0 :: (T ++ E)) ∧ CLine (lastBoard b0 T) E ∧ Lb ++ [p] = b0 :: (T ++ E)

theorem RNode.root {b0 : Board} {T : List Board} (hl : IsLine (b0 :: T)) :
    RNode b0 T 0 (b0 :: T).dropLast (lastBoard b0 T) :=
  ⟨[], rfl, by rw [List.append_nil]; exact hl, trivial, by rw [List.append_nil]; exact snoc_lastBoard T b0⟩

theorem rnode_zero {b0 : Board} {T Lb : List Board} {p : Board} :
    RNode b0 T 0 Lb p ↔ IsLine (b0 :: T) ∧ Lb = (b0 :: T).dropLast ∧ p = lastBoard b0 T := by
  constructor
  · rintro ⟨E, h1, h2, _, h3⟩
    obtain rfl := List.length_eq_zero_iff.mp h1
    rw [List.append_nil] at h2 h3
    rw [← snoc_lastBoard T b0] at h3
    obtain ⟨e1, e2⟩ := List.append_inj' h3 rfl
    exact ⟨h2, e1, List.singleton_inj.mp e2⟩
  · rintro ⟨h2, rfl, rfl⟩
    exact RNode.root h2

/-- a node at ply `k + 1` after the game `T` is a node at ply `k` after `T` followed by the first move of its search line: the
recursion at the front of the line, which `CLine`, `clines`, `IsLine` and `lastBoard` have too -/
theorem rnode_succ {b0 : Board} {T Lb : List Board} {k : Nat} {p : Board} :
    RNode b0 T (k + 1) Lb p ↔
      ∃ m, m ∈ genLegal (lastBoard b0 T) ∧ RNode b0 (T ++ [make (lastBoard b0 T) m]) k Lb p := by
  constructor
  · rintro ⟨E, h1, h2, hc, h3⟩
    obtain ⟨c, E', rfl⟩ := List.exists_cons_of_length_eq_add_one h1
    obtain ⟨⟨m, hm, rfl⟩, hc'⟩ := hc
    refine ⟨m, hm, E', Nat.succ.inj h1, ?_, ?_, ?_⟩
    · rw [List.append_assoc]; exact h2
    · rw [lastBoard_snoc]; exact hc'
    · rw [List.append_assoc]; exact h3
  · rintro ⟨m, hm, E', h1, h2, hc, h3⟩
    rw [lastBoard_snoc] at hc
    rw [List.append_assoc] at h2 h3
    exact ⟨_ :: E', congrArg (· + 1) h1, h2, ⟨⟨m, hm, rfl⟩, hc⟩, h3⟩

theorem dropLast_game (b0 c : Board) (T : List Board) : (b0 :: (T ++ [c])).dropLast = b0 :: T :=
  List.dropLast_concat (l₁ := b0 :: T)

theorem RNode.child {b0 : Board} : ∀ {k : Nat} {T Lb : List Board} {p : Board}, RNode b0 T k Lb p → ∀ {m : Move},
    m ∈ genLegal p → RNode b0 T (k + 1) (Lb ++ [p]) (make p m)
  | 0, T, _, _, h, m, hm => by
    obtain ⟨hl, rfl, rfl⟩ := rnode_zero.mp h
    refine rnode_succ.mpr ⟨m, hm, rnode_zero.mpr ⟨isLine_child hl hm, ?_, (lastBoard_snoc _ _ _).symm⟩⟩
    rw [snoc_lastBoard, dropLast_game]
  | k + 1, _, _, _, h, _, hm => by
    obtain ⟨a, ha, h'⟩ := rnode_succ.mp h
    exact rnode_succ.mpr ⟨a, ha, RNode.child h' hm⟩

theorem RNode.isLine {b0 : Board} {T : List Board} {k : Nat} {Lb : List Board} {p : Board} (h : RNode b0 T k Lb p) :
    IsLine (Lb ++ [p]) := by
  obtain ⟨E, _, h2, _, h3⟩ := h
  rw [h3]; exact h2

theorem RNode.length {b0 : Board} {T : List Board} {k : Nat} {Lb : List Board} {p : Board} (h : RNode b0 T k Lb p) :
    Lb.length = T.length + k := by
  obtain ⟨E, h1, _, _, h3⟩ := h
  have := congrArg List.length h3
  simp only [List.length_append, List.length_cons, List.length_nil] at this
  omega

theorem RNode.facts {b0 : Board} {T : List Board} {k : Nat} {Lb : List Board} {p : Board} (h : RNode b0 T k Lb p) {B : Nat}
    (hinv : Inv B b0) (hB : T.length + k ≤ B) : Inv (B - (T.length + k)) p ∧ ply2 p = ply2 b0 + (T.length + k) := by
  have hlen := h.length
  obtain ⟨E, h1, h2, _, h3⟩ := h
  apply line_facts (T ++ E) b0 B h2 hinv (by simp only [List.length_append]; omega) (T.length + k) p
  rw [← h3, List.getElem?_append_right (by omega)]
  simp [hlen]

theorem RNode.cons {b0 : Board} {T : List Board} {k : Nat} {Lb : List Board} {p : Board} (h : RNode b0 T (k + 1) Lb p) :
    ∃ T', Lb = b0 :: T' ∧ T'.length = T.length + k := by
  have hlen := h.length
  obtain ⟨E, h1, _, _, h3⟩ := h
  cases Lb with
  | nil => simp at hlen
  | cons a L =>
    simp only [List.cons_append, List.cons.injEq] at h3
    refine ⟨L, by rw [h3.1], ?_⟩
    simp only [List.length_cons] at hlen
    omega

theorem RNode.line_le1 {b0 : Board} {T : List Board} {k : Nat} {Lb Lb' : List Board} {p p' : Board} (hk : k ≤ 1)
    (h : RNode b0 T k Lb p) (h' : RNode b0 T k Lb' p') : Lb' = Lb := by
  match k, hk with
  | 0, _ => rw [(rnode_zero.mp h).2.1, (rnode_zero.mp h').2.1]
  | 1, _ =>
    obtain ⟨_, _, h⟩ := rnode_succ.mp h
    obtain ⟨_, _, h'⟩ := rnode_succ.mp h'
    rw [(rnode_zero.mp h).2.1, (rnode_zero.mp h').2.1, dropLast_game, dropLast_game]

theorem reach_front {b : Board} {m : Move} (hm : m ∈ genLegal b) : ∀ {k : Nat} {p : Board}, Reach (make b m) k p →
    Reach b (k + 1) p
  | 0, _, h => ⟨b, m, Reach.root b, (List.mem_filter.mp hm).1, (List.mem_filter.mp hm).2, h⟩
  | _ + 1, _, ⟨q, m', hq, h2, h3, h4⟩ => ⟨q, m', reach_front hm hq, h2, h3, h4⟩

theorem RNode.reach {b0 : Board} : ∀ {k : Nat} {T Lb : List Board} {p : Board}, RNode b0 T k Lb p →
    Reach (lastBoard b0 T) k p
  | 0, _, _, _, h => by rw [(rnode_zero.mp h).2.2]; exact Reach.root _
  | k + 1, T, _, _, h => by
    obtain ⟨m, hm, h'⟩ := rnode_succ.mp h
    have := RNode.reach h'
    rw [lastBoard_snoc] at this
    exact reach_front hm this

theorem rep_fields {p q : RPos} (hv : vis p.board = vis q.board) (ho : p.only = q.only) (hk : p.ply = q.ply)
    (hr : isRepetition p = isRepetition q) :
    repGame.moves p = repGame.moves q ∧ repGame.term p = repGame.term q ∧ repGame.leafExact p = repGame.leafExact q := by
  refine ⟨?_, ?_, ?_⟩
  · rw [RepSpec.moves_repGame, RepSpec.moves_repGame, hr, ho]
    unfold rootMoves
    rw [genLegal_congr hv]
  · rw [RepSpec.term_repGame, RepSpec.term_repGame, hr, hk, evalFor_vis hv]
  · exact (RepSpec.leafExact_board _ p p.only).trans
      ((leafExact_congr (p := (p.board, p.only)) (p' := (q.board, q.only)) hv).trans (RepSpec.leafExact_board _ q q.only).symm)

theorem isRepetition_window {p q : RPos} (hv : vis p.board = vis q.board) (hk : p.ply = q.ply)
    (h : p.before.take p.board.halfmove = q.before.take p.board.halfmove) : isRepetition p = isRepetition q := by
  unfold isRepetition RepSpec.occurrences
  rw [← halfmove_congr hv, ← key_congr hv, ← hk, h]

/-- **`mm repGame` depends on the visible position, and on the line only through its last `halfmove` keys**: the positions before
the last capture or pawn move are never compared with anything again, at any depth -/
theorem mm_rep_window (d : Nat) (p q : RPos) (hv : vis p.board = vis q.board) (ho : p.only = q.only) (hk : p.ply = q.ply)
    (hw : p.before.take p.board.halfmove = q.before.take p.board.halfmove) : mm repGame d p = mm repGame d q := by
  refine mm_bisim repGame (fun p q => vis p.board = vis q.board ∧ p.only = q.only ∧ p.ply = q.ply ∧
      p.before.take p.board.halfmove = q.before.take p.board.halfmove) ?_ ?_ d _ _ ⟨hv, ho, hk, hw⟩
  · exact fun p q ⟨hv, ho, hk, hw⟩ => rep_fields hv ho hk (isRepetition_window hv hk hw)
  · intro p q ⟨hv, _, hk, hw⟩ m _
    refine ⟨make_congr hv m, rfl, congrArg (· + 1) hk, ?_⟩
    show (key p.board :: p.before).take (make p.board m).halfmove = (key q.board :: q.before).take (make p.board m).halfmove
    rw [make_halfmove, key_congr hv]
    split
    · rfl
    · rw [List.take_succ_cons, List.take_succ_cons, hw]

theorem mm_rnode_congr (d : Nat) (Lb : List Board) {p p' : Board} (k : Nat) (h : vis p = vis p') :
    mm repGame d (rnode Lb p k) = mm repGame d (rnode Lb p' k) :=
  mm_rep_window d _ _ h rfl rfl rfl

/-- the count of a node looks only at the keys at even distance, and only at whether they are the node's own key -/
theorem occ_congr (b : Board) (o : List String) (k : Nat) (bf bf' : List Key) (hlen : bf.length = bf'.length)
    (h : ∀ i, (i + 1) % 2 = 0 → (bf[i]? == some (key b)) = (bf'[i]? == some (key b))) :
    RepSpec.occurrences ⟨b, o, k, bf⟩ = RepSpec.occurrences ⟨b, o, k, bf'⟩ := by
  unfold RepSpec.occurrences
  simp only
  have hl : (bf.take b.halfmove).length = (bf'.take b.halfmove).length := by
    rw [List.length_take, List.length_take, hlen]
  rw [hl]
  congr 2
  apply List.filter_congr
  intro i hi
  have hi' : i < (bf'.take b.halfmove).length := List.mem_range.mp hi
  have hih : i < b.halfmove := by rw [List.length_take] at hi'; omega
  rw [List.getElem?_take_of_lt hih, List.getElem?_take_of_lt hih]
  by_cases hp : (i + 1) % 2 = 0
  · rw [h i hp]
  · have : ((i + 1) % 2 == 0) = false := by simpa using hp
    rw [this, Bool.false_and, Bool.false_and]

/-- the key of the parent (distance 1: the other side to move) is never looked at -/
theorem occ_head (b : Board) (o : List String) (k : Nat) (x y : Key) (r : List Key) :
    RepSpec.occurrences ⟨b, o, k, x :: r⟩ = RepSpec.occurrences ⟨b, o, k, y :: r⟩ := by
  apply occ_congr b o k (x :: r) (y :: r) rfl
  intro i hi
  cases i with
  | zero => omega
  | succ j => rw [List.getElem?_cons_succ, List.getElem?_cons_succ]

theorem occ_second (b : Board) (o : List String) (k : Nat) (z x y : Key) (r : List Key) (hx : x ≠ key b) (hy : y ≠ key b) :
    RepSpec.occurrences ⟨b, o, k, z :: x :: r⟩ = RepSpec.occurrences ⟨b, o, k, z :: y :: r⟩ := by
  apply occ_congr b o k (z :: x :: r) (z :: y :: r) rfl
  intro i hi
  cases i with
  | zero => omega
  | succ j =>
    cases j with
    | zero =>
      simp only [List.getElem?_cons_succ, List.getElem?_cons_zero]
      have e1 : (some x == some (key b)) = false := by simpa using hx
      have e2 : (some y == some (key b)) = false := by simpa using hy
      rw [e1, e2]
    | succ j => simp only [List.getElem?_cons_succ]

theorem isRepetition_of_occ (b : Board) (o : List String) (k : Nat) {bf bf' : List Key}
    (h : RepSpec.occurrences ⟨b, o, k, bf⟩ = RepSpec.occurrences ⟨b, o, k, bf'⟩) :
    isRepetition ⟨b, o, k, bf⟩ = isRepetition ⟨b, o, k, bf'⟩ := by
  unfold isRepetition
  rw [h]

theorem mm_zero_line (b : Board) (o : List String) (k : Nat) {bf bf' : List Key}
    (h : isRepetition ⟨b, o, k, bf⟩ = isRepetition ⟨b, o, k, bf'⟩) :
    mm repGame 0 ⟨b, o, k, bf⟩ = mm repGame 0 ⟨b, o, k, bf'⟩ :=
  have hf := rep_fields (p := ⟨b, o, k, bf⟩) (q := ⟨b, o, k, bf'⟩) rfl rfl rfl h
  mm_zero_congr repGame hf.1 hf.2.1 hf.2.2

theorem mm_succ_line (d : Nat) (b : Board) (o : List String) (k : Nat) {bf bf' : List Key}
    (h : isRepetition ⟨b, o, k, bf⟩ = isRepetition ⟨b, o, k, bf'⟩)
    (hc : ∀ m ∈ rootMoves b o, mm repGame d ⟨make b m, [], k + 1, key b :: bf⟩ = mm repGame d ⟨make b m, [], k + 1, key b :: bf'⟩) :
    mm repGame (d + 1) ⟨b, o, k, bf⟩ = mm repGame (d + 1) ⟨b, o, k, bf'⟩ := by
  have hf := rep_fields (p := ⟨b, o, k, bf⟩) (q := ⟨b, o, k, bf'⟩) rfl rfl rfl h
  refine mm_succ_congr repGame d hf.1 hf.2.1 fun m hm => hc m ?_
  rw [RepSpec.moves_repGame] at hm
  split at hm
  · cases hm
  · exact hm

theorem rnode_child (Lb : List Board) (p : Board) (k : Nat) (m : Move) :
    ({ board := make p m, only := [], ply := k + 1, before := key p :: (rnode Lb p k).before } : RPos) =
      rnode (Lb ++ [p]) (make p m) (k + 1) := by
  unfold rnode
  simp

def REntryOK (n : RPos) (e : TtEntry) : Prop :=
  e.mv.value = e.value ∧
  match e.nodeType with
  | .exact => e.value = mm repGame e.depth n
  | .lower => e.value ≤ mm repGame e.depth n
  | .upper => mm repGame e.depth n ≤ e.value

def RTTOK (b0 : Board) (T : List Board) (D : Nat) (tt : Std.HashMap UInt64 TtEntry) : Prop :=
  ∀ h e, tt.get? h = some e →
    ∃ k Lb p, k < D ∧ RNode b0 T k Lb p ∧ Zobrist.hash p = h ∧ e.depth + k ≤ D ∧ REntryOK (rnode Lb p k) e

/-- **RHashInj** (explicit hypothesis, not an axiom): a node at which the search stores (`k' < D`) and a node at which it probes
(`k ≤ D`) that have the same hash stand at the same ply, show the same position and have the same specification values for every
draft the table can hold there — e.g. because their lines have the same keys INSIDE THE WINDOW of the repetition test (the last
`halfmove` positions: `rhashInj_of_window`, the executable sufficient condition), or because the keys in which the lines differ are
never compared with anything (`Proofs/SearchRepDeepHash.lean`: depth ≤ 3) -/
def RHashInj (b0 : Board) (T : List Board) (D : Nat) : Prop :=
  ∀ (k' k : Nat) (Lb' Lb : List Board) (p' p : Board), k' < D → k ≤ D → RNode b0 T k' Lb' p' → RNode b0 T k Lb p →
    Zobrist.hash p' = Zobrist.hash p →
      k' = k ∧ vis p' = vis p ∧ ∀ d, d + k ≤ D → mm repGame d (rnode Lb' p' k) = mm repGame d (rnode Lb p k)

theorem rhashInj_of_window {b0 : Board} {T : List Board} {D : Nat}
    (h : ∀ (k' k : Nat) (Lb' Lb : List Board) (p' p : Board), k' < D → k ≤ D → RNode b0 T k' Lb' p' → RNode b0 T k Lb p →
      Zobrist.hash p' = Zobrist.hash p →
        k' = k ∧ vis p' = vis p ∧ (Lb'.reverse.map key).take p'.halfmove = (Lb.reverse.map key).take p.halfmove) :
    RHashInj b0 T D := by
  intro k' k Lb' Lb p' p hk' hk hn' hn he
  obtain ⟨rfl, hv, hkeys⟩ := h k' k Lb' Lb p' p hk' hk hn' hn he
  refine ⟨rfl, hv, fun d _ => ?_⟩
  refine mm_rep_window d _ _ hv rfl rfl ?_
  show (Lb'.reverse.map key).take p'.halfmove = (Lb.reverse.map key).take p'.halfmove
  rw [hkeys, halfmove_congr hv]

structure RHyp (b0 : Board) (T : List Board) (D : Nat) : Prop where
  line : IsLine (b0 :: T)
  inv : Inv (T.length + D) b0
  /-- the 16-bit ply clock does not wrap within game + search -/
  nowrap : ply2 b0 + (T.length + D) < 65536
  /-- no node below the root hashes to zero (the content of the never written history cells) -/
  nz : ∀ (k : Nat) (Lb : List Board) (p : Board), 1 ≤ k → k ≤ D → RNode b0 T k Lb p → Zobrist.hash p ≠ 0
  /-- no collision between a node and the positions of its line inside the window of the repetition test -/
  coll : ∀ (k : Nat) (Lb : List Board) (p : Board), 1 ≤ k → k ≤ D → RNode b0 T k Lb p → ∀ (i : Nat) (b : Board),
    Lb[i]? = some b → Lb.length - p.halfmove ≤ i → Zobrist.hash b = Zobrist.hash p → HashKey b = HashKey p
  inj : RHashInj b0 T D
  qb : ∀ (k : Nat) (Lb : List Board) (p : Board), k ≤ D → RNode b0 T k Lb p → QDepth quiescenceFuel p

structure RSOK (b0 : Board) (T : List Board) (D : Nat) (Lb : List Board) (s : St) : Prop where
  tt : RTTOK b0 T D s.tt
  hist : LineHist (plyClock b0) Lb s.history
  stop : s.stop = false
  sm : s.go.searchMoves = []

theorem RSOK.setKillers {b0 : Board} {T : List Board} {D : Nat} {Lb : List Board} {s : St} (h : RSOK b0 T D Lb s)
    (k : List Move) : RSOK b0 T D Lb { s with killers := k } := ⟨h.tt, h.hist, h.stop, h.sm⟩

section
variable {b0 : Board} {T : List Board} {D : Nat} (H : RHyp b0 T D)
include H

theorem plyClock_node {k : Nat} {Lb : List Board} {p : Board} (hk : k ≤ D) (hn : RNode b0 T k Lb p) {c : Board}
    (hv : vis c = vis p) : plyClock c = plyClock b0 + Lb.length := by
  obtain ⟨_, hp⟩ := hn.facts H.inv (by omega)
  have hnw := H.nowrap
  rw [plyClock_congr hv, hn.length]
  exact plyClock_add hp (by omega)

theorem rep_iff {k : Nat} {Lb : List Board} {p : Board} (hk1 : 1 ≤ k) (hk : k ≤ D) (hn : RNode b0 T k Lb p) {s : St}
    (hv : vis s.board = vis p) (hh : LineHist (plyClock b0) Lb s.history) :
    isRep (enter s (Zobrist.hash s.board)) k = isRepetition (rnode Lb p k) := by
  obtain ⟨j, rfl⟩ : ∃ j, k = j + 1 := ⟨k - 1, by omega⟩
  obtain ⟨T', rfl, hlen⟩ := hn.cons
  have h1 := isRep_enter_iff_of hv hn.isLine (Inv_mono (by omega) H.inv) (by have := H.nowrap; omega) hh
    (H.nz _ _ _ hk1 hk hn) (fun i b hb hw => H.coll _ _ _ hk1 hk hn i b hb (by simp only [List.length_cons]; exact hw))
    (j + 1) (by omega)
  have h2 : isRepetition (rnode (b0 :: T') p (j + 1)) = true ↔ 3 ≤ SearchRep.occurrences (b0 :: T') p :=
    RepSpec.isRepetition_iff_occurrences (b0 :: T') p hn.isLine [] (j + 1) (by omega)
  rw [Bool.eq_iff_iff, h1, h2]

end

end Inkayaku.SearchRepDeep
