import Inkayaku.Proofs.SearchRepNode
import Inkayaku.Proofs.SearchSimRoot
import Inkayaku.Proofs.GenSpecLegal
/-!
# C10 at the search level: the root under `searchmoves`, and a `go depth 1` whose iteration completes

`rootPseudo b only` is the root's move buffer as a function of the board; its legal moves are the specification's
`rootMoves b only`, and `searchmoves [m.uci]` leaves `[m]`.  `goCmd_depth1`: a `go depth 1 …` whose only iteration completes
reports that iteration.
-/
namespace Inkayaku.SearchRep
open Inkayaku.Board Inkayaku.WF Inkayaku.BoardCongr Inkayaku.Search Inkayaku.SearchSim Inkayaku.History Inkayaku.Eval
open Inkayaku.SpecSearch (rootMoves)

def rootPseudo (b : Board) (only : List String) : List Move :=
  if only.isEmpty then genPseudo b else (genPseudo b).filter fun m => only.contains m.uci

theorem rootBuffer_zero (s : St) : rootBuffer s 0 = rootPseudo s.board s.go.searchMoves := by
  unfold rootBuffer rootPseudo
  cases s.go.searchMoves <;> rfl

theorem rootPseudo_legal (b : Board) (only : List String) : (rootPseudo b only).filter (isMoveLegal b) = rootMoves b only := by
  unfold rootPseudo rootMoves genLegal
  split
  · rfl
  · rw [List.filter_filter, List.filter_filter]
    exact List.filter_congr fun _ _ => Bool.and_comm _ _

theorem mem_rootPseudo {b : Board} {only : List String} {m : Move} (h : m ∈ rootPseudo b only) : m ∈ genPseudo b := by
  unfold rootPseudo at h
  split at h
  · exact h
  · exact (List.mem_filter.mp h).1

theorem mem_rootMoves {b : Board} {only : List String} {m : Move} (h : m ∈ rootMoves b only) :
    m ∈ genLegal b ∧ m ∈ rootPseudo b only := by
  rw [← rootPseudo_legal] at h
  obtain ⟨h1, h2⟩ := List.mem_filter.mp h
  exact ⟨List.mem_filter.mpr ⟨mem_rootPseudo h1, h2⟩, h1⟩

theorem rootPseudo_single {b : Board} {m : Move} (hwf : wf b = true) (hm : m ∈ genPseudo b) : rootPseudo b [m.uci] = [m] := by
  unfold rootPseudo
  rw [if_neg (by simp), ← ListFacts.filter_beq_eq_singleton Move.uci (genPseudo b) m (GenSpec.genPseudo_nodup hwf) hm]
  apply List.filter_congr
  intro x _
  simp only [List.contains_cons, List.contains_nil, Bool.or_false]

theorem probe_none (rem : Nat) (a b : Int) : probe none rem a b = (none, a, b) := rfl

theorem goIters_depth1 (sm : List String) (maxIter : Nat) (h : 1 ≤ maxIter) :
    goIters { depth := some 1, searchMoves := sm } maxIter = 1 := by
  unfold goIters
  simp only
  omega

theorem goCmd_depth1 (S : St) (g : GoParams) (maxIter : Nat) (hit : goIters g maxIter = 1)
    (hna : iterAborted (rootSearch (goPrep S g) 1) = false) :
    let r := rootSearch (goPrep S g) 1
    (goCmd S g maxIter).out =
      .bestMove r.1.mv (r.1.pv[1]?) ::
      .info (some 1) (some (r.2.elapsedNs / 1000000)) r.2.totalNodes (some (scoreFromValue r.1.value r.2.board)) (some r.1.pv) ::
      r.2.out := by
  intro r
  have hmv : r.1.mv.isSome = true := by
    unfold iterAborted at hna
    simp only [Bool.or_eq_false_iff] at hna
    cases h : r.1.mv with
    | none => rw [show (rootSearch (goPrep S g) 1).1.mv = none from h] at hna; simp at hna
    | some _ => rfl
  have hd : goDeepen S g maxIter = (some r.1, iterState r 1 none none) := by
    unfold goDeepen
    rw [hit, deepen_succ]
    simp only [hna, Bool.false_eq_true, if_false]
    split
    · rfl
    · rw [deepen_zero]
  rw [goCmd_eq, hd]
  simp only
  rw [iterState_completed _ _ _ _ hna]
  obtain ⟨mv, hmv'⟩ := Option.isSome_iff_exists.mp hmv
  show Out.bestMove (bestMoveOf (some r.1)) (ponderOf (some r.1) _) :: _ = _
  unfold ponderOf bestMoveOf
  simp only [hmv']
  rfl

end Inkayaku.SearchRep
