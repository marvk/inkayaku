import Inkayaku.Proofs.SearchSimTranspCodes
import Inkayaku.Proofs.SearchSimQ
import Inkayaku.Proofs.MoveText
import Inkayaku.Props.C10
/-!
# C10 at the search level: games, occurrences, and the counting theorem on games

`gameBoards` gives the positions `b0, …, bn` that `Search.setPosition` walks through (`gameBoards_induct`: the induction along that
walk).  `occurrences L p` counts positions (identified by `C06.HashKey`: placement, side to move, castling rights, e.p. file); no
hash occurs in it.  `LineHist r L h`: the history `h` holds zeros below the root index `r` and the hashes of the line `L` from `r` on.
`countRepetitions_ge3_iff`: on a history with `LineHist r (L ++ [p])`,
`count_repetitions(r + |L|, p.halfmove) ≥ 3 ⇔ 3 ≤ occurrences L p`, provided `hash p ≠ 0` and `p` does
not collide with a line position inside the window (`C10.repCount_shift` moves the count to the root index: below it the cells are
zero; from there on it is the instance of `C10.repCount_eq_sameCount` where `same i` says that the `i`-th position of the line has
the `HashKey` of `p`).  Two chess facts enter: the side to move alternates, and a position does not
recur after exactly two plies (`key_cross02`), which is why the engine's skipping of `start − 2` loses nothing.
`window_reversible`, `window_stops_at_reset`: the window `p.halfmove` is exactly the reversible suffix of the line.
-/
namespace Inkayaku.SearchRep
open Inkayaku.Board Inkayaku.WF Inkayaku.BoardCongr Inkayaku.Search Inkayaku.SearchSim Inkayaku.History
open Inkayaku.C06 (HashKey)

/-- `make` is applied to the board `find_uci` leaves behind, exactly as `set_position_from` does. -/
def playUci (b : Board) (u : String) : Option Board :=
  match San.findUci b u with
  | (.ok m, b') => some (make b' m)
  | (.error _, _) => none

def gameBoards : Board → List String → Option (List Board)
  | b, [] => some [b]
  | b, u :: us =>
    match playUci b u with
    | some b' => (gameBoards b' us).map (b :: ·)
    | none => none

def Step (p q : Board) : Prop := ∃ m, m ∈ genLegal p ∧ vis q = vis (make p m)

def IsLine : List Board → Prop
  | [] => True
  | [_] => True
  | p :: q :: rest => Step p q ∧ IsLine (q :: rest)

theorem isLine_cons2 (p q : Board) (rest : List Board) : IsLine (p :: q :: rest) ↔ Step p q ∧ IsLine (q :: rest) := Iff.rfl

theorem IsLine.tail {p : Board} {L : List Board} (h : IsLine (p :: L)) : IsLine L := by
  cases L with
  | nil => trivial
  | cons q rest => exact h.2

theorem playUci_step {b b' : Board} (hwf : wf b = true) {u : String} (h : playUci b u = some b') : Step b b' := by
  unfold playUci at h
  have hp := MoveText.findUci_pure hwf u
  rcases hf : San.findUci b u with ⟨r, bb⟩
  rw [hf] at h hp
  cases r with
  | error e => cases h
  | ok m =>
    simp only [Option.some.injEq] at h
    subst h
    have hl := (MoveText.findUci_ok_legal (b := b) (s := u) (m := m) (by rw [hf])).1
    exact ⟨m, hl, make_congr hp m⟩

theorem Step.inv {k : Nat} {p q : Board} (h : Step p q) (hinv : Inv (k + 1) p) : Inv k q ∧ ply2 q = ply2 p + 1 := by
  obtain ⟨m, hm, hv⟩ := h
  obtain ⟨g, l⟩ := List.mem_filter.mp hm
  have := boardLaws.make_inv k p m hinv (Or.inl g) l
  exact ⟨Inv_congr hv.symm this, by rw [ply2_congr hv, ply2_make hinv.wf]⟩

theorem gameBoards_cons (b : Board) (u : String) (us : List String) :
    gameBoards b (u :: us) = match playUci b u with
      | some b' => (gameBoards b' us).map (b :: ·)
      | none => none := rfl

/-- induction along a game, as `gameBoards` (and with it `set_position_from`, `RepSpec.playHistory`) walks through it -/
theorem gameBoards_induct {motive : Board → List String → Option (List Board) → Prop}
    (nil : ∀ b, motive b [] (some [b]))
    (reject : ∀ b u us, playUci b u = none → motive b (u :: us) none)
    (fail : ∀ b u us b', playUci b u = some b' → motive b' us none → motive b (u :: us) none)
    (step : ∀ b u us b' T, playUci b u = some b' → motive b' us (some (b' :: T)) → motive b (u :: us) (some (b :: b' :: T)))
    (us : List String) (b : Board) : motive b us (gameBoards b us) :=
  (go us b).1
where
  go : ∀ (us : List String) (b : Board), motive b us (gameBoards b us) ∧ ∀ L, gameBoards b us = some L → ∃ T, L = b :: T
  | [], b => ⟨nil b, fun _ h => ⟨[], (Option.some.inj h).symm⟩⟩
  | u :: us, b => by
    rw [gameBoards_cons]
    cases hp : playUci b u with
    | none => exact ⟨reject b u us hp, fun _ h => by cases h⟩
    | some b' =>
      obtain ⟨ih, hsh⟩ := go us b'
      show motive b (u :: us) ((gameBoards b' us).map (b :: ·)) ∧ ∀ L, (gameBoards b' us).map (b :: ·) = some L → _
      cases hg : gameBoards b' us with
      | none => rw [hg] at ih; exact ⟨fail b u us b' hp ih, fun _ h => by cases h⟩
      | some L' =>
        obtain ⟨T, rfl⟩ := hsh L' hg
        rw [hg] at ih
        exact ⟨step b u us b' T hp ih, fun _ h => ⟨_, (Option.some.inj h).symm⟩⟩

theorem gameBoards_line {us : List String} {b0 : Board} {T : List Board} {B : Nat} (hg : gameBoards b0 us = some (b0 :: T))
    (hinv : Inv (T.length + B) b0) : IsLine (b0 :: T) :=
  gameBoards_induct (motive := fun b _ r => ∀ T, r = some (b :: T) → Inv (T.length + B) b → IsLine (b :: T))
    (fun _ _ h _ => by cases h; trivial) (fun _ _ _ _ _ h => by cases h) (fun _ _ _ _ _ _ _ h => by cases h)
    (fun b u us b' T hp ih _ h hinv => by
      cases h
      have hst := playUci_step hinv.wf hp
      exact ⟨hst, ih T rfl (hst.inv (k := T.length + B) (by rw [List.length_cons, Nat.add_right_comm] at hinv; exact hinv)).1⟩)
    us b0 T hg hinv

theorem lt_of_getElem? {α : Type} {L : List α} {i : Nat} {b : α} (h : L[i]? = some b) : i < L.length := by
  obtain ⟨hi, _⟩ := List.getElem?_eq_some_iff.mp h
  exact hi

theorem line_facts : ∀ (T : List Board) (b0 : Board) (B : Nat), IsLine (b0 :: T) → Inv B b0 → T.length ≤ B →
    ∀ i b, (b0 :: T)[i]? = some b → Inv (B - i) b ∧ ply2 b = ply2 b0 + i
  | [], b0, B, _, hinv, _, i, b, hb => by
    cases i with
    | zero =>
      simp only [List.getElem?_cons_zero, Option.some.injEq] at hb
      subst hb; exact ⟨hinv, rfl⟩
    | succ i => simp at hb
  | q :: T, b0, B, hl, hinv, hB, i, b, hb => by
    cases i with
    | zero =>
      simp only [List.getElem?_cons_zero, Option.some.injEq] at hb
      subst hb; exact ⟨hinv, rfl⟩
    | succ i =>
      rw [List.getElem?_cons_succ] at hb
      obtain ⟨k, rfl⟩ : ∃ k, B = k + 1 := ⟨B - 1, by simp only [List.length_cons] at hB; omega⟩
      obtain ⟨hq, hp⟩ := hl.1.inv hinv
      obtain ⟨h1, h2⟩ := line_facts T q k hl.2 hq (by simp only [List.length_cons] at hB; omega) i b hb
      refine ⟨?_, by rw [h2, hp]; omega⟩
      have : k + 1 - (i + 1) = k - i := by omega
      rw [this]; exact h1

theorem line_step : ∀ (L : List Board) (i : Nat) (p q : Board), IsLine L → L[i]? = some p → L[i + 1]? = some q → Step p q
  | [], _, _, _, _, hp, _ => by simp at hp
  | [_], i, _, _, _, _, hq => by simp at hq
  | a :: b :: rest, i, p, q, hl, hp, hq => by
    cases i with
    | zero =>
      simp only [List.getElem?_cons_zero, Option.some.injEq, Nat.zero_add, List.getElem?_cons_succ] at hp hq
      subst hp; subst hq; exact hl.1
    | succ i =>
      rw [List.getElem?_cons_succ] at hp hq
      exact line_step (b :: rest) i p q hl.2 hp hq

/-- **how often has `p` occurred** when it is reached after the line `L` (`L` = the earlier positions, oldest first):
`p` itself, plus the positions of `L` with `p`'s `HashKey` among the last `p.halfmove` ones (`i ≥ |L| − p.halfmove`:
truncated subtraction, so a clock larger than the line means "the whole line") -/
def occurrences (L : List Board) (p : Board) : Nat :=
  1 + ((List.range L.length).filter
    (fun i => decide (L.length - p.halfmove ≤ i) && decide (HashKey (L.getD i p) = HashKey p))).length

theorem occurrences_pos (L : List Board) (p : Board) : 1 ≤ occurrences L p := by unfold occurrences; omega

theorem occurrences_congr (L : List Board) {p p' : Board} (h : vis p = vis p') : occurrences L p = occurrences L p' := by
  unfold occurrences
  rw [halfmove_congr h, hashKey_vis h]
  congr 2
  apply List.filter_congr
  intro i hi
  have hi' : i < L.length := List.mem_range.mp hi
  rw [List.getD_eq_getElem?_getD, List.getD_eq_getElem?_getD, List.getElem?_eq_getElem hi']
  rfl

theorem step_turn {p q : Board} (h : Step p q) : q.turn = 1 - p.turn := by
  obtain ⟨m, _, hv⟩ := h
  rw [turn_congr hv]
  rfl

theorem line_turn_odd (M : List Board) (hl : IsLine M) (j : Nat) (p : Board) (hp : M[j]? = some p) :
    ∀ (k : Nat) (q : Board), M[j + 2 * k + 1]? = some q → q.turn = 1 - p.turn := by
  intro k
  induction k with
  | zero =>
    intro q hq
    exact step_turn (line_step M j p q hl hp hq)
  | succ k ih =>
    intro q hq
    have hlen : j + 2 * (k + 1) + 1 < M.length := lt_of_getElem? hq
    have g1 : M[j + 2 * k + 1]? = some M[j + 2 * k + 1] := List.getElem?_eq_getElem (by omega)
    have g2 : M[j + 2 * k + 1 + 1]? = some M[j + 2 * k + 1 + 1] := List.getElem?_eq_getElem (by omega)
    have t1 := ih _ g1
    have t2 := step_turn (line_step M _ _ _ hl g1 g2)
    have t3 := step_turn (line_step M (j + 2 * k + 1 + 1) _ q hl g2 (by rw [← hq]; congr 1))
    omega

theorem line_key_even {M : List Board} (hl : IsLine M) {i j : Nat} {b c : Board} (hb : M[i]? = some b) (hc : M[j]? = some c)
    (hij : i < j) (hk : HashKey b = HashKey c) : (j - i) % 2 = 0 := by
  have ht := key_turn hk
  false_or_by_contra
  rename_i hodd
  have := line_turn_odd M hl i b hb ((j - i) / 2) c (by rw [← hc]; congr 1; omega)
  omega

theorem line_key_dist {M : List Board} (hl : IsLine M) {i j : Nat} {b c : Board} (hb : M[i]? = some b) (hc : M[j]? = some c)
    (hij : i < j) (hinv : Inv 1 b) (hk : HashKey b = HashKey c) : (j - i) % 2 = 0 ∧ i + 4 ≤ j := by
  have hpar := line_key_even hl hb hc hij hk
  refine ⟨hpar, ?_⟩
  false_or_by_contra
  rename_i hlt
  obtain rfl : j = i + 1 + 1 := by omega
  obtain ⟨q, gq⟩ : ∃ q, M[i + 1]? = some q := ⟨_, List.getElem?_eq_getElem (by have := lt_of_getElem? hc; omega)⟩
  obtain ⟨m1, hm1, hv1⟩ := line_step M i b q hl hb gq
  obtain ⟨m2, hm2, hv2⟩ := line_step M (i + 1) q c hl gq hc
  have hm2' : m2 ∈ genLegal (make b m1) := by rw [← genLegal_congr hv1]; exact hm2
  have hvc : vis c = vis (make (make b m1) m2) := hv2.trans (make_congr hv1 m2)
  exact key_cross02 hinv hm1 hm2' ((hashKey_vis hvc).symm.trans hk.symm)

def LineHist (r : Nat) (L : List Board) (h : Array Nat) : Prop :=
  (∀ j, j < r → h.getD j 0 = 0) ∧ (∀ (i : Nat) (b : Board), L[i]? = some b → h.getD (r + i) 0 = (Zobrist.hash b).toNat)

/-- **`count_repetitions ≥ 3` ⇔ third occurrence**, on a game.
`b0 :: T` = the earlier positions (root first), `c` = the position just reached, `r` = the history index of the root,
`h` = a history that holds the line up to and including `c` (cells above are irrelevant). -/
theorem countRepetitions_ge3_iff (b0 : Board) (T : List Board) (c : Board) (h : Array Nat) (r : Nat)
    (hline : IsLine (b0 :: (T ++ [c]))) (hinv : Inv (T.length + 1) b0) (hh : LineHist r (b0 :: (T ++ [c])) h)
    (hnz : Zobrist.hash c ≠ 0)
    (hcoll : ∀ i b, (b0 :: T)[i]? = some b → T.length + 1 - c.halfmove ≤ i → Zobrist.hash b = Zobrist.hash c →
      HashKey b = HashKey c) :
    countRepetitions (fun i => h.getD i 0) (r + (T.length + 1)) c.halfmove ≥ 3 ↔ 3 ≤ occurrences (b0 :: T) c := by
  have hTc : (T ++ [c]).length = T.length + 1 := by simp
  have hfacts := line_facts (T ++ [c]) b0 (T.length + 1) hline hinv (by rw [hTc]; exact Nat.le_refl _)
  have hgetc : (b0 :: (T ++ [c]))[T.length + 1]? = some c := by
    rw [← List.cons_append, List.getElem?_append_right (by rw [List.length_cons]; exact Nat.le_refl _)]
    simp
  have hnz' : (Zobrist.hash c).toNat ≠ 0 := fun e => hnz (UInt64.toNat_inj.mp (by rw [e]; rfl))
  have hget : ∀ i, i < T.length + 1 → (b0 :: T)[i]? = some ((b0 :: T).getD i c) ∧
      (b0 :: (T ++ [c]))[i]? = some ((b0 :: T).getD i c) := by
    intro i hi
    have e : (b0 :: T)[i]? = some ((b0 :: T).getD i c) := by
      rw [List.getD_eq_getElem?_getD, List.getElem?_eq_getElem (by exact hi)]; rfl
    exact ⟨e, by rw [← List.cons_append, List.getElem?_append_left (by exact hi)]; exact e⟩
  rw [C10.countRepetitions_spec]
  show 2 ≤ repCount (fun i => h.getD i 0) (r + (T.length + 1)) c.halfmove ↔ _
  -- below the root index the cells are zero and `hash c` is not; from the root index on, cell `i` holds the `i`-th position
  rw [C10.repCount_shift _ r _ _ (fun j hj _ => by rw [hh.1 j hj, hh.2 _ _ hgetc]; exact fun e => hnz' e.symm),
    C10.repCount_eq_sameCount _ _ _ fun i => decide (HashKey ((b0 :: T).getD i c) = HashKey c)]
  · show 2 ≤ C10.sameCount _ (b0 :: T).length c.halfmove ↔ 3 ≤ 1 + C10.sameCount _ (b0 :: T).length c.halfmove
    omega
  · intro i _ hi s
    obtain ⟨_, g⟩ := hget i hi
    exact line_key_dist hline g hgetc hi (Inv_mono (by omega) (hfacts _ _ g).1) (of_decide_eq_true s)
  · intro i w hi _
    obtain ⟨g, g'⟩ := hget i (by omega)
    show h.getD (r + i) 0 = h.getD (r + (T.length + 1)) 0 ↔ _
    rw [hh.2 _ _ g', hh.2 _ _ hgetc, decide_eq_true_eq]
    exact ⟨fun eh => hcoll _ _ g w (UInt64.toNat_inj.mp eh), fun k => by rw [(C06.hash_congr k).1]⟩

theorem Step.halfmove {p q : Board} (h : Step p q) : q.halfmove = 0 ∨ q.halfmove = p.halfmove + 1 := by
  obtain ⟨m, _, hv⟩ := h
  rw [halfmove_congr hv, make_halfmove]
  split
  · left; rfl
  · right; rfl

/-- a step is irreversible (pawn move or capture) exactly when it resets the clock (`C02.clock_reset_iff`), so this says that the
positions before an irreversible step are outside the window of every later position of the line -/
theorem window_stops_at_reset : ∀ (L : List Board), IsLine L → ∀ (i k : Nat) (q p : Board), L[i + 1]? = some q → q.halfmove = 0 →
    i + 1 ≤ k → L[k]? = some p → i + 1 ≤ k - p.halfmove := by
  intro L hl i k
  induction k with
  | zero => intro q p _ _ hk; omega
  | succ k ih =>
    intro q p hq h0 hk hp
    by_cases hik : i = k
    · subst hik
      rw [hq] at hp
      cases hp
      omega
    · have hk' : k < L.length := by have := lt_of_getElem? hp; omega
      have gk : L[k]? = some L[k] := List.getElem?_eq_getElem hk'
      have := ih q L[k] hq h0 (by omega) gk
      have hs := (line_step L k _ p hl gk hp).halfmove
      omega

theorem window_reversible : ∀ (L : List Board), IsLine L → ∀ (i k : Nat) (p : Board), i ≤ k → L[k]? = some p →
    (∀ j q, i < j → j ≤ k → L[j]? = some q → q.halfmove ≠ 0) → k - p.halfmove ≤ i := by
  intro L hl i k
  induction k with
  | zero => intro p _ _ _; omega
  | succ k ih =>
    intro p hik hp hno
    by_cases hi : i = k + 1
    · omega
    · have hk' : k < L.length := by have := lt_of_getElem? hp; omega
      have gk : L[k]? = some L[k] := List.getElem?_eq_getElem hk'
      have := ih L[k] (by omega) gk (fun j q h1 h2 => hno j q h1 (by omega))
      have hs := (line_step L k _ p hl gk hp).halfmove
      have := hno (k + 1) p (by omega) (Nat.le_refl _) hp
      omega

end Inkayaku.SearchRep
