import Inkayaku.Model.Console
import Inkayaku.Spec.UciGrammar
import Inkayaku.Spec.FenText
import Inkayaku.Proofs.CharRange
/-!
# Facts about texts that the parser (C15), the printer (C16), the FEN round trip and the end-to-end lines share

`FenSyntax.splitOnChar` and `FenText.joinWith` (inverse to each other), the two `joinSp` (`UciGrammar`, `Console`: same
equations, both `joinWith ' '`), `Uci.trim`, decimal numerals (`UciGrammar.decimal` and `Console.natText` are
`Nat.toDigits 10`, by `CharRange.eq_toDigits`), and the characters of move texts.  `FenRoundtrip.regexGroups_some` and
`parseChars_ok` (what the regex match and the whole FEN grammar check guarantee; they speak of `FenSyntax` only) stand here
because the `position fen` part of C15 and the translated `Fen::from_str` use them too.
-/

namespace Inkayaku.C15
open Inkayaku.Uci

/-- every token preceded by one space: what `joinSp` puts after the first token -/
def tailText (ts : List Tok) : List Char := ts.flatMap (fun t => ' ' :: t)

end Inkayaku.C15

namespace Inkayaku.FenRoundtrip
open Inkayaku.FenSyntax

theorem regexGroups_some {s p : List Char} {c : Char} {k e : List Char} {cl : Option (List Char × List Char)}
    (h : regexGroups s = some (p, c, k, e, cl)) :
    placementShapeOk p = true ∧ (c = 'b' ∨ c = 'w') ∧ castlingShapeOk k = true ∧ epShapeOk e = true ∧
      match cl with
      | none => splitOnChar ' ' s = [p, [c], k, e]
      | some (hh, f) => splitOnChar ' ' s = [p, [c], k, e, hh, f] ∧ hh.isEmpty = false
          ∧ hh.all isAsciiDigit = true ∧ f.isEmpty = false ∧ f.all isAsciiDigit = true := by
  unfold regexGroups at h
  split at h
  · rename_i hsp
    split at h
    · rename_i hc
      simp only [Option.some.injEq, Prod.mk.injEq] at h
      obtain ⟨rfl, rfl, rfl, rfl, rfl⟩ := h
      simp only [Bool.and_eq_true, Bool.or_eq_true, decide_eq_true_eq] at hc
      exact ⟨hc.1.1.1, hc.1.1.2, hc.1.2, hc.2, hsp⟩
    · cases h
  · rename_i hsp
    split at h
    · rename_i hc
      simp only [Option.some.injEq, Prod.mk.injEq] at h
      obtain ⟨rfl, rfl, rfl, rfl, rfl⟩ := h
      simp only [Bool.and_eq_true, Bool.or_eq_true, decide_eq_true_eq, Bool.not_eq_true'] at hc
      exact ⟨hc.1.1.1.1.1.1.1, hc.1.1.1.1.1.1.2, hc.1.1.1.1.1.2, hc.1.1.1.1.2, hsp, hc.1.1.1.2, hc.1.1.2, hc.1.2, hc.2⟩
    · cases h
  · cases h

theorem parseChars_ok {l : List Char} {f : FenFields} (h : parseChars l = .ok f) :
    placementShapeOk f.placement = true ∧ validateRanks f.placement = none ∧ (f.side = 'b' ∨ f.side = 'w')
    ∧ castlingShapeOk f.castling = true ∧ epShapeOk f.ep = true
    ∧ ((f.hasClocks = false ∧ f.half = 0 ∧ f.full = 1
          ∧ splitOnChar ' ' l = [f.placement, [f.side], f.castling, f.ep])
       ∨ (∃ hs fs, f.hasClocks = true ∧ splitOnChar ' ' l = [f.placement, [f.side], f.castling, f.ep, hs, fs]
          ∧ clockOk hs = true ∧ clockOk fs = true ∧ f.half = decimalValue hs ∧ f.full = decimalValue fs)) := by
  unfold parseChars at h
  split at h
  · cases h
  · rename_i p c k e clocks hg
    obtain ⟨g1, g2, g3, g4, g5⟩ := regexGroups_some hg
    split at h
    · cases h
    · rename_i hvr
      split at h
      · cases h
        exact ⟨g1, hvr, g2, g3, g4, .inl ⟨rfl, rfl, rfl, g5⟩⟩
      · rename_i hh ff
        split at h
        · rename_i hck
          cases h
          simp only [Bool.and_eq_true] at hck
          exact ⟨g1, hvr, g2, g3, g4, .inr ⟨hh, ff, rfl, g5.1, hck.1, hck.2, rfl, rfl⟩⟩
        · cases h

end Inkayaku.FenRoundtrip

namespace Inkayaku.Text
open Inkayaku.FenSyntax (splitOnChar)
open Inkayaku.Uci (Tok isWhiteSpace trimStart trimEnd trim)
open Inkayaku.UciGrammar (joinSp)
open Inkayaku.FenText (joinWith)
open Inkayaku.C15 (tailText)

theorem split_ne_nil (sep : Char) (l : List Char) : splitOnChar sep l ≠ [] := by
  induction l with
  | nil => simp [splitOnChar]
  | cons c cs ih =>
    unfold splitOnChar
    split
    · simp
    · split <;> simp

theorem split_cons_ne {sep c : Char} (h : c ≠ sep) (cs : List Char) :
    splitOnChar sep (c :: cs) = (c :: (splitOnChar sep cs).headD []) :: (splitOnChar sep cs).tail := by
  rw [splitOnChar, if_neg h]
  cases hs : splitOnChar sep cs with
  | nil => exact absurd hs (split_ne_nil sep cs)
  | cons p ps => rfl

theorem split_append (sep : Char) (a b : List Char) :
    splitOnChar sep (a ++ sep :: b) = splitOnChar sep a ++ splitOnChar sep b := by
  induction a with
  | nil => simp [splitOnChar]
  | cons c cs ih =>
    by_cases hc : c = sep
    · subst hc; simp [splitOnChar, ih]
    · rw [List.cons_append, split_cons_ne hc, split_cons_ne hc, ih]
      cases h : splitOnChar sep cs with
      | nil => exact absurd h (split_ne_nil sep cs)
      | cons p ps => simp

theorem split_nosep {sep : Char} {t : List Char} (h : sep ∉ t) : splitOnChar sep t = [t] := by
  induction t with
  | nil => simp [splitOnChar]
  | cons c cs ih =>
    have hc : c ≠ sep := by intro e; apply h; simp [e]
    have hcs : sep ∉ cs := by intro e; apply h; simp [e]
    rw [split_cons_ne hc, ih hcs]; simp

theorem split_mem_nosep (sep : Char) (s : List Char) : ∀ t ∈ splitOnChar sep s, sep ∉ t := by
  induction s with
  | nil => intro t ht; simp [splitOnChar] at ht; subst ht; simp
  | cons c cs ih =>
    intro t ht
    by_cases hc : c = sep
    · subst hc
      simp only [splitOnChar, if_true, List.mem_cons] at ht
      rcases ht with rfl | ht
      · simp
      · exact ih t ht
    · rw [split_cons_ne hc] at ht
      cases hs : splitOnChar sep cs with
      | nil => exact absurd hs (split_ne_nil sep cs)
      | cons p ps =>
        rw [hs] at ih ht
        rcases List.mem_cons.mp ht with rfl | ht
        · intro hm
          rcases List.mem_cons.mp hm with e | hm
          · exact hc e.symm
          · exact ih p (by simp) hm
        · exact ih t (List.mem_cons_of_mem _ ht)

theorem splitOnChar_joinWith {sep : Char} : ∀ {rs : List (List Char)}, rs ≠ [] → (∀ r ∈ rs, sep ∉ r) →
    splitOnChar sep (joinWith sep rs) = rs
  | [], h, _ => absurd rfl h
  | [r], _, h => by simpa [joinWith] using split_nosep (h r (by simp))
  | r :: r' :: rs, _, h => by
    rw [joinWith, split_append, split_nosep (h r (by simp)),
      splitOnChar_joinWith (by simp) (fun x hx => h x (List.mem_cons_of_mem _ hx))]
    rfl

theorem joinWith_splitOnChar (sep : Char) (l : List Char) : joinWith sep (splitOnChar sep l) = l := by
  induction l with
  | nil => simp [splitOnChar, joinWith]
  | cons c cs ih =>
    cases hs : splitOnChar sep cs with
    | nil => exact absurd hs (split_ne_nil sep cs)
    | cons p ps =>
      rw [hs] at ih
      by_cases hc : c = sep
      · subst hc
        simp [splitOnChar, joinWith, hs, ih]
      · rw [split_cons_ne hc, hs]
        cases ps with
        | nil => simpa [joinWith] using ih
        | cons q qs => simpa [joinWith] using ih

theorem console_joinSp : ∀ ts : List Tok, Console.joinSp ts = joinSp ts
  | [] => rfl
  | [_] => rfl
  | t :: t' :: ts => by rw [Console.joinSp, joinSp, console_joinSp (t' :: ts)]

theorem joinSp_eq : ∀ ts : List Tok, joinSp ts = joinWith ' ' ts
  | [] => rfl
  | [_] => rfl
  | t :: t' :: ts => by rw [joinSp, joinWith, joinSp_eq (t' :: ts)]

theorem tailText_nil : tailText [] = [] := rfl

theorem tailText_cons (t : Tok) (ts : List Tok) : tailText (t :: ts) = ' ' :: (t ++ tailText ts) := by
  simp [tailText]

theorem tailText_append (a b : List Tok) : tailText (a ++ b) = tailText a ++ tailText b := by
  simp [tailText, List.flatMap_append]

theorem joinSp_cons (t : Tok) (ts : List Tok) : joinSp (t :: ts) = t ++ tailText ts := by
  induction ts generalizing t with
  | nil => simp [joinSp, tailText]
  | cons t' ts ih => rw [joinSp, ih t', tailText_cons]

theorem sp_joinSp {ts : List Tok} (h : ts ≠ []) : ' ' :: joinSp ts = tailText ts := by
  cases ts with
  | nil => exact absurd rfl h
  | cons t ts => rw [joinSp_cons, tailText_cons]

theorem split_tailText {t0 : Tok} (h0 : ' ' ∉ t0) (toks : List Tok) (h : ∀ t ∈ toks, ' ' ∉ t) :
    splitOnChar ' ' (t0 ++ tailText toks) = t0 :: toks := by
  rw [← joinSp_cons, joinSp_eq]
  exact splitOnChar_joinWith (by simp) (by simpa using ⟨h0, h⟩)

theorem joinSp_cons_cons (c : Char) (t : Tok) (ts : List Tok) :
    joinSp ((c :: t) :: ts) = c :: joinSp (t :: ts) := by
  cases ts <;> simp [joinSp]

theorem joinSp_split (s : List Char) : joinSp (splitOnChar ' ' s) = s := by
  rw [joinSp_eq]; exact joinWith_splitOnChar ' ' s

section Decimal
open Inkayaku.FenSyntax (isAsciiDigit digitVal decimalValue)
open Inkayaku.UciGrammar (digitChar decimal)

theorem decimalValue_snoc (ds : List Char) (c : Char) :
    decimalValue (ds ++ [c]) = 10 * decimalValue ds + digitVal c := by
  simp [decimalValue, List.foldl_append]

theorem decimal_eq (n : Nat) : decimal n = Nat.toDigits 10 n :=
  CharRange.eq_toDigits _ (fun n => by rw [decimal]; rfl) n

theorem decimal_props (n : Nat) :
    decimal n ≠ [] ∧ (decimal n).all isAsciiDigit = true ∧ decimalValue (decimal n) = n := by
  rw [decimal_eq]
  obtain ⟨h1, h2, h3⟩ := CharRange.toDigits_props n
  exact ⟨h1, List.all_eq_true.mpr fun c hc => (CharRange.isAsciiDigit_iff c).mpr (h2 c hc), h3⟩

/-- the printer's `Display` of a number is the grammar's canonical numeral -/
theorem natText_eq_decimal (n : Nat) : Console.natText n = decimal n := by
  rw [decimal_eq]
  exact CharRange.eq_toDigits _ (fun n => by rw [Console.natText]; rfl) n

end Decimal

/-- all characters are `-`, digits or letters (code 45..122): no space, no control character, no white space -/
def Hi (t : List Char) : Prop := ∀ c ∈ t, 45 ≤ c.toNat ∧ c.toNat ≤ 122

instance (t : List Char) : Decidable (Hi t) := by unfold Hi; infer_instance

theorem Hi.nosp {t : List Char} (h : Hi t) : ' ' ∉ t := fun hm => absurd (h ' ' hm) (by decide)

theorem hi_not_ws {t : List Char} (h : Hi t) : ∀ c ∈ t, isWhiteSpace c = false := by
  intro c hc
  have := h c hc
  simp only [isWhiteSpace, Bool.or_eq_false_iff, Bool.and_eq_false_iff, beq_eq_false_iff_ne,
    decide_eq_false_iff_not, ne_eq]
  omega

theorem squareFen_range {i : Nat} (h : i < 64) :
    (97 ≤ (Char.ofNat (97 + i % 8)).toNat ∧ (Char.ofNat (97 + i % 8)).toNat ≤ 104) ∧
    (49 ≤ (Char.ofNat (56 - i / 8)).toNat ∧ (Char.ofNat (56 - i / 8)).toNat ≤ 56) := by
  have key : ∀ k, k < 8 → (Char.ofNat (97 + k)).toNat = 97 + k ∧ (Char.ofNat (56 - k)).toNat = 56 - k := by decide
  rw [(key (i % 8) (by omega)).1, (key (i / 8) (by omega)).2]
  omega

theorem square_roundtrip :
    ∀ i, i < 64 → Uci.squareFromChars (Char.ofNat (97 + i % 8)) (Char.ofNat (56 - i / 8)) = some i := by
  decide

theorem hi_render {m : Uci.UciMove} (h : m.source < 64 ∧ m.target < 64) : Hi m.render := by
  have sq : ∀ i, i < 64 → Hi (Uci.squareFen i) := by
    intro i hi c hc
    have := squareFen_range hi
    simp only [Uci.squareFen, List.mem_cons, List.not_mem_nil, or_false] at hc
    rcases hc with rfl | rfl <;> omega
  intro c hc
  simp only [Uci.UciMove.render, List.mem_append] at hc
  rcases hc with (hc | hc) | hc
  · exact sq _ h.1 c hc
  · exact sq _ h.2 c hc
  · cases hp : m.promotion with
    | none => rw [hp] at hc; cases hc
    | some p =>
      rw [hp, List.mem_singleton] at hc
      subst hc
      cases p <;> decide

theorem trimStart_ws_append (lead x : List Char) (h : ∀ c ∈ lead, isWhiteSpace c = true) :
    trimStart (lead ++ x) = trimStart x := by
  induction lead with
  | nil => rfl
  | cons c cs ih =>
    have hc : isWhiteSpace c = true := h c (by simp)
    simp only [List.cons_append, trimStart, hc, if_true]
    exact ih (fun d hd => h d (by simp [hd]))

theorem trimStart_id {l : List Char} (h : ∀ c, l.head? = some c → isWhiteSpace c = false) : trimStart l = l := by
  cases l with
  | nil => rfl
  | cons c cs => simp [trimStart, h c rfl]

theorem trimEnd_append_ws (x trail : List Char) (h : ∀ c ∈ trail, isWhiteSpace c = true) :
    trimEnd (x ++ trail) = trimEnd x := by
  unfold trimEnd
  rw [List.reverse_append, trimStart_ws_append _ _ (by simpa using h)]

theorem trimEnd_id {l : List Char} (h : ∀ c, l.getLast? = some c → isWhiteSpace c = false) : trimEnd l = l := by
  unfold trimEnd
  rw [trimStart_id (by simpa [List.head?_reverse] using h), List.reverse_reverse]

theorem trim_id {l : List Char} (h0 : ∀ c, l.head? = some c → isWhiteSpace c = false)
    (h1 : ∀ c, l.getLast? = some c → isWhiteSpace c = false) : trim l = l := by
  rw [trim, trimStart_id h0, trimEnd_id h1]

theorem trim_around {lead x trail : List Char} (hl : ∀ c ∈ lead, isWhiteSpace c = true)
    (ht : ∀ c ∈ trail, isWhiteSpace c = true) (h0 : ∀ c, x.head? = some c → isWhiteSpace c = false)
    (h1 : ∀ c, x.getLast? = some c → isWhiteSpace c = false) : trim (lead ++ (x ++ trail)) = x := by
  unfold trim
  rw [trimStart_ws_append _ _ hl]
  cases x with
  | nil => rw [List.nil_append, ← List.append_nil trail, trimStart_ws_append _ _ ht]; rfl
  | cons c r =>
    rw [List.cons_append, trimStart_id (by simpa using h0 c), ← List.cons_append, trimEnd_append_ws _ _ ht,
      trimEnd_id h1]

theorem mem_trimStart {c : Char} : ∀ {l : List Char}, c ∈ trimStart l → c ∈ l
  | [], h => by simp [trimStart] at h
  | x :: xs, h => by
    unfold trimStart at h
    split at h
    · exact List.mem_cons_of_mem _ (mem_trimStart h)
    · exact h

theorem mem_trim {c : Char} {l : List Char} (h : c ∈ trim l) : c ∈ l := by
  unfold trim trimEnd at h
  exact mem_trimStart (List.mem_reverse.mp (mem_trimStart (List.mem_reverse.mp h)))

theorem getLast?_append_ne {α : Type} {a b : List α} (hb : b ≠ []) : (a ++ b).getLast? = b.getLast? := by
  rw [List.getLast?_append, List.getLast?_eq_some_getLast hb]; rfl

end Inkayaku.Text
