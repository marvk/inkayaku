import Inkayaku.Proofs.SearchFlipRules
import Inkayaku.Proofs.EvalFlip
import Inkayaku.Proofs.MakeWf
/-!
# C11 (search half): `Generate.flipBoard` on bitboards = the flip relation `SFlip` on abstracted positions

`abs_flipBoard` for well-formed boards, and conversely `flip_of_sflip`: the relation determines the board up to the scratch
words and the full-move number.
-/
namespace Inkayaku.SearchFlip
open Inkayaku.Board Inkayaku.WF Inkayaku.Abs Inkayaku.Generate Inkayaku.Attack Inkayaku.Check Inkayaku.Bits

theorem testU_flipU_mir (x : UInt64) {s : Nat} (h : s < 64) : testU (flipU x) (mir s) = testU x s :=
  EvalFlip.testU_flipU_mirror x h

theorem pieceAt_flipSide (s : Side) {t : Nat} (ht : t < 64) : (flipSide s).pieceAt (mir t) = s.pieceAt t := by
  simp only [Side.pieceAt, Side.pieceAtMask, and_bitU_ne_zero _ _ (mir_lt ht), and_bitU_ne_zero _ _ ht, flipSide,
    testU_flipU_mir _ ht]

theorem not_both {b : Board} (hd : Disjoint b) {t : Nat} (ht : t < 64) (hw : b.white.pieceAt t ≠ 0)
    (hk : b.black.pieceAt t ≠ 0) : False := by
  have h1 : testU b.white.full t = true := by
    cases h : testU b.white.full t
    · exact absurd ((pieceAt_zero _ t ht).mpr h) hw
    · rfl
  have h2 : testU b.black.full t = true := by
    cases h : testU b.black.full t
    · exact absurd ((pieceAt_zero _ t ht).mpr h) hk
    · rfl
  obtain ⟨x, hx, hxt⟩ := (full_iff _ _).mp h1
  obtain ⟨y, hy, hyt⟩ := (full_iff _ _).mp h2
  have hp := hd.pairwise t
  rw [List.pairwise_append] at hp
  exact hp.2.2 x hx y hy ⟨hxt, hyt⟩

theorem pieceOn_flipBoard {b : Board} (hd : Disjoint b) {s : Nat} (hs : s < 64) :
    pieceOn (flipBoard b) (mir s) = (pieceOn b s).map recolor := by
  unfold pieceOn
  simp only [flipBoard, pieceAt_flipSide _ hs]
  by_cases hw : b.white.pieceAt s = 0
  · by_cases hk : b.black.pieceAt s = 0
    · simp [hw, hk]
    · simp [hw, hk, recolor]
  · by_cases hk : b.black.pieceAt s = 0
    · simp [hw, hk, recolor]
    · exact absurd (not_both hd hs hw hk) id

theorem wf_ep {b : Board} (h : wf b = true) : b.ep = 0 ∨ (b.ep / 8 = 2 ∨ b.ep / 8 = 5) := by
  have hp := ((WF.wf_iff b).mp h).ep
  by_cases h0 : b.ep = 0
  · exact Or.inl h0
  · have := hp h0
    split at this
    · exact Or.inr (Or.inl this.1)
    · exact Or.inr (Or.inr this.1)

theorem flipBoard_ep (b : Board) : (flipBoard b).ep = if b.ep == 0 then 0 else mir b.ep := by
  show (if b.ep == 0 then 0 else (7 - b.ep / 8) * 8 + b.ep % 8) = _
  split
  · rfl
  · unfold mir; omega

theorem abs_flipBoard {b : Board} (h : wf b = true) : SFlip (abs b) (abs (flipBoard b)) := by
  have hs := (struct_of_wf h).1
  have ht := (struct_of_wf h).2
  have hep := wf_ep h
  refine ⟨Successor.base_size _, Successor.base_size _, ?_, ?_, rfl, rfl, rfl, rfl, ?_, ?_, rfl⟩
  · intro s hs'
    rw [abs_at, abs_at, if_pos (mir_lt hs'), if_pos hs']
    exact pieceOn_flipBoard hs.disjoint hs'
  · exact Bits.other_beq_zero _
  · show (if (flipBoard b).ep == 0 then none else some (flipBoard b).ep) = (if b.ep == 0 then none else some b.ep).map mir
    rw [flipBoard_ep]
    by_cases e : b.ep = 0
    · simp [e]
    · have e1 : (b.ep == 0) = false := by simpa using e
      have e2 : (mir b.ep == 0) = false := by
        have : mir b.ep ≠ 0 := by unfold mir; omega
        simpa using this
      simp [e1, e2]
  · intro e he
    have he' : (if b.ep == 0 then none else some b.ep) = some e := he
    split at he'
    · cases he'
    · simp only [Option.some.injEq] at he'
      omega

theorem word_flip {x y : Board} (hx : Disjoint x) (hy : Disjoint y) (h : SFlip (abs x) (abs y)) (w : Bool) (k : Spec.Kind) :
    word y w k = flipU (word x (!w) k) := by
  apply ext_testU
  intro j hj
  rw [EvalFlip.testU_flipU, decide_eq_true hj, Bool.true_and, ← mir_eq_mirror, Bool.eq_iff_iff,
    ← at_iff y hy j hj w k, ← at_iff x hx (mir j) (mir_lt hj) (!w) k, h.at' hj]
  have e := map_recolor_beq ((abs x).at (mir j)) (!w) k
  rwa [Bool.not_not, Bool.eq_iff_iff, beq_iff_eq, beq_iff_eq] at e

theorem abs_turn_eq {x y : Board} (hx : x.turn ≤ 1) (hy : y.turn ≤ 1) (h : (abs y).whiteToMove = !(abs x).whiteToMove) :
    y.turn = 1 - x.turn := by
  have h' : (y.turn == 0) = !(x.turn == 0) := h
  have : x.turn = 0 ∨ x.turn = 1 := by omega
  have : y.turn = 0 ∨ y.turn = 1 := by omega
  rcases ‹x.turn = 0 ∨ x.turn = 1› with e | e <;> rcases ‹y.turn = 0 ∨ y.turn = 1› with e' | e' <;>
    rw [e, e'] at h' <;> simp at h' <;> omega

theorem flip_of_sflip {x y : Board} (hx : Struct x) (hy : Struct y) (hxt : x.turn ≤ 1) (hyt : y.turn ≤ 1)
    (h : SFlip (abs x) (abs y)) : vis y = vis { flipBoard x with fullmove := y.fullmove } := by
  have hw : ∀ w k, word y w k = flipU (word x (!w) k) := word_flip hx.disjoint hy.disjoint h
  have hturn := abs_turn_eq hxt hyt h.turn
  have hep : y.ep = (flipBoard x).ep := by
    have he : (if y.ep == 0 then none else some y.ep) = (if x.ep == 0 then none else some x.ep).map mir := h.ep
    rw [flipBoard_ep]
    by_cases e : x.ep = 0
    · have e1 : (x.ep == 0) = true := by simpa using e
      rw [e1] at he ⊢
      simp only [if_true, Option.map_none] at he ⊢
      split at he
      · next h0 => simpa using h0
      · cases he
    · have e1 : (x.ep == 0) = false := by simpa using e
      rw [e1] at he ⊢
      simp only [Bool.false_eq_true, if_false, Option.map_some] at he ⊢
      split at he
      · cases he
      · simpa using he
  have hside : ∀ w, visSide (sideOf y w) = visSide (flipSide (sideOf x (!w))) := by
    intro w
    refine visSide_of_words (s := flipSide (sideOf x (!w))) (fun k => (hw w k).trans (by cases k <;> rfl)) ?_ ?_
    · cases w
      · exact h.bk
      · exact h.wk
    · cases w
      · exact h.bq
      · exact h.wq
  exact vis_of_sides (hside true) (hside false) hturn hep h.half rfl

end Inkayaku.SearchFlip
