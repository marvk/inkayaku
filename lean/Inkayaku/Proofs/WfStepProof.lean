import Inkayaku.Proofs.MakeWf
import Inkayaku.Proofs.WfStep
/-!
# `boardLaws : BoardLaws`

For a board that is well-formed with clock budget `k+1`, every generated move (pseudo-legal generator or the
capture/promotion generator of the quiescence search) whose resulting position passes `isValid` leads to a board that is
well-formed with clock budget `k`.  The conjuncts of `WF.wf` are established by `MakeWf.make_wfP`; in the numbering of the
`WF.wf` docstring, (2) one king per side holds because no generated move captures the king, the side not to move not being in
check (`GenFacts`: the captured piece is never a king); (4), the side not to move is not in check, is `isValid` of the new
board, a hypothesis here; the clocks of (7) come from the budget.
-/
namespace Inkayaku.Search
open Inkayaku.Board Inkayaku.WF Inkayaku.MakeWf Inkayaku.GenStrong

theorem make_inv (k : Nat) (b : Board) (m : Move) (hinv : Inv (k + 1) b) (hg : Generated b m)
    (hv : isValid (make b m) = true) : Inv k (make b m) := by
  obtain ⟨hwf, hhm, hfm⟩ := hinv
  have hP := (wf_iff b).mp hwf
  have hp : m ∈ genPseudo b := hg.elim id (GenSpec.genNonQuiescent_subset (GenOK.wf_facts hwf) m)
  have hW := make_wfP hP (GenFacts.env_of_wf hwf) (GenFacts.genPseudo_facts hwf m hp).named
    (GenSpec.genPseudo_dblOK (GenOK.wf_facts hwf) m hp) hv (by omega) (by omega)
  refine ⟨(wf_iff _).mpr hW, ?_, ?_⟩
  · show (if m.f.halfmoveReset = true then 0 else b.halfmove + 1) + k ≤ 4095
    split <;> omega
  · show b.fullmove + b.turn + k < 2147483648
    have := hP.turn
    omega

theorem boardLaws : BoardLaws := ⟨make_inv⟩

/-- the unbudgeted statement, with the two clock conditions it needs -/
theorem make_wf (b : Board) (m : Move) (hwf : wf b = true) (hhm : b.halfmove < 4095) (hfm : b.fullmove + 1 < 2147483648)
    (hg : Generated b m) (hv : isValid (make b m) = true) : wf (make b m) = true :=
  (make_inv 0 b m ⟨hwf, by omega, by omega⟩ hg hv).1

#print axioms boardLaws
#print axioms make_wf

end Inkayaku.Search
