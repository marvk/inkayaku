import Inkayaku.Proofs.GenStrong
/-!
# The generator only emits moves that `make`/`unmake` can handle (helper for C03)

`MoveOK` is read off `GenStrong.ArgsOK` (`ok_of_args`): it asks of the piece words only that the source holds the
moving piece and the target none of the mover's, plus the rook squares for castling and the victim for en passant.
-/
namespace Inkayaku.GenOK
open Inkayaku.Board Inkayaku.Gen Inkayaku.WF Inkayaku.MakeUnmake Inkayaku.MoveBits Inkayaku.GenStrong

theorem lacks_get {s : Side} {p : Nat} (h1 : 1 ≤ p) (h6 : p ≤ 6) {T : UInt64} (h : lacks s.full T) :
    lacks (s.get p) T := by
  have hg := get_sub_full s h1 h6
  generalize s.get p = w at *
  generalize s.full = fl at *
  ubits [h, hg] [T, fl, w]

theorem lacks_left {fa fp T : UInt64} (h : lacks (fa ||| fp) T) : lacks fa T := by
  ubits [h] [fa, fp, T]

theorem shapeOK_of_args {b : Board} {src tgt piece promo epOpp : Nat} {castle ep : Bool}
    (ha : ArgsOK b src tgt piece castle ep promo epOpp) : ShapeOK b.active src tgt piece promo castle ep := by
  have hl : ∀ p, 1 ≤ p → p ≤ 6 → lacks (b.active.get p) (bitU tgt) := fun p h1 h6 => lacks_get h1 h6 ha.lacksTgt
  unfold ShapeOK
  cases hc : castle
  · simp only [Bool.false_eq_true, if_false]
    cases he : ep
    · simp only [Bool.false_eq_true, if_false]
      by_cases hp : promo = 0
      · rw [if_neg (by simp [hp, NO_PIECE])]
        exact ⟨ha.piece_ge, ha.piece_le, ha.hasSrc, hl piece ha.piece_ge ha.piece_le⟩
      · rw [if_pos (by simpa [NO_PIECE] using hp)]
        obtain ⟨hpp, h2, h5, -⟩ := ha.promo_ hp
        have hS := ha.hasSrc
        rw [hpp] at hS
        exact ⟨h2, h5, hS, hl promo (by omega) (by omega)⟩
    · simp only [if_true]
      obtain ⟨hpp, -⟩ := ha.ep_ he
      have hS := ha.hasSrc
      rw [hpp] at hS
      exact ⟨hS, hl PAWN (by decide) (by decide)⟩
  · simp only [if_true]
    obtain ⟨hpk, -, -, -, -, rs, rt, hcr, -, -, hR, hfr, -⟩ := ha.castle_ hc
    have hK := ha.hasSrc
    rw [hpk] at hK
    rw [hcr]
    exact ⟨hK, hl KING (by decide) (by decide), hR, lacks_get (p := ROOK) (by decide) (by decide) (lacks_left hfr)⟩

theorem epVictim_of_args {b : Board} (hw : WFacts b) {src tgt piece promo epOpp : Nat} {castle : Bool}
    (ha : ArgsOK b src tgt piece castle true promo epOpp) :
    GenSpec.attackSq b tgt true < 64 ∧ has b.passive.pawns (bitU (GenSpec.attackSq b tgt true)) ∧
      epVictim b.whiteTurn (bitU tgt) = bitU (GenSpec.attackSq b tgt true) := by
  obtain ⟨-, -, -, -, hte, h8, h56⟩ := ha.ep_ rfl
  obtain ⟨-, -, hlt, hv⟩ := GenSpec.ep_victim hw (hte ▸ by omega)
  rw [← hte] at hlt hv
  refine ⟨hlt, (testU_iff_has hlt).1 hv, ?_⟩
  unfold GenSpec.attackSq epVictim
  cases b.whiteTurn
  · exact Bits.bitU_shr8 tgt ha.tgt_lt h8
  · exact Bits.bitU_shl8 tgt h56

theorem ok_of_args {b : Board} (hw : WFacts b) {src tgt piece promo epOpp : Nat} {castle ep : Bool}
    (ha : ArgsOK b src tgt piece castle ep promo epOpp) :
    MoveOK b (GenSpec.mkF b src tgt piece castle ep promo epOpp) := by
  refine ⟨hw.basic.turn, ha.src_lt, ha.tgt_lt, rfl, rfl, ⟨?_, ?_, shapeOK_of_args ha⟩, ?_, ?_, ?_⟩
  · simp only [GenSpec.mkF, Bool.and_eq_true]; exact fun h => h.1
  · simp only [GenSpec.mkF, Bool.and_eq_true]; exact fun h => h.1
  · simp only [GenSpec.mkF, Bool.and_eq_true]; exact fun h => h.1.2
  · simp only [GenSpec.mkF, Bool.and_eq_true]; exact fun h => h.1
  · simp only [GenSpec.mkF]
    cases hc : castle
    · simp only [Bool.false_eq_true, if_false]
      cases he : ep
      · simp only [Bool.false_eq_true, if_false]
        rw [GenSpec.attackSq_false]
        exact ⟨Bits.pieceAtMask_le _ _, fun hne => pieceAt_has _ ha.tgt_lt hne⟩
      · simp only [if_true]
        subst he
        obtain ⟨h1, h2, h3⟩ := epVictim_of_args hw ha
        rw [h3]
        exact ⟨pieceAt_pawn _ h1 h2, h2⟩
    · simp only [if_true]

theorem genPseudo_ok {b : Board} (h : wf b = true) : ∀ m ∈ genPseudo b, FieldsFit m.f ∧ MoveOK b m.f :=
  GenSpec.forall_genPseudo (wf_facts h) (P := fun f => FieldsFit f ∧ MoveOK b f) (fun hs =>
    ⟨GenSpec.mkF_fit _ _ (hs.fit (wf_facts h).basic), ok_of_args (wf_facts h) (site_argsOK (wf_facts h) hs)⟩)

theorem genNonQuiescent_ok {b : Board} (h : wf b = true) :
    ∀ m ∈ genNonQuiescent b, FieldsFit m.f ∧ MoveOK b m.f :=
  fun m hm => genPseudo_ok h m (GenSpec.genNonQuiescent_subset (wf_facts h) m hm)

#print axioms genPseudo_ok
#print axioms genNonQuiescent_ok

end Inkayaku.GenOK
