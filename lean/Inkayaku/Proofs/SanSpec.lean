import Inkayaku.Props.Closure
/-!
# C14: the text of `uci_to_pgn` IS `Spec.san`

`Props/C14.lean` shows that the text written for a legal move is `renderSan (shapeOfMove b m)`.  Here the executable
reference `Spec.san (abs b) (absMove m.f)` of `Spec/Chess.lean` is unfolded on the same data and shown to be the same
list of characters, part by part:

* the piece found on the source square (`Successor.at_src`), hence the piece letter and the pawn / piece split;
* `Spec.isCastle` = the castle flag = "the model writes `O-O` / `O-O-O`" (`Successor.isCastle_eq`, `castleKind_generated`);
* `Spec.isCapture` = `pieceAttacked ≠ 0` (`Successor.isCapture_eq`, en passant included) = the model's capture mark;
* the promotion letter;
* the disambiguation: `others` of `Spec.san` (other legal moves of the rules, same piece, same target) and the
  model's candidate sources without the mover are the same set of squares (`others_all`: by `Closure.genLegal_eq_rules`
  both are filters of the generated legal moves), and the model's case split is the standard one (`disamb_standard`);
* the suffix: the position after the move is `Spec.apply` (`C02.make_eq_apply`), it is well-formed
  (`Search.make_wf`: this is where the two clock conditions come from), so "no legal move" and "in check" mean the same
  on both sides (`Closure.no_moves_iff_rules`, `C05.current_in_check`).
-/
namespace Inkayaku.SanSpec
open Inkayaku.Board Inkayaku.San Inkayaku.Spec.SanGrammar Inkayaku.SanProofs Inkayaku.Util Inkayaku.Abs

theorem fileOf_eq6 (t : Nat) : (Spec.fileOf t == 6) = (t % 8 == 6) := by
  rw [Bool.eq_iff_iff]
  simp only [Spec.fileOf, beq_iff_eq]
  omega

theorem sqName_toList (t : Nat) : (Spec.sqName t).toList = [fileChar t, rankChar t] := by
  simp only [Spec.sqName, String.toList_ofList, fileChar, rankChar]

theorem kindOf_inj {p q : Nat} (hp1 : 1 ≤ p) (hp6 : p ≤ 6) (hq1 : 1 ≤ q) (hq6 : q ≤ 6) (h : kindOf p = kindOf q) :
    p = q :=
  ((Attack.kind_code p hp6 _).mp ⟨by omega, h⟩).trans ((Attack.kind_code q hq6 _).mp ⟨by omega, rfl⟩).symm

theorem letter_eq {p : Nat} (h2 : 2 ≤ p) (h6 : p ≤ 6) :
    letterOf p = some (Char.ofNat ((Spec.kindLetter (kindOf p)).toNat - 32)) := by
  have hp : p = 2 ∨ p = 3 ∨ p = 4 ∨ p = 5 ∨ p = 6 := by omega
  rcases hp with rfl | rfl | rfl | rfl | rfl <;> decide

theorem capturesOf_eq {f : MoveF} (h : f.pieceAttacked ≤ 6) : capturesOf f = (f.pieceAttacked != NO_PIECE) := by
  unfold capturesOf
  rw [Bool.eq_iff_iff]
  simp only [Bool.and_eq_true, decide_eq_true_eq, bne_iff_ne, ne_eq, NO_PIECE]
  omega

theorem suffix_eq {b1 : Board} (hwf1 : WF.wf b1 = true) :
    (if Spec.isCheckmate (abs b1) = true then "#"
      else if Spec.inCheck (abs b1) (abs b1).whiteToMove = true then "+" else "").toList = optC (sanSuffix b1) := by
  obtain ⟨hmate, -⟩ := Closure.no_moves_iff_rules b1 hwf1
  rw [← hmate, ← C05.current_in_check b1 hwf1]
  rw [sanSuffix_eq]
  cases isCurrentInCheck b1 <;> cases (genLegal b1).isEmpty <;> rfl

theorem all_congr_mem {α : Type} {l1 l2 : List α} (P : α → Bool) (h : ∀ x, x ∈ l1 ↔ x ∈ l2) :
    l1.all P = l2.all P := by
  rw [Bool.eq_iff_iff, List.all_eq_true, List.all_eq_true]
  exact ⟨fun h1 x hx => h1 x ((h x).mpr hx), fun h2 x hx => h2 x ((h x).mp hx)⟩

theorem others_all {b : Board} (hwf : WF.wf b = true) {m : Move} (hmp : m ∈ genPseudo b) (P : Nat → Bool) :
    ((Spec.legalMoves (abs b)).filter fun o =>
        o.tgt == m.f.target && o.src != m.f.source &&
          (abs b).at o.src == some ⟨b.whiteTurn, kindOf m.f.pieceMoved⟩).all (fun o => P o.src) =
      ((candSources b (genPseudo b) m.f).filter (· != m.f.source)).all P := by
  have he := GenFacts.env_of_wf hwf
  have hrange := (sanGenFacts_of_wf hwf).piece_range
  -- the Spec's legal moves are the images of the generated legal moves
  generalize hQ : (fun (o : Spec.SMove) => o.tgt == m.f.target && o.src != m.f.source &&
    (abs b).at o.src == some ⟨b.whiteTurn, kindOf m.f.pieceMoved⟩) = Q
  rw [all_congr_mem (l2 := ((genLegal b).map (absMove ∘ Move.f)).filter Q) _ (fun o => by
    simp only [List.mem_filter, Closure.genLegal_eq_rules hwf o])]
  have hc : candSources b (genPseudo b) m.f =
      ((genLegal b).filter fun x => x.f.target == m.f.target && x.f.pieceMoved == m.f.pieceMoved).map
        fun x => x.f.source := by
    simp only [candSources, genLegal, List.filter_filter]
    congr 1
    exact List.filter_congr fun x _ => by rw [Bool.and_assoc, Bool.and_comm]
  rw [hc, List.filter_map, List.all_map, List.filter_map, List.all_map, List.filter_filter, ← hQ]
  congr 1
  -- the one place where the two predicates are compared: the piece found on the source square
  refine List.filter_congr fun x hx => ?_
  have hxp := mem_genPseudo_of_legal hx
  have hat : (abs b).at x.f.source = some ⟨b.whiteTurn, kindOf x.f.pieceMoved⟩ :=
    Successor.at_src he (GenFacts.genPseudo_facts hwf x hxp).named
  have hk : (kindOf x.f.pieceMoved = kindOf m.f.pieceMoved) ↔ x.f.pieceMoved = m.f.pieceMoved :=
    ⟨kindOf_inj (hrange x hxp).1 (hrange x hxp).2 (hrange m hmp).1 (hrange m hmp).2, fun e => by rw [e]⟩
  show (x.f.target == m.f.target && x.f.source != m.f.source &&
    (abs b).at x.f.source == some ⟨b.whiteTurn, kindOf m.f.pieceMoved⟩)
    = (x.f.source != m.f.source && (x.f.target == m.f.target && x.f.pieceMoved == m.f.pieceMoved))
  rw [hat, Bool.eq_iff_iff]
  simp only [Bool.and_eq_true, beq_iff_eq, bne_iff_ne, ne_eq, Option.some.injEq, Spec.Piece.mk.injEq, true_and, hk]
  constructor
  · rintro ⟨⟨a, c⟩, d⟩; exact ⟨c, a, d⟩
  · rintro ⟨c, a, d⟩; exact ⟨⟨a, c⟩, d⟩

theorem san_toList {b : Board} (hwf : WF.wf b = true) (hhm : b.halfmove < 4095) (hfm : b.fullmove + 1 < 2147483648)
    {m : Move} (hm : m ∈ genLegal b) :
    (Spec.san (abs b) (absMove m.f)).toList = renderSan (shapeOfMove b m) := by
  have hmp := mem_genPseudo_of_legal hm
  have hleg : isValid (make b m) = true := legal_of_mem_genLegal hm
  have hwf1 : WF.wf (make b m) = true := Search.make_wf b m hwf hhm hfm (Or.inl hmp) hleg
  have he := GenFacts.env_of_wf hwf
  have hf := (GenFacts.genPseudo_facts hwf m hmp).named
  have hF := sanGenFacts_of_wf hwf
  have hat := Successor.at_src he hf
  have hcas := Successor.isCastle_eq he hf
  have hcap := Successor.isCapture_eq he hf
  have happ := C02.make_eq_apply hwf hmp
  obtain ⟨hp1, hp6⟩ := hF.piece_range m hmp
  have hpa6 := hF.attacked_le m hmp
  have hsfx := suffix_eq hwf1
  unfold Spec.san
  rw [hat]
  simp only [← happ, hcas, hcap, Successor.kindOf_pawn hp1 hp6]
  cases hc : m.f.castle
  · -- not castling
    have hck : castleKind m.f = none := by rw [castleKind_generated hF hmp, hc]; rfl
    simp only [Bool.false_eq_true, if_false]
    by_cases hpawn : m.f.pieceMoved = PAWN
    · -- pawn
      rw [shape_pawn hck hpawn]
      simp only [hpawn, beq_self_eq_true, if_true, String.toList_append, hsfx, sqName_toList, renderSan, renderBody,
        capturesOf_eq hpa6, List.append_nil, optC]
      rcases hF.promo_pawn m hmp hpawn with ⟨h0, -, -⟩ | ⟨h2, h5, -⟩
      · simp only [absMove, h0, promoOf_zero h0, beq_self_eq_true, if_true]
        cases (m.f.pieceAttacked != NO_PIECE) <;> simp [fileChar]
      · have : m.f.promotion = 2 ∨ m.f.promotion = 3 ∨ m.f.promotion = 4 ∨ m.f.promotion = 5 := by omega
        rcases this with e | e | e | e <;> simp only [absMove, promoOf, e] <;>
          cases (m.f.pieceAttacked != NO_PIECE) <;> simp [fileChar, letterOf, kindOf, Spec.kindLetter]
    · -- piece
      rw [C14.shape_piece hwf hm hck hpawn]
      have hne : (m.f.pieceMoved == PAWN) = false := by simpa using hpawn
      have h2 : 2 ≤ m.f.pieceMoved := by
        have : m.f.pieceMoved ≠ 1 := hpawn
        omega
      simp only [hne, Bool.false_eq_true, if_false, absMove, isEmpty_eq_all]
      have hE := others_all hwf hmp (fun _ => false)
      have hFl := others_all hwf hmp (fun o => o % 8 != m.f.source % 8)
      have hRk := others_all hwf hmp (fun o => o / 8 != m.f.source / 8)
      simp only [hE, hFl, hRk]
      simp only [String.toList_append, hsfx, sqName_toList, renderSan, renderBody, capturesOf_eq hpa6,
        List.append_nil, letter_eq h2 hp6, standardDisamb, ← isEmpty_eq_all, String.toList_ofList, optC]
      generalize ((candSources b (genPseudo b) m.f).filter (· != m.f.source)).isEmpty = E
      generalize ((candSources b (genPseudo b) m.f).filter (· != m.f.source)).all (fun o => o % 8 != m.f.source % 8) = F
      generalize ((candSources b (genPseudo b) m.f).filter (· != m.f.source)).all (fun o => o / 8 != m.f.source / 8) = R
      cases E <;> cases F <;> cases R <;> cases (m.f.pieceAttacked != NO_PIECE) <;>
        simp [Disamb.fileOf, Disamb.rankOf, fileChar, rankChar]
  · -- castling
    have hck : castleKind m.f = some (m.f.target % 8 == 2) := by rw [castleKind_generated hF hmp, hc]; rfl
    have ht : m.f.target % 8 = 2 ∨ m.f.target % 8 = 6 := by
      have := (hF.castle_shape m hmp hc).2; split at this <;> omega
    rw [shape_castle hck]
    simp only [if_true, String.toList_append, hsfx, renderSan, List.append_nil, absMove, fileOf_eq6]
    rcases ht with ht | ht <;> rw [ht] <;> rfl

/-- **C14, literal form**: in a legal position (with one more ply of room in both clocks, so that the position after
the move is again well-formed) the text `uci_to_pgn` writes for a legal move is `Spec.san` of that move -/
theorem san_eq_spec {b : Board} (hwf : WF.wf b = true) (hhm : b.halfmove < 4095) (hfm : b.fullmove + 1 < 2147483648)
    {m : Move} (hm : m ∈ genLegal b) {s : String} (h : (uciToSan b m.uci).1 = .ok s) :
    s = Spec.san (abs b) (absMove m.f) := by
  have h1 := (C14.text_standard hwf (C14.uciNodup_of_wf hwf) hm h).1
  have h2 := san_toList hwf hhm hfm hm
  exact String.toList_inj.mp (h1.trans h2.symm)

end Inkayaku.SanSpec
