import Inkayaku.Props.C10
import Inkayaku.Proofs.SearchDepth1
/-!
# C08 simulation: the repetition test is inert within three plies of a fresh history

`count_repetitions(start, hm) ≥ 3` needs earlier plies `j ≤ start − 4` inside the half-move window, at even distance from `start`,
that carry the hash stored at `start` (`C10.countRepetitions_spec`, `History.mem_repIndices`).  For a node at most three plies below
a root with ply clock `r` (`start ≤ r + 3`) every such ply lies strictly BELOW the root index: the entries at the indices `r … start` – the
current line, and whatever earlier branches and iterations left there – are never counted (same parity leaves `start − 2`, which
`count_repetitions` skips, and `start` itself), and entries above `start` are never read.  Hence the test can only fire
on what the history holds below the root; after `Search.setPosition` without moves (`set_position_from` in the engine) those cells are zero (`HistZero`).
-/
namespace Inkayaku.SearchSim
open Inkayaku.Board Inkayaku.History Inkayaku.Search

theorem countRepetitions_inert (h : Nat → Nat) (start hm r : Nat) (hr : start ≤ r + 3)
    (hfresh : ∀ j, j < r → start - hm ≤ j → h j ≠ h start) : ¬ countRepetitions h start hm ≥ 3 := by
  intro h3
  have h2 : 2 ≤ repCount h start hm := (C10.countRepetitions_spec h start hm).mp h3
  obtain ⟨j, hj⟩ := List.exists_mem_of_length_pos (by unfold repCount at h2; omega : 0 < (repIndices h start hm).length)
  obtain ⟨h4, hw, -, e⟩ := (mem_repIndices h start hm j).mp hj
  exact hfresh j (by omega) hw e

/-- when the window does not reach below the root, no earlier ply is counted (the count includes the node itself, and
`start − 2` is skipped): the count is the node itself at most -/
theorem countRepetitions_le_one_of_window (h : Nat → Nat) (start hm r : Nat) (hr : start ≤ r + 3) (hw : r ≤ start - hm) :
    countRepetitions h start hm ≤ 1 :=
  C10.countRepetitions_le_one_of_empty h start hm fun j hj => by omega

theorem historySet_eq (h : Array Nat) (i v : Nat) : historySet h i v = ((⟨h⟩ : ZobristHistory).set i v).history := rfl

theorem getD_historySet (h : Array Nat) (i v j : Nat) :
    (historySet h i v).getD j 0 = if j = i then v else h.getD j 0 :=
  ZobristHistory.get_set ⟨h⟩ i v j

def HistZero (r : Nat) (s : St) : Prop := ∀ j, j < r → s.history.getD j 0 = 0

theorem histZero_historySet {r : Nat} {s : St} (h : HistZero r s) (i v : Nat) (hi : r ≤ i) :
    HistZero r { s with history := historySet s.history i v } := by
  intro j hj
  show (historySet s.history i v).getD j 0 = 0
  rw [getD_historySet, if_neg (by omega)]
  exact h j hj

/-- what `enter` does when the flag poll does not interfere: count the node, record the hash (and possibly emit a
periodic info line) -/
def EnterShape (s : St) (hash : UInt64) : Prop :=
  ∃ o, enter s hash = { s with negamaxNodes := s.negamaxNodes + 1,
                               history := historySet s.history (plyClock s.board) hash.toNat, out := o }

theorem enterShape_of_noFlag {s : St} (h : pollFlag s = false) (hash : UInt64) : EnterShape s hash :=
  ⟨s.out, by rw [enter_of_noFlag h]⟩

theorem enter_history_of_noFlag {s : St} (h : pollFlag s = false) (hash : UInt64) :
    (enter s hash).history = historySet s.history (plyClock s.board) hash.toNat := by
  rw [enter_of_noFlag h]

theorem enter_history (s : St) (hash : UInt64) :
    (enter s hash).history = historySet s.history (plyClock s.board) hash.toNat := by
  unfold enter
  rcases pollStep_eq s with h | ⟨st, q, rn, h⟩ <;> rw [h]

theorem isRep_enter_false {r : Nat} {s : St} (hz : HistZero r s) (hash : UInt64) (ply : Nat)
    (hlo : r ≤ plyClock s.board) (hhi : plyClock s.board ≤ r + 3) (hne : hash.toNat ≠ 0) :
    isRep (enter s hash) ply = false := by
  unfold isRep
  rw [enter_board, enter_history]
  have : ¬ countRepetitions (fun i => (historySet s.history (plyClock s.board) hash.toNat).getD i 0)
      (plyClock s.board) (s.board.halfmove % 65536) ≥ 3 := by
    apply countRepetitions_inert _ _ _ r hhi
    intro j hj _
    simp only [getD_historySet, if_true]
    rw [if_neg (by omega), hz j hj]
    exact fun e => hne e.symm
  rw [decide_eq_false this, Bool.and_false]

theorem isRep_zero (s : St) : isRep s 0 = false := by
  unfold isRep
  simp

theorem getD_replicate_zero (n j : Nat) : (Array.replicate n 0).getD j 0 = 0 := by
  rw [Array.getD_eq_getD_getElem?, Array.getElem?_replicate]
  split <;> rfl

theorem setPosition_nil (s : St) (b : Board) :
    setPosition s b [] =
      { s with board := b, history := historySet (Array.replicate 5000 0) (plyClock b) (Zobrist.hash b).toNat,
               playedMoves := [] } := by
  unfold setPosition
  generalize historySet (Array.replicate 5000 0) (plyClock b) (Zobrist.hash b).toNat = h0
  dsimp only
  rw [setPosition.go.eq_def]
  rfl

theorem histZero_replicate (r : Nat) (s : St) (b : Board) (pm : List Move) :
    HistZero r { s with board := b, history := Array.replicate 5000 0, playedMoves := pm } :=
  fun j _ => getD_replicate_zero 5000 j

theorem setPosition_histZero (s : St) (b : Board) : HistZero (plyClock b) (setPosition s b []) := by
  rw [setPosition_nil]
  exact histZero_historySet (histZero_replicate (plyClock b) s b []) (plyClock b) (Zobrist.hash b).toNat (Nat.le_refl _)

end Inkayaku.SearchSim
