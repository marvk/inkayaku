import Inkayaku.Proofs.GenSpecPieces
/-!
# Pawns — pushes, double pushes, captures, en passant, the four promotions

The Spec's pushes from a square are the push and double-step sites (`mem_specPushes`); a capture call for `t` is a site iff the
Spec allows that capture (`capture_site_iff`); together `mem_pawnSites`.  Used of well-formedness: disjoint words, no pawn on ranks 1/8, and the
e.p. square, when set, is empty and on rank 3/6, which makes `b.ep = 0` ("none", also the index of a8) harmless.
-/
namespace Inkayaku.GenSpec
open Inkayaku.Board Inkayaku.Gen Inkayaku.Bits Inkayaku.Geometry Inkayaku.Attack Inkayaku.Abs Inkayaku.Spec

theorem map_mv_promoK (s t : Nat) : (promoK s t).map Key.mv = promoKinds.map fun k => ⟨s, t, some k⟩ := rfl

theorem lastRank_geom (white : Bool) {s t : Nat} (h8 : 8 ≤ s) (h56 : s < 56) (ht : t < 64)
    (hg : pawnGeom white s t = true) : lastRank t = (rowOf t == (if white then 0 else 7)) := by
  simp only [pawnGeom, fileOf, rowOf, Bool.and_eq_true, bne_iff_ne, beq_iff_eq] at hg
  rw [Bool.eq_iff_iff]
  simp only [lastRank, rowOf, Bool.or_eq_true, decide_eq_true_eq, beq_iff_eq]
  cases white <;> simp only [if_true, Bool.false_eq_true, if_false] at hg ⊢ <;> omega

/-- what the pawn generators use of `WF.wf` beyond `GenOK.WFacts` -/
structure PawnWF (b : Board) : Prop where
  disjoint : Disjoint b
  facts : GenOK.WFacts b
  epEmpty : b.ep ≠ 0 → testU (b.white.full ||| b.black.full) b.ep = false
  epRank : b.ep ≠ 0 → lastRank b.ep = false

theorem pawnWF_of_wf {b : Board} (h : WF.wf b = true) : PawnWF b := by
  have hf := GenOK.wf_facts h
  refine ⟨(Check.struct_of_wf h).1.disjoint, hf, ?_, ?_⟩
  · exact (WF.parts_of_wf h).epEmpty
  · intro hne
    have hep := hf.epOK hne
    have hmid : 8 ≤ b.ep ∧ b.ep < 56 := by
      by_cases ht0 : b.turn = 0
      · rw [if_pos ht0] at hep; omega
      · rw [if_neg ht0] at hep; omega
    unfold lastRank
    simp only [Bool.or_eq_false_iff, decide_eq_false_iff_not]
    omega

theorem mem_promoKinds {s t : Nat} {sm : SMove} :
    sm ∈ promoKinds.map (fun k => (⟨s, t, some k⟩ : SMove)) ↔ ∃ promo, (2 ≤ promo ∧ promo ≤ 5) ∧ sm = ⟨s, t, promoOf promo⟩ := by
  have : promoKinds.map (fun k => (⟨s, t, some k⟩ : SMove)) = (promotionsC s t).map fun c => c.key.mv := rfl
  rw [this, List.mem_map]
  constructor
  · rintro ⟨c, hc, rfl⟩
    obtain ⟨p, hp, rfl⟩ := mem_promotionsC.mp hc
    exact ⟨p, hp, rfl⟩
  · rintro ⟨p, hp, rfl⟩
    exact ⟨_, mem_promotionsC.mpr ⟨p, hp, rfl⟩, rfl⟩

theorem mem_withPromo {w : Bool} {s t : Nat} {sm : SMove} (hl : lastRank t = (rowOf t == (if w then 0 else 7))) :
    sm ∈ withPromo w s t ↔ ∃ promo, PromoAt t promo ∧ sm = ⟨s, t, promoOf promo⟩ := by
  unfold withPromo
  rw [← hl]
  simp only [promoAt_iff]
  cases lastRank t
  · simp [NO_PIECE, promoOf]
  · simp [mem_promoKinds, and_assoc]

theorem ep_eq_some {b : Board} (hw : PawnWF b) (t : Nat) :
    ((abs b).ep == some t) = (decide (b.ep = t) && !lastRank t) := by
  unfold abs
  simp only
  by_cases h0 : b.ep = 0
  · have : (b.ep == 0) = true := by simpa using h0
    rw [this]
    by_cases he : b.ep = t
    · have : lastRank t = true := by rw [← he, h0]; decide
      simp [this]
    · simp [he]
  · have : (b.ep == 0) = false := by simpa using h0
    rw [this]
    by_cases he : b.ep = t
    · have : lastRank t = false := by rw [← he]; exact hw.epRank h0
      simp [this, he]
    · simp [he]

theorem capture_site_iff {b : Board} (hw : PawnWF b) {s t : Nat} (h8 : 8 ≤ s) (h56 : s < 56) (sm : SMove) :
    (testU (pawnAttSet b b.active.full b.passive.full s) t = true ∧
      ∃ promo, PromoAt t promo ∧ sm = ⟨s, t, promoOf promo⟩) ↔
      (t < 64 ∧ pawnGeom b.whiteTurn s t = true ∧ sm ∈ capAt (abs b) b.whiteTurn s t) := by
  by_cases ht : t < 64
  case neg =>
    constructor
    · rintro ⟨h, -⟩; exact absurd (testU_lt h) ht
    · rintro ⟨h, -⟩; exact absurd h ht
  have hset : testU (pawnAttSet b b.active.full b.passive.full s) t =
      (pawnGeom b.whiteTurn s t && (testU b.passive.full t || (decide (b.ep = t) && !lastRank t))
        && !testU b.active.full t) := by
    unfold pawnAttSet
    rw [testU_and, testU_and, testU_or, testU_and, GenSpec.testU_not, GenSpec.testU_not,
      testU_bitU b.ep t hw.facts.basic.ep, rank18_iff t ht, pawnLookup_eq b.whiteTurn s t (by omega) ht]
    simp [ht]
  rw [hset, active_eq, passive_eq]
  simp only [ht, true_and]
  unfold capAt
  rcases at_cases b hw.disjoint b.whiteTurn ht with ⟨hat, ha, hp⟩ | ⟨k, hat, ha, hp⟩ | ⟨k, hat, ha, hp⟩ <;>
    rw [hat, ha, hp]
  · -- empty: only en passant, never on the last rank
    simp only [ep_eq_some hw, Bool.false_or, Bool.not_false, Bool.and_true, Bool.and_eq_true, List.mem_ite_nil_right,
      List.mem_singleton, promoAt_iff]
    constructor
    · rintro ⟨⟨hg, he⟩, promo, hpr, rfl⟩
      have hl : lastRank t = false := by simpa using he.2
      rcases hpr with ⟨hl', -⟩ | ⟨-, rfl⟩
      · rw [hl] at hl'; cases hl'
      · exact ⟨hg, he, rfl⟩
    · rintro ⟨hg, he, rfl⟩
      exact ⟨⟨hg, he⟩, NO_PIECE, Or.inr ⟨by simpa using he.2, rfl⟩, rfl⟩
  · -- own piece
    simp
  · -- enemy piece: all of `withPromo`
    have hne : ((!b.whiteTurn) != b.whiteTurn) = true := by cases b.whiteTurn <;> rfl
    simp only [hne, if_true, Bool.true_or, Bool.and_true, Bool.not_false]
    constructor
    · rintro ⟨hg, hm⟩
      exact ⟨hg, (mem_withPromo (lastRank_geom b.whiteTurn h8 h56 ht hg)).mpr hm⟩
    · rintro ⟨hg, hm⟩
      exact ⟨hg, (mem_withPromo (lastRank_geom b.whiteTurn h8 h56 ht hg)).mp hm⟩

/-- the Spec's pushes from `s` in the form of `mem_pushCalls` (`occ` = any word with the occupied squares) -/
theorem mem_specPushes (b : Board) (occ : UInt64) (hocc : ∀ q, testU occ q = testU (b.white.full ||| b.black.full) q)
    (w : Bool) (s : Nat) (h8 : 8 ≤ s) (h56 : s < 56) (sm : SMove) :
    sm ∈ specPushes (abs b) w s ↔
      testU occ (fwd w s 8) = false ∧
      ((∃ promo, PromoAt (fwd w s 8) promo ∧ sm = ⟨s, fwd w s 8, promoOf promo⟩) ∨
       ((if w then decide (48 ≤ s) else decide (s < 16)) = true ∧
        testU occ (fwd w s 16) = false ∧ sm = ⟨s, fwd w s 16, none⟩)) := by
  have hnone : ∀ q, ((abs b).at q).isNone = !testU occ q := by
    intro q
    rw [hocc, ← at_isSome]
    cases (abs b).at q <;> rfl
  have hl : lastRank (fwd w s 8) = (rowOf (fwd w s 8) == (if w then 0 else 7)) := by
    rw [Bool.eq_iff_iff]
    cases w <;> simp [fwd, lastRank, rowOf] <;> omega
  rw [specPushes_eq _ w s h8 h56, hnone, hnone, List.mem_ite_nil_right, List.mem_append, mem_withPromo hl,
    List.mem_ite_nil_right, List.mem_singleton]
  simp [and_assoc]

theorem mem_pawnSites {b : Board} (hw : PawnWF b) (sm : SMove) :
    (∃ c : Call, c.Site b ∧ c.piece = PAWN ∧ c.key.mv = sm) ↔ PawnStep (abs b) sm := by
  have hd := hw.disjoint
  have hpawn : ∀ s, s < 64 → ((abs b).at s = some ⟨b.whiteTurn, .pawn⟩ ↔ testU b.active.pawns s = true) :=
    fun s hs => at_iff b hd s hs b.whiteTurn .pawn
  have hmid : ∀ {s}, testU b.active.pawns s = true → 8 ≤ s ∧ s < 56 :=
    fun hs => pawn_mid' hw.facts ((mem_bitsAsc _ _).mpr hs)
  unfold PawnStep
  rw [whiteToMove_eq]
  constructor
  · rintro ⟨⟨src, tgt, piece, castle, ep, promo, epOpp⟩, hc, hp, rfl⟩
    change Site b src tgt piece castle ep promo epOpp at hc
    change piece = PAWN at hp
    cases hc with
    | piece hp2 =>
      rw [hp] at hp2
      exact absurd hp2 (by decide)
    | capture hs ha hpr hep =>
      obtain ⟨h8, h56⟩ := hmid hs
      refine ⟨src, by omega, (hpawn src (by omega)).mpr hs, ?_⟩
      rw [pawnMoves_split, List.mem_append, mem_specCaptures]
      exact Or.inr ⟨tgt, (capture_site_iff hw h8 h56 _).mp ⟨ha, promo, hpr, rfl⟩⟩
    | push hs h8 h56 htgt hfree hpr =>
      subst htgt
      refine ⟨src, by omega, (hpawn src (by omega)).mpr hs, ?_⟩
      rw [pawnMoves_split, List.mem_append, mem_specPushes b _ (fullOcc_eq b) b.whiteTurn src h8 h56]
      exact Or.inl ⟨hfree, Or.inl ⟨promo, hpr, rfl⟩⟩
    | double hs h8 h56 hhome hmid' htgt hfm hft =>
      subst hmid' htgt
      refine ⟨src, by omega, (hpawn src (by omega)).mpr hs, ?_⟩
      rw [pawnMoves_split, List.mem_append, mem_specPushes b _ (fullOcc_eq b) b.whiteTurn src h8 h56]
      exact Or.inl ⟨hfm, Or.inr ⟨hhome, hft, rfl⟩⟩
    | castle => exact absurd hp (by decide)
  · rintro ⟨s, hs64, hat, hmem⟩
    have hs := (hpawn s hs64).mp hat
    obtain ⟨h8, h56⟩ := hmid hs
    rw [pawnMoves_split, List.mem_append] at hmem
    rcases hmem with hmem | hmem
    · rw [mem_specPushes b _ (fullOcc_eq b) b.whiteTurn s h8 h56] at hmem
      obtain ⟨hfree, ⟨promo, hpr, rfl⟩ | ⟨hcc, hf2, rfl⟩⟩ := hmem
      · exact ⟨{ src := s, tgt := _, piece := PAWN, promo }, Site.push hs h8 h56 rfl hfree hpr, rfl, rfl⟩
      · exact ⟨{ src := s, tgt := _, piece := PAWN, epOpp := _ }, Site.double hs h8 h56 hcc rfl rfl hfree hf2, rfl, rfl⟩
    · rw [mem_specCaptures] at hmem
      obtain ⟨t, hmem⟩ := hmem
      obtain ⟨ha, promo, hpr, rfl⟩ := (capture_site_iff hw h8 h56 sm).mpr hmem
      exact ⟨{ src := s, tgt := t, piece := PAWN, ep := !lastRank t && t == b.ep, promo }, Site.capture hs ha hpr rfl, rfl, rfl⟩

end Inkayaku.GenSpec
