import Inkayaku.Proofs.Successor
/-!
# `make` and the number of men of each kind

What a generated move does is described ONCE, on piece codes: `Successor.codes_hot` (`holds_make`) says that afterwards the two
sides hold `moverCode` and `otherCode`, the codes before the move changed at two squares of the mover (castling: four) and at one
of the other side.  The mailbox after the move (`Successor.at_make`), well-formedness (`Proofs/MakeWf.lean`), the moves of the
transposition arguments (`SearchSim.Transp.Mv`) and the counts here are all read off these two functions; only the hashes
(`Proofs/ZobristStep.lean`) go back to the words, because their hypothesis does not give disjoint words.

Every count of men is a sum over the 64 squares of a weight of the code, `wsum W c 64`: `popcount (s.get k)`, the number of men of
code `k`, is the weight `same k` (`popcount_eq_wsum`); the number of occupied squares (`SearchSim.Transp.cnt`) is the weight "1
unless 0".  A change of the code at one square changes the sum by the weights there (`wsum_swap`), so FOR EVERY WEIGHT the mover
loses the weight of the man that left the source and gains that of the man put on the target, the other side loses the weight of
the man captured (`wsum_mkMover`, `wsum_mkOther`).  That each side keeps exactly one king (`MakeWf.step_kings`) is the weight
`same 6`; that no move raises the material (`SearchSim.material_makeF`) is the weight `SearchSim.weight`: 2 for a pawn, 1 for a
knight, bishop, rook or queen.
-/
namespace Inkayaku.MakeUnmake
open Inkayaku.Board Inkayaku.WF Inkayaku.GenFacts Inkayaku.Successor Inkayaku.Attack

def wsum (W : Nat → Nat) (g : Nat → Nat) : Nat → Nat
  | 0 => 0
  | n + 1 => wsum W g n + W (g n)

theorem wsum_congr {W : Nat → Nat} {g g' : Nat → Nat} : ∀ n, (∀ q, q < n → g q = g' q) → wsum W g n = wsum W g' n := by
  intro n
  induction n with
  | zero => intro _; rfl
  | succ n ih =>
    intro h
    simp only [wsum]
    rw [ih (fun q hq => h q (by omega)), h n (by omega)]

theorem wsum_swap (W : Nat → Nat) {g g' : Nat → Nat} {v : Nat} : ∀ n, v < n → (∀ q, q < n → q ≠ v → g' q = g q) →
    wsum W g' n + W (g v) = wsum W g n + W (g' v) := by
  intro n
  induction n with
  | zero => intro h; omega
  | succ n ih =>
    intro hv h
    simp only [wsum]
    by_cases e : v = n
    · subst e
      rw [wsum_congr v (fun q hq => h q (by omega) (by omega))]
      omega
    · have := ih (by omega) (fun q hq => h q (by omega))
      rw [h n (by omega) (fun e' => e e'.symm)]
      omega

theorem wsum_move (W : Nat → Nat) {A M : Nat → Nat} {s t p' : Nat} (hs : s < 64) (ht : t < 64) (h0 : A t = 0)
    (hM : ∀ q, q < 64 → M q = if q = t then p' else if q = s then 0 else A q) :
    wsum W M 64 + W (A s) = wsum W A 64 + W p' := by
  have r := wsum_swap W (g := A) (g' := fun q => if q = s then 0 else A q) 64 hs (fun q _ hq => if_neg hq)
  have a := wsum_swap W (g := fun q => if q = s then 0 else A q) (g' := M) 64 ht
    (fun q hq hne => by rw [hM q hq, if_neg hne])
  have e : (if t = s then 0 else A t) = 0 := by split <;> first | rfl | exact h0
  simp only [if_true, hM t ht, e] at r a
  omega

/-- `h`: the codes `M` after the move, square by square; in the second case a castling rook goes `rs → rt` as well -/
theorem wsum_moved (W : Nat → Nat) {A M : Nat → Nat} {s t p' : Nat} (hs : s < 64) (ht : t < 64) (h0 : A t = 0)
    (h : (∀ q, q < 64 → M q = if q = t then p' else if q = s then 0 else A q) ∨
      ∃ rs rt, rs < 64 ∧ rt < 64 ∧ s ≠ rs ∧ s ≠ rt ∧ t ≠ rs ∧ t ≠ rt ∧ A rs = 4 ∧ A rt = 0 ∧
        ∀ q, q < 64 → M q = if q = t then p' else if q = s then 0 else if q = rt then 4 else if q = rs then 0 else A q) :
    wsum W M 64 + W (A s) = wsum W A 64 + W p' := by
  rcases h with hM | ⟨rs, rt, hrs, hrt, d2, d3, d4, d5, ars, art, hM⟩
  · exact wsum_move W hs ht h0 hM
  · -- the rook, then the king
    have hR := wsum_move W (M := fun q => if q = rt then 4 else if q = rs then 0 else A q) hrs hrt art (fun _ _ => rfl)
    have hK := wsum_move W (A := fun q => if q = rt then 4 else if q = rs then 0 else A q) hs ht
      (by simp only [if_neg d5, if_neg d4, h0]) hM
    simp only [if_neg d3, if_neg d2] at hK
    rw [ars] at hR
    omega

def same (q p : Nat) : Nat := if q = p then 1 else 0

theorem popcount_eq_countP (x : UInt64) : popcount x = (List.range 64).countP (testU x) := by
  unfold popcount bitsAsc
  rw [List.countP_eq_length_filter]

theorem popcount_eq_wsum {s : Side} {c : Nat → Nat} (h : Holds s c) {k : Nat} (h1 : 1 ≤ k) (h6 : k ≤ 6) :
    popcount (s.get k) = wsum (same k) c 64 := by
  rw [popcount_eq_countP]
  have : ∀ n, n ≤ 64 → (List.range n).countP (testU (s.get k)) = wsum (same k) c n := by
    intro n
    induction n with
    | zero => intro _; rfl
    | succ n ih =>
      intro hn
      rw [List.range_succ, List.countP_append, ih (by omega), wsum, List.countP_singleton, same]
      congr 1
      have := h.bit h1 h6 (t := n) (by omega)
      by_cases e : k = c n
      · rw [if_pos e, if_pos (this.mpr e.symm)]
      · rw [if_neg e, if_neg (fun hb => e (this.mp hb).symm)]
  exact this 64 (Nat.le_refl _)

section
variable {b : Board} {f : MoveF}

theorem holds_make (he : Env b) (n : Named b f) :
    Holds (mkMover f b.active) (moverCode b f) ∧ Holds (mkOther f b.whiteTurn b.passive) (otherCode b f) :=
  ⟨fun _ hq => (codes_hot he n hq).1, fun _ hq => (codes_hot he n hq).2⟩

theorem wsum_mkMover (he : Env b) (n : Named b f) (W : Nat → Nat) :
    wsum W (moverCode b f) 64 + W f.pieceMoved =
      wsum W b.active.pieceAt 64 + W (if f.promotion = 0 then f.pieceMoved else f.promotion) := by
  have htgt : b.active.pieceAt f.target = 0 := code_of_free n.target_lt n.target_free
  rw [n.moved]
  refine wsum_moved W n.source_lt n.target_lt htgt ?_
  cases hc : f.castle
  · exact .inl fun q _ => by simp only [moverCode, hc, ← n.moved, Bool.false_eq_true, false_and, if_false]
  · obtain ⟨rs, rt, hr, -, hrs, hrt, -, d2, d3, d4, d5, -, hrook, hfr, -, -⟩ := castle_squares n hc
    exact .inr ⟨rs, rt, hrs, hrt, d2, d3, d4, d5, he.act.code (k := 4) (by decide) (by decide) hrook,
      code_of_free hrt (occ_false hfr).1, fun q _ => by simp only [moverCode, hc, ← n.moved, rookSq_of hr, true_and]⟩

theorem wsum_mkOther (n : Named b f) (W : Nat → Nat) :
    wsum W (otherCode b f) 64 + W f.pieceAttacked = wsum W b.passive.pieceAt 64 + W 0 := by
  have := wsum_swap W (g := b.passive.pieceAt) (g' := otherCode b f) 64 n.capSq_lt
    (fun q _ hq => by unfold otherCode; rw [if_neg hq])
  rw [← n.attacked, show otherCode b f (capSq b.whiteTurn f.enPassant f.target) = 0 from if_pos rfl] at this
  exact this

theorem count_mkMover (he : Env b) (n : Named b f) {q : Nat} (h1 : 1 ≤ q) (h6 : q ≤ 6) :
    popcount ((mkMover f b.active).get q) + same q f.pieceMoved =
      popcount (b.active.get q) + same q (if f.promotion = 0 then f.pieceMoved else f.promotion) := by
  rw [popcount_eq_wsum (holds_make he n).1 h1 h6, popcount_eq_wsum he.act h1 h6]
  exact wsum_mkMover he n (same q)

theorem count_mkOther (he : Env b) (n : Named b f) {q : Nat} (h1 : 1 ≤ q) (h6 : q ≤ 6) :
    popcount ((mkOther f b.whiteTurn b.passive).get q) + same q f.pieceAttacked = popcount (b.passive.get q) := by
  rw [popcount_eq_wsum (holds_make he n).2 h1 h6, popcount_eq_wsum he.pas h1 h6]
  have := wsum_mkOther n (same q)
  rw [show same q 0 = 0 from if_neg (by omega)] at this
  exact this

end

end Inkayaku.MakeUnmake
