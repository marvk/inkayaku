import Inkayaku.Spec.Rays
import Inkayaku.Model.Magic
import Inkayaku.Proofs.Subsets
/-!
From a finite kernel computation over the sub-occupancies of one square's mask to ALL occupancies.

The computation goes ray by ray.  Along one ray (nearest square first) the attack set depends only on the first
blocker, so the walk carries the occupancy `occ` and the attack set `att` built so far; once a blocker is placed,
the remaining squares of the ray only vary `occ`.
-/
namespace Inkayaku.MagicLift
open Inkayaku.Rays Inkayaku.Magic Inkayaku.Subsets Inkayaku.Gen

/-- `k` at `occ` with every subset of the squares of the ray `p :: l` but its last added.  The ray comes as head and
tail so that a step is one match on the tail. -/
def blockedSubsets (k : Nat → Bool) : Nat → List Nat → Nat → Bool
  | _, [], occ => k occ
  | p, s :: t, occ => and (blockedSubsets k s t occ) (force (Nat.lor occ (Nat.shiftLeft 1 p)) (blockedSubsets k s t))

/-- `k` at every placement of blockers on the ray `p :: l` (its last square is never one: what stands there does
not change the attacks), with the attacks along the ray added to `att` -/
def raySubsets (k : Nat → Nat → Bool) : Nat → List Nat → Nat → Nat → Bool
  | p, [], occ, att => force (Nat.lor att (Nat.shiftLeft 1 p)) (k occ)
  | p, s :: t, occ, att =>
    force (Nat.lor att (Nat.shiftLeft 1 p)) fun att' =>
      and (raySubsets k s t occ att')
        (force (Nat.lor occ (Nat.shiftLeft 1 p)) (blockedSubsets (fun o => k o att') s t))

/-- `k` at every placement of blockers on the rays.  The first ray is the innermost stage, so that its walk ends
in `k` itself and not in a recursion over the remaining rays, which the kernel would unfold at every leaf. -/
def allOcc (k : Nat → Nat → Bool) : List (List Nat) → Nat → Nat → Bool
  | [] => k
  | [] :: rs => allOcc k rs
  | (p :: l) :: rs => allOcc (raySubsets k p l) rs

/-- the same enumeration as `Subsets.subsets`, which takes the list whole -/
theorem blockedSubsets_eq (k : Nat → Bool) (p : Nat) (l : List Nat) :
    blockedSubsets k p l = subsets k (p :: l).dropLast := by
  induction l generalizing p with
  | nil => rfl
  | cons s t ih =>
    funext occ
    simp only [blockedSubsets, List.dropLast_cons_cons, subsets, ih]

theorem raySubsets_sel (k : Nat → Nat → Bool) (p : Nat) (l : List Nat) (o a occ : Nat)
    (h : raySubsets k p l o a = true) : k (o ||| selOr occ (p :: l).dropLast) (a ||| scan occ (p :: l)) = true := by
  induction l generalizing p o a with
  | nil => simpa [raySubsets, force_eq, selOr, scan, bit] using h
  | cons s t ih =>
    simp only [raySubsets, force_eq, Bool.and_eq_true, Nat.lor_eq, Nat.shiftLeft_eq'] at h
    simp only [List.dropLast_cons_cons, selOr, scan, bit]
    by_cases hp : occ.testBit p
    · rw [blockedSubsets_eq] at h
      simpa [hp, Nat.or_assoc] using subsets_sel _ _ (o ||| 1 <<< p) occ h.2
    · simpa [hp, Nat.or_assoc] using ih s o (a ||| 1 <<< p) h.1

theorem slideOn_cons (occ : Nat) (r : List Nat) (rs : List (List Nat)) :
    slideOn occ (r :: rs) = slideOn occ rs ||| scan occ r := by
  simp only [slideOn, ← List.foldl_map (f := scan occ) (g := (· ||| ·))]
  rw [List.map_cons, List.foldl_cons, Nat.or_comm 0, List.foldl_assoc, Nat.or_comm]

theorem allOcc_sel (k : Nat → Nat → Bool) (rs : List (List Nat)) (o a occ : Nat) (h : allOcc k rs o a = true) :
    k (o ||| selOr occ (rs.flatMap List.dropLast)) (a ||| slideOn occ rs) = true := by
  induction rs generalizing k with
  | nil => simpa [allOcc, selOr, slideOn] using h
  | cons r rs ih =>
    rw [List.flatMap_cons, selOr_append, slideOn_cons, Nat.or_comm (selOr occ r.dropLast)]
    cases r with
    | nil => simpa [selOr, scan] using ih k h
    | cons p l =>
      have := raySubsets_sel k p l _ _ occ (ih _ h)
      simpa only [Nat.or_assoc] using this

/-- `magicIndex c occ < c.len` and `lookup c occ = att`, with the index evaluated once and in the functions behind
`&&&`, `*`, `%`, `>>>`, `<`, `==`, each of which the kernel runs on numerals in one step (see `force`) -/
def leaf (c : MagicCfg) (occ att : Nat) : Bool :=
  force (Nat.land (Nat.shiftRight (Nat.mod (Nat.mul (Nat.land occ c.mask) c.magic) 18446744073709551616) c.hshift)
      c.hmask) fun i =>
    and (Nat.ble (Nat.succ i) c.len) (Nat.beq (Nat.land (Nat.shiftRight c.tbl (Nat.mul 64 i)) M64) att)

theorem leaf_iff (c : MagicCfg) (occ att : Nat) :
    leaf c occ att = true ↔ magicIndex c occ < c.len ∧ lookup c occ = att := by
  simp only [leaf, force_eq, Bool.and_eq_true, Nat.ble_eq, Nat.beq_eq, Nat.succ_le_iff]
  rfl

def forceCfg (c : MagicCfg) (k : MagicCfg → Bool) : Bool :=
  force c.mask fun mask => force c.magic fun magic => force c.hmask fun hmask => force c.hshift fun hshift =>
    force c.len fun len => force c.tbl fun tbl => k ⟨mask, magic, hmask, hshift, len, tbl⟩

def forceRays : List (List Nat) → (List (List Nat) → Bool) → Bool
  | [], k => k []
  | r :: rs, k => forceList r fun r => forceRays rs fun rs => k (r :: rs)

theorem forceRays_eq (rs : List (List Nat)) (k : List (List Nat) → Bool) : forceRays rs k = k rs := by
  induction rs generalizing k with
  | nil => rfl
  | cons r rs ih => rw [forceRays, forceList_eq, ih]

/-- the Boolean check evaluated by the kernel for one square: the mask consists of the squares whose occupancy
matters (`Rays.relevant`) and possibly more, and every subset of the mask bits indexes inside the table and finds
exactly the ray attacks -/
def tableOk (c : MagicCfg) (sq : Nat) (dirs : List Dir) : Bool :=
  forceCfg c fun c => force sq fun sq => forceRays (rays sq dirs) fun rs =>
    force (maskOf (rs.flatMap List.dropLast)) fun rel => forceList (bitsOf (Nat.xor c.mask rel)) fun extra =>
      and (Nat.beq (Nat.lor (maskOf extra) rel) c.mask)
        (subsets (fun occ => allOcc (leaf c) rs occ 0) extra 0)

theorem magicIndex_and_mask (c : MagicCfg) (occ : Nat) : magicIndex c (occ &&& c.mask) = magicIndex c occ := by
  simp only [magicIndex, Nat.and_assoc, Nat.and_self]

theorem magic_lift {c : MagicCfg} {sq : Nat} {dirs : List Dir} (hchk : tableOk c sq dirs = true) (occ : Nat) :
    magicIndex c occ < c.len ∧ lookup c occ = slide dirs sq occ := by
  simp only [tableOk, forceCfg, force_eq, forceRays_eq, forceList_eq, Bool.and_eq_true, Nat.beq_eq, Nat.lor_eq]
    at hchk
  obtain ⟨hmask, hsub⟩ := hchk
  have h := allOcc_sel _ _ _ _ occ (subsets_sel (fun o => allOcc (leaf c) (rays sq dirs) o 0) _ 0 occ hsub)
  -- the occupancy reached: the bits of `occ` on the extra squares and on the relevant squares, that is, on the mask
  rw [← and_maskOf, ← and_maskOf, Nat.zero_or, ← Nat.and_or_distrib_left, hmask, Nat.zero_or, leaf_iff] at h
  unfold lookup at h ⊢
  rwa [magicIndex_and_mask] at h

end Inkayaku.MagicLift
