import Inkayaku.Proofs.SearchSimInv
import Inkayaku.Proofs.SearchSimTranspCodes
/-!
# C08 simulation: `HashInj` = no hash collision + chess facts

`NoCollision b0 D` is the genuine hash hypothesis: equal hashes in the `D`-ply neighbourhood ⇒ equal `C06.HashKey` (everything
the hash reads).  `SameDraft b0 D` is the chess part: equal keys between a stored ply `k' < D` and a probed ply `k ≤ D` ⇒ same
ply and same visible position.  It is `lines_le3` (`Proofs/SearchSimLines.lean`: same length, same half-move clock) and `key_vis` here
(`C08Transp.sameDraft_le3`); `Transp13`, `Transp22`, stated here, are two of its instances.
-/
namespace Inkayaku.SearchSim
open Inkayaku.Board Inkayaku.WF Inkayaku.BoardCongr Inkayaku.Minimax Inkayaku.SpecSearch Inkayaku.Search
open Inkayaku.MakeWf Inkayaku.GenStrong
open Inkayaku.C06 (HashKey)

def NoCollision (b0 : Board) (D : Nat) : Prop :=
  ∀ (k' k : Nat) (p' p : Board), k' < D → k ≤ D → Reach b0 k' p' → Reach b0 k p → Zobrist.hash p' = Zobrist.hash p →
    HashKey p' = HashKey p

def SameDraft (b0 : Board) (D : Nat) : Prop :=
  ∀ (k' k : Nat) (p' p : Board), k' < D → k ≤ D → Reach b0 k' p' → Reach b0 k p → HashKey p' = HashKey p →
    k' = k ∧ vis p' = vis p

theorem hashInj_of {b0 : Board} {D : Nat} (h1 : NoCollision b0 D) (h2 : SameDraft b0 D) : HashInj b0 D :=
  fun k' k p' p hk' hk hr' hr he => h2 k' k p' p hk' hk hr' hr (h1 k' k p' p hk' hk hr' hr he)

theorem noCollision_of_hashInj {b0 : Board} {D : Nat} (h : HashInj b0 D) : NoCollision b0 D := by
  intro k' k p' p hk' hk hr' hr he
  have := (h k' k p' p hk' hk hr' hr he).2
  show HashKey (vis p') = HashKey (vis p)
  rw [this]

theorem key_vis {b0 : Board} {D : Nat} (hinv : Inv D b0) {k : Nat} (hk : k ≤ D) {p p' : Board} (hr : Reach b0 k p)
    (hr' : Reach b0 k p') (h : HashKey p = HashKey p') (hhm : p.halfmove = p'.halfmove) : vis p = vis p' := by
  obtain ⟨i1, pl1⟩ := Reach.inv hinv hk hr
  obtain ⟨i2, pl2⟩ := Reach.inv hinv hk hr'
  have ht := key_turn h
  have f1 := ((wf_iff p).mp i1.wf).fm1
  have f2 := ((wf_iff p').mp i2.wf).fm1
  refine vis_of_key h (ep_of_key i1.wf i2.wf h) ?_ hhm
  unfold ply2 at pl1 pl2
  omega

def Transp13 (b0 : Board) : Prop := ∀ p' p, Reach b0 1 p' → Reach b0 3 p → HashKey p' ≠ HashKey p

def Transp22 (b0 : Board) : Prop := ∀ p' p, Reach b0 2 p' → Reach b0 2 p → HashKey p' = HashKey p → p'.halfmove = p.halfmove

end Inkayaku.SearchSim
