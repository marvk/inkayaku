import Inkayaku.Props.C04
import Inkayaku.Proofs.Side
import Inkayaku.Proofs.Geometry
/-!
# `_is_square_in_check` is "attacked by an enemy piece under the rules of chess"

The magic lookups are ray walks (C04), ray walks are "on the line and nothing strictly between" (`Geometry.slide_iff`), the
leaper tables are step sets (C04 `leapers_correct`) and those the Spec's step geometry (`Geometry.stepAttacks_testBit`): the lookup for any piece code from `s` holds `t` iff a piece of that kind on `s`
attacks `t` (`lookup_iff_geom`).  The code looks FROM the king's square, and the attack relation is symmetric – for pawns with the
colours swapped (`Geometry.geomBy_symm`), which is why the lookup with the king's OWN colour pawn table finds the enemy pawns
that attack it.  So the five tests are `Geometry.AttackedBy` at the lookups "bit of a piece word" and "bit of the
occupancy word clear" (`squareInCheck_iff_by`, no hypothesis on the words); the rules' `attacked` is `AttackedBy` at the lookups
of a mailbox position, and on disjoint piece words the two pairs of lookups agree (`squareInCheck_iff_occ`).
-/
namespace Inkayaku.Attack
open Inkayaku.Board Inkayaku.Bits Inkayaku.Geometry

theorem rookAttacks_fwd (s t : Nat) (occ : UInt64) (hs : s < 64) (ht : t < 64) :
    testU (rookAttacks s occ) t = true ↔ rookLine s t = true ∧ ∀ q ∈ between s t, testU occ q = false := by
  unfold rookAttacks
  rw [testU_ofNat _ _ ht, (C04.rook_correct_u64 s hs occ).2]
  exact slide_iff rook_sub rookLine_iff s t occ.toNat hs ht

theorem bishopAttacks_fwd (s t : Nat) (occ : UInt64) (hs : s < 64) (ht : t < 64) :
    testU (bishopAttacks s occ) t = true ↔ bishLine s t = true ∧ ∀ q ∈ between s t, testU occ q = false := by
  unfold bishopAttacks
  rw [testU_ofNat _ _ ht, (C04.bishop_correct_u64 s hs occ).2]
  exact slide_iff bishop_sub bishLine_iff s t occ.toNat hs ht

theorem leaperAttacks_iff {tbl : List Nat} {steps : List Rays.Dir} (h : tbl = (List.range 64).map (Rays.stepAttacks steps))
    (a t : Nat) (ha : a < 64) (ht : t < 64) :
    testU (leaperAttacks tbl a) t = true ↔ (Spec.fileOf t - Spec.fileOf a, Spec.rowOf t - Spec.rowOf a) ∈ steps := by
  unfold leaperAttacks
  rw [testU_ofNat _ _ ht, h, List.getD_eq_getElem?_getD, List.getElem?_map, List.getElem?_range ha]
  exact stepAttacks_testBit steps a ht

theorem knightLookup_eq (s t : Nat) (hs : s < 64) (ht : t < 64) :
    testU (leaperAttacks Gen.knightTable s) t = knightGeom s t := by
  rw [Bool.eq_iff_iff, leaperAttacks_iff C04.leapers_correct.2.1 s t hs ht, knight_steps]

theorem kingLookup_eq (s t : Nat) (hs : s < 64) (ht : t < 64) :
    testU (leaperAttacks Gen.kingTable s) t = kingGeom s t := by
  rw [Bool.eq_iff_iff, leaperAttacks_iff C04.leapers_correct.1 s t hs ht, king_steps]

theorem pawnLookup_eq (w : Bool) (s t : Nat) (hs : s < 64) (ht : t < 64) :
    testU (leaperAttacks (if w then Gen.whitePawnTable else Gen.blackPawnTable) s) t = pawnGeom w s t := by
  rw [Bool.eq_iff_iff, pawn_steps]
  cases w
  · exact leaperAttacks_iff C04.leapers_correct.2.2.2 s t hs ht
  · exact leaperAttacks_iff C04.leapers_correct.2.2.1 s t hs ht

def Lookup (occ : UInt64) (w : Bool) (piece src tgt : Nat) : Prop :=
  ((piece = ROOK ∨ piece = QUEEN) ∧ testU (rookAttacks src occ) tgt = true) ∨
  ((piece = BISHOP ∨ piece = QUEEN) ∧ testU (bishopAttacks src occ) tgt = true) ∨
  (piece = KNIGHT ∧ testU (leaperAttacks Gen.knightTable src) tgt = true) ∨
  (piece = KING ∧ testU (leaperAttacks Gen.kingTable src) tgt = true) ∨
  (piece = PAWN ∧ testU (leaperAttacks (if w then Gen.whitePawnTable else Gen.blackPawnTable) src) tgt = true)

theorem all_free (occ : UInt64) (l : List Nat) :
    (l.all fun q => !testU occ q) = true ↔ ∀ q ∈ l, testU occ q = false := by
  simp [List.all_eq_true]

theorem lookup_iff_geom (occ : UInt64) (w : Bool) (k : Spec.Kind) {s t : Nat} (hs : s < 64) (ht : t < 64) :
    Lookup occ w (Abs.kindCode k) s t ↔ geomBy (fun q => !testU occ q) k w s t = true := by
  unfold Lookup
  cases k <;> simp only [Abs.kindCode, PAWN, KNIGHT, BISHOP, ROOK, QUEEN, KING, Nat.reduceEqDiff, false_or, or_false,
    false_and, true_and, or_true, geomBy, Bool.and_eq_true, Bool.or_eq_true, all_free]
  · rw [pawnLookup_eq w s t hs ht]
  · rw [knightLookup_eq s t hs ht]
  · exact bishopAttacks_fwd s t occ hs ht
  · exact rookAttacks_fwd s t occ hs ht
  · rw [rookAttacks_fwd s t occ hs ht, bishopAttacks_fwd s t occ hs ht]
    constructor
    · rintro (⟨h1, h2⟩ | ⟨h1, h2⟩)
      · exact ⟨Or.inl h1, h2⟩
      · exact ⟨Or.inr h1, h2⟩
    · rintro ⟨h1 | h1, h2⟩
      · exact Or.inl ⟨h1, h2⟩
      · exact Or.inr ⟨h1, h2⟩
  · rw [kingLookup_eq s t hs ht]

theorem squareInCheck_eq_or (c : Nat) (p : Side) (s : Nat) (occ : UInt64) :
    squareInCheck c p s occ =
      ((rookAttacks s occ &&& (p.rooks ||| p.queens) != 0)
      || (bishopAttacks s occ &&& (p.bishops ||| p.queens) != 0)
      || (leaperAttacks Gen.knightTable s &&& p.knights != 0)
      || (leaperAttacks (if c == 0 then Gen.whitePawnTable else Gen.blackPawnTable) s &&& p.pawns != 0)
      || (leaperAttacks Gen.kingTable s &&& p.kings != 0)) := by
  unfold squareInCheck
  repeat' split
  all_goals simp_all

theorem squareInCheck_iff_lookup (c : Nat) (P : Side) (s : Nat) (occ : UInt64) :
    squareInCheck c P s occ = true ↔
      ∃ t, t < 64 ∧ ∃ k : Spec.Kind, testU (P.get (Abs.kindCode k)) t = true ∧ Lookup occ (c == 0) (Abs.kindCode k) s t := by
  rw [squareInCheck_eq_or]
  simp only [Bool.or_eq_true, and_ne_zero_iff, testU_or]
  constructor
  · rintro ((((⟨t, ht, hr, hx | hx⟩ | ⟨t, ht, hr, hx | hx⟩) | ⟨t, ht, hr, hx⟩) | ⟨t, ht, hr, hx⟩) | ⟨t, ht, hr, hx⟩)
    · exact ⟨t, ht, .rook, hx, Or.inl ⟨Or.inl rfl, hr⟩⟩
    · exact ⟨t, ht, .queen, hx, Or.inl ⟨Or.inr rfl, hr⟩⟩
    · exact ⟨t, ht, .bishop, hx, Or.inr (Or.inl ⟨Or.inl rfl, hr⟩)⟩
    · exact ⟨t, ht, .queen, hx, Or.inr (Or.inl ⟨Or.inr rfl, hr⟩)⟩
    · exact ⟨t, ht, .knight, hx, Or.inr (Or.inr (Or.inl ⟨rfl, hr⟩))⟩
    · exact ⟨t, ht, .pawn, hx, Or.inr (Or.inr (Or.inr (Or.inr ⟨rfl, by simpa using hr⟩)))⟩
    · exact ⟨t, ht, .king, hx, Or.inr (Or.inr (Or.inr (Or.inl ⟨rfl, hr⟩)))⟩
  · rintro ⟨t, ht, k, hx, hl⟩
    unfold Lookup at hl
    cases k <;> simp only [Abs.kindCode, PAWN, KNIGHT, BISHOP, ROOK, QUEEN, KING, Nat.reduceEqDiff, false_or, or_false,
      false_and, true_and, or_true] at hl hx
    · exact Or.inl (Or.inr ⟨t, ht, by simpa using hl, hx⟩)
    · exact Or.inl (Or.inl (Or.inr ⟨t, ht, hl, hx⟩))
    · exact Or.inl (Or.inl (Or.inl (Or.inr ⟨t, ht, hl, Or.inl hx⟩)))
    · exact Or.inl (Or.inl (Or.inl (Or.inl ⟨t, ht, hl, Or.inl hx⟩)))
    · rcases hl with hl | hl
      · exact Or.inl (Or.inl (Or.inl (Or.inl ⟨t, ht, hl, Or.inr hx⟩)))
      · exact Or.inl (Or.inl (Or.inl (Or.inr ⟨t, ht, hl, Or.inr hx⟩)))
    · exact Or.inr ⟨t, ht, hl, hx⟩

/-- **`_is_square_in_check` on words.**  `c` is the colour of the (would-be) king on `s` (0 = white), `P` any six piece words
(the attackers), `occ` any occupancy word: some bit of `P` stands where a piece of that kind and of the other colour (`c != 0`:
white attackers) would attack `s`, the squares between being clear in `occ`.  No hypothesis on the words. -/
theorem squareInCheck_iff_by (c : Nat) (P : Side) (s : Nat) (hs : s < 64) (occ : UInt64) :
    squareInCheck c P s occ = true ↔
      AttackedBy (fun k t => testU (P.get (Abs.kindCode k)) t) (fun q => !testU occ q) (c != 0) s := by
  rw [squareInCheck_iff_lookup]
  have hc : (!(c == 0)) = (c != 0) := rfl
  have turn : ∀ k t, t < 64 → (Lookup occ (c == 0) (Abs.kindCode k) s t ↔
      geomBy (fun q => !testU occ q) k (c != 0) t s = true) := by
    intro k t ht
    rw [lookup_iff_geom occ _ k hs ht, geomBy_symm _ _ _ hs ht, hc]
  constructor
  · rintro ⟨t, ht, k, hx, hl⟩; exact ⟨t, ht, k, hx, (turn k t ht).mp hl⟩
  · rintro ⟨t, ht, k, hx, hg⟩; exact ⟨t, ht, k, hx, (turn k t ht).mpr hg⟩

theorem attacked_iff (p : Spec.Pos) (w : Bool) (s : Nat) :
    Spec.attacked p w s = true ↔
      ∃ t, t < 64 ∧ ∃ k, p.at t = some ⟨w, k⟩ ∧ Spec.attacksGeom p k w t s = true := by
  rw [attacked_iff_by]
  simp only [AttackedBy, beq_iff_eq, ← attacksGeom_eq]

/-- **General occupancy word.**  On a board with disjoint piece words the pieces and empty squares the code looks up are
those of `abs b`; `occ` is any word with the same squares as the union of the twelve piece words. -/
theorem squareInCheck_iff_occ (b : Board) (hd : Disjoint b) (c s : Nat) (hs : s < 64) (occ : UInt64)
    (hocc : ∀ q, testU occ q = testU (b.white.full ||| b.black.full) q) :
    squareInCheck c (sideOf b (c != 0)) s occ = Spec.attacked (Abs.abs b) (c != 0) s := by
  rw [Bool.eq_iff_iff, squareInCheck_iff_by c _ s hs, attacked_iff_by]
  refine AttackedBy.congr (fun k t ht => ?_) (fun q => ?_) _ s
  · rw [Bool.eq_iff_iff, beq_iff_eq]; exact (at_iff b hd t ht _ k).symm
  · rw [hocc, ← at_isSome]; cases (Abs.abs b).at q <;> rfl

/-- For a board with pairwise disjoint piece words, every colour `c` of the would-be king (0 = white,
anything else = black, as in the Rust test `color_bits == WHITE`) and every square `s < 64`: `_is_square_in_check`, called
with the enemy side of `c` and the union of all piece words, says whether `s` is attacked by a piece of the enemy
colour (`c != 0` is `true` iff the attackers are white) under the rules. -/
theorem squareInCheck_iff (b : Board) (hd : Disjoint b) (c s : Nat) (hs : s < 64) :
    squareInCheck c (sideOf b (c != 0)) s (b.white.full ||| b.black.full) =
      Spec.attacked (Abs.abs b) (c != 0) s :=
  squareInCheck_iff_occ b hd c s hs _ (fun _ => rfl)

end Inkayaku.Attack
