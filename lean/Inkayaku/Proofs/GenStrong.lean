import Inkayaku.Proofs.GenSpecNoisy
/-!
# What the generator knows about the moves it emits

Every generated move `m` of a well-formed board has `m.f = mkF b args` for arguments satisfying `ArgsOK b args`: the field
formulas of `make_move` plus what the loops establish about source, target, move kind and the attack relation between
them.  `GenOK.ok_of_args` reads `MakeUnmake.MoveOK` off it (what make/unmake need, C03) and `GenSpec.gen_bounds` the bounds on
source, target and promotion; the well-formedness of the successor rests on `GenFacts` instead.
-/
namespace Inkayaku.GenStrong
open Inkayaku.Board Inkayaku.Gen Inkayaku.WF Inkayaku.MakeUnmake Inkayaku.MoveBits Inkayaku.GenOK

/-- the fields `make_move` computes from its arguments -/
def mkF (b : Board) (src tgt piece : Nat) (castle ep : Bool) (promo epOpp : Nat) : MoveF :=
  let attackSq := if b.whiteTurn then tgt + (if ep then 8 else 0) else tgt - (if ep then 8 else 0)
  let attacked := b.passive.pieceAt attackSq
  let oppLostQueen := b.passive.qs && tgt == A8 + dCastle b
  { pieceMoved := piece, pieceAttacked := attacked,
    selfLostKing := b.active.ks && (src == H1 - dCastle b || src == E1 - dCastle b),
    selfLostQueen := b.active.qs && (src == A1 - dCastle b || src == E1 - dCastle b),
    oppLostKing := !oppLostQueen && b.passive.ks && tgt == H8 + dCastle b,
    oppLostQueen := oppLostQueen,
    castle := castle, enPassant := ep, source := src, target := tgt,
    halfmoveReset := piece == PAWN || attacked != NO_PIECE,
    prevHalfmove := b.halfmove, prevEp := b.ep, nextEp := epOpp, promotion := promo, side := b.turn }

structure ArgsOK (b : Board) (src tgt piece : Nat) (castle ep : Bool) (promo epOpp : Nat) : Prop where
  src_lt : src < 64
  tgt_lt : tgt < 64
  piece_ge : 1 ≤ piece
  piece_le : piece ≤ 6
  hasSrc : has (b.active.get piece) (bitU src)
  lacksTgt : lacks b.active.full (bitU tgt)
  promo_lt : promo < 8
  epOpp_lt : epOpp < 64
  castle_ : castle = true → piece = KING ∧ ep = false ∧ promo = 0 ∧ epOpp = 0 ∧ src = E1 - dCastle b ∧
    ∃ rs rt, castleRook tgt = some (rs, rt) ∧ rs < 64 ∧ rt < 64 ∧ has b.active.rooks (bitU rs) ∧
      lacks (fullOcc b) (bitU rt) ∧ lacks (fullOcc b) (bitU tgt)
  ep_ : ep = true → piece = PAWN ∧ castle = false ∧ promo = 0 ∧ epOpp = 0 ∧ tgt = b.ep ∧ 8 ≤ tgt ∧ tgt < 56
  promo_ : promo ≠ 0 → piece = PAWN ∧ 2 ≤ promo ∧ promo ≤ 5 ∧ castle = false ∧ ep = false ∧ epOpp = 0
  pawnMid : piece = PAWN → promo = 0 → 8 ≤ tgt ∧ tgt < 56
  dbl : epOpp ≠ 0 → piece = PAWN ∧ castle = false ∧ ep = false ∧ promo = 0 ∧
    lacks (fullOcc b) (bitU epOpp) ∧ lacks (fullOcc b) (bitU tgt) ∧
    (if b.whiteTurn then 48 ≤ src ∧ src < 56 ∧ tgt + 16 = src ∧ epOpp + 8 = src
     else 8 ≤ src ∧ src < 16 ∧ tgt = src + 16 ∧ epOpp = src + 8)
  attacks : castle = false → ep = false → ¬ lacks b.passive.full (bitU tgt) → Attacks b piece src tgt

def GenS (b : Board) (m : Move) : Prop :=
  ∃ src tgt piece castle ep promo epOpp,
    m.f = mkF b src tgt piece castle ep promo epOpp ∧ ArgsOK b src tgt piece castle ep promo epOpp

theorem pieceArgs {b : Board} {src tgt piece : Nat} (hp2 : 2 ≤ piece) (hp6 : piece ≤ 6)
    (hs : testU (b.active.get piece) src = true) (htl : tgt < 64) (ht : testU b.active.full tgt = false)
    (hatt : Attacks b piece src tgt) : ArgsOK b src tgt piece false false NO_PIECE 0 :=
  { src_lt := Bits.testU_lt hs, tgt_lt := htl, piece_ge := by omega, piece_le := hp6,
    hasSrc := (testU_iff_has (Bits.testU_lt hs)).1 hs, lacksTgt := (testU_false_iff_lacks htl).1 ht,
    promo_lt := by decide, epOpp_lt := by decide,
    castle_ := fun h => (by cases h), ep_ := fun h => (by cases h), promo_ := fun h => absurd rfl h,
    pawnMid := fun h => (by rw [h] at hp2; exact absurd hp2 (by decide)),
    dbl := fun h => absurd rfl h, attacks := fun _ _ _ => hatt }

theorem r8_lt : ∀ t, t < 64 → (bitU t &&& rank8.toUInt64 == 0) = false → t < 8 := by decide

theorem pawnArgs {b : Board} {src tgt promo : Nat} {ep : Bool} (hs : testU b.active.pawns src = true) (htl : tgt < 64)
    (ht : testU b.active.full tgt = false) (hpr : GenSpec.PromoAt tgt promo)
    (hep : ep = true → GenSpec.lastRank tgt = false ∧ tgt = b.ep)
    (hatt : ep = false → ¬ lacks b.passive.full (bitU tgt) → Attacks b PAWN src tgt) :
    ArgsOK b src tgt PAWN false ep promo 0 := by
  have hmid : GenSpec.lastRank tgt = false → 8 ≤ tgt ∧ tgt < 56 := by
    intro h
    simp only [GenSpec.lastRank, Bool.or_eq_false_iff, decide_eq_false_iff_not] at h
    omega
  have hsl := Bits.testU_lt hs
  have hS := (testU_iff_has hsl).1 hs
  have hT := (testU_false_iff_lacks htl).1 ht
  unfold GenSpec.PromoAt at hpr
  cases hl : GenSpec.lastRank tgt
  · rw [if_neg (by simp [hl])] at hpr
    subst hpr
    exact {
      src_lt := hsl, tgt_lt := htl, piece_ge := by decide, piece_le := by decide, hasSrc := hS, lacksTgt := hT,
      promo_lt := by decide, epOpp_lt := by decide, castle_ := fun h => (by cases h),
      ep_ := fun h => ⟨rfl, rfl, rfl, rfl, (hep h).2, (hmid hl).1, (hmid hl).2⟩,
      promo_ := fun h => absurd rfl h, pawnMid := fun _ _ => hmid hl, dbl := fun h => absurd rfl h,
      attacks := fun _ h2 h3 => hatt h2 h3 }
  · rw [if_pos hl] at hpr
    have he : ep = false := by
      cases ep
      · rfl
      · rw [hl] at hep; exact absurd (hep rfl).1 (by decide)
    subst he
    exact {
      src_lt := hsl, tgt_lt := htl, piece_ge := by decide, piece_le := by decide, hasSrc := hS, lacksTgt := hT,
      promo_lt := by omega, epOpp_lt := by decide, castle_ := fun h => (by cases h), ep_ := fun h => (by cases h),
      promo_ := fun _ => ⟨rfl, hpr.1, hpr.2, rfl, rfl, rfl⟩, pawnMid := fun _ h => (by omega),
      dbl := fun h => absurd rfl h, attacks := fun _ h2 h3 => hatt h2 h3 }

theorem site_argsOK {b : Board} (hw : WFacts b) {src tgt piece : Nat} {castle ep : Bool} {promo epOpp : Nat}
    (h : GenSpec.Site b src tgt piece castle ep promo epOpp) : ArgsOK b src tgt piece castle ep promo epOpp := by
  cases h with
  | piece hp2 hp6 hs ha ht => exact pieceArgs hp2 hp6 hs ha.tgt_lt ht ha
  | capture hs ha hpr hep =>
    obtain ⟨hatt, -, hfree⟩ := (GenSpec.testU_pawnAttSet hw.basic).mp ha
    refine pawnArgs hs (Bits.testU_lt ha) hfree hpr ?_ (fun _ _ => Or.inr (Or.inr (Or.inr (Or.inr ⟨rfl, hatt⟩))))
    intro he
    rw [he] at hep
    simpa using hep.symm
  | push hs h8 h56 htgt hfree hpr =>
    have htl : tgt < 64 := by rw [htgt, GenSpec.fwd]; split <;> omega
    exact pawnArgs hs htl (Attack.occ_false hfree).1 hpr (fun h => by cases h)
      (fun _ h => absurd ((testU_false_iff_lacks htl).1 (Attack.occ_false hfree).2) h)
  | double hs h8 h56 hhome hmid htgt hfm hft =>
    have hsl := Bits.testU_lt hs
    have hnum : tgt < 64 ∧ epOpp < 64 ∧ 8 ≤ tgt ∧ tgt < 56 ∧
        (if b.whiteTurn then 48 ≤ src ∧ src < 56 ∧ tgt + 16 = src ∧ epOpp + 8 = src
         else 8 ≤ src ∧ src < 16 ∧ tgt = src + 16 ∧ epOpp = src + 8) := by
      cases hwt : b.whiteTurn <;>
        simp only [hwt, GenSpec.fwd, if_true, Bool.false_eq_true, if_false, decide_eq_true_eq] at hhome hmid htgt ⊢ <;> omega
    obtain ⟨htl, hml, h8, h56, hgeo⟩ := hnum
    exact {
      src_lt := hsl, tgt_lt := htl, piece_ge := by decide, piece_le := by decide,
      hasSrc := (testU_iff_has hsl).1 hs, lacksTgt := (testU_false_iff_lacks htl).1 (Attack.occ_false hft).1,
      promo_lt := by decide, epOpp_lt := hml, castle_ := fun h => (by cases h), ep_ := fun h => (by cases h),
      promo_ := fun h => absurd rfl h, pawnMid := fun _ _ => ⟨h8, h56⟩,
      dbl := fun _ => ⟨rfl, rfl, rfl, rfl, (testU_false_iff_lacks hml).1 hfm, (testU_false_iff_lacks htl).1 hft, hgeo⟩,
      attacks := fun _ _ h => absurd ((testU_false_iff_lacks htl).1 (Attack.occ_false hft).2) h }
  | castle kingSide hc hright hsrc htgt hrs hrt hk hr hft hfr =>
    rename_i rs rt
    have hnum : src < 64 ∧ tgt < 64 ∧ rs < 64 ∧ rt < 64 ∧ castleRook tgt = some (rs, rt) := by
      rw [hsrc, htgt, hrs, hrt]
      cases b.whiteTurn <;> cases kingSide <;> decide
    obtain ⟨hsl, htl, hrsl, hrtl, hcr⟩ := hnum
    exact {
      src_lt := hsl, tgt_lt := htl, piece_ge := by decide, piece_le := by decide,
      hasSrc := (testU_iff_has hsl).1 hk, lacksTgt := (testU_false_iff_lacks htl).1 (Attack.occ_false hft).1,
      promo_lt := by decide, epOpp_lt := by decide,
      castle_ := fun _ => ⟨rfl, rfl, rfl, rfl, hsrc, rs, rt, hcr, hrsl, hrtl, (testU_iff_has hrsl).1 hr,
      (testU_false_iff_lacks hrtl).1 hfr, (testU_false_iff_lacks htl).1 hft⟩,
      ep_ := fun h => (by cases h), promo_ := fun h => absurd rfl h, pawnMid := fun h => (by cases h),
      dbl := fun h => absurd rfl h, attacks := fun h => (by cases h) }

theorem genPseudo_strong {b : Board} (h : wf b = true) : ∀ m ∈ genPseudo b, GenS b m :=
  GenSpec.forall_genPseudo (wf_facts h) (P := fun f => ∃ src tgt piece castle ep promo epOpp,
      f = mkF b src tgt piece castle ep promo epOpp ∧ ArgsOK b src tgt piece castle ep promo epOpp)
    (fun hs => ⟨_, _, _, _, _, _, _, rfl, site_argsOK (wf_facts h) hs⟩)

theorem genNonQuiescent_strong {b : Board} (h : wf b = true) : ∀ m ∈ genNonQuiescent b, GenS b m :=
  fun m hm => genPseudo_strong h m (GenSpec.genNonQuiescent_subset (wf_facts h) m hm)

#print axioms genPseudo_strong
#print axioms genNonQuiescent_strong

end Inkayaku.GenStrong
