import Inkayaku.Model.Board
/-!
Bit-level bridge between the `UInt64` words of the board model and sets of squares (`testU x t` = "square `t` is in
the set `x`").  `pieceAtMask_le` stands here so that the translation check (`Props/Translated`) reaches it without
`Proofs/Side`.
-/
namespace Inkayaku.Bits
open Inkayaku.Board

theorem testU_and (a b : UInt64) (t : Nat) : testU (a &&& b) t = (testU a t && testU b t) := by
  simp [testU, UInt64.toNat_and, Nat.testBit_and]

theorem testU_or (a b : UInt64) (t : Nat) : testU (a ||| b) t = (testU a t || testU b t) := by
  simp [testU, UInt64.toNat_or, Nat.testBit_or]

theorem testU_xor (a b : UInt64) (t : Nat) : testU (a ^^^ b) t = (testU a t ^^ testU b t) := by
  simp [testU, UInt64.toNat_xor, Nat.testBit_xor]

theorem testU_zero (t : Nat) : testU 0 t = false := by
  simp [testU]

theorem testU_ge (x : UInt64) {t : Nat} (h : 64 ≤ t) : testU x t = false :=
  Nat.testBit_lt_two_pow (Nat.lt_of_lt_of_le x.toNat_lt (Nat.pow_le_pow_right (by decide) h))

theorem testU_lt {x : UInt64} {t : Nat} (h : testU x t = true) : t < 64 := by
  apply Decidable.byContradiction
  intro hn
  rw [testU_ge x (Nat.le_of_not_lt hn)] at h
  exact Bool.noConfusion h

theorem ext_testU {x y : UInt64} (h : ∀ t, t < 64 → testU x t = testU y t) : x = y := by
  apply UInt64.toNat_inj.mp
  apply Nat.eq_of_testBit_eq
  intro t
  by_cases ht : t < 64
  · exact h t ht
  · exact (testU_ge x (Nat.le_of_not_lt ht)).trans (testU_ge y (Nat.le_of_not_lt ht)).symm

theorem testU_not (x : UInt64) (t : Nat) (ht : t < 64) : testU (~~~x) t = !testU x t := by
  show (~~~x).toBitVec.getLsbD t = !x.toBitVec.getLsbD t
  rw [UInt64.toBitVec_not, BitVec.getLsbD_not, decide_eq_true ht, Bool.true_and]

theorem testU_clearBit (x m : UInt64) (t : Nat) : testU (clearBit x m) t = (testU x t && !testU m t) := by
  unfold clearBit
  rw [testU_and]
  by_cases ht : t < 64
  · rw [testU_not m t ht]
  · rw [testU_ge x (Nat.le_of_not_lt ht), Bool.false_and, Bool.false_and]

theorem testU_ofNat (n t : Nat) (ht : t < 64) : testU n.toUInt64 t = n.testBit t := by
  unfold testU
  rw [Nat.toUInt64_eq, UInt64.toNat_ofNat', Nat.testBit_mod_two_pow]
  simp [ht]

theorem ne_zero_iff (x : UInt64) : (x != 0) = true ↔ ∃ t, t < 64 ∧ testU x t = true := by
  constructor
  · intro h
    have hx : x.toNat ≠ 0 := by
      intro h0
      have : x = 0 := UInt64.toNat_inj.mp (by simpa using h0)
      simp [this] at h
    obtain ⟨i, hi⟩ := Nat.exists_testBit_of_ne_zero hx
    exact ⟨i, testU_lt hi, hi⟩
  · rintro ⟨t, _, ht⟩
    simp only [bne_iff_ne, ne_eq]
    intro h0
    simp [h0, testU_zero] at ht

/-- the test `a & b != 0` of the Rust = the two sets meet -/
theorem and_ne_zero_iff (x y : UInt64) :
    (x &&& y != 0) = true ↔ ∃ t, t < 64 ∧ testU x t = true ∧ testU y t = true := by
  rw [ne_zero_iff]
  simp only [testU_and, Bool.and_eq_true]

theorem and_eq_zero_iff (x y : UInt64) :
    x &&& y = 0 ↔ ∀ t, t < 64 → ¬ (testU x t = true ∧ testU y t = true) := by
  have h := and_ne_zero_iff x y
  constructor
  · intro h0 t ht hxy
    have : (x &&& y != 0) = true := h.mpr ⟨t, ht, hxy⟩
    simp [h0] at this
  · intro hall
    apply Decidable.byContradiction
    intro hne
    have : (x &&& y != 0) = true := by simpa using hne
    obtain ⟨t, ht, hxy⟩ := h.mp this
    exact hall t ht hxy

theorem toNat_bitU (s : Nat) (hs : s < 64) : (bitU s).toNat = 2 ^ s := by
  unfold bitU
  rw [UInt64.toNat_shiftLeft, Nat.toUInt64_eq, UInt64.toNat_ofNat']
  have h64 : s % 2 ^ 64 % 64 = s := by omega
  rw [h64, UInt64.toNat_one, Nat.one_shiftLeft]
  exact Nat.mod_eq_of_lt (Nat.pow_lt_pow_right (by decide) hs)

theorem testU_bitU (s t : Nat) (hs : s < 64) : testU (bitU s) t = decide (s = t) := by
  unfold testU
  rw [toNat_bitU s hs, Nat.testBit_two_pow]

/-- `word & (1 << s) != 0` = "square `s` is in the word" -/
theorem and_bitU_ne_zero (x : UInt64) (s : Nat) (hs : s < 64) : (x &&& bitU s != 0) = testU x s := by
  rw [Bool.eq_iff_iff, and_ne_zero_iff]
  constructor
  · rintro ⟨t, _, hx, hb⟩
    rw [testU_bitU s t hs] at hb
    have : s = t := by simpa using hb
    subst this; exact hx
  · intro hx
    exact ⟨s, hs, hx, by simp [testU_bitU s s hs]⟩

theorem mem_bitsAsc (x : UInt64) (t : Nat) : t ∈ bitsAsc x ↔ testU x t = true := by
  simp only [bitsAsc, List.mem_filter, List.mem_range, and_iff_right_iff_imp]
  exact testU_lt

theorem trailingZeros_eq_head (x : UInt64) : trailingZeros x = (bitsAsc x).head?.getD 64 := by
  unfold trailingZeros bitsAsc
  rw [List.head?_filter]

theorem pieceAtMask_le (s : Side) (m : UInt64) : s.pieceAtMask m ≤ 6 := by
  unfold Side.pieceAtMask PAWN KNIGHT BISHOP ROOK QUEEN KING NO_PIECE
  repeat' split
  all_goals omega

theorem bitU_shl8 : ∀ t, t < 56 → bitU t <<< 8 = bitU (t + 8) := by decide +kernel
theorem bitU_shr8 : ∀ t, t < 64 → 8 ≤ t → bitU t >>> 8 = bitU (t - 8) := by decide +kernel

theorem ite_xor (c : Prop) [Decidable c] (x k : UInt64) :
    (if c then x ^^^ k else x) = x ^^^ (if c then k else 0) := by
  split <;> simp

theorem other_beq_zero (t : Nat) : ((1 - t) == 0) = !(t == 0) := by
  rcases t with _ | _ | t
  · rfl
  · rfl
  · rw [show 1 - (t + 2) = 0 by omega]
    rfl

theorem ite_beq_zero_int {t : Nat} (h : t ≤ 1) : (if t == 0 then (1 : Int) else 0) = 1 - (t : Int) := by
  have : t = 0 ∨ t = 1 := by omega
  rcases this with rfl | rfl <;> rfl

end Inkayaku.Bits
