import Inkayaku.Proofs.GenSites
/-!
# The capture/promotion-only generator is the filter of the full generator, as a list equality

It makes the same calls with the early return of `make_move` switched on (`genNonQuiescent_flat`), and for arguments that
fit the packed word that early return is the filter on the pushed move (`mkL_true`).
-/
namespace Inkayaku.GenSpec
open Inkayaku.Board Inkayaku.Gen Inkayaku.MoveBits Inkayaku.GenOK Inkayaku.Bits

theorem pieceAt_ne_zero_of_full {s : Side} {t : Nat} (h : testU s.full t = true) : s.pieceAt t ≠ 0 := by
  intro h0
  rw [(Attack.pieceAt_zero s t (testU_lt h)).mp h0] at h
  cases h

/-- a pawn capture call is never dropped: a promotion, a piece on the target, or the e.p. victim behind it -/
theorem capture_loud {b : Board} (hw : WFacts b) {s t promo : Nat}
    (ha : testU (pawnAttSet b b.active.full b.passive.full s) t = true) (hp : PromoAt t promo) :
    b.passive.pieceAt (attackSq b t (!lastRank t && t == b.ep)) ≠ NO_PIECE ∨ promo ≠ NO_PIECE := by
  rcases promoAt_iff.mp hp with ⟨-, h2, -⟩ | ⟨hlr, -⟩
  · exact Or.inr (by simp only [NO_PIECE]; omega)
  left
  rw [hlr]
  apply pieceAt_ne_zero_of_full
  by_cases hep : t = b.ep
  · -- en passant: the victim pawn stands behind the target square (square 0, "no e.p. square", is on the last rank)
    have h0 : b.ep ≠ 0 := by
      rintro h
      rw [hep, h] at hlr
      cases hlr
    subst hep
    simp only [BEq.rfl, Bool.not_false, Bool.and_self, Side.full, testU_or, (ep_victim hw h0).2.2.2, Bool.or_true]
  · have hbeq : (t == b.ep) = false := by simpa using hep
    rw [hbeq, Bool.and_false, attackSq_false]
    rcases ((testU_pawnAttSet hw.basic).mp ha).2.1 with h | h
    · exact h
    · exact absurd h.1.symm hep

/-- `generate_pseudo_legal_non_quiescent_moves` makes the calls of `generate_pseudo_legal_moves` with the early return of
`make_move` switched on: the capture loop does not pass the flag but would never return early, the castling calls it
leaves out always would (the king's target square was tested empty) -/
theorem genNonQuiescent_flat {b : Board} (hw : WFacts b) : genNonQuiescent b = (calls b).flatMap (Call.mkL b true) := by
  rw [genNonQuiescent_calls]
  simp only [calls, List.flatMap_append]
  have hcap : (captureCalls b).flatMap (Call.mkL b false) = (captureCalls b).flatMap (Call.mkL b true) := by
    apply flatMap_congr'
    intro c hc
    obtain ⟨s, t, promo, -, ha, hp, rfl⟩ := mem_captureCalls.mp hc
    rw [Call.mkL_true_eq, if_neg]
    have := capture_loud hw ha hp
    simpa [-not_and, Classical.not_and_iff_not_or_not] using this
  have hcas : (castleCalls b).flatMap (Call.mkL b true) = [] := by
    rw [List.flatMap_eq_nil_iff]
    intro c hc
    obtain ⟨kingSide, hct, rfl⟩ := mem_castleCalls.mp hc
    obtain ⟨-, -, -, hft, -⟩ := castleTest_facts hw hct
    rw [Call.mkL_true_eq, if_pos]
    rw [testU_or, Bool.or_eq_false_iff] at hft
    have h0 : b.passive.pieceAt ((if kingSide then G1 else C1) - if b.whiteTurn then 0 else 56) = 0 :=
      (Attack.pieceAt_zero _ _ (by cases kingSide <;> simp [G1, C1] <;> omega)).mpr hft.2
    simp [castleCall, attackSq_false, h0, NO_PIECE]
  rw [hcap, hcas, List.append_nil]

/-- The hypothesis is needed (the statement is false for arbitrary values of the model's `Nat` fields):
* the early return of `make_move` tests the ARGUMENTS (`attacked == NO_PIECE && promo == NO_PIECE`), the filter looks at
  the DECODED packed word; with `b.halfmove ≥ 2^24` the previous-half-move field spills into the promotion field and
  every quiet move decodes as a promotion;
* `pawnAttacks` is called without the `nq` flag: an en-passant capture is pushed unconditionally and is a capture only
  because the victim pawn really stands behind the e.p. square (conjunct (6) of `WF.wf`). -/
theorem genNonQuiescent_eq_filter' {b : Board} (hw : WFacts b) :
    genNonQuiescent b = (genPseudo b).filter isNoisy := by
  rw [genNonQuiescent_flat hw, genPseudo_calls, List.filter_flatMap]
  exact flatMap_congr' (fun c hc => mkL_true _ _ (Site.fit hw.basic ((mem_calls hw).mp hc)))

theorem genNonQuiescent_eq_filter {b : Board} (h : WF.wf b = true) :
    genNonQuiescent b = (genPseudo b).filter (fun m => m.isAttack || m.isPromotion) :=
  genNonQuiescent_eq_filter' (wf_facts h)

theorem genNonQuiescent_subset {b : Board} (hw : WFacts b) : ∀ m ∈ genNonQuiescent b, m ∈ genPseudo b := by
  intro m hm
  rw [genNonQuiescent_eq_filter' hw] at hm
  exact (List.mem_filter.mp hm).1

end Inkayaku.GenSpec
