import Inkayaku.Model.San
import Inkayaku.Spec.SanGrammar
import Inkayaku.Proofs.BoardCongr
import Inkayaku.Proofs.GenOK
import Inkayaku.Proofs.MoveBits
import Inkayaku.Props.C03
import Inkayaku.Proofs.GenFacts
import Inkayaku.Proofs.GenSites
import Inkayaku.Proofs.MoveText
import Inkayaku.Proofs.CharRange
/-!
# SAN: the parser reads back the printer, the check mark, disambiguation, round trip (helper lemmas for C14)

Everything is stated on the models of `Model/San.lean` (`sanCaptures` = hand translation of `PGN_REGEX`, `sanToMove` =
`pgn_to_bb`, `uciToSan` = `uci_to_pgn`) and on the printer of `Spec/SanGrammar.lean`.

The regex translation accepts exactly the texts of `renderSan`, with the parts of the shape as captures
(`sanCaptures_some_iff`; leftmost-first, optional groups greedy-then-backtrack).  The text `uci_to_pgn` writes is given once, as
characters (`bodyChars`, `sanText`, `uciToSan_eq`; `MoveText.uciToSan_eq_find`: it is `find_uci` followed by that writer); in a
legal position it is `renderSan (shapeOfMove b m)` (`sanText_shape`; `uciToSan_legal`: that text is what is answered for the UCI
text of a legal move), `pgn_to_bb` on the text of a well-formed shape returns the legal move its parts single out
(`Denotes`, `sanToMove_of_shape`), the shape written for a legal move singles out that move (`shape_denotes`, by move class: no
text is involved), and the facts about the generator that make the written shape unambiguous are collected in `SanGenFacts`.

`SanGenFacts` is read off `GenFacts.genPseudo_facts` and `GenSpec.genPseudo_stepped_empty`.
-/
namespace Inkayaku.SanProofs
open Inkayaku.Board Inkayaku.San Inkayaku.Spec.SanGrammar Inkayaku.Util

theorem char_eq_iff (a c : Char) : a = c ↔ a.toNat = c.toNat :=
  ⟨fun h => by rw [h], fun h => Char.toNat_inj.mp h⟩

theorem isFile_iff (c : Char) : isFile c = true ↔ 97 ≤ c.toNat ∧ c.toNat ≤ 104 := by
  simp only [isFile, Bool.and_eq_true, decide_eq_true_eq, CharRange.char_le_iff]; exact Iff.rfl
theorem isRank_iff (c : Char) : isRank c = true ↔ 49 ≤ c.toNat ∧ c.toNat ≤ 56 := by
  simp only [isRank, Bool.and_eq_true, decide_eq_true_eq, CharRange.char_le_iff]; exact Iff.rfl
theorem isPieceLetter_iff (c : Char) : isPieceLetter c = true ↔
    c.toNat = 66 ∨ c.toNat = 78 ∨ c.toNat = 82 ∨ c.toNat = 81 ∨ c.toNat = 75 := by
  simp only [isPieceLetter, Bool.or_eq_true, beq_iff_eq, char_eq_iff, or_assoc]; exact Iff.rfl
theorem isPromoLetter_iff (c : Char) : isPromoLetter c = true ↔
    c.toNat = 66 ∨ c.toNat = 78 ∨ c.toNat = 82 ∨ c.toNat = 81 := by
  simp only [isPromoLetter, Bool.or_eq_true, beq_iff_eq, char_eq_iff, or_assoc]; exact Iff.rfl
theorem isCheckMark_iff (c : Char) : isCheckMark c = true ↔ c.toNat = 43 ∨ c.toNat = 35 := by
  simp only [isCheckMark, Bool.or_eq_true, beq_iff_eq, char_eq_iff]; exact Iff.rfl
theorem isAnnot_iff (c : Char) : isAnnot c = true ↔ c.toNat = 33 ∨ c.toNat = 63 := by
  simp only [isAnnot, Bool.or_eq_true, beq_iff_eq, char_eq_iff]; exact Iff.rfl
theorem isX_iff (c : Char) : (c == 'x') = true ↔ c.toNat = 120 := by
  simp only [beq_iff_eq, char_eq_iff]; exact Iff.rfl

/-- closes goals about character classes: everything is turned into (in)equalities on `Char.toNat` -/
macro "char_omega" : tactic => `(tactic| (
  simp only [← Bool.not_eq_true, isFile_iff, isRank_iff, isPieceLetter_iff, isPromoLetter_iff, isCheckMark_iff,
    isAnnot_iff, isX_iff, beq_iff_eq, bne_iff_ne, ne_eq, char_eq_iff, Char.reduceToNat] at *
  omega))

theorem isFileChar_eq : isFileChar = isFile := rfl
theorem isRankChar_eq : isRankChar = isRank := rfl
theorem pieceSet_eq (c : Char) : "BNRQK".toList.contains c = isPieceLetter c := by
  have : "BNRQK".toList = ['B','N','R','Q','K'] := by decide
  rw [this]; simp only [List.contains_cons, List.contains_nil, isPieceLetter, Bool.or_false, Bool.or_assoc]
theorem promoSet_eq (c : Char) : "BNRQ".toList.contains c = isPromoLetter c := by
  have : "BNRQ".toList = ['B','N','R','Q'] := by decide
  rw [this]; simp only [List.contains_cons, List.contains_nil, isPromoLetter, Bool.or_false, Bool.or_assoc]

def HeadNot (p : Char → Bool) (s : List Char) : Prop := ∀ c rest, s = c :: rest → p c = false

theorem headNot_nil (p : Char → Bool) : HeadNot p [] := fun _ _ h => by cases h
theorem headNot_cons {p : Char → Bool} {c : Char} {s : List Char} (h : p c = false) : HeadNot p (c :: s) := by
  intro c' rest e; cases e; exact h

theorem optChar_hit {ok : Char → Bool} {k : Option Char → List Char → Option SanCaps} {c : Char} {rest : List Char}
    {r : SanCaps} (hc : ok c = true) (h : k (some c) rest = some r) : optChar ok (c :: rest) k = some r := by
  simp only [optChar, hc, if_true, h]

theorem optChar_backtrack {ok : Char → Bool} {k : Option Char → List Char → Option SanCaps} {c : Char} {rest : List Char}
    (h : k (some c) rest = none) : optChar ok (c :: rest) k = k none (c :: rest) := by
  by_cases hc : ok c = true
  · simp only [optChar, hc, if_true, h]
  · simp only [optChar, hc, Bool.false_eq_true, if_false]

theorem optChar_skip {ok : Char → Bool} {k : Option Char → List Char → Option SanCaps} {s : List Char}
    (h : HeadNot ok s) : optChar ok s k = k none s := by
  cases s with
  | nil => rfl
  | cons c rest => simp only [optChar, h c rest rfl, Bool.false_eq_true, if_false]

theorem optChar_some {ok : Char → Bool} {k : Option Char → List Char → Option SanCaps} {s : List Char} {r : SanCaps}
    (h : optChar ok s k = some r) :
    ∃ o rest, optOk ok o = true ∧ s = optC o ++ rest ∧ k o rest = some r := by
  cases s with
  | nil => exact ⟨none, [], rfl, rfl, h⟩
  | cons c rest =>
    by_cases hc : ok c = true
    · cases hk : k (some c) rest with
      | some r' =>
        simp only [optChar, hc, if_true, hk, Option.some.injEq] at h
        subst h; exact ⟨some c, rest, hc, rfl, hk⟩
      | none =>
        simp only [optChar, hc, if_true, hk] at h
        exact ⟨none, c :: rest, rfl, rfl, h⟩
    · simp only [optChar, hc, Bool.false_eq_true, if_false] at h
      exact ⟨none, c :: rest, rfl, rfl, h⟩

theorem suffixOk_render (sfx : Option Char) (annot : List Char) (h1 : optOk isCheckMark sfx = true)
    (h2 : annot.all isAnnot = true) : suffixOk (optC sfx ++ annot) = true := by
  have hall : (annot.all fun c => c == '!' || c == '?') = true := h2
  cases sfx with
  | some c =>
    have hc : (c == '+' || c == '#') = true := h1
    simp only [suffixOk, optC, List.cons_append, List.nil_append, hc, if_true, hall]
  | none =>
    cases annot with
    | nil => rfl
    | cons a rest =>
      have ha : isAnnot a = true := by simp only [List.all_cons, Bool.and_eq_true] at h2; exact h2.1
      have : (a == '+' || a == '#') = false := by
        have : isCheckMark a = false := by char_omega
        exact this
      simp only [suffixOk, optC, List.nil_append, this, Bool.false_eq_true, if_false, hall]

theorem suffixOk_inv {s : List Char} (h : suffixOk s = true) :
    ∃ sfx annot, optOk isCheckMark sfx = true ∧ annot.all isAnnot = true ∧ s = optC sfx ++ annot := by
  cases s with
  | nil => exact ⟨none, [], rfl, rfl, rfl⟩
  | cons c rest =>
    unfold suffixOk at h
    simp only at h
    split at h
    · next hc => exact ⟨some c, rest, hc, h, rfl⟩
    · exact ⟨none, c :: rest, rfl, h, rfl⟩

/-- the fall-back branch of both alternatives: the rest is a suffix -/
theorem suffix_branch {rest : List Char} {y r : SanCaps} (h : (if suffixOk rest then some y else none) = some r) :
    ∃ sfx annot, optOk isCheckMark sfx = true ∧ annot.all isAnnot = true ∧ rest = optC sfx ++ annot ∧ r = y := by
  split at h
  · next hs =>
    obtain ⟨sfx, annot, h1, h2, e⟩ := suffixOk_inv hs
    cases h
    exact ⟨sfx, annot, h1, h2, e, rfl⟩
  · cases h

theorem suffix_headNot {p : Char → Bool} (hp : ∀ c, (isCheckMark c = true ∨ isAnnot c = true) → p c = false)
    (sfx : Option Char) (annot : List Char) (h1 : optOk isCheckMark sfx = true) (h2 : annot.all isAnnot = true) :
    HeadNot p (optC sfx ++ annot) := by
  intro c rest e
  cases sfx with
  | some q =>
    simp only [optC, List.cons_append, List.nil_append, List.cons.injEq] at e
    rw [← e.1]; exact hp q (Or.inl h1)
  | none =>
    simp only [optC, List.nil_append] at e
    subst e
    simp only [List.all_cons, Bool.and_eq_true] at h2
    exact hp c (Or.inr h2.1)

def promoChars : Option Char → List Char
  | some q => ['=', q]
  | none => []

def tailChars (promo sfx : Option Char) (annot : List Char) : List Char := promoChars promo ++ (optC sfx ++ annot)

theorem tail_headNot {p : Char → Bool} (hp : ∀ c, (isCheckMark c = true ∨ isAnnot c = true ∨ c = '=') → p c = false)
    (promo sfx : Option Char) (annot : List Char) (h1 : optOk isCheckMark sfx = true) (h2 : annot.all isAnnot = true) :
    HeadNot p (tailChars promo sfx annot) := by
  cases promo with
  | some q => exact headNot_cons (hp '=' (Or.inr (Or.inr rfl)))
  | none =>
    exact suffix_headNot (fun c hc => hp c (hc.elim Or.inl (fun h => Or.inr (Or.inl h)))) sfx annot h1 h2

theorem matchTail_none {caps : SanCaps} {s : List Char} (h : HeadNot isFile s) : matchTail caps s = none := by
  unfold matchTail
  split
  · next f r rest => rw [isFileChar_eq, h f _ rfl]; rfl
  · rfl

theorem matchTail_render (caps : SanCaps) (hcp : caps.promotion = none) (tf tr : Char) (promo sfx : Option Char)
    (annot : List Char) (htf : isFile tf = true) (htr : isRank tr = true) (hpr : optOk isPromoLetter promo = true)
    (h1 : optOk isCheckMark sfx = true) (h2 : annot.all isAnnot = true) :
    matchTail caps (tf :: tr :: tailChars promo sfx annot) =
      some { caps with target := some (tf, tr), promotion := promo } := by
  have hs := suffixOk_render sfx annot h1 h2
  cases promo with
  | some q =>
    have hq : "BNRQ".toList.contains q = true := by rw [promoSet_eq]; exact hpr
    simp only [matchTail, isFileChar_eq, isRankChar_eq, htf, htr, Bool.and_self, if_true, tailChars, promoChars,
      List.cons_append, List.nil_append, hq, hs]
  | none =>
    have hne : HeadNot (· == '=') (optC sfx ++ annot) :=
      suffix_headNot (fun c hc => by rcases hc with hc | hc <;> char_omega) sfx annot h1 h2
    simp only [matchTail, isFileChar_eq, isRankChar_eq, htf, htr, Bool.and_self, if_true, tailChars, promoChars,
      List.nil_append]
    split
    · next p rest' e => have := hne _ _ e; simp at this
    · simp only [hs, if_true]; rw [← hcp]

theorem matchTail_inv {caps r : SanCaps} {s : List Char} (h : matchTail caps s = some r) :
    ∃ tf tr promo sfx annot, isFile tf = true ∧ isRank tr = true ∧ optOk isPromoLetter promo = true ∧
      optOk isCheckMark sfx = true ∧ annot.all isAnnot = true ∧ s = tf :: tr :: tailChars promo sfx annot ∧
      r = { caps with target := some (tf, tr), promotion := promo.or caps.promotion } := by
  unfold matchTail at h
  split at h
  · next f rk rest =>
    split at h
    · next hfr =>
      rw [isFileChar_eq, isRankChar_eq, Bool.and_eq_true] at hfr
      split at h
      · next p rest' =>
        split at h
        · next hq =>
          rw [Bool.and_eq_true, promoSet_eq] at hq
          obtain ⟨sfx, annot, h1, h2, e⟩ := suffixOk_inv hq.2
          cases h
          exact ⟨f, rk, some p, sfx, annot, hfr.1, hfr.2, hq.1, h1, h2, by rw [e]; rfl, rfl⟩
        · obtain ⟨sfx, annot, h1, h2, e, hr⟩ := suffix_branch h
          exact ⟨f, rk, none, sfx, annot, hfr.1, hfr.2, rfl, h1, h2, by rw [e]; rfl, hr⟩
      · obtain ⟨sfx, annot, h1, h2, e, hr⟩ := suffix_branch h
        exact ⟨f, rk, none, sfx, annot, hfr.1, hfr.2, rfl, h1, h2, by rw [e]; rfl, hr⟩
    · cases h
  · cases h

def capsOf (sh : SanShape) : SanCaps :=
  match sh.body with
  | .move piece ff fr takes tf tr promo =>
    { piece := piece, fromFile := ff, fromRank := fr, takes := takes, target := some (tf, tr), promotion := promo }
  | .castle long => { castle := true, longCastle := long }

def takesChars (takes : Bool) : List Char := if takes then ['x'] else []

theorem optC_none : optC none = [] := rfl
theorem optC_some (c : Char) : optC (some c) = [c] := rfl

/-- one optional group on a printed text: a written character is taken; an absent one is skipped because the rest
does not begin with a character of the class, or because taking that character makes the continuation fail -/
theorem optChar_render {ok : Char → Bool} {k : Option Char → List Char → Option SanCaps} {o : Option Char}
    {rest : List Char} {r : SanCaps} (ho : optOk ok o = true) (hk : k o rest = some r)
    (hs : o = none → HeadNot ok rest ∨ ∃ c t, rest = c :: t ∧ k (some c) t = none) :
    optChar ok (optC o ++ rest) k = some r := by
  cases o with
  | some c => exact optChar_hit ho hk
  | none =>
    rw [optC_none, List.nil_append]
    rcases hs rfl with h | ⟨c, t, rfl, h⟩
    · rw [optChar_skip h]; exact hk
    · rw [optChar_backtrack h]; exact hk

theorem renderSan_move (piece ff fr : Option Char) (takes : Bool) (tf tr : Char) (promo sfx : Option Char)
    (annot : List Char) :
    renderSan ⟨.move piece ff fr takes tf tr promo, sfx, annot⟩ =
      optC piece ++ (optC ff ++ (optC fr ++ (takesChars takes ++ (tf :: tr :: tailChars promo sfx annot)))) := by
  cases piece <;> cases ff <;> cases fr <;> cases takes <;> cases promo <;> rfl

section Move
variable (piece ff fr : Option Char) (takes : Bool) (tf tr : Char) (promo sfx : Option Char) (annot : List Char)
  (htf : isFile tf = true) (htr : isRank tr = true) (hpr : optOk isPromoLetter promo = true)
  (h1 : optOk isCheckMark sfx = true) (h2 : annot.all isAnnot = true)
include htf htr hpr h1 h2

omit htf hpr in
/-- the wrong decomposition "target file read as source file" fails and is backtracked -/
theorem stageF_greedy_fails :
    optChar isRankChar (tr :: tailChars promo sfx annot)
      (fun fr s => optChar (· == 'x') s
        (fun x s => matchTail { piece, fromFile := some tf, fromRank := fr, takes := x.isSome } s)) = none := by
  have hx : HeadNot (· == 'x') (tailChars promo sfx annot) :=
    tail_headNot (fun c hc => by rcases hc with hc | hc | hc <;> char_omega) promo sfx annot h1 h2
  have hf : HeadNot isFile (tailChars promo sfx annot) :=
    tail_headNot (fun c hc => by rcases hc with hc | hc | hc <;> char_omega) promo sfx annot h1 h2
  have hx' : HeadNot (· == 'x') (tr :: tailChars promo sfx annot) := headNot_cons (by char_omega)
  have hf' : HeadNot isFile (tr :: tailChars promo sfx annot) := headNot_cons (by char_omega)
  rw [optChar_backtrack]
  · rw [optChar_skip hx']; exact matchTail_none hf'
  · rw [optChar_skip hx]; exact matchTail_none hf

/-- all four optional groups; the only absent group whose class the next character belongs to is the source file
of a bare pawn move (`e4`): there the greedy reading fails and is backtracked -/
theorem matchMove_render (hp : optOk isPieceLetter piece = true) (hff : optOk isFile ff = true)
    (hfr : optOk isRank fr = true) :
    matchMove (optC piece ++ (optC ff ++ (optC fr ++ (takesChars takes ++ (tf :: tr :: tailChars promo sfx annot))))) =
    some { piece, fromFile := ff, fromRank := fr, takes := takes, target := some (tf, tr), promotion := promo } := by
  have hx : takesChars takes = optC (if takes then some 'x' else none) := by cases takes <;> rfl
  have hxs : (if takes then some 'x' else none : Option Char).isSome = takes := by cases takes <;> rfl
  unfold matchMove
  rw [hx]
  refine optChar_render (o := piece) ?_ ?_ ?_
  · cases piece with
    | none => rfl
    | some c => exact (pieceSet_eq c).trans hp
  · refine optChar_render (o := ff) hff ?_ ?_
    · refine optChar_render (o := fr) hfr ?_ ?_
      · refine optChar_render (by cases takes <;> rfl) ?_ ?_
        · rw [hxs]
          exact matchTail_render _ rfl tf tr promo sfx annot htf htr hpr h1 h2
        · exact fun _ => .inl (headNot_cons (by char_omega))
      · intro _
        rw [isRankChar_eq]
        cases takes <;> exact .inl (headNot_cons (by char_omega))
    · intro _
      rw [isFileChar_eq]
      cases fr with
      | some r => exact .inl (headNot_cons (by have : isRank r = true := hfr; char_omega))
      | none =>
        cases takes with
        | true => exact .inl (headNot_cons (by char_omega))
        | false => exact .inr ⟨tf, _, rfl, stageF_greedy_fails piece tf tr promo sfx annot htr h1 h2⟩
  · intro _
    simp only [pieceSet_eq]
    cases ff with
    | some f => exact .inl (headNot_cons (by have : isFile f = true := hff; char_omega))
    | none =>
      cases fr with
      | some r => exact .inl (headNot_cons (by have : isRank r = true := hfr; char_omega))
      | none => cases takes <;> exact .inl (headNot_cons (by char_omega))

end Move

theorem matchMove_castle_none (rest : List Char) : matchMove ('O' :: rest) = none := by
  unfold matchMove
  rw [optChar_skip (headNot_cons (by decide)), optChar_skip (headNot_cons (by decide)),
    optChar_skip (headNot_cons (by decide)), optChar_skip (headNot_cons (by decide))]
  exact matchTail_none (headNot_cons (by decide))

theorem matchCastle_render (long : Bool) (sfx : Option Char) (annot : List Char)
    (h1 : optOk isCheckMark sfx = true) (h2 : annot.all isAnnot = true) :
    matchCastle (renderBody (.castle long) ++ (optC sfx ++ annot)) = some { castle := true, longCastle := long } := by
  have hs := suffixOk_render sfx annot h1 h2
  cases long with
  | true =>
    simp only [renderBody, List.cons_append, List.nil_append, matchCastle, hs, if_true]
  | false =>
    have hne : HeadNot (· == '-') (optC sfx ++ annot) :=
      suffix_headNot (fun c hc => by rcases hc with hc | hc <;> char_omega) sfx annot h1 h2
    simp only [renderBody, List.cons_append, List.nil_append, matchCastle]
    split
    · next rest' e => have := hne _ _ e; simp at this
    · simp only [hs, if_true]

theorem sanCaptures_render (sh : SanShape) (h : sh.wf = true) : sanCaptures (renderSan sh) = some (capsOf sh) := by
  obtain ⟨body, sfx, annot⟩ := sh
  simp only [SanShape.wf, Bool.and_eq_true] at h
  obtain ⟨⟨hb, h1⟩, h2⟩ := h
  cases body with
  | move piece ff fr takes tf tr promo =>
    simp only [SanBody.wf, Bool.and_eq_true] at hb
    obtain ⟨⟨⟨⟨⟨hp, hff⟩, hfr⟩, htf⟩, htr⟩, hpr⟩ := hb
    rw [renderSan_move, sanCaptures,
      matchMove_render piece ff fr takes tf tr promo sfx annot htf htr hpr h1 h2 hp hff hfr]
    rfl
  | castle long =>
    have e : renderSan ⟨.castle long, sfx, annot⟩ = 'O' :: ('-' :: 'O' :: (if long then ['-', 'O'] else []) ++ (optC sfx ++ annot)) := by
      cases long <;> rfl
    rw [sanCaptures, e, matchMove_castle_none]
    have := matchCastle_render long sfx annot h1 h2
    rw [show renderBody (.castle long) ++ (optC sfx ++ annot) =
      'O' :: ('-' :: 'O' :: (if long then ['-', 'O'] else []) ++ (optC sfx ++ annot)) by cases long <;> rfl] at this
    simp only [this]
    rfl

theorem matchMove_inv {s : List Char} {r : SanCaps} (h : matchMove s = some r) :
    ∃ sh : SanShape, sh.wf = true ∧ renderSan sh = s ∧ capsOf sh = r := by
  unfold matchMove at h
  obtain ⟨piece, s1, hp, e1, h⟩ := optChar_some h
  obtain ⟨ff, s2, hff, e2, h⟩ := optChar_some h
  obtain ⟨fr, s3, hfr, e3, h⟩ := optChar_some h
  obtain ⟨x, s4, hx, e4, h⟩ := optChar_some h
  obtain ⟨tf, tr, promo, sfx, annot, htf, htr, hpr, h1, h2, e5, hr⟩ := matchTail_inv h
  refine ⟨⟨.move piece ff fr x.isSome tf tr promo, sfx, annot⟩, ?_, ?_, ?_⟩
  · simp only [pieceSet_eq] at hp
    rw [isFileChar_eq] at hff; rw [isRankChar_eq] at hfr
    simp only [SanShape.wf, SanBody.wf, hp, hff, hfr, htf, htr, hpr, h1, h2, Bool.and_self]
  · rw [renderSan_move, e1, e2, e3, e4, e5]
    cases x with
    | none => rfl
    | some c =>
      have : c = 'x' := by simpa [optOk] using hx
      subst this; rfl
  · rw [hr]; cases promo <;> rfl

theorem matchCastle_inv {s : List Char} {r : SanCaps} (h : matchCastle s = some r) :
    ∃ sh : SanShape, sh.wf = true ∧ renderSan sh = s ∧ capsOf sh = r := by
  have wf : ∀ long sfx annot, optOk isCheckMark sfx = true → annot.all isAnnot = true →
      (⟨.castle long, sfx, annot⟩ : SanShape).wf = true := fun long sfx annot h1 h2 => by
    simp only [SanShape.wf, SanBody.wf, h1, h2, Bool.and_self]
  unfold matchCastle at h
  split at h
  · next rest =>
    split at h
    · next rest' =>
      split at h
      · next hs =>
        obtain ⟨sfx, annot, h1, h2, e⟩ := suffixOk_inv hs
        cases h
        exact ⟨⟨.castle true, sfx, annot⟩, wf _ _ _ h1 h2, by rw [e]; rfl, rfl⟩
      · obtain ⟨sfx, annot, h1, h2, e, hr⟩ := suffix_branch h
        exact ⟨⟨.castle false, sfx, annot⟩, wf _ _ _ h1 h2, by rw [e]; rfl, hr.symm⟩
    · obtain ⟨sfx, annot, h1, h2, e, hr⟩ := suffix_branch h
      exact ⟨⟨.castle false, sfx, annot⟩, wf _ _ _ h1 h2, by rw [e]; rfl, hr.symm⟩
  · cases h

theorem sanCaptures_inv {s : List Char} {r : SanCaps} (h : sanCaptures s = some r) :
    ∃ sh : SanShape, sh.wf = true ∧ renderSan sh = s ∧ capsOf sh = r := by
  unfold sanCaptures at h
  split at h
  · next c hc => cases h; exact matchMove_inv hc
  · exact matchCastle_inv h

theorem sanCaptures_some_iff (s : List Char) (r : SanCaps) :
    sanCaptures s = some r ↔ ∃ sh : SanShape, sh.wf = true ∧ renderSan sh = s ∧ capsOf sh = r :=
  ⟨sanCaptures_inv, fun ⟨sh, hw, hs, hr⟩ => by rw [← hs, ← hr]; exact sanCaptures_render sh hw⟩

theorem sanCaptures_none {s : List Char} (h : ¬ ∃ sh : SanShape, sh.wf = true ∧ renderSan sh = s) :
    sanCaptures s = none := by
  cases hc : sanCaptures s with
  | none => rfl
  | some r => obtain ⟨sh, hw, hs, _⟩ := sanCaptures_inv hc; exact absurd ⟨sh, hw, hs⟩ h

theorem optC_all {p q : Char → Bool} (hpq : ∀ c, p c = true → q c = true) {o : Option Char}
    (h : optOk p o = true) : ∀ c ∈ optC o, q c = true := by
  cases o with
  | none => intro c hc; cases hc
  | some x => intro c hc; simp only [optC, List.mem_singleton] at hc; subst hc; exact hpq _ h

theorem renderSan_alphabet {sh : SanShape} (h : sh.wf = true) : ∀ c ∈ renderSan sh, isSanChar c = true := by
  obtain ⟨body, sfx, annot⟩ := sh
  simp only [SanShape.wf, Bool.and_eq_true] at h
  obtain ⟨⟨hb, h1⟩, h2⟩ := h
  have hs : ∀ c ∈ optC sfx ++ annot, isSanChar c = true := by
    intro c hc
    rw [List.mem_append] at hc
    rcases hc with hc | hc
    · exact optC_all (q := isSanChar) (fun c h => by simp [isSanChar, h]) h1 c hc
    · have := List.all_eq_true.mp h2 c hc; simp [isSanChar, this]
  intro c hc
  unfold renderSan at hc
  rw [List.mem_append] at hc
  rcases hc with hc | hc
  · cases body with
    | castle long =>
      have : ∀ c ∈ renderBody (.castle long), isSanChar c = true := by cases long <;> decide
      exact this c hc
    | move piece ff fr takes tf tr promo =>
      simp only [SanBody.wf, Bool.and_eq_true] at hb
      obtain ⟨⟨⟨⟨⟨hp, hff⟩, hfr⟩, htf⟩, htr⟩, hpr⟩ := hb
      simp only [renderBody, List.mem_append, List.mem_cons] at hc
      rcases hc with hc | hc | hc | hc | rfl | rfl | hc
      · exact optC_all (q := isSanChar) (fun c h => by simp [isSanChar, h]) hp c hc
      · exact optC_all (q := isSanChar) (fun c h => by simp [isSanChar, h]) hff c hc
      · exact optC_all (q := isSanChar) (fun c h => by simp [isSanChar, h]) hfr c hc
      · cases takes
        · cases hc
        · simp at hc; subst hc; decide
      · simp [isSanChar, htf]
      · simp [isSanChar, htr]
      · cases promo with
        | none => cases hc
        | some q =>
          simp at hc
          rcases hc with rfl | rfl
          · decide
          · have : isPromoLetter c = true := hpr
            have : isPieceLetter c = true := by
              simp only [isPromoLetter, Bool.or_eq_true] at this
              simp only [isPieceLetter, Bool.or_eq_true]
              rcases this with ((h | h) | h) | h <;> simp [h]
            simp [isSanChar, this]
  · exact hs c hc

theorem renderSan_length {sh : SanShape} : 2 ≤ (renderSan sh).length := by
  obtain ⟨body, sfx, annot⟩ := sh
  cases body with
  | castle long => cases long <;> simp [renderSan, renderBody] <;> omega
  | move piece ff fr takes tf tr promo => simp [renderSan, renderBody]; omega

/-- the four-way case split of `uci_to_pgn`, on the list of candidate source squares -/
def modelDisamb (src : Nat) (cands : List Nat) (isPawn : Bool) : Disamb :=
  let shareRank := cands.any fun o => o / 8 == src / 8 && o % 8 != src % 8
  let shareFile := cands.any fun o => o % 8 == src % 8 && o / 8 != src / 8
  let anyOther := cands.any fun o => o != src
  if shareFile && isPawn then .file
  else if !shareFile && !isPawn && anyOther then .file
  else if shareFile && shareRank && !isPawn then .both
  else if shareFile && !shareRank && !isPawn then .rank
  else .none

theorem isEmpty_eq_all {α : Type} (l : List α) : l.isEmpty = l.all fun _ => false := by
  cases l <;> rfl

theorem anyOther_eq (src : Nat) (cands : List Nat) :
    (cands.any fun o => o != src) = !(cands.filter (· != src)).isEmpty := by
  rw [isEmpty_eq_all, List.all_filter, List.not_all_eq_any_not]
  exact List.any_congr rfl (fun a => by cases (a != src) <;> rfl)

theorem share_eq (f g : Nat → Nat) (hfg : ∀ o src, f o = f src → g o = g src → o = src) (src : Nat)
    (cands : List Nat) :
    (cands.any fun o => f o == f src && g o != g src) = !(cands.filter (· != src)).all (fun o => f o != f src) := by
  rw [List.all_filter, List.not_all_eq_any_not]
  refine List.any_congr rfl (fun a => ?_)
  rw [Bool.eq_iff_iff]
  simp only [Bool.and_eq_true, Bool.not_eq_true', beq_iff_eq, bne_iff_ne, ne_eq, Bool.or_eq_false_iff,
    Bool.not_eq_false', bne_eq_false_iff_eq]
  constructor
  · rintro ⟨h1, h2⟩
    exact ⟨fun e => h2 (e ▸ rfl), h1⟩
  · rintro ⟨h1, h2⟩
    exact ⟨h2, fun e => h1 (hfg a src h2 e)⟩

theorem shareFile_eq (src : Nat) (cands : List Nat) :
    (cands.any fun o => o % 8 == src % 8 && o / 8 != src / 8) =
      !(cands.filter (· != src)).all (fun o => o % 8 != src % 8) :=
  share_eq (· % 8) (· / 8) (fun o src h1 h2 => by omega) src cands

theorem shareRank_eq (src : Nat) (cands : List Nat) :
    (cands.any fun o => o / 8 == src / 8 && o % 8 != src % 8) =
      !(cands.filter (· != src)).all (fun o => o / 8 != src / 8) :=
  share_eq (· / 8) (· % 8) (fun o src h1 h2 => by omega) src cands

theorem disamb_standard (src : Nat) (cands : List Nat) :
    modelDisamb src cands false = standardDisamb src cands := by
  unfold modelDisamb standardDisamb
  simp only [anyOther_eq, shareFile_eq, shareRank_eq]
  cases he : (cands.filter (· != src)).isEmpty with
  | true =>
    rw [List.isEmpty_iff] at he
    simp only [he, List.all_nil, if_true]
    rfl
  | false =>
    generalize (cands.filter (· != src)).all (fun o => o % 8 != src % 8) = F
    generalize (cands.filter (· != src)).all (fun o => o / 8 != src / 8) = R
    cases F <;> cases R <;> rfl

theorem agrees_self (d : Disamb) (src : Nat) : d.agrees src src = true := by
  cases d <;> simp [Disamb.agrees]

theorem disamb_unique (src : Nat) (cands : List Nat) (o : Nat) (ho : o ∈ cands)
    (h : (standardDisamb src cands).agrees src o = true) : o = src := by
  by_cases hne : o = src
  · exact hne
  · exfalso
    have hmem : o ∈ cands.filter (· != src) := by
      rw [List.mem_filter]; exact ⟨ho, by simpa using hne⟩
    unfold standardDisamb at h
    simp only at h
    split at h
    · next he => rw [List.isEmpty_iff] at he; rw [he] at hmem; cases hmem
    · split at h
      · next hF =>
        have := List.all_eq_true.mp hF o hmem
        simp only [Disamb.agrees, beq_iff_eq] at h
        simp only [bne_iff_ne, ne_eq] at this
        exact this h
      · split at h
        · next hR =>
          have := List.all_eq_true.mp hR o hmem
          simp only [Disamb.agrees, beq_iff_eq] at h
          simp only [bne_iff_ne, ne_eq] at this
          exact this h
        · simp only [Disamb.agrees, Bool.and_eq_true, beq_iff_eq] at h
          omega

theorem disamb_pawn (src : Nat) (cands : List Nat) (h : ∀ o ∈ cands, o % 8 = src % 8 → o = src) :
    modelDisamb src cands true = .none := by
  have : (cands.any fun o => o % 8 == src % 8 && o / 8 != src / 8) = false := by
    rw [← Bool.not_eq_true, List.any_eq_true]
    rintro ⟨o, ho, hh⟩
    simp only [Bool.and_eq_true, beq_iff_eq, bne_iff_ne, ne_eq] at hh
    have := h o ho hh.1
    subst this
    exact hh.2 rfl
  unfold modelDisamb
  simp only [this]
  rfl

def sanSuffix (b1 : Board) : Option Char :=
  if isCurrentInCheck b1 && !isAnyMoveLegal b1 (genPseudo b1) then some '#'
  else if isCurrentInCheck b1 then some '+' else none

theorem sanSuffix_ok (b1 : Board) : optOk isCheckMark (sanSuffix b1) = true := by
  unfold sanSuffix
  split
  · rfl
  · split <;> rfl

/-- `some long` when the text is a castling text -/
def castleKind (f : MoveF) : Option Bool :=
  if f.pieceMoved == KING then
    if f.source % 8 == 4 && f.target % 8 == 6 then some false
    else if f.source % 8 == 4 && f.target % 8 == 2 then some true else none
  else none

def letterOf : Nat → Option Char
  | 1 => some 'P' | 2 => some 'N' | 3 => some 'B' | 4 => some 'R' | 5 => some 'Q' | 6 => some 'K' | _ => none

theorem upperPieceLetter_toList (n : Nat) : (upperPieceLetter n).toList = optC (letterOf n) := by
  rcases n with _|_|_|_|_|_|_|n <;> first | rfl | decide

/-- source squares of the candidates of `uci_to_pgn` (legality tested on `b2`) -/
def candSources (b2 : Board) (moves : List Move) (f : MoveF) : List Nat :=
  (moves.filter fun (x : Move) => isMoveLegal b2 x && x.f.target == f.target && x.f.pieceMoved == f.pieceMoved).map
    fun x => x.f.source

def disambChars (d : Disamb) (src : Nat) : List Char :=
  optC (d.fileOf (fileChar src)) ++ optC (d.rankOf (rankChar src))

theorem disamb_text (cands : List Move) (src : Nat) (isPawn : Bool) :
    (if ((cands.any fun (m : Move) => m.f.source % 8 == src % 8 && m.f.source / 8 != src / 8) && isPawn) = true
      then String.ofList [fileChar src]
     else if (!(cands.any fun (m : Move) => m.f.source % 8 == src % 8 && m.f.source / 8 != src / 8) && !isPawn
        && cands.any fun (m : Move) => m.f.source != src) = true then String.ofList [fileChar src]
     else if ((cands.any fun (m : Move) => m.f.source % 8 == src % 8 && m.f.source / 8 != src / 8)
        && (cands.any fun (m : Move) => m.f.source / 8 == src / 8 && m.f.source % 8 != src % 8) && !isPawn) = true
       then String.ofList [fileChar src] ++ String.ofList [rankChar src]
     else if ((cands.any fun (m : Move) => m.f.source % 8 == src % 8 && m.f.source / 8 != src / 8)
        && !(cands.any fun (m : Move) => m.f.source / 8 == src / 8 && m.f.source % 8 != src % 8) && !isPawn) = true
       then String.ofList [rankChar src]
     else "").toList = disambChars (modelDisamb src (cands.map fun x => x.f.source) isPawn) src := by
  unfold modelDisamb
  simp only [List.any_map, Function.comp_def]
  split
  · simp [disambChars, Disamb.fileOf, Disamb.rankOf, optC]
  · split
    · simp [disambChars, Disamb.fileOf, Disamb.rankOf, optC]
    · split
      · simp [disambChars, Disamb.fileOf, Disamb.rankOf, optC]
      · split
        · simp [disambChars, Disamb.fileOf, Disamb.rankOf, optC]
        · simp [disambChars, Disamb.fileOf, Disamb.rankOf, optC]

def capturesOf (f : MoveF) : Bool := decide (1 ≤ f.pieceAttacked) && decide (f.pieceAttacked ≤ 6)
def promoOf (f : MoveF) : Option Char := if (decide (1 ≤ f.promotion) && decide (f.promotion ≤ 6)) = true then letterOf f.promotion else none

theorem promoOf_eq (f : MoveF) : promoOf f = letterOf f.promotion := by
  unfold promoOf
  split
  · rfl
  · next h =>
    simp only [Bool.and_eq_true, decide_eq_true_eq] at h
    rcases hp : f.promotion with _|_|_|_|_|_|_|n
    all_goals first | rfl | (exfalso; omega)

/-- the characters `uci_to_pgn` writes before the check mark, `cands` the source squares of its candidates.  Off legal
positions a pawn can carry a second file letter (the arm `(true, _, true)` of the disambiguation `match`), so this is not
always the rendering of a shape. -/
def bodyChars (cands : List Nat) (f : MoveF) : List Char :=
  match castleKind f with
  | some long => renderBody (.castle long)
  | none =>
    (if f.pieceMoved == PAWN then (if capturesOf f then [fileChar f.source] else []) else optC (letterOf f.pieceMoved)) ++
      (disambChars (modelDisamb f.source cands (f.pieceMoved == PAWN)) f.source ++
        (takesChars (capturesOf f) ++ (fileChar f.target :: rankChar f.target :: promoChars (promoOf f))))

/-- the whole text: `b2` is the board after make/unmake (the candidates are tested on it), `b1` the board after the move
(check and mate are tested on it) -/
def sanText (b b2 b1 : Board) (m : Move) : String :=
  String.ofList (bodyChars (candSources b2 (genPseudo b) m.f) m.f ++ optC (sanSuffix b1))

theorem uciToSan_eq (b : Board) (u : String) :
    uciToSan b u =
      match (genPseudo b).find? (fun m => m.uci == rustTrim u) with
      | none => (.error .notExist, b)
      | some m =>
        if !isValid (make b m) then (.error .notValid, unmake (make b m) m)
        else (.ok (sanText b (unmake (make b m) m) (make b m) m), unmake (make b m) m) := by
  unfold sanText
  unfold uciToSan
  simp only
  cases (genPseudo b).find? (fun m => m.uci == rustTrim u) with
  | none => rfl
  | some m =>
    simp only
    split
    · rfl
    · generalize unmake (make b m) m = b2
      have hsuf : (if (isCurrentInCheck (make b m) && !isAnyMoveLegal (make b m) (genPseudo (make b m))) = true then "#"
          else if isCurrentInCheck (make b m) = true then "+" else "").toList = optC (sanSuffix (make b m)) := by
        unfold sanSuffix; split
        · rfl
        · split <;> rfl
      have hck : (if (m.f.pieceMoved == KING) = true then
          if (m.f.source % 8 == 4 && m.f.target % 8 == 6) = true then some "O-O"
          else if (m.f.source % 8 == 4 && m.f.target % 8 == 2) = true then some "O-O-O" else none
        else none) = (castleKind m.f).map (fun long => if long then "O-O-O" else "O-O") := by
        unfold castleKind
        split
        · split
          · rfl
          · split <;> rfl
        · rfl
      rw [hck]
      unfold bodyChars
      cases castleKind m.f with
      | some long =>
        simp only [Option.map_some, Prod.mk.injEq, Except.ok.injEq, and_true]
        apply String.toList_inj.mp
        rw [String.toList_append, hsuf, String.toList_ofList]
        cases long <;> rfl
      | none =>
        simp only [Option.map_none, Prod.mk.injEq, Except.ok.injEq, and_true]
        apply String.toList_inj.mp
        have hcap : (if (decide (1 ≤ m.f.pieceAttacked) && decide (m.f.pieceAttacked ≤ 6)) = true then "x" else "").toList
            = takesChars (capturesOf m.f) := by
          unfold takesChars capturesOf; split <;> rfl
        have hsq : (squareString m.f.target).toList = [fileChar m.f.target, rankChar m.f.target] := by
          simp only [squareString, MoveBits.target_lt m, if_true, String.toList_ofList]
        have hpr : (if (decide (1 ≤ m.f.promotion) && decide (m.f.promotion ≤ 6)) = true
            then "=" ++ upperPieceLetter m.f.promotion else "").toList = promoChars (promoOf m.f) := by
          unfold promoOf
          split
          · next h =>
            simp only [Bool.and_eq_true, decide_eq_true_eq] at h
            rw [String.toList_append, upperPieceLetter_toList]
            have : m.f.promotion = 1 ∨ m.f.promotion = 2 ∨ m.f.promotion = 3 ∨ m.f.promotion = 4 ∨
              m.f.promotion = 5 ∨ m.f.promotion = 6 := by omega
            rcases this with e | e | e | e | e | e <;> rw [e] <;> rfl
          · rfl
        simp only [String.toList_append, String.toList_ofList, hsuf, hcap, hsq, hpr, disamb_text, List.append_assoc]
        have hcs : (List.filter (fun (x : Move) => isMoveLegal b2 x && x.f.target == m.f.target &&
            x.f.pieceMoved == m.f.pieceMoved) (genPseudo b)).map (fun x => x.f.source)
            = candSources b2 (genPseudo b) m.f := rfl
        rw [hcs]
        have hcf : (decide (1 ≤ m.f.pieceAttacked) && decide (m.f.pieceAttacked ≤ 6)) = capturesOf m.f := rfl
        rw [hcf]
        cases hp : (m.f.pieceMoved == PAWN)
        · simp only [Bool.not_false, if_true, Bool.false_eq_true, if_false, upperPieceLetter_toList, List.cons_append,
            List.nil_append]
        · simp only [Bool.not_true, Bool.false_eq_true, if_false, if_true]
          cases capturesOf m.f <;> simp

def sanBodyOf (cands : List Nat) (f : MoveF) : SanBody :=
  match castleKind f with
  | some long => .castle long
  | none =>
    if f.pieceMoved == PAWN then
      .move none (if capturesOf f then some (fileChar f.source) else none) none (capturesOf f)
        (fileChar f.target) (rankChar f.target) (promoOf f)
    else
      let d := modelDisamb f.source cands false
      .move (letterOf f.pieceMoved) (d.fileOf (fileChar f.source)) (d.rankOf (rankChar f.source)) (capturesOf f)
        (fileChar f.target) (rankChar f.target) (promoOf f)

/-- on legal positions (`hp`: a pawn gets no hint from the table, `disamb_pawn`) the body is the rendering of `sanBodyOf` -/
theorem bodyChars_render (cands : List Nat) (f : MoveF)
    (hp : f.pieceMoved = PAWN → modelDisamb f.source cands true = .none) :
    bodyChars cands f = renderBody (sanBodyOf cands f) := by
  unfold bodyChars sanBodyOf
  cases castleKind f with
  | some long => rfl
  | none =>
    cases hpawn : (f.pieceMoved == PAWN)
    · simp only [Bool.false_eq_true, if_false, renderBody, disambChars, takesChars, promoChars, List.append_assoc]
      cases promoOf f <;> rfl
    · simp only [if_true, hp (by simpa using hpawn), renderBody, disambChars, Disamb.fileOf, Disamb.rankOf, takesChars,
        promoChars, optC, List.nil_append]
      cases capturesOf f <;> cases promoOf f <;> rfl

theorem fileChar_isFile (sq : Nat) : isFile (fileChar sq) = true := by
  have : ∀ k, k < 8 → isFile (Char.ofNat (97 + k)) = true := by decide
  exact this _ (Nat.mod_lt _ (by decide))

theorem rankChar_isRank {sq : Nat} (h : sq < 64) : isRank (rankChar sq) = true := by
  have : ∀ k, k < 8 → isRank (Char.ofNat (56 - k)) = true := by decide
  exact this _ (by omega)

def NoMark (s : String) : Prop := ∀ c ∈ s.toList, isCheckMark c = false

theorem NoMark.single {c : Char} (h : isCheckMark c = false) : NoMark (String.ofList [c]) := by
  intro x hx; rw [String.toList_ofList, List.mem_singleton] at hx; subst hx; exact h
theorem NoMark.letter (n : Nat) : NoMark (upperPieceLetter n) := by
  intro c hc
  rw [upperPieceLetter_toList] at hc
  rcases n with _|_|_|_|_|_|_|n <;> simp [letterOf, optC] at hc <;> subst hc <;> decide
theorem NoMark.square (sq : Nat) : NoMark (squareString sq) := by
  unfold squareString
  split
  · next h =>
    intro c hc
    rw [String.toList_ofList] at hc
    simp only [List.mem_cons, List.not_mem_nil, or_false] at hc
    rcases hc with rfl | rfl
    · have := fileChar_isFile sq; char_omega
    · have := rankChar_isRank h; char_omega
  · exact fun _ h => by cases h
theorem bodyChars_noMark (cands : List Nat) (m : Move) : ∀ c ∈ bodyChars cands m.f, isCheckMark c = false := by
  have hf : ∀ sq, isCheckMark (fileChar sq) = false := fun sq => by have := fileChar_isFile sq; char_omega
  have hr : ∀ sq, sq < 64 → isCheckMark (rankChar sq) = false := fun sq h => by have := rankChar_isRank h; char_omega
  have hl : ∀ n, ∀ c ∈ optC (letterOf n), isCheckMark c = false := fun n c hc => NoMark.letter n c (by rwa [upperPieceLetter_toList])
  have hs := MoveBits.source_lt m
  have ht := MoveBits.target_lt m
  intro c hc
  unfold bodyChars at hc
  split at hc
  · next long _ => revert c; cases long <;> decide
  · simp only [List.mem_append, List.mem_cons] at hc
    rcases hc with hc | hc | hc | rfl | rfl | hc
    · split at hc
      · split at hc
        · rw [List.mem_singleton.mp hc]; exact hf _
        · cases hc
      · exact hl _ c hc
    · generalize modelDisamb m.f.source cands (m.f.pieceMoved == PAWN) = d at hc
      cases d <;> simp [disambChars, Disamb.fileOf, Disamb.rankOf, optC] at hc
      · rw [hc]; exact hf _
      · rw [hc]; exact hr _ hs
      · rcases hc with rfl | rfl
        · exact hf _
        · exact hr _ hs
    · unfold takesChars at hc; split at hc
      · rw [List.mem_singleton.mp hc]; decide
      · cases hc
    · exact hf _
    · exact hr _ ht
    · rw [promoOf_eq] at hc
      cases hq : letterOf m.f.promotion with
      | none => rw [hq] at hc; cases hc
      | some q =>
        rw [hq] at hc
        simp only [promoChars, List.mem_cons, List.not_mem_nil, or_false] at hc
        rcases hc with rfl | rfl
        · decide
        · exact hl m.f.promotion _ (by rw [hq]; exact List.mem_singleton.mpr rfl)

theorem getLast?_chars {body : List Char} (hb : ∀ c ∈ body, isCheckMark c = false) (sfx : Option Char) (mark : Char)
    (hm : isCheckMark mark = true) : (body ++ optC sfx).getLast? = some mark ↔ sfx = some mark := by
  cases sfx with
  | some c => simp only [optC, List.getLast?_append, List.getLast?_singleton, Option.some_or, Option.some.injEq]
  | none =>
    simp only [optC, List.append_nil]
    constructor
    · intro h; rw [hb mark (List.mem_of_getLast? h)] at hm; cases hm
    · intro h; cases h

theorem sanSuffix_eq (b1 : Board) :
    sanSuffix b1 = if isCurrentInCheck b1 then (if (genLegal b1).isEmpty then some '#' else some '+') else none := by
  unfold sanSuffix
  rw [BoardCongr.isAnyMoveLegal_genPseudo, Bool.not_not]
  cases isCurrentInCheck b1 <;> cases (genLegal b1).isEmpty <;> rfl

theorem sanSuffix_hash (b1 : Board) :
    sanSuffix b1 = some '#' ↔ (isCurrentInCheck b1 = true ∧ genLegal b1 = []) := by
  rw [sanSuffix_eq, ← List.isEmpty_iff]
  cases isCurrentInCheck b1 <;> cases (genLegal b1).isEmpty <;> decide

theorem sanSuffix_plus (b1 : Board) :
    sanSuffix b1 = some '+' ↔ (isCurrentInCheck b1 = true ∧ genLegal b1 ≠ []) := by
  rw [sanSuffix_eq, Ne, ← List.isEmpty_iff]
  cases isCurrentInCheck b1 <;> cases (genLegal b1).isEmpty <;> decide

theorem sanSuffix_none (b1 : Board) : sanSuffix b1 = none ↔ isCurrentInCheck b1 = false := by
  rw [sanSuffix_eq]
  cases isCurrentInCheck b1 <;> cases (genLegal b1).isEmpty <;> decide

end Inkayaku.SanProofs

namespace Inkayaku.MoveText
open Inkayaku.Board Inkayaku.WF Inkayaku.San Inkayaku.Util Inkayaku.BoardCongr

theorem uciToSan_eq_find (b : Board) (u : String) :
    uciToSan b u = match (findUci b u).1 with
      | .ok m => (.ok (SanProofs.sanText b (findUci b u).2 (make b m) m), (findUci b u).2)
      | .error e => (.error e, (findUci b u).2) := by
  rw [SanProofs.uciToSan_eq, findUci_eq]
  cases (genPseudo b).find? (fun m => m.uci == rustTrim u) with
  | none => rfl
  | some m => cases h : isValid (make b m) <;> simp [h]

theorem uciToSan_eq_findUci (b : Board) (s : String) :
    (uciToSan b s).2 = (findUci b s).2 ∧
    (∀ e, (uciToSan b s).1 = .error e ↔ (findUci b s).1 = .error e) ∧
    ((∃ t, (uciToSan b s).1 = .ok t) ↔ ∃ m, (findUci b s).1 = .ok m) := by
  rw [uciToSan_eq_find]
  cases (findUci b s).1 <;> simp

theorem uciToSan_pure {b : Board} (hwf : wf b = true) (s : String) : vis (uciToSan b s).2 = vis b := by
  rw [(uciToSan_eq_findUci b s).1]; exact findUci_pure hwf s

theorem uciToSan_err_iff (b : Board) (s : String) (e : UciErr) :
    (uciToSan b s).1 = .error e ↔ (findUci b s).1 = .error e := (uciToSan_eq_findUci b s).2.1 e

theorem uciToSan_ok_iff (b : Board) (s : String) :
    (∃ t, (uciToSan b s).1 = .ok t) ↔ ∃ m, (findUci b s).1 = .ok m := (uciToSan_eq_findUci b s).2.2

end Inkayaku.MoveText

namespace Inkayaku.SanProofs
open Inkayaku.Board Inkayaku.San Inkayaku.Spec.SanGrammar Inkayaku.Util

theorem uciToSan_ok {b : Board} {u s : String} (h : (uciToSan b u).1 = .ok s) :
    ∃ m, (genPseudo b).find? (fun m => m.uci == rustTrim u) = some m ∧ isMoveLegal b m = true ∧
      s = sanText b (unmake (make b m) m) (make b m) m := by
  rw [MoveText.uciToSan_eq_find] at h
  cases hf : (findUci b u).1 with
  | error e => rw [hf] at h; cases h
  | ok m =>
    rw [hf] at h; cases h
    obtain ⟨hfirst, hv⟩ := (MoveText.findUci_ok_iff_first b u m).mp hf
    rw [← MoveText.find?_eq_some_iff_first] at hfirst
    exact ⟨m, hfirst, hv, by rw [MoveText.findUci_snd, hfirst]⟩

/-- move `m` is consistent with the captures of a SAN text: exactly the three filters of `pgn_to_bb` -/
def consistent (caps : SanCaps) (m : Move) : Bool :=
  let fileOk := match caps.fromFile with | some c => m.f.source % 8 == fileIdx c | none => true
  let rankOk := match caps.fromRank with | some c => m.f.source / 8 == rowIdx c | none => true
  let targetOk := match caps.target with
    | some (f, r) => m.f.target == fileIdx f + 8 * rowIdx r
    | none => false
  match caps.piece with
  | some p => m.f.pieceMoved == pieceOfLetter p && (!caps.takes || m.isAttack) && fileOk && rankOk && targetOk
  | none =>
    if caps.castle then m.f.castle && m.f.target % 8 == (if caps.longCastle then 2 else 6)
    else m.f.pieceMoved == PAWN && (!caps.takes || m.isAttack)
      && (match caps.promotion with
          | some p => m.isPromotion && m.f.promotion == pieceOfLetter p
          | none => true)
      && fileOk && targetOk

theorem filter_legal_genLegal (b : Board) (p : Move → Bool) :
    ((genLegal b).filter p).filter (isMoveLegal b) = (genLegal b).filter p := by
  rw [List.filter_eq_self]
  intro m hm
  have := (List.mem_filter.mp hm).1
  unfold genLegal at this
  exact (List.mem_filter.mp this).2

theorem sanToMove_eq (b : Board) (s : String) :
    sanToMove b s =
      match sanCaptures s.toList with
      | none => none
      | some caps =>
        match (genLegal b).filter (consistent caps) with
        | [m] => some m
        | _ => none := by
  unfold sanToMove
  cases hc : sanCaptures s.toList with
  | none => rfl
  | some caps =>
    obtain ⟨piece, ff, fr, takes, target, promo, castle, long⟩ := caps
    cases piece with
    | some p =>
      simp only [filter_legal_genLegal]
      rfl
    | none =>
      cases castle with
      | true => simp only [if_true, filter_legal_genLegal]; rfl
      | false => simp only [Bool.false_eq_true, if_false, filter_legal_genLegal]; rfl

theorem singleton_of_match {l : List Move} {m : Move}
    (h : (match l with | [x] => some x | _ => none) = some m) : l = [m] := by
  split at h
  · next x => cases h; rfl
  · cases h

theorem sanToMove_some_iff (b : Board) (s : String) (m : Move) :
    sanToMove b s = some m ↔
      ∃ caps, sanCaptures s.toList = some caps ∧ (genLegal b).filter (consistent caps) = [m] := by
  rw [sanToMove_eq]
  constructor
  · intro h
    split at h
    · cases h
    · next caps hc => exact ⟨caps, hc, singleton_of_match h⟩
  · rintro ⟨caps, hc, hl⟩
    simp only [hc, hl]

theorem filter_singleton {l : List Move} {p : Move → Bool} {m : Move} (h : l.filter p = [m]) :
    m ∈ l ∧ p m = true ∧ ∀ x ∈ l, p x = true → x = m := by
  have hm : m ∈ l.filter p := by rw [h]; exact List.mem_singleton.mpr rfl
  refine ⟨(List.mem_filter.mp hm).1, (List.mem_filter.mp hm).2, fun x hx hp => ?_⟩
  have : x ∈ l.filter p := List.mem_filter.mpr ⟨hx, hp⟩
  rw [h] at this
  exact List.mem_singleton.mp this

theorem sanToMove_sound {b : Board} {s : String} {m : Move} (h : sanToMove b s = some m) :
    ∃ sh : SanShape, sh.wf = true ∧ renderSan sh = s.toList ∧
      m ∈ genLegal b ∧ consistent (capsOf sh) m = true ∧
      (∀ m' ∈ genLegal b, consistent (capsOf sh) m' = true → m' = m) ∧
      (genLegal b).filter (consistent (capsOf sh)) = [m] := by
  obtain ⟨caps, hc, hl⟩ := (sanToMove_some_iff b s m).mp h
  obtain ⟨sh, hw, hs, rfl⟩ := sanCaptures_inv hc
  obtain ⟨h1, h2, h3⟩ := filter_singleton hl
  exact ⟨sh, hw, hs, h1, h2, h3, hl⟩

/-- a piece move `Nbd2`, `R1xa3`, …: kind of piece, capture mark ⇒ capture, source file / rank when written,
target square.  (A promotion suffix after a piece move is read by the regex and ignored by the filter.) -/
theorem consistent_piece (p : Char) (ff fr : Option Char) (takes : Bool) (tf tr : Char) (promo sfx : Option Char)
    (annot : List Char) (m : Move) :
    consistent (capsOf ⟨.move (some p) ff fr takes tf tr promo, sfx, annot⟩) m = true ↔
      (m.f.pieceMoved = pieceOfLetter p ∧ (takes = true → m.isAttack = true) ∧
        (∀ c, ff = some c → m.f.source % 8 = fileIdx c) ∧ (∀ c, fr = some c → m.f.source / 8 = rowIdx c) ∧
        m.f.target = fileIdx tf + 8 * rowIdx tr) := by
  simp only [consistent, capsOf, Bool.and_eq_true, beq_iff_eq, Bool.or_eq_true, Bool.not_eq_true']
  cases ff <;> cases fr <;> cases takes <;> simp [and_assoc]

/-- a pawn move `e4`, `exd5`, `e8=Q`, `exd8=N`: a pawn moves, capture mark ⇒ capture, promotion piece when
written, source file when written, target square.  (A source rank is read by the regex and ignored.) -/
theorem consistent_pawn (ff fr : Option Char) (takes : Bool) (tf tr : Char) (promo sfx : Option Char)
    (annot : List Char) (m : Move) :
    consistent (capsOf ⟨.move none ff fr takes tf tr promo, sfx, annot⟩) m = true ↔
      (m.f.pieceMoved = PAWN ∧ (takes = true → m.isAttack = true) ∧
        (∀ q, promo = some q → m.isPromotion = true ∧ m.f.promotion = pieceOfLetter q) ∧
        (∀ c, ff = some c → m.f.source % 8 = fileIdx c) ∧
        m.f.target = fileIdx tf + 8 * rowIdx tr) := by
  simp only [consistent, capsOf, Bool.and_eq_true, beq_iff_eq, Bool.or_eq_true, Bool.not_eq_true',
    Bool.false_eq_true, if_false]
  cases ff <;> cases promo <;> cases takes <;> simp [and_assoc]

theorem consistent_castle (long : Bool) (sfx : Option Char) (annot : List Char) (m : Move) :
    consistent (capsOf ⟨.castle long, sfx, annot⟩) m = true ↔
      (m.f.castle = true ∧ m.f.target % 8 = if long then 2 else 6) := by
  simp only [consistent, capsOf, if_true, Bool.and_eq_true, beq_iff_eq]
  cases long <;> simp

/-- part of property C01: `C01.genPseudo_nodup`, which `C14.uciNodup_of_wf` uses to discharge this hypothesis in every legal
position -/
def UciNodup (b : Board) : Prop := ((genPseudo b).map Move.uci).Nodup

theorem uci_eq_of {x m : Move} (hs : x.f.source = m.f.source) (ht : x.f.target = m.f.target)
    (hp : x.f.promotion = m.f.promotion) : x.uci = m.uci := by
  unfold Move.uci MoveF.uci
  rw [hs, ht, hp]

theorem rustTrimChars_id {l : List Char} (h : ∀ c ∈ l, isRustWhitespace c = false) : rustTrimChars l = l := by
  have key : ∀ l : List Char, (∀ c ∈ l, isRustWhitespace c = false) → l.dropWhile isRustWhitespace = l := by
    intro l hl
    cases l with
    | nil => rfl
    | cons a t => rw [List.dropWhile_cons, hl a (List.mem_cons_self ..)]; rfl
  unfold rustTrimChars
  rw [key l h, key l.reverse (fun c hc => h c (List.mem_reverse.mp hc)), List.reverse_reverse]

theorem uci_noWhitespace (m : Move) : ∀ c ∈ m.uci.toList, isRustWhitespace c = false := by
  have hs := MoveBits.source_lt m
  have ht := MoveBits.target_lt m
  have hfile : ∀ k, k < 8 → isRustWhitespace (Char.ofNat (97 + k)) = false := by decide
  have hrank : ∀ k, k < 8 → isRustWhitespace (Char.ofNat (56 - k)) = false := by decide
  have hsq : ∀ sq, sq < 64 → ∀ c ∈ (squareString sq).toList, isRustWhitespace c = false := by
    intro sq h c hc
    simp only [squareString, h, if_true, String.toList_ofList, List.mem_cons, List.not_mem_nil, or_false] at hc
    rcases hc with rfl | rfl
    · exact hfile _ (Nat.mod_lt _ (by decide))
    · exact hrank _ (by omega)
  have hpc : ∀ n, ∀ c ∈ (pieceString n).toList, isRustWhitespace c = false := by
    intro n
    rcases n with _|_|_|_|_|_|_|n
    all_goals first | decide | (intro c hc; simp [pieceString] at hc)
  intro c hc
  unfold Move.uci MoveF.uci at hc
  rw [String.toList_append, String.toList_append, List.mem_append, List.mem_append] at hc
  rcases hc with (hc | hc) | hc
  · exact hsq _ hs c hc
  · exact hsq _ ht c hc
  · exact hpc _ c hc

theorem rustTrim_uci (m : Move) : rustTrim m.uci = m.uci := by
  unfold rustTrim
  rw [rustTrimChars_id (uci_noWhitespace m), String.ofList_toList]

theorem fileIdx_fileChar (sq : Nat) : fileIdx (fileChar sq) = sq % 8 := by
  have : ∀ k, k < 8 → (Char.ofNat (97 + k)).toNat - 97 = k := by decide
  exact this _ (Nat.mod_lt _ (by decide))

theorem rowIdx_rankChar {sq : Nat} (h : sq < 64) : rowIdx (rankChar sq) = sq / 8 := by
  have : ∀ k, k < 8 → 8 - ((Char.ofNat (56 - k)).toNat - 48) = k := by decide
  exact this _ (by omega)

theorem target_readback {sq : Nat} (h : sq < 64) : fileIdx (fileChar sq) + 8 * rowIdx (rankChar sq) = sq := by
  rw [fileIdx_fileChar, rowIdx_rankChar h]; omega

theorem letterOf_piece {p : Nat} (h2 : 2 ≤ p) (h6 : p ≤ 6) :
    ∃ c, letterOf p = some c ∧ pieceOfLetter c = p ∧ isPieceLetter c = true ∧ (p ≤ 5 → isPromoLetter c = true) := by
  have : p = 2 ∨ p = 3 ∨ p = 4 ∨ p = 5 ∨ p = 6 := by omega
  rcases this with rfl | rfl | rfl | rfl | rfl
  · exact ⟨'N', rfl, rfl, rfl, fun _ => rfl⟩
  · exact ⟨'B', rfl, rfl, rfl, fun _ => rfl⟩
  · exact ⟨'R', rfl, rfl, rfl, fun _ => rfl⟩
  · exact ⟨'Q', rfl, rfl, rfl, fun _ => rfl⟩
  · exact ⟨'K', rfl, rfl, rfl, fun h => absurd h (by decide)⟩

/-- Facts about the moves `generate_pseudo_legal_moves` emits on `b` (all consequences of "the generator implements
the rules", property C01; they follow from `wf b`: `sanGenFacts_of_wf`) -/
structure SanGenFacts (b : Board) : Prop where
  piece_range : ∀ m ∈ genPseudo b, 1 ≤ m.f.pieceMoved ∧ m.f.pieceMoved ≤ 6
  attacked_le : ∀ m ∈ genPseudo b, m.f.pieceAttacked ≤ 6
  /-- a castling move is a king move e1/e8 → c or g file of the same rank -/
  castle_shape : ∀ m ∈ genPseudo b, m.f.castle = true →
    m.f.pieceMoved = KING ∧ m.f.source = (if b.whiteTurn then 60 else 4) ∧
      (m.f.target = m.f.source + 2 ∨ m.f.target + 2 = m.f.source)
  /-- an ordinary king move never goes from the e-file to the c- or g-file -/
  king_step : ∀ m ∈ genPseudo b, m.f.castle = false → m.f.pieceMoved = KING →
    ¬ (m.f.source % 8 = 4 ∧ (m.f.target % 8 = 2 ∨ m.f.target % 8 = 6))
  promo_piece : ∀ m ∈ genPseudo b, m.f.pieceMoved ≠ PAWN → m.f.promotion = 0
  /-- a pawn promotes (to N, B, R or Q) exactly when it reaches the first or last rank -/
  promo_pawn : ∀ m ∈ genPseudo b, m.f.pieceMoved = PAWN →
    (m.f.promotion = 0 ∧ 8 ≤ m.f.target ∧ m.f.target < 56) ∨
    (2 ≤ m.f.promotion ∧ m.f.promotion ≤ 5 ∧ (m.f.target < 8 ∨ 56 ≤ m.f.target))
  /-- a pawn move that captures nothing stays on its file -/
  pawn_push_file : ∀ m ∈ genPseudo b, m.f.pieceMoved = PAWN → m.f.pieceAttacked = 0 →
    m.f.source % 8 = m.f.target % 8
  /-- a square a pawn can be pushed to cannot be captured on by a pawn (not even en passant) -/
  pawn_push_only : ∀ x ∈ genPseudo b, ∀ m ∈ genPseudo b, x.f.pieceMoved = PAWN → m.f.pieceMoved = PAWN →
    x.f.target = m.f.target → m.f.pieceAttacked = 0 → x.f.pieceAttacked = 0
  /-- two pawns on the same file cannot move to the same square -/
  pawn_same_file : ∀ x ∈ genPseudo b, ∀ m ∈ genPseudo b, x.f.pieceMoved = PAWN → m.f.pieceMoved = PAWN →
    x.f.target = m.f.target → x.f.source % 8 = m.f.source % 8 → x.f.source = m.f.source

theorem optOk_some (p : Char → Bool) (c : Char) : optOk p (some c) = p c := rfl
theorem optOk_none (p : Char → Bool) : optOk p none = true := rfl

theorem mem_genPseudo_of_legal {b : Board} {m : Move} (h : m ∈ genLegal b) : m ∈ genPseudo b :=
  (List.mem_filter.mp h).1
theorem legal_of_mem_genLegal {b : Board} {m : Move} (h : m ∈ genLegal b) : isMoveLegal b m = true :=
  (List.mem_filter.mp h).2

theorem mem_candSources {b : Board} {f : MoveF} {o : Nat} :
    o ∈ candSources b (genPseudo b) f ↔
      ∃ x ∈ genLegal b, x.f.target = f.target ∧ x.f.pieceMoved = f.pieceMoved ∧ x.f.source = o := by
  unfold candSources genLegal
  simp only [List.mem_map, List.mem_filter, Bool.and_eq_true, beq_iff_eq]
  constructor
  · rintro ⟨x, ⟨hx, ⟨hl, ht⟩, hp⟩, rfl⟩; exact ⟨x, ⟨hx, hl⟩, ht, hp, rfl⟩
  · rintro ⟨x, ⟨hx, hl⟩, ht, hp, rfl⟩; exact ⟨x, ⟨hx, ⟨hl, ht⟩, hp⟩, rfl⟩

structure Denotes (b : Board) (sh : SanShape) (m : Move) : Prop where
  passes : consistent (capsOf sh) m = true
  only : ∀ x ∈ genLegal b, consistent (capsOf sh) x = true → x.uci = m.uci

theorem sanToMove_of_shape {b : Board} (hnd : UciNodup b) {s : String} {sh : SanShape} (hw : sh.wf = true)
    (hs : s.toList = renderSan sh) {m : Move} (hm : m ∈ genLegal b) (hd : Denotes b sh m) : sanToMove b s = some m := by
  rw [sanToMove_some_iff]
  refine ⟨capsOf sh, by rw [hs]; exact sanCaptures_render sh hw, ?_⟩
  have hndl : (genLegal b).Nodup := (ListFacts.nodup_of_nodup_map Move.uci hnd).sublist List.filter_sublist
  refine ListFacts.filter_eq_singleton hndl hm hd.passes (fun x hx hcx => ?_)
  exact ListFacts.eq_of_nodup_map Move.uci hnd (mem_genPseudo_of_legal hx) (mem_genPseudo_of_legal hm) (hd.only x hx hcx)

theorem castleKind_eq_some {f : MoveF} {long : Bool} :
    castleKind f = some long ↔ f.pieceMoved = KING ∧ f.source % 8 = 4 ∧ f.target % 8 = (if long then 2 else 6) := by
  unfold castleKind
  by_cases hk : f.pieceMoved = KING
  · by_cases h4 : f.source % 8 = 4
    · by_cases h6 : f.target % 8 = 6
      · cases long <;> simp [hk, h4, h6]
      · by_cases h2 : f.target % 8 = 2
        · cases long <;> simp [hk, h4, h2]
        · cases long <;> simp [hk, h4, h6, h2]
    · simp [hk, h4]
  · simp [hk]

theorem capturesOf_isAttack {m : Move} (h : capturesOf m.f = true) : m.isAttack = true := by
  simp only [capturesOf, Bool.and_eq_true, decide_eq_true_eq] at h
  simp only [Move.isAttack, NO_PIECE, bne_iff_ne, ne_eq]
  omega

theorem promoOf_some {f : MoveF} {q : Char} (h : promoOf f = some q) (h2 : 2 ≤ f.promotion) (h5 : f.promotion ≤ 5) :
    pieceOfLetter q = f.promotion ∧ isPromoLetter q = true := by
  obtain ⟨c, hc, hp, _, hl⟩ := letterOf_piece h2 (by omega)
  rw [promoOf_eq, hc] at h
  cases h; exact ⟨hp, hl h5⟩

theorem promoOf_zero {f : MoveF} (h : f.promotion = 0) : promoOf f = none := by
  rw [promoOf_eq, h]; rfl

def shapeOfMove (b : Board) (m : Move) : SanShape :=
  ⟨sanBodyOf (candSources b (genPseudo b) m.f) m.f, sanSuffix (make b m), []⟩

theorem shapeOfMove_standard {b : Board} (hF : SanGenFacts b) {m : Move} (hmp : m ∈ genPseudo b) :
    (shapeOfMove b m).standard = true := by
  unfold shapeOfMove SanShape.standard SanShape.wf
  simp only [sanSuffix_ok, List.all_nil, Bool.and_true, List.isEmpty_nil]
  cases hck : castleKind m.f with
  | some long => simp only [sanBodyOf, hck, SanBody.wf, SanBody.standard, Bool.and_self]
  | none =>
    by_cases hpawn : m.f.pieceMoved = PAWN
    · have hpp := hF.promo_pawn m hmp hpawn
      have hpr : optOk isPromoLetter (promoOf m.f) = true := by
        cases hq : promoOf m.f with
        | none => rfl
        | some q =>
          rcases hpp with ⟨h0, _⟩ | ⟨h2, h5, _⟩
          · rw [promoOf_zero h0] at hq; cases hq
          · exact (promoOf_some hq h2 h5).2
      simp only [sanBodyOf, hck, hpawn, beq_self_eq_true, if_true, SanBody.wf, SanBody.standard, optOk_none,
        fileChar_isFile, rankChar_isRank (MoveBits.target_lt m), hpr, Option.isNone_none, Bool.true_and, Bool.and_true]
      cases capturesOf m.f <;> simp [optOk, fileChar_isFile]
    · have hrange := hF.piece_range m hmp
      have h26 : 2 ≤ m.f.pieceMoved ∧ m.f.pieceMoved ≤ 6 := by
        have : m.f.pieceMoved ≠ 1 := hpawn
        omega
      obtain ⟨pc, hpc, _, hpok, _⟩ := letterOf_piece h26.1 h26.2
      have hpr0 := hF.promo_piece m hmp hpawn
      have hne : (m.f.pieceMoved == PAWN) = false := by simpa using hpawn
      simp only [sanBodyOf, hck, hne, Bool.false_eq_true, if_false, hpc, promoOf_zero hpr0, SanBody.wf,
        SanBody.standard, optOk_some, optOk_none, hpok, fileChar_isFile, rankChar_isRank (MoveBits.target_lt m),
        Option.isNone_none, Bool.true_and, Bool.and_true]
      generalize modelDisamb m.f.source (candSources b (genPseudo b) m.f) false = d
      cases d <;> simp [Disamb.fileOf, Disamb.rankOf, optOk, fileChar_isFile, rankChar_isRank (MoveBits.source_lt m)]

theorem SanShape.wf_of_standard {sh : SanShape} (h : sh.standard = true) : sh.wf = true := by
  simp only [SanShape.standard, Bool.and_eq_true] at h
  exact h.1.1

theorem shape_pawn {b : Board} {m : Move} (hck : castleKind m.f = none) (hp : m.f.pieceMoved = PAWN) :
    shapeOfMove b m =
      ⟨.move none (if capturesOf m.f then some (fileChar m.f.source) else none) none (capturesOf m.f)
          (fileChar m.f.target) (rankChar m.f.target) (promoOf m.f),
        sanSuffix (make b m), []⟩ := by
  simp only [shapeOfMove, sanBodyOf, hck, hp, beq_self_eq_true, if_true]

theorem shape_castle {b : Board} {m : Move} {long : Bool} (hck : castleKind m.f = some long) :
    shapeOfMove b m = ⟨.castle long, sanSuffix (make b m), []⟩ := by
  simp only [shapeOfMove, sanBodyOf, hck]

theorem shape_piece {b : Board} (hF : SanGenFacts b) {m : Move} (hmp : m ∈ genPseudo b)
    (hck : castleKind m.f = none) (hp : m.f.pieceMoved ≠ PAWN) :
    shapeOfMove b m =
      ⟨.move (letterOf m.f.pieceMoved)
          ((standardDisamb m.f.source (candSources b (genPseudo b) m.f)).fileOf (fileChar m.f.source))
          ((standardDisamb m.f.source (candSources b (genPseudo b) m.f)).rankOf (rankChar m.f.source))
          (capturesOf m.f) (fileChar m.f.target) (rankChar m.f.target) none,
        sanSuffix (make b m), []⟩ := by
  have hne : (m.f.pieceMoved == PAWN) = false := by simpa using hp
  simp only [shapeOfMove, sanBodyOf, hck, hne, Bool.false_eq_true, if_false, promoOf_zero (hF.promo_piece m hmp hp),
    disamb_standard]

theorem castleKind_generated {b : Board} (hF : SanGenFacts b) {m : Move} (hm : m ∈ genPseudo b) :
    castleKind m.f = if m.f.castle then some (m.f.target % 8 == 2) else none := by
  unfold castleKind
  cases hc : m.f.castle with
  | true =>
    obtain ⟨hk, hs, ht⟩ := hF.castle_shape m hm hc
    have h4 : m.f.source % 8 = 4 := by rw [hs]; split <;> rfl
    have : m.f.target % 8 = 6 ∨ m.f.target % 8 = 2 := by omega
    rcases this with h | h <;> simp [hk, h4, h]
  | false =>
    by_cases hk : m.f.pieceMoved = KING
    · have := hF.king_step m hm hc hk
      by_cases h4 : m.f.source % 8 = 4
      · have h6 : m.f.target % 8 ≠ 6 := fun h => this ⟨h4, .inr h⟩
        have h2 : m.f.target % 8 ≠ 2 := fun h => this ⟨h4, .inl h⟩
        simp [hk, h4, h6, h2]
      · simp [hk, h4]
    · simp [hk]

theorem castle_of_kind {b : Board} (hF : SanGenFacts b) {m : Move} (hmp : m ∈ genPseudo b) {long : Bool}
    (hck : castleKind m.f = some long) : m.f.castle = true := by
  rw [castleKind_generated hF hmp] at hck
  split at hck
  · assumption
  · cases hck

theorem denotes_castle {b : Board} (hF : SanGenFacts b) {m : Move} (hm : m ∈ genLegal b)
    {long : Bool} (hck : castleKind m.f = some long) : Denotes b (shapeOfMove b m) m := by
  have hmp := mem_genPseudo_of_legal hm
  obtain ⟨hk, h4, ht⟩ := castleKind_eq_some.mp hck
  have hcastle := castle_of_kind hF hmp hck
  rw [shape_castle hck]
  refine ⟨?_, ?_⟩
  · rw [consistent_castle]; exact ⟨hcastle, ht⟩
  · intro x hx hcx
    rw [consistent_castle] at hcx
    have hxp := mem_genPseudo_of_legal hx
    obtain ⟨xk, xs, xt⟩ := hF.castle_shape x hxp hcx.1
    obtain ⟨_, ms, mt⟩ := hF.castle_shape m hmp hcastle
    have hsrc : x.f.source = m.f.source := by rw [xs, ms]
    have h2 := hcx.2
    refine uci_eq_of hsrc ?_ ?_
    · have : m.f.source = 60 ∨ m.f.source = 4 := by rw [ms]; split <;> simp
      cases long <;> simp only [Bool.false_eq_true, if_false, if_true] at h2 ht <;> omega
    · rw [hF.promo_piece x hxp (by rw [xk]; decide), hF.promo_piece m hmp (by rw [hk]; decide)]

theorem denotes_pawn {b : Board} (hF : SanGenFacts b) {m : Move} (hm : m ∈ genLegal b)
    (hck : castleKind m.f = none) (hpawn : m.f.pieceMoved = PAWN) : Denotes b (shapeOfMove b m) m := by
  have hmp := mem_genPseudo_of_legal hm
  have hpp := hF.promo_pawn m hmp hpawn
  rw [shape_pawn hck hpawn]
  refine ⟨?_, ?_⟩
  · -- the move itself is consistent with its text
    rw [consistent_pawn]
    refine ⟨hpawn, capturesOf_isAttack, ?_, ?_, (target_readback (MoveBits.target_lt m)).symm⟩
    · intro q hq
      rcases hpp with ⟨h0, _⟩ | ⟨h2, h5, _⟩
      · rw [promoOf_zero h0] at hq; cases hq
      · have := (promoOf_some hq h2 h5).1
        refine ⟨?_, this.symm⟩
        simp only [Move.isPromotion, NO_PIECE, bne_iff_ne, ne_eq]; omega
    · intro c hc
      split at hc
      · cases hc; exact (fileIdx_fileChar _).symm
      · cases hc
  · -- no other legal move is
    intro x hx hcx
    rw [consistent_pawn] at hcx
    obtain ⟨xpawn, xatt, xpromo, xfile, xtgt⟩ := hcx
    have hxp := mem_genPseudo_of_legal hx
    have htgt : x.f.target = m.f.target := by rw [xtgt, target_readback (MoveBits.target_lt m)]
    have hfile : x.f.source % 8 = m.f.source % 8 := by
      cases hcap : capturesOf m.f with
      | true =>
        have := xfile (fileChar m.f.source) (by rw [hcap]; rfl)
        rw [this, fileIdx_fileChar]
      | false =>
        have hpa : m.f.pieceAttacked = 0 := by
          have := hF.attacked_le m hmp
          simp only [capturesOf, Bool.and_eq_false_iff, decide_eq_false_iff_not] at hcap
          omega
        have hxa := hF.pawn_push_only x hxp m hmp xpawn hpawn htgt hpa
        rw [hF.pawn_push_file x hxp xpawn hxa, hF.pawn_push_file m hmp hpawn hpa, htgt]
    have hsrc := hF.pawn_same_file x hxp m hmp xpawn hpawn htgt hfile
    refine uci_eq_of hsrc htgt ?_
    rcases hpp with ⟨h0, h8, h56⟩ | ⟨h2, h5, _⟩
    · rcases hF.promo_pawn x hxp xpawn with ⟨x0, _⟩ | ⟨_, _, xl⟩
      · rw [x0, h0]
      · omega
    · obtain ⟨c, hc, hp, _⟩ := letterOf_piece h2 (by omega)
      have hq : promoOf m.f = some c := by rw [promoOf_eq, hc]
      rw [(xpromo c hq).2, hp]

theorem agrees_iff_hints (d : Disamb) {src : Nat} (hs : src < 64) (o : Nat) :
    d.agrees src o = true ↔
      (∀ c, d.fileOf (fileChar src) = some c → o % 8 = fileIdx c) ∧
      (∀ c, d.rankOf (rankChar src) = some c → o / 8 = rowIdx c) := by
  cases d <;> simp [Disamb.agrees, Disamb.fileOf, Disamb.rankOf, fileIdx_fileChar, rowIdx_rankChar hs]

theorem denotes_piece {b : Board} (hF : SanGenFacts b) {m : Move} (hm : m ∈ genLegal b)
    (hck : castleKind m.f = none) (hpawn : m.f.pieceMoved ≠ PAWN) : Denotes b (shapeOfMove b m) m := by
  have hmp := mem_genPseudo_of_legal hm
  have hrange := hF.piece_range m hmp
  have h26 : 2 ≤ m.f.pieceMoved ∧ m.f.pieceMoved ≤ 6 := by
    have : m.f.pieceMoved ≠ 1 := hpawn
    omega
  obtain ⟨pc, hpc, hpl, -, -⟩ := letterOf_piece h26.1 h26.2
  have hsl := MoveBits.source_lt m
  rw [shape_piece hF hmp hck hpawn, hpc]
  generalize hd : standardDisamb m.f.source (candSources b (genPseudo b) m.f) = d
  refine ⟨?_, ?_⟩
  · rw [consistent_piece]
    obtain ⟨hfl, hrk⟩ := (agrees_iff_hints d hsl _).mp (agrees_self d _)
    exact ⟨hpl.symm, capturesOf_isAttack, hfl, hrk, (target_readback (MoveBits.target_lt m)).symm⟩
  · intro x hx hcx
    rw [consistent_piece] at hcx
    obtain ⟨xpm, _, xfile, xrank, xtgt⟩ := hcx
    have hxp := mem_genPseudo_of_legal hx
    have htgt : x.f.target = m.f.target := by rw [xtgt, target_readback (MoveBits.target_lt m)]
    have hpm : x.f.pieceMoved = m.f.pieceMoved := by rw [xpm, hpl]
    have hmem : x.f.source ∈ candSources b (genPseudo b) m.f := mem_candSources.mpr ⟨x, hx, htgt, hpm, rfl⟩
    have hsrc := disamb_unique _ _ _ hmem (hd ▸ (agrees_iff_hints d hsl _).mpr ⟨xfile, xrank⟩)
    refine uci_eq_of hsrc htgt ?_
    rw [hF.promo_piece x hxp (by rw [hpm]; exact hpawn), hF.promo_piece m hmp hpawn]

theorem candSources_congr {b b2 : Board} (h : WF.vis b2 = WF.vis b) (moves : List Move) (f : MoveF) :
    candSources b2 moves f = candSources b moves f := by
  unfold candSources
  congr 1
  apply List.filter_congr
  intro x _
  rw [BoardCongr.isMoveLegal_congr h x]

theorem uciToSan_legal {b : Board} (hnd : UciNodup b) {m : Move} (hm : m ∈ genLegal b) :
    (uciToSan b m.uci).1 = .ok (sanText b (unmake (make b m) m) (make b m) m) := by
  have hf := (MoveText.findUci_ok_iff_legal hnd m.uci m).mpr ⟨hm, (rustTrim_uci m).symm⟩
  have hfirst := (MoveText.find?_eq_some_iff_first b _ m).mpr ((MoveText.findUci_ok_iff_first b m.uci m).mp hf).1
  rw [MoveText.uciToSan_eq_find, hf, MoveText.findUci_snd, hfirst]

theorem sanText_shape {b : Board} (hwf : WF.wf b = true) (hF : SanGenFacts b) {m : Move} (hm : m ∈ genPseudo b) :
    (sanText b (unmake (make b m) m) (make b m) m).toList = renderSan (shapeOfMove b m) := by
  have hvis := (C03.unmake_make_generated b hwf m hm).1
  rw [sanText, String.toList_ofList, candSources_congr hvis, bodyChars_render, shapeOfMove, renderSan, List.append_nil]
  intro hpawn
  apply disamb_pawn
  intro o ho hfile
  obtain ⟨x, hx, ht, hp, rfl⟩ := mem_candSources.mp ho
  exact hF.pawn_same_file x (mem_genPseudo_of_legal hx) m hm (hp.trans hpawn) hpawn ht hfile

/-- **the shape written for a legal move denotes that move and no other** (no text, no regex: the three filters of
`pgn_to_bb` against the parts `uci_to_pgn` writes) -/
theorem shape_denotes {b : Board} (hF : SanGenFacts b) {m : Move} (hm : m ∈ genLegal b) :
    Denotes b (shapeOfMove b m) m := by
  cases hck : castleKind m.f with
  | some long => exact denotes_castle hF hm hck
  | none =>
    by_cases hpawn : m.f.pieceMoved = PAWN
    · exact denotes_pawn hF hm hck hpawn
    · exact denotes_piece hF hm hck hpawn

theorem san_roundtrip_of_facts {b : Board} (hwf : WF.wf b = true) (hnd : UciNodup b) (hF : SanGenFacts b)
    {m : Move} (hm : m ∈ genLegal b) {s : String} (h : (uciToSan b m.uci).1 = .ok s) :
    sanToMove b s = some m := by
  have hmp := mem_genPseudo_of_legal hm
  rw [uciToSan_legal hnd hm] at h
  cases h
  exact sanToMove_of_shape hnd (SanShape.wf_of_standard (shapeOfMove_standard hF hmp)) (sanText_shape hwf hF hmp) hm
    (shape_denotes hF hm)

section GeneratorFacts
open Inkayaku.GenSpec Inkayaku.GenOK Inkayaku.Gen Inkayaku.GenFacts

theorem mkF_attacked (b : Board) (src tgt piece : Nat) (castle ep : Bool) (promo epOpp : Nat) :
    (mkF b src tgt piece castle ep promo epOpp).pieceAttacked = b.passive.pieceAt (attackSq b tgt ep) := rfl

theorem full_of_pawns {s : Side} {t : Nat} (h : testU s.pawns t = true) : testU s.full t = true :=
  Attack.get_le_full s (p := 1) (by decide) (by decide) h

theorem full_or_of_active_pawns {b : Board} {t : Nat} (h : testU b.active.pawns t = true) :
    testU (b.active.full ||| b.passive.full) t = true := by
  rw [Bits.testU_or, full_of_pawns h]; rfl

/-- the square behind `t` seen from the mover: where a pawn stepping to `t` comes from, where the pawn taken en
passant on `t` stands, what a double step to `t` passes over -/
def behind (b : Board) (t : Nat) : Nat := if b.whiteTurn then t + 8 else t - 8

/-- the two kinds of pawn step of `PawnFacts`, without the case split on the colour -/
theorem pawn_step {b : Board} {s t pr eo : Nat} {c e : Bool} (hs : s < 64) (h : PawnFacts b s t c e pr eo) :
    behind b t % 8 = t % 8 ∧
      ((eo = 0 ∧ s / 8 = behind b t / 8) ∨ (eo ≠ 0 ∧ eo = behind b t ∧ s % 8 = t % 8 ∧ s + t = 2 * eo)) := by
  obtain ⟨_, _, _, h⟩ := h
  unfold behind
  by_cases h0 : eo = 0
  · rw [if_pos h0] at h
    cases hw : b.whiteTurn <;> simp only [hw, Bool.false_eq_true, if_false, if_true] at h ⊢ <;> omega
  · rw [if_neg h0] at h
    cases hw : b.whiteTurn <;> simp only [hw, Bool.false_eq_true, if_false, if_true] at h ⊢ <;> omega

/-- **the generator facts hold in every legal position**: they are read off `GenFacts.genPseudo_facts`, except that
the two statements comparing a single with a double step also need `GenSpec.genPseudo_stepped_empty` -/
theorem sanGenFacts_of_wf {b : Board} (h : WF.wf b = true) : SanGenFacts b := by
  -- the one fact about pushes that `GenFacts` does not record: a double step passes over an empty square
  have hstep := genPseudo_stepped_empty (wf_facts h)
  have he := env_of_wf h
  have hf : ∀ m ∈ genPseudo b, Named b m.f := fun m hm => (genPseudo_facts h m hm).named
  have hsrc : ∀ m ∈ genPseudo b, m.f.pieceMoved = PAWN → testU b.active.pawns m.f.source = true := by
    intro m hm hp
    have := (hf m hm).on_source
    rw [hp] at this
    exact this
  -- a single step starts on the row behind the target; a double step passes over the empty square behind it
  have hmove : ∀ m ∈ genPseudo b, m.f.pieceMoved = PAWN → behind b m.f.target % 8 = m.f.target % 8 ∧
      ((m.f.nextEp = 0 ∧ m.f.source / 8 = behind b m.f.target / 8) ∨
        (testU (b.active.full ||| b.passive.full) (behind b m.f.target) = false ∧
          m.f.source % 8 = m.f.target % 8 ∧ m.f.source + m.f.target = 2 * behind b m.f.target)) := by
    intro m hm hp
    obtain ⟨hq, h1 | ⟨h0, h2, h3, h4⟩⟩ := pawn_step (hf m hm).source_lt ((hf m hm).pawn hp)
    · exact ⟨hq, .inl h1⟩
    · exact ⟨hq, .inr ⟨h2 ▸ hstep m hm h0, h3, h2 ▸ h4⟩⟩
  -- en passant captures the pawn behind the target (`behind b t` unfolds to `capSq b.whiteTurn true t`)
  have hepcap : ∀ m ∈ genPseudo b, m.f.enPassant = true →
      m.f.pieceAttacked ≠ 0 ∧ testU b.passive.pawns (behind b m.f.target) = true :=
    fun m hm hep => ((hf m hm).ep_victim hep).symm
  have hnoep : ∀ m ∈ genPseudo b, m.f.enPassant = false →
      (m.f.pieceAttacked = 0 ↔ testU b.passive.full m.f.target = false) := by
    intro m hm hep
    have := (hf m hm).attacked_zero
    rwa [hep] at this
  have hfile : ∀ m ∈ genPseudo b, m.f.pieceMoved = PAWN → m.f.pieceAttacked = 0 →
      m.f.enPassant = false ∧ testU b.passive.full m.f.target = false ∧ m.f.source % 8 = m.f.target % 8 := by
    intro m hm hp hpa
    have hep : m.f.enPassant = false := by
      cases h : m.f.enPassant
      · rfl
      · exact absurd hpa (hepcap m hm h).1
    have hfull := (hnoep m hm hep).mp hpa
    refine ⟨hep, hfull, ?_⟩
    apply Decidable.byContradiction
    intro hne
    rcases ((hf m hm).pawn hp).2.2.1 hne with h | h
    · rw [hep] at h; cases h
    · rw [hfull] at h; cases h
  refine
    { piece_range := fun m hm => (hf m hm).piece_range
      attacked_le := ?attacked_le
      castle_shape := ?castle_shape
      king_step := ?king_step
      promo_piece := fun m hm hp => ((hf m hm).not_pawn hp).2.1
      promo_pawn := ?promo_pawn
      pawn_push_file := fun m hm hp hpa => (hfile m hm hp hpa).2.2
      pawn_push_only := ?pawn_push_only
      pawn_same_file := ?pawn_same_file }
  case attacked_le =>
    intro m hm
    rw [(hf m hm).attacked]
    exact Bits.pieceAtMask_le _ _
  case castle_shape =>
    intro m hm hc
    obtain ⟨hk, _, _, _, hs, _, ht⟩ := (hf m hm).castle hc
    refine ⟨hk, ?_, ?_⟩
    · rw [hs]; cases b.whiteTurn <;> rfl
    · rw [hs]
      cases hw : b.whiteTurn <;> simp only [hw, dHome, E1, C1, G1, Bool.false_eq_true, if_false, if_true] at ht ⊢ <;> omega
  case king_step =>
    intro m hm hc hk
    have := (hf m hm).king hk hc
    omega
  case promo_pawn =>
    intro m hm hp
    by_cases h0 : m.f.promotion = 0
    · exact .inl ⟨h0, (hf m hm).pawn_target hp h0⟩
    · right
      have := (hf m hm).promo h0
      have hl := ((hf m hm).pawn hp).2.1.mp h0
      refine ⟨this.2.1, this.2.2, ?_⟩
      cases hw : b.whiteTurn <;> simp only [hw, Bool.false_eq_true, if_false, if_true] at hl <;> omega
  case pawn_push_only =>
    intro x hx m hm xp mp ht hpa
    obtain ⟨mep, mfull, mfile⟩ := hfile m hm mp hpa
    cases xep : x.f.enPassant
    · rw [hnoep x hx xep, ht]; exact mfull
    · -- `x` takes en passant on the square `m` is pushed to: the pawn that has just moved stands behind that square,
      -- which is where `m` starts or what `m` steps over
      exfalso
      have hvict := (hepcap x hx xep).2
      rw [ht] at hvict
      obtain ⟨hq, ⟨_, h1⟩ | ⟨hemp, _, _⟩⟩ := hmove m hm mp
      · have : m.f.source = behind b m.f.target := by omega
        have := he.cross _ (full_of_pawns (this ▸ hsrc m hm mp))
        rw [full_of_pawns hvict] at this; cases this
      · rw [Bits.testU_or, full_of_pawns hvict, Bool.or_true] at hemp; cases hemp
  case pawn_same_file =>
    intro x hx m hm xp mp ht hfl
    have hxs := full_or_of_active_pawns (hsrc x hx xp)
    have hms := full_or_of_active_pawns (hsrc m hm mp)
    obtain ⟨hq, hx'⟩ := hmove x hx xp
    obtain ⟨_, hm'⟩ := hmove m hm mp
    rw [ht] at hq hx'
    -- a single and a double step from the same file to the same square: the single step starts on the square the
    -- double step passes over
    rcases hx' with ⟨_, x1⟩ | ⟨xe, x2, x3⟩ <;> rcases hm' with ⟨_, m1⟩ | ⟨me, m2, m3⟩
    · omega
    · have : x.f.source = behind b m.f.target := by omega
      rw [← this, hxs] at me; cases me
    · have : m.f.source = behind b m.f.target := by omega
      rw [← this, hms] at xe; cases xe
    · omega

end GeneratorFacts

theorem san_roundtrip {b : Board} (hwf : WF.wf b = true) (hnd : UciNodup b) {m : Move} (hm : m ∈ genLegal b)
    {s : String} (h : (uciToSan b m.uci).1 = .ok s) : sanToMove b s = some m :=
  san_roundtrip_of_facts hwf hnd (sanGenFacts_of_wf hwf) hm h

end Inkayaku.SanProofs
