import Inkayaku.Proofs.SearchPv
import Inkayaku.Proofs.SearchMate
import Inkayaku.Proofs.GenSpecStruct
import Inkayaku.Proofs.Successor
import Inkayaku.Proofs.Check
/-!
# The reported PV, read as UCI text, is a legal line by the rules of chess — up to real hash collisions only

The Zobrist hash covers piece placement, side to move, castling rights and the en-passant file, NOT the two clocks.  Two
nodes of one search that are the same chess position with different clocks (transpositions across a pawn move or capture,
or a repeated position two plies deeper) therefore share a table entry, and the chain stored by one of them is returned at
the other.  The moves of such a chain carry the undo field `prevHalfmove` of the position they were generated in, so they
are not literally members of `genPseudo` of the position they are reported for — but their source, target and promotion
piece (all that is ever printed) are the same.  `HashInjVis` (`Proofs/SearchPv.lean`) rules these harmless hits out
together with the real collisions; this file removes that restriction:

* `RulesLine p ms`: `ms` is a sequence of legal moves of the rules (`Spec.legalMoves`, `Spec.apply`) from position `p`;
* `PRules b l`: the line `l`, abstracted move by move (`absMove`: source, target, promotion), is a `RulesLine` of `abs b`,
  and every move prints as the UCI text of its abstraction;
* `HashInjCore S`: on `S`, equal hash ⇒ same position up to the two clocks;
* `rules_laws : LineLaws PRules`, `rules_transfer : HashInjCore S → Transfer S PRules`;
* `Mated.isCheckmate`: the model's "no generated move is valid and the mover is in check" is checkmate by the rules;
* `hashInjVis_of_check`, `hashInjCore_of_check`: both no-collision hypotheses can be tested by evaluation for a concrete root.
-/
namespace Inkayaku.Search
open Inkayaku.Board Inkayaku.WF Inkayaku.BoardCongr Inkayaku.Abs

def RulesLine : Spec.Pos → List Spec.SMove → Prop
  | _, [] => True
  | p, m :: ms => m ∈ Spec.legalMoves p ∧ RulesLine (Spec.apply p m) ms

def clockless (p : Spec.Pos) : Spec.Pos := { p with half := 0, full := 0 }

def smove (m : Move) : Spec.SMove := absMove m.f

def PRules (b : Board) (l : List Move) : Prop :=
  RulesLine (abs b) (l.map smove) ∧ ∀ m ∈ l, m.uci = (smove m).uci

/-- **no-collision idealisation, clocks excepted**: on `S`, equal Zobrist hash ⇒ same placement, side to move, castling
rights and en-passant square -/
def HashInjCore (S : Board → Prop) : Prop :=
  ∀ b1 b2, S b1 → S b2 → Zobrist.hash b1 = Zobrist.hash b2 → clockless (abs b1) = clockless (abs b2)

theorem pseudoMoves_clockless (p : Spec.Pos) : Spec.pseudoMoves (clockless p) = Spec.pseudoMoves p := rfl

theorem inCheck_clockless (p : Spec.Pos) (w : Bool) : Spec.inCheck (clockless p) w = Spec.inCheck p w := rfl

theorem apply_clockless (p : Spec.Pos) (m : Spec.SMove) :
    clockless (Spec.apply (clockless p) m) = clockless (Spec.apply p m) := by
  unfold Spec.apply
  have : (clockless p).at m.src = p.at m.src := rfl
  rw [this]
  cases p.at m.src <;> rfl

theorem legalMoves_clockless (p : Spec.Pos) : Spec.legalMoves (clockless p) = Spec.legalMoves p := by
  unfold Spec.legalMoves
  rw [pseudoMoves_clockless]
  congr 1
  funext m
  show (!Spec.inCheck (Spec.apply (clockless p) m) p.whiteToMove) = _
  rw [← inCheck_clockless (Spec.apply (clockless p) m), apply_clockless, inCheck_clockless]

theorem RulesLine.clockless_iff (p : Spec.Pos) (l : List Spec.SMove) : RulesLine (clockless p) l ↔ RulesLine p l := by
  induction l generalizing p with
  | nil => exact Iff.rfl
  | cons m ms ih =>
    show (m ∈ Spec.legalMoves (clockless p) ∧ RulesLine (Spec.apply (clockless p) m) ms) ↔
      (m ∈ Spec.legalMoves p ∧ RulesLine (Spec.apply p m) ms)
    rw [legalMoves_clockless, ← ih (Spec.apply (clockless p) m), apply_clockless, ih]

theorem RulesLine.of_clockless_eq {p q : Spec.Pos} (h : clockless p = clockless q) (l : List Spec.SMove)
    (hl : RulesLine p l) : RulesLine q l := by
  rw [← RulesLine.clockless_iff] at hl ⊢
  rw [← h]; exact hl

theorem abs_vis (b : Board) : abs (vis b) = abs b := rfl

theorem abs_congr {b b' : Board} (h : vis b = vis b') : abs b = abs b' := by
  rw [← abs_vis b, h, abs_vis]

theorem HashInjVis.core {S : Board → Prop} (h : HashInjVis S) : HashInjCore S :=
  fun b1 b2 h1 h2 hh => by rw [abs_congr (h b1 b2 h1 h2 hh)]

theorem smove_legal {b : Board} (hwf : wf b = true) {m : Move} (hm : m ∈ genPseudo b) (hv : isValid (make b m) = true) :
    smove m ∈ Spec.legalMoves (abs b) := by
  have hl : m ∈ genLegal b := List.mem_filter.mpr ⟨hm, hv⟩
  exact (GenSpec.genLegal_eq_spec_of_succ hwf (fun _ hx => Successor.make_eq_apply hwf hx) (smove m)).mp
    (List.mem_map.mpr ⟨m, hl, rfl⟩)

theorem rules_laws : LineLaws PRules where
  nil := fun _ => ⟨trivial, fun _ h => by cases h⟩
  cons := by
    intro b m ms hwf hm hv ⟨h1, h2⟩
    refine ⟨⟨smove_legal hwf hm hv, ?_⟩, ?_⟩
    · show RulesLine (Spec.apply (abs b) (smove m)) (ms.map smove)
      rw [← show abs (make b m) = Spec.apply (abs b) (smove m) from Successor.make_eq_apply hwf hm]
      exact h1
    · intro x hx
      rcases List.mem_cons.mp hx with rfl | hx
      · obtain ⟨hs, ht, hp⟩ := GenSpec.gen_bounds hwf hm
        exact GenSpec.uci_agree _ hs ht hp
      · exact h2 x hx

theorem rules_transfer {S : Board → Prop} (hinj : HashInjCore S) : Transfer S PRules := by
  intro b b' l hb hb' hh ⟨h1, h2⟩
  exact ⟨RulesLine.of_clockless_eq (hinj b b' hb hb' hh) _ h1, h2⟩

theorem PRules_of_legalLine {b : Board} {l : List Move} (hl : LegalLine b l)
    (hwf : ∀ (pre : List Move) (suf : List Move), l = pre ++ suf → wf (pre.foldl make b) = true) : PRules b l := by
  induction l generalizing b with
  | nil => exact ⟨trivial, fun _ h => by cases h⟩
  | cons m ms ih =>
    obtain ⟨hm, hv, hrest⟩ := hl
    have hwf0 : wf b = true := hwf [] (m :: ms) rfl
    have := ih hrest (fun pre suf h => hwf (m :: pre) suf (by rw [h]; rfl))
    exact rules_laws.cons b m ms hwf0 hm hv this

theorem Mated.isCheckmate {b : Board} (hwf : wf b = true) (h : Mated b) : Spec.isCheckmate (abs b) = true := by
  have hnil : Spec.legalMoves (abs b) = [] := by
    apply List.eq_nil_iff_forall_not_mem.mpr
    intro sm hsm
    obtain ⟨m, hm, -⟩ := List.mem_map.mp
      ((GenSpec.genLegal_eq_spec_of_succ hwf (fun _ hx => Successor.make_eq_apply hwf hx) sm).mpr hsm)
    obtain ⟨hp, hv⟩ := List.mem_filter.mp hm
    simp [isMoveLegal, h.1 m hp] at hv
  unfold Spec.isCheckmate
  rw [hnil, ← Check.isCurrentInCheck_iff b (Check.struct_of_wf hwf).1, h.2]
  rfl

/-! ## a checkable sufficient condition for the no-collision hypotheses

`reachList root N` lists (with repetitions) the positions at most `N` legal moves below `root`; every position of
`ReachLe root N` has the visible position of a member (`reachList_cover`).  `injCheck key L` tests by brute force that any
two members of `L` with equal Zobrist hash have equal `key`.  With `key = vis` this gives `HashInjVis (ReachLe root N)`,
with `key = coreB` (the visible position with both clocks zeroed) it gives `HashInjCore (ReachLe root N)`.
The test is evaluated by `decide +kernel` for concrete roots in `Props/C16Pv.lean`. -/

def level (root : Board) : Nat → List Board
  | 0 => [root]
  | n + 1 => (level root n).flatMap fun x => (genLegal x).map (make x)

def reachList (root : Board) (N : Nat) : List Board := (List.range (N + 1)).flatMap (level root)

theorem level_cover {root b : Board} {n : Nat} (h : Reach root n b) : ∃ x ∈ level root n, vis b = vis x := by
  induction n generalizing b with
  | zero => exact ⟨root, List.mem_singleton.mpr rfl, h⟩
  | succ n ih =>
    obtain ⟨b0, m, hr, -, hm, hv, hb⟩ := h
    obtain ⟨x0, hx0, hvis⟩ := ih hr
    refine ⟨make x0 m, ?_, hb.trans (make_congr hvis m)⟩
    show make x0 m ∈ (level root n).flatMap fun x => (genLegal x).map (make x)
    refine List.mem_flatMap.mpr ⟨x0, hx0, List.mem_map.mpr ⟨m, ?_, rfl⟩⟩
    refine List.mem_filter.mpr ⟨by rw [← genPseudo_congr hvis]; exact hm, ?_⟩
    show isValid (make x0 m) = true
    rw [← isValid_congr (make_congr hvis m)]; exact hv

theorem reachList_cover {root b : Board} {N : Nat} (h : ReachLe root N b) : ∃ x ∈ reachList root N, vis b = vis x := by
  obtain ⟨n, hn, hr⟩ := h
  obtain ⟨x, hx, hv⟩ := level_cover hr
  exact ⟨x, List.mem_flatMap.mpr ⟨n, List.mem_range.mpr (by omega), hx⟩, hv⟩

/-- any two members of `L` with the same hash have the same `key`; `K` holds hash and key of every member, so that each
is evaluated once and not once per pair -/
def injCheck {α : Type} [DecidableEq α] (key : Board → α) (L : List Board) : Bool :=
  let K := L.map fun x => ((Zobrist.hash x).toNat, key x)
  K.all fun a => K.all fun b => a.1 != b.1 || decide (a.2 = b.2)

theorem inj_of_check {α : Type} [DecidableEq α] (key : Board → α) (hkey : ∀ b b', vis b = vis b' → key b = key b')
    {S : Board → Prop} (L : List Board) (hcover : ∀ b, S b → ∃ x ∈ L, vis b = vis x) (hc : injCheck key L = true) :
    ∀ b1 b2, S b1 → S b2 → Zobrist.hash b1 = Zobrist.hash b2 → key b1 = key b2 := by
  intro b1 b2 h1 h2 hh
  obtain ⟨x1, hx1, hv1⟩ := hcover b1 h1
  obtain ⟨x2, hx2, hv2⟩ := hcover b2 h2
  unfold injCheck at hc
  simp only at hc
  have := List.all_eq_true.mp (List.all_eq_true.mp hc _ (List.mem_map.mpr ⟨x1, hx1, rfl⟩)) _ (List.mem_map.mpr ⟨x2, hx2, rfl⟩)
  simp only [Bool.or_eq_true, bne_iff_ne, ne_eq, decide_eq_true_eq] at this
  have hxx : key x1 = key x2 := by
    rcases this with h | h
    · exact absurd (by rw [← hash_congr hv1, ← hash_congr hv2, hh]) h
    · exact h
  rw [hkey b1 x1 hv1, hkey b2 x2 hv2]; exact hxx

def coreB (b : Board) : Board := { vis b with halfmove := 0, fullmove := 0 }

theorem coreB_congr {b b' : Board} (h : vis b = vis b') : coreB b = coreB b' := by
  unfold coreB; rw [h]

theorem clockless_abs_coreB (b : Board) : clockless (abs (coreB b)) = clockless (abs b) := rfl

theorem hashInjVis_of_check (root : Board) (N : Nat) (hc : injCheck vis (reachList root N) = true) :
    HashInjVis (ReachLe root N) :=
  inj_of_check vis (fun _ _ h => h) (reachList root N) (fun _ h => reachList_cover h) hc

/-! ## the same check with the hashes threaded down by XOR, as the search does

`levelH` carries the hash of every position along with it, computed from the parent's hash and the move (exact by C06 for
generated moves of well-formed boards), so that only the root is hashed from scratch when the check is evaluated. -/

def levelH (root : Board) : Nat → List (Board × UInt64)
  | 0 => [(root, Zobrist.hash root)]
  | n + 1 => (levelH root n).flatMap fun p => (genLegal p.1).map fun m => (make p.1 m, p.2 ^^^ (Zobrist.xorOf m.f).1)

def reachListH (root : Board) (N : Nat) : List (Board × UInt64) := (List.range (N + 1)).flatMap (levelH root)

theorem levelH_fst (root : Board) (n : Nat) : (levelH root n).map Prod.fst = level root n := by
  induction n with
  | zero => rfl
  | succ n ih =>
    show ((levelH root n).flatMap _).map Prod.fst = (level root n).flatMap _
    rw [← ih, List.map_flatMap, List.flatMap_map]
    simp only [List.map_map]
    rfl

theorem reachListH_fst (root : Board) (N : Nat) : (reachListH root N).map Prod.fst = reachList root N := by
  unfold reachListH reachList
  rw [List.map_flatMap]
  simp only [levelH_fst]

/-- the threaded hash is the hash; the clock budget is what keeps the boards of the next level well formed -/
theorem levelH_ok {root : Board} : ∀ (n k : Nat), Inv (n + k) root → ∀ p ∈ levelH root n, p.2 = Zobrist.hash p.1 ∧ Inv k p.1
  | 0, k, hinv, p, hp => by
    rw [List.mem_singleton.mp hp]
    exact ⟨rfl, Inv_mono (Nat.le_add_left _ _) hinv⟩
  | n + 1, k, hinv, p, hp => by
    obtain ⟨q, hq, hp⟩ := List.mem_flatMap.mp hp
    obtain ⟨m, hm, rfl⟩ := List.mem_map.mp hp
    obtain ⟨hm, hv⟩ := List.mem_filter.mp hm
    obtain ⟨hh, hi⟩ := levelH_ok n (k + 1) (by rw [← Nat.add_assoc, Nat.add_right_comm]; exact hinv) q hq
    refine ⟨?_, boardLaws.make_inv k q.1 m hi (Or.inl hm) hv⟩
    rw [hh]
    exact (ZobristStep.hash_incremental (GenFacts.genPseudo_hashok hi.wf m hm)).symm

theorem reachListH_ok {root : Board} {N : Nat} (hinv : Inv N root) : ∀ p ∈ reachListH root N, p.2 = Zobrist.hash p.1 := by
  intro p hp
  obtain ⟨n, hn, hp⟩ := List.mem_flatMap.mp hp
  have hn := List.mem_range.mp hn
  exact (levelH_ok n 0 (Inv_mono (by omega) hinv) p hp).1

def injCheckH {α : Type} [DecidableEq α] (key : Board → α) (L : List (Board × UInt64)) : Bool :=
  let K := L.map fun p => (p.2.toNat, key p.1)
  K.all fun a => K.all fun b => a.1 != b.1 || decide (a.2 = b.2)

theorem injCheck_fst {α : Type} [DecidableEq α] (key : Board → α) (L : List (Board × UInt64))
    (h : ∀ p ∈ L, p.2 = Zobrist.hash p.1) : injCheck key (L.map Prod.fst) = injCheckH key L := by
  have hK : (L.map Prod.fst).map (fun x => ((Zobrist.hash x).toNat, key x)) = L.map fun p => (p.2.toNat, key p.1) := by
    rw [List.map_map]
    exact List.map_congr_left fun p hp => by rw [Function.comp_apply, ← h p hp]
  unfold injCheck injCheckH
  rw [hK]

theorem hashInjVis_of_checkH (root : Board) (N : Nat) (hinv : Inv N root) (hc : injCheckH vis (reachListH root N) = true) :
    HashInjVis (ReachLe root N) :=
  hashInjVis_of_check root N (by rw [← reachListH_fst, injCheck_fst vis _ (reachListH_ok hinv)]; exact hc)

theorem hashInjCore_of_check (root : Board) (N : Nat) (hc : injCheck coreB (reachList root N) = true) :
    HashInjCore (ReachLe root N) := by
  intro b1 b2 h1 h2 hh
  have := inj_of_check coreB (fun _ _ h => coreB_congr h) (reachList root N) (fun _ h => reachList_cover h) hc b1 b2 h1 h2 hh
  rw [← clockless_abs_coreB b1, ← clockless_abs_coreB b2, this]

end Inkayaku.Search
