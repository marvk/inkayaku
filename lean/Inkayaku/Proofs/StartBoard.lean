import Inkayaku.Model.Search
import Inkayaku.Proofs.WfStep
import Inkayaku.Props.C12
/-!
# The start position is well formed, with room for 4095 plies

`wf` of the start position is evaluated once, in `C12.startBoard_wf`; facts about `Search.initial.board` go through
`initial_inv` and `initial_fullmove`.
-/
namespace Inkayaku.Search
open Inkayaku.Board Inkayaku.WF Inkayaku.FenBoard

theorem startBoard_halfmove : startBoard.halfmove = 0 := by decide +kernel

theorem startBoard_fullmove : startBoard.fullmove = 1 := by decide +kernel

theorem startBoard_inv {k : Nat} (hk : k ≤ 4095) : Inv k startBoard :=
  ⟨C12.startBoard_wf, by rw [startBoard_halfmove]; omega, by rw [startBoard_fullmove]; omega⟩

theorem initial_board : Search.initial.board = startBoard := rfl

/- Stated about `Search.initial.board`: unifying `Inv _ Search.initial.board` with `Inv _ startBoard` directly makes the
   elaborator unfold `startBoard`, i.e. parse the FEN in `whnf`. -/
theorem initial_inv {k : Nat} (hk : k ≤ 4095) : Inv k Search.initial.board :=
  initial_board ▸ startBoard_inv hk

theorem initial_fullmove : Search.initial.board.fullmove = 1 := initial_board ▸ startBoard_fullmove

end Inkayaku.Search
