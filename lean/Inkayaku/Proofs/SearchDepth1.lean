import Inkayaku.Proofs.SearchRoot
import Inkayaku.Proofs.AlphaBeta
import Inkayaku.Proofs.GenLength
/-!
# Iteration 1 of a `go` cannot be interrupted and returns a move (`depth1_completes`, C07)

`go` zeroes the node counter and clears the stop flag.  Iteration 1 visits the root and one horizon node per legal
root move; horizon nodes do not recurse into `negamax`.  If the pseudo-legal move list of the position is shorter than
the poll period, no node of iteration 1 sees a node counter that is a positive multiple of the poll period, so
no flag poll — hence no stop, quit or time-out — happens before iteration 1 has finished (`root1`).

`depth1_completes_partial` then reduces "the answer is not the null move" to the value-range hypothesis
`ChildBelowWin`: every depth-1 child search returns a value `< winScore`, so the first legal root move beats the
initial `bestValue = lossScore` and iteration 1 returns a move.  The second half of the file proves it
(`childBelowWin_of_wf`; `HorizonBelowWin` is the same with the circumstances of iteration 1 written out as premises, none
of which the value depends on).  The children are horizon nodes.  Their value is
* `0` after a time-out, or
* the repetition value `drawScore - contempt = -50`, or
* a static evaluation with legal moves remaining: `|v| ≤ 176000` (`SpecSearch.standPat_bound`, every board), or
* the terminal value `lossScore + fullmove` (mated) or `0` (stalemate) — below `winScore` iff `fullmove < 2^25` (the theorems ask `fullmove < 33554431`)
  (this is where the side condition on the full-move counter is needed, and it IS needed: from `fullmove ≥ 2^25` on a
  mating move would be valued `≤ lossScore` and never recorded), or
* a quiescence value.  `search_quiescence` is fail-hard, and that alone bounds it: a node searched with fuel ≥ 1
  returns its `β` or something `≥` its stand-pat; hence at a node with fuel ≥ 2 every child value, negated, is
  `≤ max α 176000`, and so is the result (`quiescence_range`, `quiescence_ub`).  Running out of fuel deeper in
  the tree can only produce fail-lows, so no adequacy of the quiescence fuel is needed.
-/
namespace Inkayaku.Search
open Inkayaku.Board Inkayaku.Eval Inkayaku.WF Inkayaku.BoardCongr

theorem pollFlag_false_of_lt {s : St} (h : s.negamaxNodes < s.pollPeriod) : pollFlag s = false := by
  unfold pollFlag
  rw [Nat.mod_eq_of_lt h]
  cases s.negamaxNodes <;> rfl

theorem pollFlag_false_of_zero {s : St} (h : s.negamaxNodes = 0) : pollFlag s = false := by
  unfold pollFlag
  rw [h]
  simp

theorem timedOut_of_noFlag {s : St} (h : pollFlag s = false) : timedOut s = false := by
  unfold timedOut; rw [h]; rfl

theorem enter_of_noFlag {s : St} (h : pollFlag s = false) (hash : UInt64) :
    enter s hash = { s with negamaxNodes := s.negamaxNodes + 1,
                            history := historySet s.history (plyClock s.board) hash.toNat } := by
  unfold enter pollStep; rw [h]; rfl

theorem horizon_child (fuel : Nat) (c : St) (ply : Nat) (α β : Int) (isPv : Bool) (h ph : UInt64)
    (hlt : c.negamaxNodes < c.pollPeriod) :
    ∃ b q hist nn, (negamax fuel c (ply + 1) (ply + 1) α β isPv h ph).2 =
        { c with board := b, quiescenceNodes := q, history := hist, negamaxNodes := nn } ∧ nn ≤ c.negamaxNodes + 1 := by
  cases fuel with
  | zero => rw [negamax_zero]; exact ⟨_, _, _, _, rfl, Nat.le_succ _⟩
  | succ fuel =>
    have hf := pollFlag_false_of_lt hlt
    have he := enter_of_noFlag hf h
    have hs3 : ∃ b q hist nn, enter c h = { c with board := b, quiescenceNodes := q, history := hist, negamaxNodes := nn } ∧
        nn ≤ c.negamaxNodes + 1 := ⟨_, _, _, _, he, Nat.le_refl _⟩
    have hqall : ∀ a b', ∃ b q hist nn, (quiescence fuel (enter c h) a b').2 =
        { c with board := b, quiescenceNodes := q, history := hist, negamaxNodes := nn } ∧ nn ≤ c.negamaxNodes + 1 := by
      intro a b'
      obtain ⟨b, q, hq⟩ := quiescence_quiet fuel (enter c h) a b'
      rw [hq, he]
      exact ⟨_, _, _, _, rfl, Nat.le_refl _⟩
    rcases negamax_succ_cases fuel c (ply + 1) (ply + 1) α β isPv h ph with
      ⟨ht, -⟩ | ⟨v, -, e⟩ | ⟨t, -, -, e⟩ | ⟨α', β', -, -, e⟩ | ⟨α', β', -, hne, -⟩
    · rw [timedOut_of_noFlag hf] at ht; cases ht
    · rw [e]; exact hs3
    · rw [e]; exact hs3
    · rw [e]; exact hqall _ _
    · exact absurd rfl hne

def Found (acc : LoopAcc) : Prop := acc.bestMove.isSome = true ∧ acc.legalSeen = true

theorem accUpdate_found (acc : LoopAcc) (m : Move) (child : VM) (h : Found acc ∨ acc.bestValue < -child.value) :
    Found (accUpdate acc m child) := by
  rcases accUpdate_cases acc m child with ⟨-, e⟩ | ⟨hle, e⟩ <;> rw [e]
  · exact ⟨rfl, rfl⟩
  · rcases h with h | h
    · exact ⟨h.1, rfl⟩
    · exact absurd h hle

def HorizonBelowWin (b0 : Board) (fuel : Nat) : Prop :=
  ∀ (c : St) (β : Int) (isPv : Bool) (h ph : UInt64),
    (∃ m, m ∈ genPseudo b0 ∧ isValid (make b0 m) = true ∧ vis c.board = vis (make b0 m)) →
    (∀ k, c.tt.get? k = none) → c.stop = false → 0 < c.negamaxNodes → c.negamaxNodes < c.pollPeriod →
    β ≤ Gen.winScore →
    (negamax fuel c 1 1 lossScore β isPv h ph).1.value < Gen.winScore

def ChildBelowWin (b0 : Board) (fuel : Nat) : Prop :=
  ∀ (c : St) (β : Int) (isPv : Bool) (h ph : UInt64) (m : Move), vis c.board = vis (make b0 m) → c.tt.get? h = none →
    (negamax fuel c 1 1 lossScore β isPv h ph).1.value < Gen.winScore

theorem ChildBelowWin.horizon {b0 : Board} {fuel : Nat} (H : ChildBelowWin b0 fuel) : HorizonBelowWin b0 fuel :=
  fun c β isPv h ph ⟨m, _, _, hv⟩ htt _ _ _ _ => H c β isPv h ph m hv (htt h)

theorem length_rootBuffer_le (s : St) (ply : Nat) : (rootBuffer s ply).length ≤ (genPseudo s.board).length := by
  unfold rootBuffer
  split
  · exact List.length_filter_le _ _
  · exact Nat.le_refl _

theorem length_sortMoves (ms : List Move) (a b c : Option Move) : (sortMoves ms a b c).length = ms.length := by
  unfold sortMoves; exact List.length_mergeSort _

theorem finish_notAborted (c : Nat) (a b : Int) (h : UInt64) (rem : Nat) (acc : LoopAcc) (s : St) :
    (∃ tt, (finish c a b h rem (acc, false, s)).2 = { s with tt := tt }) ∧
    (Found acc → (finish c a b h rem (acc, false, s)).1.mv = acc.bestMove) := by
  rcases finish_cases c a b h rem acc false s with ⟨e0, -⟩ | ⟨-, hl, e⟩ | ⟨-, -, -, e⟩ | ⟨-, -, -, nt, e⟩
  · cases e0
  · rw [e]
    exact ⟨⟨_, rfl⟩, fun hf => by rw [hf.2] at hl; cases hl⟩
  · rw [e]
    exact ⟨⟨_, rfl⟩, fun _ => rfl⟩
  · rw [e]
    exact ⟨⟨_, rfl⟩, fun _ => rfl⟩

section
variable (L : BoardLaws)
include L

theorem root1_loop {fuel : Nat} (b0 : Board) (hinv : Inv (fuel + 1) b0) (beta : Int) :
    ∀ (moves : List Move), (∀ m ∈ moves, m ∈ genPseudo b0) →
    ∀ (s : St) (isPv : Bool) (pvMove : Option Move) (h ph : UInt64) (rem : Nat) (acc : LoopAcc),
      vis s.board = vis b0 → s.stop = false → s.negamaxNodes + moves.length ≤ s.pollPeriod →
      (∃ b q hist nn k, (negamaxLoop fuel s moves 0 1 beta isPv pvMove h ph rem acc).2.2 =
          { s with board := b, quiescenceNodes := q, history := hist, negamaxNodes := nn, killers := k }) ∧
      (negamaxLoop fuel s moves 0 1 beta isPv pvMove h ph rem acc).2.1 = false ∧
      (ChildBelowWin b0 fuel → beta = Gen.winScore → (∀ k, s.tt.get? k = none) →
        (Found acc ∨ (acc.bestValue = lossScore ∧ ∃ m ∈ moves, isValid (make b0 m) = true)) →
        Found (negamaxLoop fuel s moves 0 1 beta isPv pvMove h ph rem acc).1) := by
  intro moves hmem s isPv pvMove h ph rem acc hs hstop hlen
  refine (nLoop_walk L hinv 0 1 beta h
    (NL := fun moves s acc res => (∀ m ∈ moves, m ∈ genPseudo b0) → s.stop = false → s.negamaxNodes + moves.length ≤ s.pollPeriod →
      (∃ b q hist nn k, res.2.2 =
          { s with board := b, quiescenceNodes := q, history := hist, negamaxNodes := nn, killers := k }) ∧
      res.2.1 = false ∧
      (ChildBelowWin b0 fuel → beta = Gen.winScore → (∀ k, s.tt.get? k = none) →
        (Found acc ∨ (acc.bestValue = lossScore ∧ ∃ m ∈ moves, isValid (make b0 m) = true)) → Found res.1))
    ?nil ?skip ?child
    isPv pvMove ph rem moves (fun m hm => Or.inl (hmem m hm)) s acc hs).1 hmem hstop hlen
  case nil =>
    intro _ _ _ _ _
    refine ⟨⟨_, _, _, _, _, rfl⟩, rfl, ?_⟩
    intro _ _ _ hf
    rcases hf with hf | ⟨-, m, hm, -⟩
    · exact hf
    · cases hm
  case skip =>
    intro m rest s _ _ hbad ih hmem hstop hlen
    have hlen' : s.negamaxNodes + rest.length + 1 ≤ s.pollPeriod := by
      simpa [List.length_cons, Nat.add_assoc] using hlen
    obtain ⟨⟨b, q, hist, nn, k, h1⟩, h2, h3⟩ := ih (List.forall_mem_cons.mp hmem).2 hstop
      (by show s.negamaxNodes + rest.length ≤ s.pollPeriod; omega)
    refine ⟨⟨b, q, hist, nn, k, by rw [h1]⟩, h2, ?_⟩
    intro hv' hbeta htt hf
    refine h3 hv' hbeta htt ?_
    rcases hf with hf | ⟨hbv', x, hx, hxv⟩
    · exact Or.inl hf
    · rcases List.mem_cons.mp hx with rfl | hx
      · rw [hbad] at hxv; cases hxv
      · exact Or.inr ⟨hbv', x, hx, hxv⟩
  case child =>
    intro m rest s acc k r _ hv' hs ⟨isPv', ph', hr⟩
    refine ⟨fun hst hmem hstop hlen => ?_, fun _ _ hmem hstop hlen => ?_,
      fun _ _ res ih hmem hstop hlen => ?_⟩
    all_goals
      obtain ⟨hm, hrest⟩ := List.forall_mem_cons.mp hmem
      have hlen' : s.negamaxNodes + rest.length + 1 ≤ s.pollPeriod := by
        simpa [List.length_cons, Nat.add_assoc] using hlen
      -- the child is a horizon node entered between two polls
      obtain ⟨b, q, hist, nn, hr', hnn2⟩ := horizon_child fuel { s with board := make s.board m } 0 (-beta)
        (-acc.alpha) isPv' (h ^^^ (Zobrist.xorOf m.f).1) ph'
        (by show s.negamaxNodes < s.pollPeriod; omega)
      have hnn2' : nn ≤ s.negamaxNodes + 1 := hnn2
      have hfound : ChildBelowWin b0 fuel → beta = Gen.winScore → (∀ k, s.tt.get? k = none) →
          (Found acc ∨ acc.bestValue = lossScore) → Found (accUpdate acc m r.1) := by
        intro hvl hbeta htt hf
        refine accUpdate_found _ _ _ (hf.imp_right fun hf => ?_)
        have : r.1.value < Gen.winScore := by
          subst hbeta
          rw [hr]
          exact hvl { s with board := make s.board m } (-acc.alpha) isPv' (h ^^^ (Zobrist.xorOf m.f).1) ph' m
            (make_congr hs m) (htt _)
        rw [hf]
        unfold lossScore
        omega
      replace hr' : r.2 = { s with board := b, quiescenceNodes := q, history := hist, negamaxNodes := nn } := hr ▸ hr'
    · rw [hr'] at hst
      have habs : s.stop = true := hst
      rw [hstop] at habs
      cases habs
    · rw [hr']
      refine ⟨⟨_, _, _, _, _, rfl⟩, rfl, ?_⟩
      intro hvl hbeta htt hf
      exact hfound hvl hbeta htt (hf.imp id (fun x => x.1))
    · rw [hr'] at ih
      obtain ⟨⟨b', q', hist', nn', k', h1⟩, h2, h3⟩ := ih hrest hstop
        (by show nn + rest.length ≤ s.pollPeriod; omega)
      refine ⟨⟨b', q', hist', nn', k', by rw [h1]⟩, h2, ?_⟩
      intro hvl hbeta htt hf
      exact h3 hvl hbeta htt (Or.inl (hfound hvl hbeta htt (hf.imp id (fun x => x.1))))

theorem root1 (p : St) (hwf : Inv (fuelFor 1) p.board) (hstop : p.stop = false) (hnn : p.negamaxNodes = 0)
    (hpoll : (genPseudo p.board).length < p.pollPeriod) :
    (rootSearch p 1).2.stop = false ∧ (rootSearch p 1).2.pending = p.pending ∧
    (ChildBelowWin p.board (fuelFor 1 - 1) → (∀ k, p.tt.get? k = none) →
      (∃ m, LegalRoot p.board p.go.searchMoves m) → (rootSearch p 1).1.mv.isSome = true) := by
  have hf := pollFlag_false_of_zero hnn
  have hfuel : fuelFor 1 = 200 + 1 := rfl
  unfold rootSearch
  rw [hfuel]
  generalize Zobrist.hash p.board = h
  generalize Zobrist.pawnHash p.board = ph
  generalize p.pv.isSome = isPv
  have he := enter_of_noFlag hf h
  have hrep : isRep (enter p h) 0 = false := by unfold isRep; simp
  have hbuf : rootBuffer (enter p h) 0 = rootBuffer p 0 := by rw [he]; rfl
  have hs3 : (enter p h).stop = false ∧ (enter p h).pending = p.pending := by rw [he]; exact ⟨hstop, rfl⟩
  have hprobe : (∀ k, p.tt.get? k = none) →
      probe ((enter p h).tt.get? h) (1 - 0) lossScore Gen.winScore =
        (none, lossScore, Gen.winScore) := by
    intro htt
    have : (enter p h).tt.get? h = none := by rw [he]; exact htt _
    rw [this]; rfl
  rcases negamax_succ_cases 200 p 0 1 lossScore Gen.winScore isPv h ph with
    ⟨ht, -⟩ | ⟨v, ⟨hr, -⟩ | ⟨-, hempty, -⟩ | ⟨hz, -⟩, e⟩ | ⟨t, hget, -, e⟩ | ⟨x, y, -, hz, -⟩ | ⟨alpha, beta, heq, -, e⟩
  · rw [timedOut_of_noFlag hf] at ht; cases ht
  · rw [hrep] at hr; cases hr
  · rw [e]
    refine ⟨hs3.1, hs3.2, ?_⟩
    intro _ _ ⟨m, hm1, _, hm3⟩
    have : m ∈ rootBuffer p 0 := mem_rootBuffer.mpr ⟨hm1, fun _ => hm3⟩
    rw [← hbuf, hempty] at this
    cases this
  · cases hz
  · rw [e]
    refine ⟨hs3.1, hs3.2, ?_⟩
    intro _ htt _
    rw [he, htt] at hget
    cases hget
  · cases hz
  · rw [e]
    have hwf3 : Inv (200 + 1) (enter p h).board := by rw [he]; exact hwf
    obtain ⟨⟨b, q, hist, nn, k, h1⟩, h2, h3⟩ := root1_loop L (enter p h).board hwf3 beta
      (sortMoves (rootBuffer (enter p h) 0)
        (pvMoveOf (enter p h) isPv 0)
        (ttMoveOf ((enter p h).tt.get? h))
        (killerGet (enter p h).killers (1 - 0)))
      (fun m hm => mem_rootBuffer_genPseudo (mem_sortMoves.mp hm))
      (enter p h) isPv (pvMoveOf (enter p h) isPv 0)
      h ph (1 - 0) (acc0 alpha) rfl hs3.1
      (by
        rw [length_sortMoves]
        have h1 := length_rootBuffer_le (enter p h) 0
        have h2 : (enter p h).negamaxNodes = 1 := by rw [he]; show p.negamaxNodes + 1 = 1; omega
        have h3 : (enter p h).pollPeriod = p.pollPeriod := by rw [he]
        have h4 : (enter p h).board = p.board := by rw [he]
        rw [h2, h3]; rw [h4] at h1; omega)
    generalize negamaxLoop 200 (enter p h) _ 0 1 beta isPv _ _ _ (1 - 0) (acc0 alpha) = res
      at h1 h2 h3 ⊢
    obtain ⟨acc, ab, st⟩ := res
    simp only at h1 h2 h3
    subst h2
    obtain ⟨⟨tt, hfin⟩, hmv⟩ := finish_notAborted (enter p h).board.turn lossScore beta h (1 - 0) acc st
    have hst : st.stop = false ∧ st.pending = p.pending := by rw [h1]; exact hs3
    rw [hfin]
    refine ⟨hst.1, hst.2, ?_⟩
    intro hvl htt ⟨m, hm1, hm2, hm3⟩
    have hpr := hprobe htt
    rw [hpr] at heq
    have hal : alpha = lossScore := by injection heq with _ h'; injection h' with h' _; exact h'.symm
    have hbe : beta = Gen.winScore := by injection heq with _ h'; injection h' with _ h'; exact h'.symm
    have hmem : m ∈ rootBuffer (enter p h) 0 := by rw [hbuf]; exact mem_rootBuffer.mpr ⟨hm1, fun _ => hm3⟩
    have hb4 : (enter p h).board = p.board := by rw [he]
    have hfound := h3 (by rw [hb4]; exact hvl) hbe (by rw [he]; exact htt)
      (Or.inr ⟨rfl, m, mem_sortMoves.mpr hmem, by rw [hb4]; exact hm2⟩)
    rw [hmv hfound]
    exact hfound.1

theorem depth1_completes_partial (s : St) (g : GoParams) (maxIter : Nat) (hwf : Inv (fuelFor 1) s.board) (hiter : 1 ≤ maxIter)
    (hpoll : (genPseudo s.board).length < s.pollPeriod)
    (hlegal : ∃ m, LegalRoot s.board g.searchMoves m)
    (hval : ChildBelowWin s.board (fuelFor 1 - 1)) :
    bestMoveOf (goDeepen s g maxIter).1 ≠ none := by
  obtain ⟨k, pv, g', hp⟩ := goPrep_eq s g
  have hb : (goPrep s g).board = s.board := goPrep_board s g
  have hsm := goPrep_searchMoves s g
  obtain ⟨hst, -, hmv⟩ := root1 L (goPrep s g) (by rw [hb]; exact hwf) (by rw [hp]) (by rw [hp])
    (by rw [hb]; rw [hp]; exact hpoll)
  have hmv' := hmv (by rw [hb]; exact hval)
    (by intro k'; rw [hp]; simp [Std.HashMap.get?_eq_getElem?])
    (by rw [hb, hsm]; exact hlegal)
  have hna : iterAborted (rootSearch (goPrep s g) 1) = false :=
    iterAborted_eq_false.mpr ⟨hst, Option.isSome_iff_exists.mp hmv'⟩
  -- iteration 1 is run and completes
  obtain ⟨n, hn⟩ : ∃ n, goIters g maxIter = n + 1 := by
    refine ⟨goIters g maxIter - 1, ?_⟩
    unfold goIters
    cases g.depth with
    | none => simp only; omega
    | some d => simp only; omega
  intro hnone
  have := (goDeepen_none_iff s g maxIter).mp hnone
  unfold goIterations at this
  rw [hn] at this
  simp [iters, completed, hna] at this

theorem depth1_not_interrupted (s : St) (g : GoParams) (hwf : Inv (fuelFor 1) s.board)
    (hpoll : (genPseudo s.board).length < s.pollPeriod) :
    (rootSearch (goPrep s g) 1).2.stop = false ∧ (rootSearch (goPrep s g) 1).2.pending = s.pending := by
  obtain ⟨k, pv, g', hp⟩ := goPrep_eq s g
  have hb : (goPrep s g).board = s.board := goPrep_board s g
  obtain ⟨hst, hpe, -⟩ := root1 L (goPrep s g) (by rw [hb]; exact hwf) (by rw [hp]) (by rw [hp])
    (by rw [hb]; rw [hp]; exact hpoll)
  exact ⟨hst, by rw [hpe, hp]⟩

end

theorem quiescence_range (fuel : Nat) (s : St) (α β : Int) :
    (fuel ≠ 0 → (quiescence fuel s α β).1.value = β ∨ -176000 ≤ (quiescence fuel s α β).1.value) ∧
    (2 ≤ fuel → (quiescence fuel s α β).1.value ≤ max α 176000) :=
  (quiescence_induct
    (QP := fun f _ a b res => (f ≠ 0 → res.1.value = b ∨ -176000 ≤ res.1.value) ∧ (2 ≤ f → res.1.value ≤ max a 176000))
    (QL := fun f _ _ a b _ _ res => (res.1.value = b ∨ a ≤ res.1.value) ∧
      (∀ M : Int, 176000 ≤ M → 1 ≤ f → a ≤ M → res.1.value ≤ M))
    (zero := ⟨fun h => absurd rfl h, fun h => by omega⟩)
    (pat := fun {_ s a b} hge =>
      ⟨fun _ => Or.inl rfl, fun _ => by
        have := (SpecSearch.standPat_bound s.board s.board.turn).2
        show b ≤ max a 176000
        omega⟩)
    (loop := fun {_ s a _ _} _ ⟨lge, lub⟩ =>
      have hsp := SpecSearch.standPat_bound s.board s.board.turn
      ⟨fun _ => lge.imp_right fun h => by omega, fun _ => lub (max a 176000) (by omega) (by omega) (by omega)⟩)
    (nil := ⟨Or.inr (Int.le_refl _), fun _ _ _ ha => ha⟩)
    (skip := fun _ ih => ih)
    (child := fun {f _ _ _ a b _ _ r} _ ⟨clb, _⟩ =>
      ⟨fun hge => ⟨Or.inl rfl, fun M _ _ _ => by have := clb (by omega); show b ≤ M; omega⟩,
        fun _ _ _ ⟨ige, iub⟩ =>
          ⟨ige.imp_right fun h => by omega, fun M hM h1 _ => iub M hM h1 (by have := clb (by omega); omega)⟩,
        fun _ _ _ ih => ih⟩)).1 fuel s α β

theorem quiescence_ub (fuel : Nat) (s : St) (α β : Int) : (quiescence (fuel + 2) s α β).1.value ≤ max α 176000 :=
  (quiescence_range (fuel + 2) s α β).2 (Nat.le_add_left _ _)

theorem repValue_one_lt : repValue 1 < Gen.winScore := by decide

/-- **the depth-1 children stay below `winScore`** whenever a mate score delivered after the root move does
(`fullmove + turn < 2^25`) and the fuel reaches the quiescence search with 2 units left: neither the flags nor the window
matter (a time-out returns 0) -/
theorem childBelowWin (b0 : Board) (hfm : b0.fullmove + b0.turn < 33554432) (fuel : Nat) : ChildBelowWin b0 (fuel + 3) := by
  have hw := Eval.winScore_val
  have hl := SpecSearch.lossScore_val
  intro c β isPv h ph m hvis htt
  have hb : (enter c h).board = c.board := enter_board c h
  have hget : (enter c h).tt.get? h = none := by rw [enter_tt]; exact htt
  have hfull : c.board.fullmove = b0.fullmove + b0.turn := by
    have h1 : c.board.fullmove = (make b0 m).fullmove := by
      rw [← fullmove_vis c.board, hvis, fullmove_vis]
    rw [h1]; rfl
  rcases negamax_succ_cases (fuel + 2) c 1 1 lossScore β isPv h ph with
    ⟨-, e⟩ | ⟨v, ⟨-, rfl⟩ | ⟨hz, -⟩ | ⟨-, rfl⟩, e⟩ | ⟨t, hg, -⟩ | ⟨alpha, beta, heq, -, e⟩ | ⟨x, y, -, hne, -⟩
  · rw [e]; show (0 : Int) < _; omega
  · rw [e]; exact repValue_one_lt
  · cases hz
  · rw [e, VM.value_leaf, hb]
    cases hlr : isAnyMoveLegal c.board (rootBuffer (enter c h) 1) with
    | true =>
      have := (SpecSearch.standPat_bound c.board c.board.turn).2
      omega
    | false =>
      rw [SpecSearch.term_value]
      split <;> omega
  · rw [hget] at hg; cases hg
  · rw [hget] at heq
    obtain ⟨rfl, rfl⟩ : lossScore = alpha ∧ β = beta := by
      have : (none, lossScore, β) = ((none : Option VM), alpha, beta) := heq
      simpa using this
    have := quiescence_ub fuel (enter c h) lossScore β
    rw [e]
    omega
  · exact absurd rfl hne

theorem childBelowWin_of_wf {b : Board} (hwf : wf b = true) (hfm : b.fullmove < 33554431) :
    ChildBelowWin b (fuelFor 1 - 1) := by
  have := (wf_turn_fm hwf).1
  exact childBelowWin b (by omega) 197

theorem horizonBelowWin_of_wf {b : Board} (hwf : wf b = true) (hfm : b.fullmove < 33554431) :
    HorizonBelowWin b (fuelFor 1 - 1) := (childBelowWin_of_wf hwf hfm).horizon

section
variable (L : BoardLaws)
include L

/-- **a position with a legal move never gets the null move** (model level): the first iteration cannot be
interrupted and returns a move; later iterations can only replace it by another completed result -/
theorem depth1_completes (s : St) (g : GoParams) (maxIter : Nat) (hwf : Inv (fuelFor 1) s.board)
    (hfm : s.board.fullmove < 33554431) (hiter : 1 ≤ maxIter) (hpoll : 41218 < s.pollPeriod)
    (hlegal : ∃ m, LegalRoot s.board g.searchMoves m) :
    bestMoveOf (goDeepen s g maxIter).1 ≠ none :=
  depth1_completes_partial L s g maxIter hwf hiter
    (Nat.lt_of_le_of_lt (GenLength.genPseudo_length_le s.board) hpoll) hlegal
    (childBelowWin_of_wf hwf.wf hfm)

end

end Inkayaku.Search
