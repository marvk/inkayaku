import Inkayaku.Proofs.SearchRel
/-!
# The output stream of one `go` (C07 / C09 / C16)

* `goCmd_out`: a `go` appends to the output, in this order, infos only and then exactly one `bestmove`;
  the node counts of the infos are sorted, each info's time is the virtual clock value of its node count;
  `goCmd_answer` is its "exactly one `bestmove`" half, `goCmd_head` reads the answer off an output given by its head;
* `deepen_depths`: the depths reported by the iteration infos are sorted;
* `deepen_best`: the value returned by the iterative deepening is the root result of the last iteration that was not
  aborted (`Search.iters` lists the root results of the iterations run);
* `BestInv`, `deepen_head`: when a best move is announced, the info emitted last before it carries a PV whose
  first move is the best move and whose second move (if any) is the ponder move;
* `IterStep Q I`: what an iteration finds (`I`) makes `Q` true of its root result and survives a completed iteration; then `Q`
  holds of every root result of a `go` (`iters_all`), and what `Q` implies of a report holds of everything the `go` emits
  (`deepen_infos`, `goCmd_news`, `goCmd_infos`): a report carries the score and PV of a completed root result.
All statements about the iterations are instances of `deepen_induct`.
-/
namespace Inkayaku.Search
open Inkayaku.Board Inkayaku.Eval

theorem rootSearch_rel {R : St → St → Prop} {d : Nat} (H : StepRel d R) (s : St) : R s (rootSearch s d).2 :=
  negamax_rel H _ s 0 _ _ _ _ _

def bestMoves (outs : List Out) : List (Option Move × Option Move) :=
  outs.filterMap fun | .bestMove b p => some (b, p) | .info .. => none

def infoNodes (outs : List Out) : List Nat :=
  outs.filterMap fun | .info _ _ n _ _ => some n | .bestMove .. => none

def infoTimes (outs : List Out) : List Nat :=
  outs.filterMap fun | .info _ (some t) _ _ _ => some t | _ => none

def infoDepths (outs : List Out) : List Nat :=
  outs.filterMap fun | .info (some d) _ _ _ _ => some d | _ => none

theorem Chain.bestMoves_nil {k : Option Nat} {lo hi : Nat} {l : List Out} (h : Chain k lo hi l) : bestMoves l = [] := by
  unfold bestMoves
  rw [List.filterMap_eq_nil_iff]
  intro o ho
  have := h.1 o ho
  cases o with
  | info d t n sc pv => rfl
  | bestMove _ _ => exact this.elim

theorem Chain.filterMap_eq {α : Type} {f : Out → Option α} {g : Out → α} {k : Option Nat} {lo hi : Nat} {l : List Out}
    (h : Chain k lo hi l) (hfg : ∀ o, InfoOK k lo hi o → f o = some (g o)) : l.filterMap f = l.map g := by
  induction l with
  | nil => rfl
  | cons o l ih =>
    rw [List.filterMap_cons, hfg o (h.1 o List.mem_cons_self), List.map_cons,
      ih ⟨fun x hx => h.1 x (List.mem_cons_of_mem _ hx), (List.pairwise_cons.mp h.2).2⟩]

theorem Chain.infoNodes_eq {k : Option Nat} {lo hi : Nat} {l : List Out} (h : Chain k lo hi l) : infoNodes l = l.map nodesOf :=
  h.filterMap_eq fun o ho => by cases o with
    | info d t n sc pv => rfl
    | bestMove _ _ => exact ho.elim

theorem Chain.infoTimes_eq {k : Option Nat} {lo hi : Nat} {l : List Out} (h : Chain k lo hi l) :
    infoTimes l = l.map (fun o => elapsedOf k (nodesOf o) / 1000000) :=
  h.filterMap_eq fun o ho => by cases o with
    | info d t n sc pv => obtain ⟨rfl, -⟩ := ho; rfl
    | bestMove _ _ => exact ho.elim

theorem Chain.nodes_sorted {k : Option Nat} {lo hi : Nat} {l : List Out} (h : Chain k lo hi l) :
    (infoNodes l).Pairwise (fun a b => b ≤ a) := by
  rw [h.infoNodes_eq, List.pairwise_map]
  exact h.2

theorem Chain.times_sorted {k : Option Nat} {lo hi : Nat} {l : List Out} (h : Chain k lo hi l) :
    (infoTimes l).Pairwise (fun a b => b ≤ a) := by
  rw [h.infoTimes_eq, List.pairwise_map]
  exact h.2.imp (fun hab => Nat.div_le_div_right (elapsedOf_mono k hab))

theorem iterState_frame (r : VM × St) (d : Nat) (sc : Option Score) (u : Option (List Move)) :
    Frame r.2 (iterState r d sc u) := by
  unfold iterState
  split
  · exact ⟨rfl, Nat.le_refl _, Nat.le_refl _, [_], rfl, Chain.single ⟨rfl, Nat.le_refl _, Nat.le_refl _⟩⟩
  · exact ⟨rfl, Nat.le_refl _, Nat.le_refl _, [_], rfl, Chain.single ⟨rfl, Nat.le_refl _, Nat.le_refl _⟩⟩

def iterInfo (r : VM × St) (d : Nat) (sc : Option Score) (u : Option (List Move)) : Out :=
  if iterAborted r then .info (some (d - 1)) (some (r.2.elapsedNs / 1000000)) r.2.totalNodes sc u
  else .info (some d) (some (r.2.elapsedNs / 1000000)) r.2.totalNodes (some (scoreFromValue r.1.value r.2.board)) (some r.1.pv)

theorem iterState_out (r : VM × St) (d : Nat) (sc : Option Score) (u : Option (List Move)) :
    (iterState r d sc u).out = iterInfo r d sc u :: r.2.out := by
  unfold iterState iterInfo
  split <;> rfl

theorem iterState_pv (r : VM × St) (d : Nat) (sc : Option Score) (u : Option (List Move)) :
    (iterState r d sc u).pv = if iterAborted r then r.2.pv else some r.1.pv := by
  unfold iterState
  split <;> rfl

theorem iter_frame (s : St) (d : Nat) (sc : Option Score) (u : Option (List Move)) :
    Frame s (iterState (rootSearch s d) d sc u) :=
  (rootSearch_rel (frame_stepRel d) s).trans (iterState_frame _ d sc u)

theorem iter_out (s : St) (d : Nat) (sc : Option Score) (u : Option (List Move)) :
    ∃ polls, (iterState (rootSearch s d) d sc u).out = (iterInfo (rootSearch s d) d sc u :: polls) ++ s.out ∧
      ∀ o ∈ polls, IsPollInfo o := by
  obtain ⟨polls, hp, hpoll⟩ := rootSearch_rel (pollOnly_stepRel d) s
  exact ⟨polls, by rw [iterState_out, hp]; rfl, hpoll⟩

theorem deepen_frame (n : Nat) (s : St) (d mt : Nat) (best : Option VM) (u : Option (List Move)) (sc : Option Score) :
    Frame s (deepen n s d mt best u sc).2 :=
  deepen_induct mt (M := fun _ s _ _ _ _ _ res => Frame s res.2) ((frame_stepRel 0).refl _) (fun _ => iter_frame ..)
    (fun _ _ _ ih => (iter_frame ..).trans ih) n s d best u sc

def DepthsOK (lo : Nat) (l : List Out) : Prop :=
  (infoDepths l).Pairwise (fun a b => b ≤ a) ∧ ∀ x ∈ infoDepths l, lo ≤ x

theorem infoDepths_append (a b : List Out) : infoDepths (a ++ b) = infoDepths a ++ infoDepths b := by
  unfold infoDepths; rw [List.filterMap_append]

theorem IsPollInfo.eq {o : Out} (h : IsPollInfo o) : ∃ t n, o = .info none t n none none := by
  cases o with
  | info d t n sc pv =>
    cases d <;> cases sc <;> cases pv
    · exact ⟨t, n, rfl⟩
    all_goals exact h.elim
  | bestMove _ _ => exact h.elim

theorem infoDepths_poll {l : List Out} (h : ∀ o ∈ l, IsPollInfo o) : infoDepths l = [] := by
  unfold infoDepths
  rw [List.filterMap_eq_nil_iff]
  intro o ho
  obtain ⟨t, n, rfl⟩ := (h o ho).eq
  rfl

theorem infoDepths_iter (r : VM × St) (d : Nat) (sc : Option Score) (u : Option (List Move)) {polls : List Out}
    (h : ∀ o ∈ polls, IsPollInfo o) : infoDepths (iterInfo r d sc u :: polls) = [if iterAborted r then d - 1 else d] := by
  rw [← List.singleton_append, infoDepths_append, infoDepths_poll h]
  unfold iterInfo
  split <;> rfl

theorem deepen_depths (n : Nat) (s : St) (d mt : Nat) (best : Option VM) (u : Option (List Move)) (sc : Option Score) :
    ∃ news, (deepen n s d mt best u sc).2.out = news ++ s.out ∧ DepthsOK (d - 1) news := by
  refine deepen_induct mt (M := fun _ s d _ _ _ _ res => ∃ news, res.2.out = news ++ s.out ∧ DepthsOK (d - 1) news)
    ⟨[], rfl, List.Pairwise.nil, by simp [infoDepths]⟩ ?stop ?next n s d best u sc
  case stop =>
    intro _ s d _ u sc _ _
    obtain ⟨polls, hout, hpoll⟩ := iter_out s d sc u
    refine ⟨_, hout, ?_⟩
    unfold DepthsOK
    rw [infoDepths_iter _ _ _ _ hpoll]
    exact ⟨List.pairwise_singleton _ _, fun x hx => by rw [List.mem_singleton.mp hx]; split <;> omega⟩
  case next =>
    intro _ s d _ u sc _ _ hna _ _ ⟨news, hn, hs, hlo⟩
    obtain ⟨polls, hout, hpoll⟩ := iter_out s d sc u
    have hd := infoDepths_iter (rootSearch s d) d sc u hpoll
    rw [hna, if_neg Bool.false_ne_true] at hd
    refine ⟨news ++ (iterInfo (rootSearch s d) d sc u :: polls), by rw [hn, hout, List.append_assoc], ?_, ?_⟩
    · rw [infoDepths_append, hd, List.pairwise_append]
      exact ⟨hs, List.pairwise_singleton _ _, fun a ha b hb => by
        have := hlo a ha; rw [List.mem_singleton.mp hb]; omega⟩
    · intro x hx
      rw [infoDepths_append, hd] at hx
      rcases List.mem_append.mp hx with h | h
      · have := hlo x h; omega
      · rw [List.mem_singleton.mp h]; omega

def completed (l : List (VM × St)) : List (VM × St) := l.filter (fun r => !iterAborted r)

theorem deepen_best (n : Nat) (s : St) (d mt : Nat) (best : Option VM) (u : Option (List Move)) (sc : Option Score) :
    (deepen n s d mt best u sc).1 =
      match (completed (iters n s d mt u sc)).getLast? with
      | some r => some r.1
      | none => best := by
  refine deepen_induct mt (M := fun _ _ _ best _ _ its res => res.1 =
      match (completed its).getLast? with
      | some r => some r.1
      | none => best) rfl ?stop ?next n s d best u sc
  case stop =>
    intro _ _ _ _ _ _ _ h
    rcases h with ⟨ha, rfl⟩ | ⟨ha, -, rfl⟩ <;> simp [completed, ha]
  case next =>
    intro _ s d _ _ _ its _ ha _ _ ih
    have hc : completed (rootSearch s d :: its) = rootSearch s d :: completed its := by
      simp only [completed, ha, Bool.not_false, List.filter_cons_of_pos]
    rw [ih, hc, List.getLast?_cons]
    cases (completed its).getLast? <;> rfl

def BestInv (best : Option VM) (u : Option (List Move)) (s : St) : Prop :=
  ∀ c, best = some c → u = some c.pv ∧ s.pv = some c.pv ∧ c.mv.isSome = true ∧ ∃ d t n sc rest, s.out = .info d t n sc u :: rest

theorem iter_head {s : St} {d : Nat} (sc : Option Score) (u : Option (List Move)) (ha : iterAborted (rootSearch s d) = false) :
    BestInv (some (rootSearch s d).1) (some (rootSearch s d).1.pv) (iterState (rootSearch s d) d sc u) := by
  obtain ⟨-, m, hm⟩ := iterAborted_eq_false.mp ha
  intro c hc
  cases hc
  refine ⟨rfl, by rw [iterState_pv, ha]; rfl, by rw [hm]; rfl, ?_⟩
  rw [iterState_out]
  unfold iterInfo
  rw [ha]
  exact ⟨_, _, _, _, _, rfl⟩

theorem deepen_head (n : Nat) (s : St) (d mt : Nat) (best : Option VM) (u : Option (List Move)) (sc : Option Score)
    (hinv : BestInv best u s) :
    BestInv (deepen n s d mt best u sc).1 ((deepen n s d mt best u sc).1.map VM.pv) (deepen n s d mt best u sc).2 := by
  refine deepen_induct mt (M := fun _ s _ best u _ _ res => BestInv best u s → BestInv res.1 (res.1.map VM.pv) res.2)
    ?zero ?stop (fun ha _ _ ih _ => ih (iter_head _ _ ha)) n s d best u sc hinv
  case zero =>
    intro _ _ _ u _ hinv c hc
    subst hc
    obtain ⟨rfl, h⟩ := hinv c rfl
    exact ⟨rfl, h⟩
  case stop =>
    intro _ s d best u sc b' h hinv
    rcases h with ⟨ha, rfl⟩ | ⟨ha, -, rfl⟩
    · intro c hc
      subst hc
      obtain ⟨hu, hpv, hmv, -⟩ := hinv c rfl
      refine ⟨rfl, by rw [iterState_pv, if_pos ha, (rootSearch_rel (kept_stepRel d) s).1]; exact hpv, hmv, ?_⟩
      rw [iterState_out]
      unfold iterInfo
      rw [if_pos ha, hu]
      exact ⟨_, _, _, _, _, rfl⟩
    · exact iter_head sc u ha

theorem goPrep_out (s : St) (g : GoParams) : (goPrep s g).out = s.out := by
  obtain ⟨k, p, g', h⟩ := goPrep_eq s g; rw [h]
theorem goPrep_nsPerNode (s : St) (g : GoParams) : (goPrep s g).nsPerNode = s.nsPerNode := by
  obtain ⟨k, p, g', h⟩ := goPrep_eq s g; rw [h]
theorem goPrep_totalNodes (s : St) (g : GoParams) : (goPrep s g).totalNodes = 0 := by
  obtain ⟨k, p, g', h⟩ := goPrep_eq s g; rw [h]; rfl
theorem goPrep_ttBound (s : St) (g : GoParams) : TTBound 0 (goPrep s g) := by
  obtain ⟨k, p, g', h⟩ := goPrep_eq s g
  rw [h]
  exact TTAll.empty _

theorem goCmd_out (s : St) (g : GoParams) (maxIter : Nat) :
    ∃ news, (goCmd s g maxIter).out =
        .bestMove (bestMoveOf (goDeepen s g maxIter).1) (ponderOf (goDeepen s g maxIter).1 (goDeepen s g maxIter).2)
          :: (news ++ s.out) ∧
      Chain s.nsPerNode 0 (goDeepen s g maxIter).2.totalNodes news ∧ DepthsOK 0 news := by
  obtain ⟨news, hn, hc⟩ := (deepen_frame (goIters g maxIter) (goPrep s g) 1 (goMaxThinking (goPrep s g)) none none none).out
  obtain ⟨news', hn', hd⟩ := deepen_depths (goIters g maxIter) (goPrep s g) 1 (goMaxThinking (goPrep s g)) none none none
  have : news' = news := List.append_cancel_right (hn'.symm.trans hn)
  subst this
  rw [goPrep_nsPerNode, goPrep_totalNodes] at hc
  rw [goPrep_out] at hn
  refine ⟨news', ?_, hc, hd⟩
  rw [goCmd_eq]
  show _ :: (goDeepen s g maxIter).2.out = _
  unfold goDeepen
  rw [hn]

theorem goCmd_head {s : St} {g : GoParams} {maxIter : Nat} {b p : Option Move} {rest : List Out}
    (h : (goCmd s g maxIter).out = .bestMove b p :: rest) :
    bestMoveOf (goDeepen s g maxIter).1 = b ∧ ponderOf (goDeepen s g maxIter).1 (goDeepen s g maxIter).2 = p ∧
      (goDeepen s g maxIter).2.out = rest := by
  rw [goCmd_eq] at h
  injection h with h hr
  injection h with hb hp
  exact ⟨hb, hp, hr⟩

theorem ponderOf_none {best : Option VM} {s : St} (h : bestMoveOf best = none) : ponderOf best s = none := by
  unfold ponderOf
  rw [h]

theorem goCmd_answer (s : St) (g : GoParams) (maxIter : Nat) :
    ∃ best ponder infos, (goCmd s g maxIter).out = .bestMove best ponder :: (infos ++ s.out) ∧ bestMoves infos = [] ∧
      best = bestMoveOf (goDeepen s g maxIter).1 ∧ (best = none → ponder = none) := by
  obtain ⟨news, h, hc, -⟩ := goCmd_out s g maxIter
  exact ⟨_, _, news, h, hc.bestMoves_nil, rfl, ponderOf_none⟩

/-- `I n d s` is what an iteration finds (`n` iterations left, depth `d`): it makes `Q` true of the iteration's root result and
survives a completed iteration, whatever `best_move` reports -/
def IterStep (Q : VM × St → Prop) (I : Nat → Nat → St → Prop) : Prop :=
  ∀ n d s, I (n + 1) d s → Q (rootSearch s d) ∧
    (iterAborted (rootSearch s d) = false → ∀ p o, I n (d + 1) { (rootSearch s d).2 with pv := p, out := o })

theorem IterStep.next {Q : VM × St → Prop} {I : Nat → Nat → St → Prop} (hstep : IterStep Q I) {n d : Nat} {s : St}
    (hI : I (n + 1) d s) (ha : iterAborted (rootSearch s d) = false) (sc : Option Score) (u : Option (List Move)) :
    I n (d + 1) (iterState (rootSearch s d) d sc u) := by
  obtain ⟨p, o, e⟩ := iterState_eq (rootSearch s d) d sc u
  rw [e]
  exact (hstep n d s hI).2 ha p o

theorem iters_all {Q : VM × St → Prop} {I : Nat → Nat → St → Prop} (hstep : IterStep Q I) (n : Nat) (s : St) (d mt : Nat)
    (u : Option (List Move)) (sc : Option Score) : I n d s → ∀ r ∈ iters n s d mt u sc, Q r :=
  deepen_induct mt (M := fun n s d _ _ _ its _ => I n d s → ∀ r ∈ its, Q r) (fun _ _ hr => nomatch hr)
    (fun _ hI _ hr => List.mem_singleton.mp hr ▸ (hstep _ _ _ hI).1)
    (fun ha _ _ ih hI _ hr => (List.mem_cons.mp hr).elim (fun e => e ▸ (hstep _ _ _ hI).1) (ih (hstep.next hI ha _ _) _))
    n s d none u sc

/-- an iteration reports the (score, PV) pair of its own root result when it completes, the pair kept from the last completed
one otherwise, and the periodic infos in between carry neither score nor PV: so an `OK` that holds of the reports of completed
root results with `Q` and of an info without score and PV holds of everything emitted -/
theorem deepen_infos {OK : Out → Prop} {Q : VM × St → Prop} {I : Nat → Nat → St → Prop} (hstep : IterStep Q I)
    (hrep : ∀ r, Q r → iterAborted r = false → ∀ d t n,
      OK (.info d t n (some (scoreFromValue r.1.value r.2.board)) (some r.1.pv)))
    (hnone : ∀ d t n, OK (.info d t n none none)) (n : Nat) (s : St) (d mt : Nat) (best : Option VM) (u : Option (List Move)) (sc : Option Score) (hI : I n d s)
    (hpair : ∀ d t n, OK (.info d t n sc u)) :
    ∃ news, (deepen n s d mt best u sc).2.out = news ++ s.out ∧ ∀ o ∈ news, OK o := by
  refine deepen_induct mt (M := fun n s d _ u sc _ res => I n d s → (∀ d t n, OK (.info d t n sc u)) →
      ∃ news, res.2.out = news ++ s.out ∧ ∀ o ∈ news, OK o)
    (fun _ _ => ⟨[], rfl, by simp⟩) ?stop ?next n s d best u sc hI hpair
  all_goals
    intro n s d _ u sc
    have hone : I (n + 1) d s → (∀ d t n, OK (.info d t n sc u)) →
        ∃ seg, (iterState (rootSearch s d) d sc u).out = seg ++ s.out ∧ ∀ o ∈ seg, OK o := by
      intro hI hpair
      obtain ⟨polls, hout, hpolls⟩ := iter_out s d sc u
      refine ⟨_, hout, fun o ho => ?_⟩
      rcases List.mem_cons.mp ho with rfl | ho
      · unfold iterInfo
        split
        · exact hpair _ _ _
        · exact hrep _ (hstep n d s hI).1 (Bool.eq_false_iff.mpr ‹_›) _ _ _
      · obtain ⟨t, n, rfl⟩ := (hpolls o ho).eq
        exact hnone _ _ _
  case stop => intro _ _ hI hpair; exact hone hI hpair
  case next =>
    intro _ res ha _ _ ih hI hpair
    obtain ⟨seg, hout, hseg⟩ := hone hI hpair
    obtain ⟨news, hn, hok⟩ := ih (hstep.next hI ha _ _) (hrep _ (hstep n d s hI).1 ha)
    exact ⟨news ++ seg, by rw [hn, hout, List.append_assoc], fun o ho => (List.mem_append.mp ho).elim (hok o) (hseg o)⟩

theorem goCmd_news {OK : Out → Prop} {Q : VM × St → Prop} {I : Nat → Nat → St → Prop} (hstep : IterStep Q I)
    (hrep : ∀ r, Q r → iterAborted r = false → ∀ d t n,
      OK (.info d t n (some (scoreFromValue r.1.value r.2.board)) (some r.1.pv)))
    (hnone : ∀ d t n, OK (.info d t n none none)) (s : St) (g : GoParams) (maxIter : Nat)
    (h0 : I (goIters g maxIter) 1 (goPrep s g)) :
    ∃ news, (goCmd s g maxIter).out =
        .bestMove (bestMoveOf (goDeepen s g maxIter).1) (ponderOf (goDeepen s g maxIter).1 (goDeepen s g maxIter).2)
          :: (news ++ s.out) ∧ ∀ o ∈ news, OK o := by
  obtain ⟨news, hn, hok⟩ := deepen_infos hstep hrep hnone (goIters g maxIter) (goPrep s g) 1 (goMaxThinking (goPrep s g))
    none none none h0 hnone
  exact ⟨news, by rw [goCmd_eq, ← goPrep_out s g, ← hn]; rfl, hok⟩

theorem goCmd_infos {OK : Out → Prop} {Q : VM × St → Prop} {I : Nat → Nat → St → Prop} (hstep : IterStep Q I)
    (hrep : ∀ r, Q r → iterAborted r = false → ∀ d t n,
      OK (.info d t n (some (scoreFromValue r.1.value r.2.board)) (some r.1.pv)))
    (hnone : ∀ d t n, OK (.info d t n none none))
    (hbest : ∀ b p, OK (.bestMove b p)) (s : St) (g : GoParams) (maxIter : Nat)
    (h0 : I (goIters g maxIter) 1 (goPrep s g)) (o : Out) (ho : o ∈ (goCmd s g maxIter).out) (hnew : o ∉ s.out) :
    OK o := by
  obtain ⟨news, hn, hok⟩ := goCmd_news hstep hrep hnone s g maxIter h0
  rw [hn] at ho
  rcases List.mem_cons.mp ho with rfl | ho
  · exact hbest _ _
  · exact (List.mem_append.mp ho).elim (hok o) (fun h => absurd h hnew)

theorem bestMoves_append (a b : List Out) : bestMoves (a ++ b) = bestMoves a ++ bestMoves b := by
  unfold bestMoves; rw [List.filterMap_append]

theorem goCmd_bestMoves (s : St) (g : GoParams) (maxIter : Nat) :
    bestMoves (goCmd s g maxIter).out =
      (bestMoveOf (goDeepen s g maxIter).1, ponderOf (goDeepen s g maxIter).1 (goDeepen s g maxIter).2) :: bestMoves s.out := by
  obtain ⟨news, h, hc, -⟩ := goCmd_out s g maxIter
  rw [h]
  show _ :: bestMoves (news ++ s.out) = _
  rw [bestMoves_append, hc.bestMoves_nil]
  rfl

def goIterations (s : St) (g : GoParams) (maxIter : Nat) : List (VM × St) :=
  iters (goIters g maxIter) (goPrep s g) 1 (goMaxThinking (goPrep s g)) none none

theorem goDeepen_best (s : St) (g : GoParams) (maxIter : Nat) :
    (goDeepen s g maxIter).1 = ((completed (goIterations s g maxIter)).getLast?).map Prod.fst := by
  unfold goDeepen goIterations
  rw [deepen_best]
  cases (completed _).getLast? <;> rfl

theorem goDeepen_none_iff (s : St) (g : GoParams) (maxIter : Nat) :
    bestMoveOf (goDeepen s g maxIter).1 = none ↔ completed (goIterations s g maxIter) = [] := by
  rw [goDeepen_best]
  constructor
  · intro h
    cases hl : (completed (goIterations s g maxIter)).getLast? with
    | none => exact List.getLast?_eq_none_iff.mp hl
    | some r =>
      rw [hl] at h
      obtain ⟨-, m, hm⟩ := iterAborted_eq_false.mp (by simpa using (List.mem_filter.mp (List.mem_of_getLast? hl)).2)
      simp only [Option.map_some, bestMoveOf] at h
      rw [h] at hm
      cases hm
  · intro h
    rw [h]; rfl

end Inkayaku.Search
