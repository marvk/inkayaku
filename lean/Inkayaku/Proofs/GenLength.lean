import Inkayaku.Proofs.GenSpecList
import Inkayaku.Proofs.EvalBound
/-!
# A crude bound on the number of pseudo-legal moves, for EVERY board (no well-formedness needed)

Every generator pass runs over the set bits of a 64-bit word (≤ 64 sources) and for each over the set bits of another
(≤ 64 targets), making one call of `make_move` (four for a promotion), which pushes at most one move.  Hence

  6 passes of sliding / single movers   ≤ 6 · 64 · 64 = 24 576
  pawn attacks (≤ 4 moves per target)   ≤ 64 · 64 · 4 = 16 384
  pawn pushes (≤ 4 moves per source)    ≤ 64 · 4      =    256
  castling                              ≤ 2

so `(genPseudo b).length ≤ 41 218 < 100 000` = the engine's poll period.  (The chess bound 218 is not needed.)
-/
namespace Inkayaku.GenLength
open Inkayaku.Board Inkayaku.GenSpec

theorem bitsAsc_length_le (x : UInt64) : (bitsAsc x).length ≤ 64 := Eval.popcount_le x

theorem flatMap_length_le {α β : Type} (l : List α) (f : α → List β) (k : Nat) (h : ∀ x, (f x).length ≤ k) :
    (l.flatMap f).length ≤ k * l.length := by
  induction l with
  | nil => simp
  | cons x xs ih =>
    rw [List.flatMap_cons, List.length_append, List.length_cons, Nat.mul_succ]
    have := h x
    omega

theorem flatMap_bits_length_le {β : Type} (x : UInt64) (f : Nat → List β) (k : Nat) (h : ∀ s, (f s).length ≤ k) :
    ((bitsAsc x).flatMap f).length ≤ k * 64 :=
  Nat.le_trans (flatMap_length_le _ f k h) (Nat.mul_le_mul_left k (bitsAsc_length_le x))

theorem ite_length_le {α : Type} {c : Prop} [Decidable c] {l1 l2 : List α} {k : Nat} (h1 : l1.length ≤ k)
    (h2 : l2.length ≤ k) : (if c then l1 else l2).length ≤ k := by
  split <;> assumption

theorem piecesC_length_le (pieceOcc act : UInt64) (att : Nat → UInt64) (piece : Nat) :
    (piecesC pieceOcc act att piece).length ≤ 4096 :=
  flatMap_bits_length_le pieceOcc _ 64 (fun _ => by rw [List.length_map]; exact bitsAsc_length_le _)

theorem promotionsC_length (s t : Nat) : (promotionsC s t).length = 4 := rfl

theorem captureCalls_length_le (b : Board) : (captureCalls b).length ≤ 16384 :=
  flatMap_bits_length_le _ _ 256 (fun src => flatMap_bits_length_le _ _ 4 (fun tgt =>
    ite_length_le (Nat.le_of_eq (promotionsC_length ..)) (by rw [List.length_singleton]; decide)))

theorem pushCalls_length_le (b : Board) : (pushCalls b).length ≤ 256 :=
  flatMap_bits_length_le _ _ 4 (fun src => by
    unfold pawnStepC
    refine ite_length_le (ite_length_le ?_ (Nat.le_of_eq (promotionsC_length ..))) (Nat.zero_le _)
    rw [List.length_cons]
    exact Nat.succ_le_succ (Nat.le_trans (ite_length_le (k := 1) (Nat.le_refl _) (Nat.zero_le _)) (by decide)))

theorem castleCalls_length_le (b : Board) : (castleCalls b).length ≤ 2 := by
  have h : ∀ (c : Prop) [Decidable c] (x : Call), (if c then [x] else []).length ≤ 1 :=
    fun c _ x => ite_length_le (Nat.le_refl _) (Nat.zero_le _)
  unfold castleCalls castleC
  refine ite_length_le ?_ ?_ <;> rw [List.length_append] <;> exact Nat.add_le_add (h ..) (h ..)

theorem genPseudo_length_le (b : Board) : (genPseudo b).length ≤ 41218 := by
  rw [genPseudo_map, List.length_map]
  simp only [calls, pieceCalls, List.length_append]
  have p := fun occ att piece => piecesC_length_le occ b.active.full att piece
  have q1 := p b.active.queens (sliderAtt true (b.active.full ||| b.passive.full)) QUEEN
  have q2 := p b.active.queens (sliderAtt false (b.active.full ||| b.passive.full)) QUEEN
  have bi := p b.active.bishops (sliderAtt false (b.active.full ||| b.passive.full)) BISHOP
  have ro := p b.active.rooks (sliderAtt true (b.active.full ||| b.passive.full)) ROOK
  have kn := p b.active.knights (leaperAttacks Gen.knightTable) KNIGHT
  have ki := p b.active.kings (leaperAttacks Gen.kingTable) KING
  have := captureCalls_length_le b
  have := pushCalls_length_le b
  have := castleCalls_length_le b
  omega

theorem genPseudo_length_lt (b : Board) : (genPseudo b).length < 100000 :=
  Nat.lt_of_le_of_lt (genPseudo_length_le b) (by decide)

end Inkayaku.GenLength
