import Inkayaku.Proofs.SearchSimLoop
/-!
# C08 simulation: a node of `search_negamax`

`negamax_phases` follows the concrete `Search.negamax` through one node against an abstract description of what is simulated
(the node's exact value, its children's, the state invariants on return and inside the move loop, whether the repetition return
is taken), given that the entry is quiet and given the contract of the move loop.  Phases: `enter` only counts and records
(`EnterShape`); the repetition return; the table probe (`probe_ok`: every usable entry of this hash tells the truth); horizon =
`quiescence_sim` or the static value (`horizon_ok`); the move loop; the store (`Minimax.store_class`).  It does not say how the
search is kept from being interrupted: `Sim.negamax_sim` (`Proofs/SearchSimGen.lean`) adds that for `NoIntr` (entry by
`enter_of_noIntr`, loop by `negamaxLoop_noIntr`); the node below the root of the depth-1 search after a game
(`Proofs/SearchRepRoot.lean`) is entered with room for one node before the next poll instead.
-/
namespace Inkayaku.SearchSim
open Inkayaku.Board Inkayaku.Eval Inkayaku.WF Inkayaku.BoardCongr Inkayaku.Minimax Inkayaku.SpecSearch Inkayaku.Search

/-- `search_negamax` after a table miss -/
def nodeBody (fuel : Nat) (turn : Nat) (s3 : St) (ply maxPly : Nat) (alpha0 alpha beta : Int) (isPv : Bool)
    (hash ph : UInt64) : VM × St :=
  if ply == 0 && (rootBuffer s3 ply).isEmpty then (VM.leaf 0, s3)
  else if ply == maxPly then horizon fuel turn s3 (rootBuffer s3 ply) alpha beta
  else
    finish turn alpha0 beta hash (maxPly - ply)
      (negamaxLoop fuel s3
        (sortMoves (rootBuffer s3 ply) (pvMoveOf s3 isPv ply) (ttMoveOf (s3.tt.get? hash))
          (killerGet s3.killers (maxPly - ply)))
        ply maxPly beta isPv (pvMoveOf s3 isPv ply) hash ph (maxPly - ply) (acc0 alpha))

theorem negamax_succ_noPoll (fuel : Nat) (s : St) (ply maxPly : Nat) (α β : Int) (isPv : Bool) (hash ph : UInt64)
    (hto : timedOut s = false) (hrep : isRep (enter s hash) ply = false) :
    negamax (fuel + 1) s ply maxPly α β isPv hash ph =
      match probe ((enter s hash).tt.get? hash) (maxPly - ply) α β with
      | (some r, _, _) => (r, enter s hash)
      | (none, alpha, beta) => nodeBody fuel s.board.turn (enter s hash) ply maxPly α alpha beta isPv hash ph := by
  rw [negamax_succ, hto]
  simp only [Bool.false_eq_true, if_false, hrep]
  rfl

theorem finish_nodes (c : Nat) (a b : Int) (h : UInt64) (rem : Nat) (r : LoopAcc × Bool × St) :
    (finish c a b h rem r).2.negamaxNodes = r.2.2.negamaxNodes := by
  obtain ⟨tt, e⟩ := finish_state c a b h rem r
  rw [e]

theorem toNat_ne_zero {x : UInt64} (h : x ≠ 0) : x.toNat ≠ 0 := by
  intro e
  apply h
  apply UInt64.toNat_inj.mp
  rw [e]; rfl

theorem horizon_ok (fuel : Nat) (s3 : St) (hinv : Inv fuel s3.board) (hfuel : 65 ≤ fuel)
    (hq : QDepth quiescenceFuel s3.board) (α β : Int) (hL : lossScore ≤ α) (hαβ : α < β) (hU : β ≤ -lossScore) :
    Ok (mm game 0 (s3.board, [])) (horizon fuel s3.board.turn s3 (genPseudo s3.board) α β).1.value α β ∧
    ∃ b' qn, (horizon fuel s3.board.turn s3 (genPseudo s3.board) α β).2 = { s3 with board := b', quiescenceNodes := qn } := by
  unfold horizon
  rw [isAnyMoveLegal_genPseudo, mm_zero, moves_nil]
  by_cases hne : (genLegal s3.board).isEmpty = true
  · rw [hne]
    simp only [Bool.not_true, Bool.false_and, Bool.false_eq_true, if_false]
    exact ⟨Ok.refl _ _ _, _, _, rfl⟩
  · have hne' : (genLegal s3.board).isEmpty = false := by simpa using hne
    rw [hne']
    simp only [Bool.not_false, Bool.true_and, Bool.false_eq_true, if_false]
    have hnoisy : ((genPseudo s3.board).any fun m => m.isAttack || m.isPromotion) = noisy s3.board := rfl
    rw [hnoisy]
    by_cases hqn : noisy s3.board = true
    · rw [if_pos hqn]
      obtain ⟨q1, _, b', qn, q3⟩ := quiescence_sim fuel quiescenceFuel quiescenceFuel s3 α β hinv
        hq (by unfold quiescenceFuel; omega) (Nat.le_refl _)
      refine ⟨?_, b', qn, q3⟩
      rw [q1]
      have hl := game_leafOk qorder isOrder_qorder (s3.board, []) α β hL hαβ hU
      have e1 : (chess.game qorder).leaf (s3.board, []) α β = q chess.qgame qorder quiescenceFuel (s3.board, []) α β := by
        show (if noisy s3.board then q chess.qgame qorder chess.fuel (s3.board, []) α β else _) = _
        rw [if_pos hqn]; rfl
      rw [e1] at hl
      exact hl
    · rw [if_neg hqn]
      refine ⟨?_, _, _, rfl⟩
      have e1 : game.leafExact (s3.board, []) = evalFor s3.board s3.board.turn true := by
        show (if noisy s3.board then _ else evalFor s3.board s3.board.turn true) = _
        rw [if_neg hqn]
      rw [e1]
      exact Ok.refl _ _ _

def NodeOk (bN : Board) (v : Int) (e : Move → Int) (J : St → Prop) (rep : Bool) (s : St) (k D : Nat) (α β : Int)
    (r : VM × St) : Prop :=
  Ok v r.1.value α β ∧ vis r.2.board = vis s.board ∧ J r.2 ∧
  (TTRootFresh s (Zobrist.hash bN) (D - k) → k < D → genLegal bN ≠ [] → rep = false → α < r.1.value → r.1.value < β →
    Chosen e id (· ∈ genLegal bN) r.1.mv r.1.value)

/-- **The phases of one node of `search_negamax`, whatever is being simulated and however it is kept from being interrupted.**
The node has the board `bN` (the state's board up to the scratch words) and the exact value `v`; `e m` are the exact values of
its children.  `J` is what holds of the state on return, `JL` what the move loop keeps.  `rep` says whether the repetition return
is taken.  What is asked: every table entry of this hash with at least the remaining draft is true of `v`; a true entry of
exactly the remaining draft may be stored; at the horizon `v` is the plain horizon value, above it the maximum over the children
(or the terminal value); the entry is quiet (`hto`, `hes`: no time-out, `enter` only counts and records); and the move loop, run
on any list of pseudo-legal moves from the state after `enter`, satisfies its contract `LoopOk` (`hloop`; it is told that the
list is a rearrangement of the generated moves, and which loop the node runs, so that a hypothesis on the node's result can be
carried to the loop's). -/
theorem negamax_phases {fuel D k : Nat} (hk : k ≤ D) (s : St) {bN : Board} (hb : vis s.board = vis bN)
    (hinv : Inv (fuel + 1) s.board) (hfuel : 66 + (D - k) ≤ fuel + 1)
    (v : Int) (e : Move → Int) (J JL : St → Prop) (rep : Bool) (hsm : k = 0 → s.go.searchMoves = [])
    (hJq : ∀ s b qn, J s → J { s with board := b, quiescenceNodes := qn }) (hJLJ : ∀ s, JL s → J s)
    (α β : Int) (isPv : Bool) (ph : UInt64) (hroot : k = 0 → genLegal bN ≠ [])
    (hL : lossScore ≤ α) (hαβ : α < β) (hU : β ≤ -lossScore)
    (hto : timedOut s = false) (hes : EnterShape s (Zobrist.hash bN))
    (hent : J (enter s (Zobrist.hash bN)) ∧ isRep (enter s (Zobrist.hash bN)) k = rep)
    (hrepv : rep = true → v = repValue k)
    (hprobe : ∀ x, s.tt.get? (Zobrist.hash bN) = some x → x.depth ≥ D - k → EntryTrue v x)
    (hstore : k < D → ∀ (sR : St) (x : TtEntry), JL sR → x.depth = D - k → EntryTrue v x →
      J { sR with tt := sR.tt.insert (Zobrist.hash bN) x })
    (hhor : k = D → rep = false → QDepth quiescenceFuel s.board ∧ v = mm game 0 (s.board, []))
    (hmax : k < D → rep = false → v = if (genLegal bN).isEmpty then evalFor bN bN.turn false
      else mmFold e lossScore (genLegal bN))
    (hloop : k < D → ∀ (α' β' : Int) (moves : List Move), lossScore ≤ α' → α' < β' → β' ≤ -lossScore →
      moves.Perm (genPseudo bN) →
      negamax (fuel + 1) s k D α β isPv (Zobrist.hash bN) ph =
        finish s.board.turn α β' (Zobrist.hash bN) (D - k)
          (negamaxLoop fuel (enter s (Zobrist.hash bN)) moves k D β' isPv (pvMoveOf (enter s (Zobrist.hash bN)) isPv k)
            (Zobrist.hash bN) ph (D - k) (acc0 α')) →
      LoopOk bN e (fun _ => JL) α' β' lossScore false moves
        (negamaxLoop fuel (enter s (Zobrist.hash bN)) moves k D β' isPv (pvMoveOf (enter s (Zobrist.hash bN)) isPv k)
          (Zobrist.hash bN) ph (D - k) (acc0 α'))) :
    NodeOk bN v e J rep s k D α β (negamax (fuel + 1) s k D α β isPv (Zobrist.hash bN) ph) := by
  unfold NodeOk
  have hvisR := negamax_ok boardLaws (fuel + 1) s k D α β isPv (Zobrist.hash bN) ph hinv
  suffices hmain : ∀ R, negamax (fuel + 1) s k D α β isPv (Zobrist.hash bN) ph = R → Ok v R.1.value α β ∧ J R.2 ∧
      (TTRootFresh s (Zobrist.hash bN) (D - k) → k < D → genLegal bN ≠ [] → rep = false → α < R.1.value → R.1.value < β →
        Chosen e id (· ∈ genLegal bN) R.1.mv R.1.value) from
    have h := hmain _ rfl
    ⟨h.1, hvisR, h.2⟩
  clear hvisR
  intro R hR
  rw [hR] at hloop
  generalize hhash : Zobrist.hash bN = hash at hR hes hent hprobe hstore hloop ⊢
  obtain ⟨hJ3, hrep⟩ := hent
  have hb3 : (enter s hash).board = s.board := enter_board s hash
  have htt3 : (enter s hash).tt = s.tt := by obtain ⟨o, he⟩ := hes; rw [he]
  have hgo3 : (enter s hash).go = s.go := by obtain ⟨o, he⟩ := hes; rw [he]
  cases rep with
  | true =>
    rw [negamax_succ, hto] at hR
    simp only [Bool.false_eq_true, if_false, hrep, if_true] at hR
    subst hR
    refine ⟨?_, hJ3, fun _ _ _ h => absurd h (by decide)⟩
    rw [hrepv rfl]
    exact Ok.refl _ _ _
  | false =>
  rw [negamax_succ_noPoll fuel s k D α β isPv hash ph hto hrep] at hR
  subst hR
  have hpo := probe_ok v ((enter s hash).tt.get? hash) (D - k) α β hαβ (by
    intro x hx hd
    rw [htt3] at hx
    exact hprobe x hx hd)
  generalize hs3 : enter s hash = s3 at hloop hpo hb3 htt3 hgo3 hJ3 ⊢
  generalize hp : Search.probe (s3.tt.get? hash) (D - k) α β = pr at hloop hpo ⊢
  obtain ⟨o, α', β'⟩ := pr
  cases o with
  | some r =>
    simp only at hpo ⊢
    refine ⟨hpo, hJ3, ?_⟩
    intro hfresh
    have := probe_fresh α β hfresh
    rw [← htt3, hp] at this
    cases this
  | none =>
    simp only at hpo hloop ⊢
    obtain ⟨w1, w2, w3, w4, w5⟩ := hpo
    have hL' : lossScore ≤ α' := Int.le_trans hL w1
    have hU' : β' ≤ -lossScore := Int.le_trans w2 hU
    have hgp : genPseudo s.board = genPseudo bN := genPseudo_congr hb
    have hbuf : rootBuffer s3 k = genPseudo s.board := by
      by_cases h0 : k = 0
      · rw [rootBuffer_nil_sm (by rw [hgo3]; exact hsm h0), hb3]
      · unfold rootBuffer
        rw [beq_false_of_ne h0, Bool.false_and, hb3, if_neg Bool.false_ne_true]
    unfold nodeBody at hloop ⊢
    rw [hbuf] at hloop ⊢
    have hnotEmpty : (k == 0 && (genPseudo s.board).isEmpty) = false := by
      by_cases h0 : k = 0
      · have hl := hroot h0
        have : (genPseudo s.board).isEmpty = false :=
          List.isEmpty_eq_false_iff.mpr fun hg => hl (by unfold genLegal; rw [← hgp, hg]; rfl)
        rw [this, Bool.and_false]
      · have : (k == 0) = false := by simpa using h0
        rw [this, Bool.false_and]
    rw [hnotEmpty] at hloop ⊢
    simp only [Bool.false_eq_true, if_false] at hloop ⊢
    by_cases hkD : k = D
    ·
      have hbeq : (k == D) = true := by simpa using hkD
      rw [hbeq]
      simp only [if_true]
      obtain ⟨hq, hv⟩ := hhor hkD rfl
      obtain ⟨x1, b', qn, x2⟩ := horizon_ok fuel s3 (by rw [hb3]; exact Inv_mono (Nat.le_succ _) hinv)
        (by rw [hkD, Nat.sub_self] at hfuel; omega) (by rw [hb3]; exact hq) α' β' hL' w3 hU'
      rw [hb3] at x1 x2
      rw [hv] at w4 w5 ⊢
      refine ⟨ok_widen _ _ α β α' β' w1 w2 w4 w5 x1, ?_, fun _ h => absurd h (by rw [hkD]; exact Nat.lt_irrefl _)⟩
      rw [x2]
      exact hJq _ _ _ hJ3
    ·
      have hbeq : (k == D) = false := by simpa using hkD
      rw [hbeq] at hloop ⊢
      simp only [Bool.false_eq_true, if_false] at hloop ⊢
      have hkD' : k < D := Nat.lt_of_le_of_ne hk hkD
      have hloop := hloop hkD' α' β' _ hL' w3 hU' (hgp ▸ List.mergeSort_perm _ _) rfl
      subst hhash
      unfold LoopOk at hloop
      have hperm : ((sortMoves (genPseudo s.board) (pvMoveOf s3 isPv k) (ttMoveOf (s3.tt.get? (Zobrist.hash bN)))
          (killerGet s3.killers (D - k))).filter (isMoveLegal bN)).Perm (genLegal bN) := by
        rw [hgp]
        exact (List.mergeSort_perm _ _).filter _
      generalize negamaxLoop fuel s3 (sortMoves (genPseudo s.board) (pvMoveOf s3 isPv k)
        (ttMoveOf (s3.tt.get? (Zobrist.hash bN))) (killerGet s3.killers (D - k))) k D β' isPv (pvMoveOf s3 isPv k)
        (Zobrist.hash bN) ph (D - k) (acc0 α') = R at hloop ⊢
      generalize (sortMoves (genPseudo s.board) (pvMoveOf s3 isPv k) (ttMoveOf (s3.tt.get? (Zobrist.hash bN)))
        (killerGet s3.killers (D - k))).filter (isMoveLegal bN) = legal at hloop hperm
      obtain ⟨acc, ab, sR⟩ := R
      obtain ⟨p1, p2, p3, p4, p5, p6⟩ := hloop
      simp only at p1 p2 p3 p4 p5 p6
      subst p1
      have hmm := hmax hkD' rfl
      have hempty : legal.isEmpty = (genLegal bN).isEmpty := by
        rw [Bool.eq_iff_iff, List.isEmpty_iff, List.isEmpty_iff]
        exact ⟨fun h => by rw [h] at hperm; exact hperm.symm.eq_nil, fun h => by rw [h] at hperm; exact hperm.eq_nil⟩
      unfold finish
      simp only [Bool.false_eq_true, if_false]
      rw [hempty] at p3
      by_cases hne : (genLegal bN).isEmpty = true
      ·
        have hls : acc.legalSeen = false := by rw [p3, hne]; rfl
        rw [hls]
        simp only [Bool.not_false, if_true]
        refine ⟨?_, hJLJ _ p6, ?_⟩
        · rw [hmm, if_pos hne]
          show Ok _ (evalFor sR.board s.board.turn false) α β
          rw [evalFor_congr p5, turn_congr hb]
          exact Ok.refl _ _ _
        · intro _ _ hl
          exact absurd (List.isEmpty_iff.mp hne) hl
      · have hne' : (genLegal bN).isEmpty = false := by simpa using hne
        have hls : acc.legalSeen = true := by rw [p3, hne']; rfl
        rw [hls]
        simp only [Bool.not_true, Bool.false_eq_true, if_false]
        rw [mmFold_perm _ _ hperm] at p2
        have hok' : Ok v acc.bestValue α' β' := by
          rw [hmm, hne']; exact p2
        have hok := ok_widen _ _ α β α' β' w1 w2 w4 w5 hok'
        have hchosen : TTRootFresh s (Zobrist.hash bN) (D - k) → k < D → genLegal bN ≠ [] → True →
            α < acc.bestValue → acc.bestValue < β → Chosen e id (· ∈ genLegal bN) acc.bestMove acc.bestValue := by
          intro hfresh _ _ _ h1 h2
          have := probe_fresh α β hfresh
          rw [← htt3, hp] at this
          simp only [Prod.mk.injEq, true_and] at this
          obtain ⟨rfl, rfl⟩ := this
          exact p4 h1 h2
        by_cases hmate : isCheckmateValue acc.bestValue = true
        · rw [hmate]
          simp only [Bool.not_true, Bool.false_eq_true, if_false]
          exact ⟨hok, hJLJ _ p6, hchosen⟩
        · have hmate' : isCheckmateValue acc.bestValue = false := by simpa using hmate
          rw [hmate']
          simp only [Bool.not_false, if_true]
          refine ⟨hok, hstore hkD' sR _ p6 rfl ?_, hchosen⟩
          exact store_class
            (fun t => EntryTrue v ⟨VM.mk acc.bestValue acc.bestMove acc.bestChild, D - k, acc.bestValue, t⟩)
            .upper .lower .exact hok hok' w2 (fun h => ⟨rfl, h⟩) (fun h => ⟨rfl, h⟩) (fun h => ⟨rfl, h⟩)

end Inkayaku.SearchSim
