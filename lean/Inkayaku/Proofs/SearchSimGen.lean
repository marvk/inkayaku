import Inkayaku.Proofs.SearchSimNode
/-!
# The simulation of `negamax` / `deepen` / `goCmd`, for any exact specification of the nodes

`Sim N` says what the search below one root is simulated by: which boards are nodes (`Node k n p`: `p` at ply `k`; `n : N` is
what else the specification knows of the node, e.g. the line that led to it), their exact values at every draft (`val`),
whether the repetition rule applies (`rep`), what the children of a node know (`next`), what a node needs of the repetition
history (`Hist`).  `Sim.Laws D` are the facts about these that the simulation of an iteration of depth `≤ D` uses.  From
them: the table invariant `Sim.TTOK`, the state invariant `Sim.SOK`, every node (`Sim.negamax_sim`, by `negamax_phases`), the
root call (`Sim.rootSearch_sim`), iterative deepening (`Sim.deepen_sim`) and `go depth d` (`Sim.goCmd_sim`).
The plain search (`Proofs/SearchSimRoot.lean`: `N = Unit`, `mm game`) and the search after a game
(`Proofs/SearchRepDeepNode.lean`: `N = List Board`, `mm repGame`) are instances.
-/
namespace Inkayaku.SearchSim
open Inkayaku.Board Inkayaku.Eval Inkayaku.WF Inkayaku.BoardCongr Inkayaku.Minimax Inkayaku.SpecSearch Inkayaku.Search

structure Sim (N : Type) where
  Node : Nat → N → Board → Prop
  /-- `val d k n p`: the exact value of draft `d` of the node `(k, n, p)` -/
  val : Nat → Nat → N → Board → Int
  rep : Nat → N → Board → Bool
  /-- what the children of the node `(n, p)` carry -/
  next : N → Board → N
  Hist : N → Array Nat → Prop

variable {N : Type} (S : Sim N)

def Sim.TTOK (D : Nat) (tt : Std.HashMap UInt64 TtEntry) : Prop :=
  ∀ h e, tt.get? h = some e →
    ∃ k n p, k < D ∧ S.Node k n p ∧ Zobrist.hash p = h ∧ e.depth + k ≤ D ∧ EntryTrue (S.val e.depth k n p) e

structure Sim.SOK (D : Nat) (n : N) (s : St) : Prop where
  tt : S.TTOK D s.tt
  hist : S.Hist n s.history
  stop : s.stop = false
  sm : s.go.searchMoves = []

structure Sim.Laws (D : Nat) : Prop where
  child : ∀ {k n p m}, S.Node k n p → m ∈ genLegal p → S.Node (k + 1) (S.next n p) (make p m)
  /-- a node records its hash at its own index: the history then holds what its children need … -/
  histEnter : ∀ {k n p}, k ≤ D → S.Node k n p → ∀ {c : Board} {h : Array Nat}, vis c = vis p → S.Hist n h →
    S.Hist (S.next n p) (historySet h (plyClock c) (Zobrist.hash p).toNat)
  /-- … which is more than what the node itself needs -/
  histPrefix : ∀ {n p h}, S.Hist (S.next n p) h → S.Hist n h
  repIff : ∀ {k n p}, 1 ≤ k → k ≤ D → S.Node k n p → ∀ {s : St}, vis s.board = vis p → S.Hist n s.history →
    isRep (enter s (Zobrist.hash s.board)) k = S.rep k n p
  repRoot : ∀ n p, S.rep 0 n p = false
  repVal : ∀ {k n p} d, S.rep k n p = true → S.val d k n p = repValue k
  horizon : ∀ {k n p}, k ≤ D → S.Node k n p → S.rep k n p = false →
    QDepth quiescenceFuel p ∧ S.val 0 k n p = mm game 0 (p, [])
  step : ∀ {k n p} d, S.Node k n p → S.rep k n p = false →
    S.val (d + 1) k n p = if (genLegal p).isEmpty then evalFor p p.turn false
      else mmFold (fun m => S.val d (k + 1) (S.next n p) (make p m)) lossScore (genLegal p)
  /-- the hash hypothesis: a node that stores and a node that probes with the same hash stand at the same ply and have the
  same values for every draft the table can hold there -/
  inj : ∀ {k' k n' n p' p}, k' < D → k ≤ D → S.Node k' n' p' → S.Node k n p → Zobrist.hash p' = Zobrist.hash p →
    k' = k ∧ ∀ d, d + k ≤ D → S.val d k' n' p' = S.val d k n p
  rootBounds : ∀ {n p} d, d < D → S.Node 0 n p → genLegal p ≠ [] →
    lossScore < S.val (d + 1) 0 n p ∧ S.val (d + 1) 0 n p < Gen.winScore

variable {S}

theorem Sim.ttok_empty (D : Nat) : S.TTOK D {} := by
  intro h e he
  simp at he

theorem Sim.ttok_mono {D D' : Nat} {tt : Std.HashMap UInt64 TtEntry} (h : S.TTOK D tt) (hle : D ≤ D') : S.TTOK D' tt := by
  intro x e he
  obtain ⟨k, n, p, h1, h2, h3, h4, h5⟩ := h x e he
  exact ⟨k, n, p, by omega, h2, h3, by omega, h5⟩

theorem Sim.ttok_insert {D : Nat} {tt : Std.HashMap UInt64 TtEntry} (h : S.TTOK D tt) {k : Nat} {n : N} {p : Board}
    (hk : k < D) (hr : S.Node k n p) (e : TtEntry) (hd : e.depth + k ≤ D) (he : EntryTrue (S.val e.depth k n p) e) :
    S.TTOK D (tt.insert (Zobrist.hash p) e) := by
  intro x e' hget
  simp only [Std.HashMap.get?_eq_getElem?, Std.HashMap.getElem?_insert] at hget
  split at hget
  · rename_i hx
    cases hget
    exact ⟨k, n, p, hk, hr, by simpa using hx, hd, he⟩
  · exact h x e' (by simpa [Std.HashMap.get?_eq_getElem?] using hget)

theorem Sim.ttok_entry {Dmax D : Nat} (L : S.Laws Dmax) (hD : D ≤ Dmax) {tt : Std.HashMap UInt64 TtEntry}
    (h : S.TTOK D tt) {k : Nat} {n : N} {p : Board} (hk : k ≤ D) (hr : S.Node k n p) {e : TtEntry}
    (he : tt.get? (Zobrist.hash p) = some e) : k < D ∧ e.depth + k ≤ D ∧ EntryTrue (S.val e.depth k n p) e := by
  obtain ⟨k', n', p', h1, h2, h3, h4, h5⟩ := h _ e he
  obtain ⟨rfl, hv⟩ := L.inj (Nat.lt_of_lt_of_le h1 hD) (Nat.le_trans hk hD) h2 hr h3
  rw [hv e.depth (Nat.le_trans h4 hD)] at h5
  exact ⟨h1, h4, h5⟩

theorem Sim.SOK.mono {D D' : Nat} {n : N} {s : St} (h : S.SOK D n s) (hle : D ≤ D') : S.SOK D' n s :=
  ⟨Sim.ttok_mono h.tt hle, h.hist, h.stop, h.sm⟩

theorem Sim.negamax_sim {Dmax D : Nat} (L : S.Laws Dmax) (hD : D ≤ Dmax) : ∀ (fuel : Nat) (s : St) (k : Nat) (n : N)
    (p : Board) (α β : Int) (isPv : Bool) (hash ph : UInt64),
    k ≤ D → S.Node k n p → vis s.board = vis p → Inv fuel s.board → 66 + (D - k) ≤ fuel → S.SOK D n s →
    hash = Zobrist.hash s.board → (k = 0 → genLegal s.board ≠ []) → lossScore ≤ α → α < β → β ≤ -lossScore →
    NoIntr s (negamax fuel s k D α β isPv hash ph).2.negamaxNodes →
    NodeOk p (S.val (D - k) k n p) (fun m => S.val (D - k - 1) (k + 1) (S.next n p) (make p m)) (S.SOK D n) (S.rep k n p)
      s k D α β (negamax fuel s k D α β isPv hash ph) := by
  intro fuel
  induction fuel with
  | zero => intro s k n p α β isPv hash ph _ _ _ _ hf; omega
  | succ fuel ih =>
    intro s k n p α β isPv hash ph hk hnode hb hinv hfuel hsok hhash hroot hL hαβ hU hN
    have hhp : hash = Zobrist.hash p := by rw [hhash, hash_congr hb]
    subst hhp
    have hkD : k ≤ Dmax := Nat.le_trans hk hD
    have hroot' : k = 0 → genLegal p ≠ [] := fun h0 => by rw [← genLegal_congr hb]; exact hroot h0
    -- not interrupted: the entry is quiet, and so is the move loop (`negamaxLoop_noIntr`)
    obtain ⟨hto, o, he⟩ := enter_of_noIntr hN
      (negamax_rel (frame_stepRel D) (fuel + 1) s k α β isPv (Zobrist.hash p) ph).nn (Zobrist.hash p)
    have hJL : S.SOK D (S.next n p) (enter s (Zobrist.hash p)) := by
      rw [he]; exact ⟨hsok.tt, L.histEnter hkD hnode hb hsok.hist, hsok.stop, hsok.sm⟩
    have hni : ∀ x, NoIntr s x → NoIntr (enter s (Zobrist.hash p)) x := fun x h => by rw [he]; exact h
    have hrep : isRep (enter s (Zobrist.hash p)) k = S.rep k n p := by
      by_cases h0 : k = 0
      · subst h0; rw [L.repRoot]; exact isRep_zero _
      · rw [← hash_congr hb]; exact L.repIff (Nat.pos_of_ne_zero h0) hkD hnode hb hsok.hist
    exact negamax_phases hk s hb hinv hfuel (S.val (D - k) k n p)
      (fun m => S.val (D - k - 1) (k + 1) (S.next n p) (make p m)) (S.SOK D n) (S.SOK D (S.next n p)) (S.rep k n p)
      (fun _ => hsok.sm) (fun _ _ _ h => ⟨h.tt, h.hist, h.stop, h.sm⟩)
      (fun _ h => ⟨h.tt, L.histPrefix h.hist, h.stop, h.sm⟩) α β isPv ph hroot' hL hαβ hU
      hto ⟨o, he⟩ ⟨⟨hJL.tt, L.histPrefix hJL.hist, hJL.stop, hJL.sm⟩, hrep⟩ (L.repVal _)
      (by
        intro x hx hd
        obtain ⟨_, h2, h3⟩ := Sim.ttok_entry L hD hsok.tt hk hnode hx
        rw [Nat.le_antisymm (Nat.le_sub_of_add_le h2) hd] at h3
        exact h3)
      (by
        intro hlt sR x p6 hd hx
        refine ⟨Sim.ttok_insert p6.tt hlt hnode x (by rw [hd]; exact Nat.le_of_eq (Nat.sub_add_cancel hk)) ?_,
          L.histPrefix p6.hist, p6.stop, p6.sm⟩
        rw [hd]; exact hx)
      (by
        intro hkD' hr
        obtain ⟨hq, hv⟩ := L.horizon hkD hnode hr
        refine ⟨QDepth_congr _ hb.symm hq, ?_⟩
        rw [hkD', Nat.sub_self, ← hkD', hv]
        exact (mm_congr 0 _ _ [] hb).symm)
      (by
        intro hlt hr
        rw [(Nat.sub_add_cancel (Nat.sub_pos_of_lt hlt)).symm, L.step _ hnode hr]
        simp only [Nat.add_sub_cancel])
      (by
        intro hlt α' β' moves hL' hαβ' hU' hperm hres
        rw [hres, finish_nodes] at hN
        refine negamaxLoop_noIntr (Inv_congr hb hinv) _ (S.SOK D (S.next n p)) (fun _ _ h => ⟨h.tt, h.hist, h.stop, h.sm⟩)
          (fun _ _ h => ⟨h.tt, h.hist, h.stop, h.sm⟩) (fun _ h => h.stop) β' α' hU' hL' isPv _ ph (D - k) ?_ moves
          (fun m hm => hperm.mem_iff.mp hm) _ (acc0 α') lossScore (by rw [enter_board]; exact hb) hJL
          (LoopInv.init (L := lossScore) hαβ' hL') (fun h => absurd h (Int.not_lt.mpr hL')) (hni _ hN)
        intro m hm s' a b isPv' ph' hv hi hJ ha hab hb' hN'
        obtain ⟨c1, -, c3, -⟩ := ih s' (k + 1) (S.next n p) (make p m) a b isPv' _ ph' hlt (L.child hnode hm) hv hi
          (by omega) hJ rfl (fun h => absurd h (Nat.succ_ne_zero k)) ha hab hb' hN'
        exact ⟨c1, c3⟩)

theorem Sim.rootSearch_sim {Dmax D : Nat} (L : S.Laws Dmax) (hD1 : 1 ≤ D) (hD : D ≤ Dmax) {n : N} {p : Board}
    (hnode : S.Node 0 n p) (s : St) (hb : vis s.board = vis p) (hinv : Inv (fuelFor D) p) (hsok : S.SOK (D - 1) n s)
    (hlegal : genLegal p ≠ []) (hN : NoIntr s (rootSearch s D).2.negamaxNodes) :
    (rootSearch s D).1.value = S.val D 0 n p ∧
    (∃ m, (rootSearch s D).1.mv = some m ∧ m ∈ genLegal p ∧ - S.val (D - 1) 1 (S.next n p) (make p m) = S.val D 0 n p) ∧
    vis (rootSearch s D).2.board = vis p ∧ S.SOK D n (rootSearch s D).2 := by
  have hw := winScore_val
  have hl := lossScore_val
  obtain ⟨hok, hvis, hsok', hch⟩ := Sim.negamax_sim L hD (fuelFor D) s 0 n p lossScore Gen.winScore s.pv.isSome
    (Zobrist.hash s.board) (Zobrist.pawnHash s.board) (Nat.zero_le _) hnode hb (Inv_congr hb.symm hinv)
    (by unfold fuelFor; omega) (hsok.mono (by omega)) rfl (fun _ => by rw [genLegal_congr hb]; exact hlegal)
    (Int.le_refl _) (by omega) (by omega) hN
  change Ok _ (rootSearch s D).1.value _ _ at hok
  change vis (rootSearch s D).2.board = _ at hvis
  change S.SOK D n (rootSearch s D).2 at hsok'
  change _ → _ → _ → _ → _ < (rootSearch s D).1.value → (rootSearch s D).1.value < _ →
    ∃ m, (rootSearch s D).1.mv = some m ∧ _ at hch
  rw [Nat.sub_zero] at hok
  obtain ⟨d, rfl⟩ : ∃ d, D = d + 1 := ⟨D - 1, by omega⟩
  obtain ⟨hlo, hhi⟩ := L.rootBounds d (by omega) hnode hlegal
  have hval : (rootSearch s (d + 1)).1.value = S.val (d + 1) 0 n p := hok.eq (by omega) (by omega)
  have hfresh : TTRootFresh s (Zobrist.hash p) (d + 1 - 0) := by
    intro e he
    obtain ⟨k, _, _, _, _, _, h4, _⟩ := hsok.tt _ e he
    omega
  obtain ⟨m, hm1, hm2, hm3⟩ := hch hfresh (by omega) hlegal (L.repRoot n p) (by omega) (by omega)
  exact ⟨hval, ⟨m, hm1, hm2, hm3.trans hval⟩, hvis.trans hb, hsok'⟩

theorem iterState_completed (r : VM × St) (d : Nat) (sc : Option Score) (u : Option (List Move))
    (h : iterAborted r = false) :
    iterState r d sc u =
      ({ r.2 with pv := some r.1.pv } : St).emit
        (.info (some d) (some (r.2.elapsedNs / 1000000)) r.2.totalNodes (some (scoreFromValue r.1.value r.2.board))
          (some r.1.pv)) := by
  unfold iterState
  rw [h]
  rfl

theorem elapsedNs_none {s : St} (h : s.nsPerNode = none) : s.elapsedNs = 0 := by
  unfold St.elapsedNs
  rw [h]

theorem NoIntr.le {s : St} {a b : Nat} (h : NoIntr s a) (hb : b ≤ a) : NoIntr s b :=
  h.imp_left (Nat.lt_of_le_of_lt hb)

def Sim.Done (dmax : Nat) (n0 : N) (p0 : Board) (res : Option VM × St) : Prop :=
  ∃ (r : VM × St) (u' : Option (List Move)) (sc' : Option Score),
    res = (some r.1, iterState r dmax sc' u') ∧ iterAborted r = false ∧ r.1.value = S.val dmax 0 n0 p0 ∧
    (∃ m, r.1.mv = some m ∧ m ∈ genLegal p0 ∧ - S.val (dmax - 1) 1 (S.next n0 p0) (make p0 m) = S.val dmax 0 n0 p0) ∧
    vis r.2.board = vis p0

/-- the iterations `d, …, dmax` of a `go` that is not interrupted and whose clock stands still all complete; the last one is
reported -/
theorem Sim.deepen_sim {dmax : Nat} (L : S.Laws dmax) {n0 : N} {p0 : Board} (hnode : S.Node 0 n0 p0)
    (hinv : Inv (fuelFor dmax) p0) (hlegal : genLegal p0 ≠ []) (mt : Nat) :
    ∀ (n : Nat) (s : St) (d : Nat) (best : Option VM) (u : Option (List Move)) (sc : Option Score),
      1 ≤ d → d + n = dmax + 1 → vis s.board = vis p0 → S.SOK (d - 1) n0 s → s.nsPerNode = none →
      NoIntr s (deepen n s d mt best u sc).2.negamaxNodes → (n = 0 → S.Done dmax n0 p0 (best, s)) →
      S.Done dmax n0 p0 (deepen n s d mt best u sc) := by
  refine deepen_induct mt (M := fun n s d best _ _ _ res => 1 ≤ d → d + n = dmax + 1 → vis s.board = vis p0 →
      S.SOK (d - 1) n0 s → s.nsPerNode = none → NoIntr s res.2.negamaxNodes → (n = 0 → S.Done dmax n0 p0 (best, s)) →
      S.Done dmax n0 p0 res) (fun _ _ _ _ _ _ h => h rfl) ?stop ?next
  all_goals
    intro n s d best u sc
    have hiter : 1 ≤ d → d + (n + 1) = dmax + 1 → vis s.board = vis p0 → S.SOK (d - 1) n0 s → s.nsPerNode = none →
        NoIntr s (rootSearch s d).2.negamaxNodes →
        iterAborted (rootSearch s d) = false ∧ (rootSearch s d).2.elapsedNs = 0 ∧ (rootSearch s d).1.value = S.val d 0 n0 p0 ∧
        (∃ m, (rootSearch s d).1.mv = some m ∧ m ∈ genLegal p0 ∧ - S.val (d - 1) 1 (S.next n0 p0) (make p0 m) = S.val d 0 n0 p0) ∧
        vis (rootSearch s d).2.board = vis p0 ∧ S.SOK d n0 (rootSearch s d).2 := by
      intro hd1 hdn hb hsok hns hrN
      obtain ⟨h1, ⟨m, h2, h3⟩, h4, h5⟩ := Sim.rootSearch_sim L hd1 (by omega) hnode s hb
        (Inv_mono (by unfold fuelFor; omega) hinv) hsok hlegal hrN
      exact ⟨by unfold iterAborted; rw [h5.stop, h2]; rfl,
        elapsedNs_none (by rw [(rootSearch_rel (kept_stepRel d) s).2.2.2.2, hns]), h1, ⟨m, h2, h3⟩, h4, h5⟩
  case stop =>
    intro b' h hd1 hdn hb hsok hns hN _
    obtain ⟨hna, hel, -⟩ := hiter hd1 hdn hb hsok hns (hN.le (iterState_frame _ _ _ _).nn)
    rcases h with ⟨ha, -⟩ | ⟨-, ht, -⟩
    · rw [hna] at ha; cases ha
    · rw [hel] at ht; exact absurd ht (Nat.not_lt_zero _)
  case next =>
    intro _ res hna _ hres ih hd1 hdn hb hsok hns hN _
    obtain ⟨-, -, h1, hm, h4, h5⟩ := hiter hd1 hdn hb hsok hns
      (hN.le (hres ▸ ((iterState_frame _ _ _ _).trans (deepen_frame _ _ _ _ _ _ _)).nn))
    have hkept := rootSearch_rel (kept_stepRel d) s
    have he := iterState_completed _ d sc u hna
    refine ih (by omega) (by omega) (by rw [iterState_board]; exact h4) (by rw [he]; exact ⟨h5.tt, h5.hist, h5.stop, h5.sm⟩)
      (by rw [he]; exact hkept.2.2.2.2.trans hns) ?_ (fun h0 => ?_)
    · rw [he]
      exact rootSearch_rel (noIntr_stepRel d) s _ hN
    · obtain rfl : d = dmax := by omega
      exact ⟨_, u, sc, rfl, hna, h1, hm, h4⟩

theorem goPrep_fields (s : St) (g : GoParams) :
    (goPrep s g).tt = {} ∧ (goPrep s g).history = s.history ∧ (goPrep s g).stop = false ∧
    (goPrep s g).pollPeriod = s.pollPeriod ∧ (goPrep s g).nsPerNode = s.nsPerNode := by
  obtain ⟨k, p, g', h⟩ := goPrep_eq s g
  rw [h]
  exact ⟨rfl, rfl, rfl, rfl, rfl⟩

theorem goPrep_pending (s : St) (g : GoParams) : (goPrep s g).pending = s.pending := by
  obtain ⟨k, p, g', h⟩ := goPrep_eq s g
  rw [h]

theorem maxThinkingNs_none {s : St} (h1 : s.go.wtime = none) (h2 : s.go.btime = none) : maxThinkingNs s = none := by
  unfold maxThinkingNs
  simp only [h1, h2, ite_self]

theorem goPrep_moveTime_depth (s : St) (d : Nat) : (goPrep s { depth := some d }).go.moveTime = none := by
  rw [goPrep_split]
  unfold goTail
  obtain ⟨p, h⟩ := continuePv_eq (goHead s { depth := some d })
  rw [h]
  obtain ⟨k, h1⟩ := goHead_eq s { depth := some d }
  rw [h1]
  simp only
  rw [maxThinkingNs_none rfl rfl]
  rfl

theorem goIters_depth (d maxIter : Nat) (hd1 : 1 ≤ d) (hmi : d ≤ maxIter) :
    goIters { depth := some d } maxIter = d := by
  unfold goIters
  simp only
  omega

/-- **`go depth d` from a state whose board is the root node `(n0, p0)` and whose history is what that node needs**:
the two newest lines are the `bestmove` and the info of depth `d` with the exact value; the move attains it and heads the PV.
The clock stands still; no interruption: the node counter of the go stays below the poll period, or no message is waiting. -/
theorem Sim.goCmd_sim {d : Nat} (L : S.Laws d) {n0 : N} {p0 : Board} (hnode : S.Node 0 n0 p0) (s₀ : St)
    (hb : s₀.board = p0) (maxIter : Nat) (hd1 : 1 ≤ d) (hmi : d ≤ maxIter) (hinv : Inv (fuelFor d) p0)
    (hlegal : genLegal p0 ≠ []) (hh : S.Hist n0 s₀.history) (hns : s₀.nsPerNode = none)
    (hN : (goCmd s₀ { depth := some d } maxIter).negamaxNodes < s₀.pollPeriod ∨ s₀.pending = []) :
    ∃ (pv : List Move) (nodes : Nat) (t : Option Nat) (m : Move) (older : List Out),
      (goCmd s₀ { depth := some d } maxIter).out =
        .bestMove (some m) (pv[1]?) ::
        .info (some d) t nodes (some (scoreFromValue (S.val d 0 n0 p0) p0)) (some pv) :: older ∧
      m ∈ genLegal p0 ∧ - S.val (d - 1) 1 (S.next n0 p0) (make p0 m) = S.val d 0 n0 p0 ∧ pv[0]? = some m ∧
      vis (goCmd s₀ { depth := some d } maxIter).board = vis p0 := by
  rw [goCmd_eq] at hN ⊢
  change (goDeepen s₀ { depth := some d } maxIter).2.negamaxNodes < _ ∨ _ at hN
  unfold goDeepen at hN ⊢
  rw [goIters_depth d maxIter hd1 hmi] at hN ⊢
  obtain ⟨f1, f2, f3, f4, f5⟩ := goPrep_fields s₀ { depth := some d }
  have hsok : S.SOK (1 - 1) n0 (goPrep s₀ { depth := some d }) :=
    ⟨by rw [f1]; exact Sim.ttok_empty _, by rw [f2]; exact hh, f3, goPrep_searchMoves _ _⟩
  obtain ⟨r, u', sc', e1, e2, e3, ⟨m, e4, e5, e5'⟩, e6⟩ := Sim.deepen_sim L hnode hinv hlegal
    (goMaxThinking (goPrep s₀ { depth := some d })) d (goPrep s₀ { depth := some d }) 1 none none none
    (Nat.le_refl _) (by omega) (by rw [goPrep_board, hb]) hsok (by rw [f5, hns]) (by
      rcases hN with hN | hN
      · left; rw [f4]; exact hN
      · right; exact ⟨by rw [goPrep_pending]; exact hN, goPrep_moveTime_depth _ _⟩) (fun h => by omega)
  rw [e1]
  simp only
  rw [iterState_completed _ _ _ _ e2]
  obtain ⟨rest, hpv⟩ := VM.pv_of_mv e4
  refine ⟨r.1.pv, r.2.totalNodes, some (r.2.elapsedNs / 1000000), m, r.2.out, ?_, e5, e5', by rw [hpv]; rfl, e6⟩
  show Out.bestMove (bestMoveOf (some r.1)) (ponderOf (some r.1) _) :: _ = _
  have hbm : bestMoveOf (some r.1) = some m := e4
  unfold ponderOf
  rw [hbm, e3, scoreFromValue_congr e6]
  rfl

end Inkayaku.SearchSim
