import Inkayaku.Proofs.SearchRoot
import Inkayaku.Proofs.WfStepProof
import Inkayaku.Proofs.GenSpecNoisy
import Inkayaku.Proofs.GenFacts
/-!
# Every principal variation the search returns is a legal line (C16, `C16Pv.pv_legal_line`)

The induction is done once, for an abstract "line predicate" `P : Board → List Move → Prop` (`LineLaws P`: the empty line
is fine everywhere, a line is extended at the front by a generated move whose successor passes `isValid`) and an abstract
set `S` of positions such that — the only place where hash collisions matter — `P` can be transferred between two positions
of `S` that have the same Zobrist hash (`Transfer S P`).

* `TTLegal S P tt`: every table entry's stored chain is a `P`-line of every position of `S` whose hash is the entry's key;
* `quiescence_pv`, `negamax_pv`: for a position `b0` with clock budget (`Inv fuel b0`) shown by the state, a hash argument
  that is the hash of `b0`, a node that lies `ply ≤ maxPly ≤ N` legal plies below `root` and a table satisfying `TTLegal`,
  the returned `VM` has a PV that is a `P`-line of `b0`, and the returned table satisfies `TTLegal` again (stores insert the
  node's own result under the node's own hash; the hash threaded down by XOR is the hash of the child by C06);
* `pvIter_step`, `goCmd_pv_ok` (over `goCmd_infos`): every info of a `go` that carries a PV carries a `P`-line of the searched position
  (the table is emptied by `go`; iterations share the table).

The pawn hash argument plays no role (the model threads it, nothing reads it).

Instances: `LegalLine` (literally generated moves; transfer needs "equal hash ⇒ equal visible position") in this file,
the rules-of-chess reading (`Proofs/SearchPvRules.lean`; transfer needs "equal hash ⇒ same position up to the clocks").
-/
namespace Inkayaku.Search
open Inkayaku.Board Inkayaku.Eval Inkayaku.WF Inkayaku.BoardCongr

def LegalLine : Board → List Move → Prop
  | _, [] => True
  | b, m :: ms => m ∈ genPseudo b ∧ isValid (make b m) = true ∧ LegalLine (make b m) ms

theorem LegalLine.congr {b b' : Board} (h : vis b = vis b') (l : List Move) (hl : LegalLine b l) : LegalLine b' l := by
  induction l generalizing b b' with
  | nil => trivial
  | cons m ms ih =>
    obtain ⟨h1, h2, h3⟩ := hl
    refine ⟨by rw [← genPseudo_congr h]; exact h1, by rw [← isValid_congr (make_congr h m)]; exact h2, ?_⟩
    exact ih (make_congr h m) h3

def Reach (root : Board) : Nat → Board → Prop
  | 0, b => vis b = vis root
  | n + 1, b => ∃ b0 m, Reach root n b0 ∧ wf b0 = true ∧ m ∈ genPseudo b0 ∧ isValid (make b0 m) = true ∧
      vis b = vis (make b0 m)

/-- reached by at most `N` legal moves: the positions a search of depth ≤ `N` can visit as `negamax` nodes -/
def ReachLe (root : Board) (N : Nat) (b : Board) : Prop := ∃ n, n ≤ N ∧ Reach root n b

theorem Reach.congr {root b b' : Board} {n : Nat} (h : vis b = vis b') (hr : Reach root n b) : Reach root n b' := by
  cases n with
  | zero => exact h.symm.trans hr
  | succ n =>
    obtain ⟨b0, m, h1, h2, h3, h4, h5⟩ := hr
    exact ⟨b0, m, h1, h2, h3, h4, h.symm.trans h5⟩

theorem Reach.root (root : Board) : Reach root 0 root := rfl

structure LineLaws (P : Board → List Move → Prop) : Prop where
  nil : ∀ b, P b []
  cons : ∀ b m ms, wf b = true → m ∈ genPseudo b → isValid (make b m) = true → P (make b m) ms → P b (m :: ms)

/-- `P`-lines can be carried between two positions of `S` (the positions that can be `negamax` nodes) that have the same
hash.  The no-collision idealisation enters here, and only here; the quiescence search, which does not use the table,
does not need it. -/
def Transfer (S : Board → Prop) (P : Board → List Move → Prop) : Prop :=
  ∀ b b' l, S b → S b' → Zobrist.hash b = Zobrist.hash b' → P b l → P b' l

def TTLegal (S : Board → Prop) (P : Board → List Move → Prop) (tt : Std.HashMap UInt64 TtEntry) : Prop :=
  ∀ h e, tt.get? h = some e → ∀ b', S b' → Zobrist.hash b' = h → P b' e.mv.pv

theorem TTLegal.empty (S : Board → Prop) (P : Board → List Move → Prop) : TTLegal S P {} := TTAll.empty _

theorem TTLegal.insert {S : Board → Prop} {P : Board → List Move → Prop} {tt : Std.HashMap UInt64 TtEntry}
    (htt : TTLegal S P tt) (h : UInt64) (e : TtEntry) (he : ∀ b', S b' → Zobrist.hash b' = h → P b' e.mv.pv) :
    TTLegal S P (tt.insert h e) :=
  TTAll.insert (P := fun h e => ∀ b', S b' → Zobrist.hash b' = h → P b' e.mv.pv) htt h e he

def accPv (acc : LoopAcc) : List Move := (VM.mk acc.bestValue acc.bestMove acc.bestChild).pv

theorem accPv_acc0 (a : Int) : accPv (acc0 a) = [] := by
  unfold accPv acc0; exact VM.pv_none_none _

theorem accPv_update (acc : LoopAcc) (m : Move) (c : VM) :
    accPv (accUpdate acc m c) = m :: c.pv ∨ accPv (accUpdate acc m c) = accPv acc := by
  rcases accUpdate_cases acc m c with ⟨-, e⟩ | ⟨-, e⟩ <;> rw [e]
  · exact Or.inl (VM.pv_some_some _ _ _)
  · exact Or.inr rfl

theorem Generated.pseudo {b : Board} {m : Move} (h : Generated b m) (hwf : wf b = true) : m ∈ genPseudo b :=
  h.elim id (GenSpec.genNonQuiescent_subset (GenOK.wf_facts hwf) m)

section
variable {P : Board → List Move → Prop} (LL : LineLaws P)
include LL

theorem LineLaws.step {k : Nat} {b0 : Board} {m : Move} (hinv : Inv (k + 1) b0) (hm : Generated b0 m)
    (hv : isValid (make b0 m) = true) {c : VM} (hl : P (make b0 m) c.pv) (v : Int) :
    P b0 (VM.mk v (some m) (some c)).pv := by
  rw [VM.pv_some_some]
  exact LL.cons b0 m _ hinv.wf (hm.pseudo hinv.wf) hv hl

theorem quiescence_pv (fuel : Nat) (b0 : Board) (s : St) (a b : Int) (hinv : Inv fuel b0) (hs : vis s.board = vis b0) :
    P b0 (quiescence fuel s a b).1.pv :=
  (quiescence_walk boardLaws
    (QP := fun _ b0 _ _ _ res => P b0 res.1.pv)
    (QL := fun _ b0 _ _ α _ bm bc res => P b0 (VM.mk α bm bc).pv → P b0 res.1.pv)
    (zero := VM.pv_leaf _ ▸ LL.nil _)
    (pat := fun _ => VM.pv_leaf _ ▸ LL.nil _)
    (loop := fun _ _ hl => hl (VM.pv_none_none _ ▸ LL.nil _))
    (nil := fun hp => hp)
    (skip := fun _ ih => ih)
    (child := fun hinv hm hv hc =>
      have hline := LL.step hinv hm hv hc
      ⟨fun _ _ => hline _, fun _ _ _ ih _ => ih (hline _), fun _ _ _ ih hp => ih hp⟩)
    ).1 fuel b0 s a b hinv hs |>.1

variable {S : Board → Prop} (HT : Transfer S P) (root : Board) (N : Nat) (hS : ∀ b n, n ≤ N → Reach root n b → S b)
include HT hS

structure PvNode (root : Board) (N : Nat) (b0 : Board) (ply maxPly : Nat) (h : UInt64) : Prop where
  hash : h = Zobrist.hash b0
  reach : Reach root ply b0
  ply : ply ≤ maxPly
  max : maxPly ≤ N

omit hS in
theorem finish_pv (c : Nat) (a b : Int) (rem : Nat) (b0 : Board) (hb0 : S b0) (r : LoopAcc × Bool × St)
    (hp : P b0 (accPv r.1)) (htt : TTLegal S P r.2.2.tt) :
    P b0 (finish c a b (Zobrist.hash b0) rem r).1.pv ∧ TTLegal S P (finish c a b (Zobrist.hash b0) rem r).2.tt := by
  obtain ⟨acc, ab, s⟩ := r
  rcases finish_cases c a b (Zobrist.hash b0) rem acc ab s with ⟨-, e⟩ | ⟨-, -, e⟩ | ⟨-, -, -, e⟩ | ⟨-, -, -, nt, e⟩ <;> rw [e]
  · exact ⟨by rw [VM.pv_none_none]; exact LL.nil _, htt⟩
  · exact ⟨by rw [VM.pv_leaf]; exact LL.nil _, htt⟩
  · exact ⟨hp, htt⟩
  · refine ⟨hp, htt.insert _ _ ?_⟩
    intro b' hb' hh
    exact HT b0 b' _ hb0 hb' hh.symm hp

theorem negamax_pv (fuel : Nat) (b0 : Board) (s : St) (ply maxPly : Nat) (a b : Int) (isPv : Bool) (h ph : UInt64)
    (hinv : Inv fuel b0) (hs : vis s.board = vis b0) (hnode : PvNode root N b0 ply maxPly h) (htt : TTLegal S P s.tt) :
    P b0 (negamax fuel s ply maxPly a b isPv h ph).1.pv ∧ TTLegal S P (negamax fuel s ply maxPly a b isPv h ph).2.tt := by
  have leaf : ∀ {b0 : Board} {v : Int} {s : St}, TTLegal S P s.tt →
      P b0 (VM.leaf v, s).1.pv ∧ TTLegal S P (VM.leaf v, s).2.tt := fun htt => ⟨VM.pv_leaf _ ▸ LL.nil _, htt⟩
  have hSn : ∀ {b0 : Board} {ply maxPly : Nat} {h : UInt64}, PvNode root N b0 ply maxPly h → S b0 :=
    fun hn => hS _ _ (Nat.le_trans hn.ply hn.max) hn.reach
  exact (negamax_walk boardLaws
    (NP := fun _ b0 s ply maxPly _ _ h res => PvNode root N b0 ply maxPly h → TTLegal S P s.tt →
      P b0 res.1.pv ∧ TTLegal S P res.2.tt)
    (NB := fun _ b0 s ply maxPly _ _ h res => PvNode root N b0 ply maxPly h → TTLegal S P s.tt →
      P b0 res.1.pv ∧ TTLegal S P res.2.tt)
    (NL := fun _ b0 _ s ply maxPly _ h acc res => PvNode root N b0 ply maxPly h → ply ≠ maxPly → TTLegal S P s.tt →
      P b0 (accPv acc) → P b0 (accPv res.1) ∧ TTLegal S P res.2.2.tt)
    (zero := fun _ htt => leaf htt)
    (timeout := fun {_ _ s _ _ _ _ _} _ _ htt => leaf (pollStep_tt s ▸ htt))
    (entered := fun {_ _ s _ _ _ _ h _} _ _ hb hn htt => hb hn (enter_tt s h ▸ htt))
    (leaf := fun _ _ htt => leaf htt)
    -- a table hit: the stored chain of an entry found under the hash of this very position
    (hit := fun hget _ hn htt => ⟨htt _ _ hget _ (hSn hn) hn.hash.symm, htt⟩)
    (quiesce := fun hinv hs _ _ _ htt => ⟨quiescence_pv LL _ _ _ _ _ hinv hs, (quiescence_tt _ _ _ _).symm ▸ htt⟩)
    (loop := fun _ hne _ hl hn htt => by
      obtain ⟨l1, l2⟩ := hl hn hne htt (accPv_acc0 _ ▸ LL.nil _)
      rw [hn.hash]
      exact finish_pv LL HT _ _ _ _ _ (hSn hn) _ l1 l2)
    (nil := fun _ _ htt hp => ⟨hp, htt⟩)
    (skip := fun _ ih => ih)
    (child := by
      intro f b0 m rest s ply maxPly β h acc k r hinv hm hv _ _ hc
      have key : PvNode root N b0 ply maxPly h → ply ≠ maxPly → TTLegal S P s.tt → P b0 (accPv acc) →
          P b0 (accPv (accUpdate acc m r.1)) ∧ TTLegal S P r.2.tt := by
        intro hn hne htt hp
        have hm' := hm.pseudo hinv.wf
        -- the hash threaded down by XOR is the hash of the child (C06)
        obtain ⟨hc1, hc2⟩ := hc
          ⟨by rw [hn.hash]; exact (ZobristStep.hash_incremental (GenFacts.genPseudo_hashok hinv.wf m hm')).symm,
            ⟨b0, m, hn.reach, hinv.wf, hm', hv, rfl⟩, by have := hn.ply; omega, hn.max⟩ htt
        refine ⟨?_, hc2⟩
        rcases accPv_update acc m r.1 with h1 | h1 <;> rw [h1]
        · exact VM.pv_some_some 0 m r.1 ▸ LL.step hinv hm hv hc1 0
        · exact hp
      exact ⟨fun _ hn hne htt hp => ⟨hp, (key hn hne htt hp).2⟩, fun _ _ => key,
        fun _ _ _ ih hn hne htt hp => ih hn hne (key hn hne htt hp).2 (key hn hne htt hp).1⟩)
    ).1 fuel b0 s ply maxPly a b isPv h ph hinv hs |>.1 hnode htt

theorem rootSearch_pv (s : St) (d : Nat) (hinv : Inv (fuelFor d) root) (hroot : vis s.board = vis root) (hd : d ≤ N)
    (htt : TTLegal S P s.tt) : P root (rootSearch s d).1.pv ∧ TTLegal S P (rootSearch s d).2.tt :=
  negamax_pv LL HT root N hS (fuelFor d) root s 0 d lossScore Gen.winScore s.pv.isSome (Zobrist.hash s.board)
    (Zobrist.pawnHash s.board) hinv hroot ⟨hash_congr hroot, Reach.root root, Nat.zero_le _, hd⟩ htt

def PvOK (P : Board → List Move → Prop) (root : Board) : Out → Prop
  | .info _ _ _ _ (some l) => P root l
  | _ => True

def PvIter (S : Board → Prop) (P : Board → List Move → Prop) (root : Board) (N : Nat) (n d : Nat) (s : St) : Prop :=
  RootInv root n d s ∧ d + n ≤ N + 1 ∧ TTLegal S P s.tt

theorem pvIter_step : IterStep (fun r => P root r.1.pv) (PvIter S P root N) := by
  intro n d s ⟨hR, hdn, htt⟩
  obtain ⟨hinv, -, -, hnext⟩ := rootIter_step boardLaws hR
  obtain ⟨hpv, htt'⟩ := rootSearch_pv LL HT root N hS s d hinv hR.2.1 (by omega) htt
  exact ⟨hpv, fun _ p o => ⟨hnext p o, by omega, htt'⟩⟩

end

theorem goCmd_pv_ok {S : Board → Prop} {P : Board → List Move → Prop} (s : St) (LL : LineLaws P) (HT : Transfer S P)
    (g : GoParams)
    (maxIter : Nat) (hS : ∀ b n, n ≤ maxIter → Reach s.board n b → S b) (hinv : Inv (goBudget maxIter) s.board)
    (o : Out) (ho : o ∈ (goCmd s g maxIter).out) (hnew : o ∉ s.out) : PvOK P s.board o := by
  obtain ⟨k, p, g', hprep⟩ := goPrep_eq s g
  have hle := goIters_le g maxIter
  exact goCmd_infos (pvIter_step LL HT s.board maxIter hS) (fun _ h _ _ _ _ => h)
    (fun _ _ _ => trivial) (fun _ _ => trivial) s g maxIter
    ⟨rootInv_goPrep s g maxIter hinv, by omega, by rw [hprep]; exact TTLegal.empty S P⟩ o ho hnew

/-- **no-collision idealisation** on a set of positions: equal Zobrist hash ⇒ equal visible position.  NOTE: the hash
does not cover the two clocks, so this also forbids transpositions that differ in a clock only (they are frequent);
`Proofs/SearchPvRules.lean` has the variant "equal up to the clocks". -/
def HashInjVis (S : Board → Prop) : Prop :=
  ∀ b1 b2, S b1 → S b2 → Zobrist.hash b1 = Zobrist.hash b2 → vis b1 = vis b2

theorem legalLine_laws : LineLaws LegalLine where
  nil := fun _ => trivial
  cons := fun _ _ _ _ hm hv hl => ⟨hm, hv, hl⟩

theorem legalLine_transfer {S : Board → Prop} (hinj : HashInjVis S) : Transfer S LegalLine :=
  fun b b' l hb hb' hh hl => LegalLine.congr (hinj b b' hb hb' hh) l hl

end Inkayaku.Search
