import Inkayaku.Model.Abs
import Inkayaku.Model.WF
import Inkayaku.Proofs.Bits
/-!
# The piece words (six per side) as piece codes, and the mailbox abstraction; the conjuncts of `WF.wf` by name

`OneHot s q c`: at square `q` the word of code `c` of the side `s` has the bit and no other word has it (`c = 0`: none has);
`Holds s c` says so for every square.  This is the one form in which "the piece of `s` on `q`" is handed around:
pairwise disjointness of the words IS `Holds s s.pieceAt` (`holds_of_disjoint`, `disjoint_of_holds`), single bits, the
occupancy and `Side.pieceAt` are read off it (`OneHot.bit`, `OneHot.full`, `OneHot.pieceAt`), and `Abs.pieceOn` is the pair of
the two sides' codes (`pieceOn_iff`).  Needs only the model, so that files below the attack tables can use it; `WF.Parts` is
`WF.wf` as a record.
-/
namespace Inkayaku.Attack
open Inkayaku.Board Inkayaku.Bits

def sideWords (s : Side) : List UInt64 := [s.pawns, s.knights, s.bishops, s.rooks, s.queens, s.kings]

/-- the twelve piece words are pairwise disjoint: the first conjunct of `WF.wf` -/
def Disjoint (b : Board) : Prop := WF.disjointAll (sideWords b.white ++ sideWords b.black) = true

instance (b : Board) : Decidable (Disjoint b) := by unfold Disjoint; infer_instance

def Excl (t : Nat) (x y : UInt64) : Prop := ¬ (testU x t = true ∧ testU y t = true)

theorem excl_or {t : Nat} {a x y : UInt64} : Excl t (a ||| x) y ↔ Excl t a y ∧ Excl t x y := by
  unfold Excl; rw [testU_or]
  cases testU a t <;> cases testU x t <;> cases testU y t <;> decide

theorem and_eq_zero_iff_excl (x y : UInt64) : x &&& y = 0 ↔ ∀ t, Excl t x y :=
  (and_eq_zero_iff x y).trans ⟨fun h t hxy => h t (testU_lt hxy.1) hxy, fun h t _ => h t⟩

theorem go_iff (acc : UInt64) (xs : List UInt64) :
    WF.disjointAll.go acc xs = true ↔ ∀ t, (∀ x ∈ xs, Excl t acc x) ∧ xs.Pairwise (Excl t) := by
  induction xs generalizing acc with
  | nil => simp [WF.disjointAll.go]
  | cons x rest ih =>
    simp only [WF.disjointAll.go, Bool.and_eq_true, beq_iff_eq, ih, and_eq_zero_iff_excl, List.forall_mem_cons,
      List.pairwise_cons, excl_or]
    exact ⟨fun ⟨h0, h⟩ t => ⟨⟨h0 t, fun y hy => ((h t).1 y hy).1⟩, fun y hy => ((h t).1 y hy).2, (h t).2⟩,
      fun h => ⟨fun t => (h t).1.1, fun t => ⟨fun y hy => ⟨(h t).1.2 y hy, (h t).2.1 y hy⟩, (h t).2.2⟩⟩⟩

theorem disjointAll_iff (xs : List UInt64) : WF.disjointAll xs = true ↔ ∀ t, xs.Pairwise (Excl t) := by
  unfold WF.disjointAll
  rw [go_iff]
  exact forall_congr' fun t => and_iff_right fun x _ h => by rw [testU_zero] at h; exact Bool.noConfusion h.1

theorem Disjoint.pairwise {b : Board} (h : Disjoint b) (t : Nat) :
    (sideWords b.white ++ sideWords b.black).Pairwise (Excl t) := (disjointAll_iff _).mp h t

/-- `get_piece_const_by_square_shift` tests the six words in order -/
theorem pieceAt_bits (s : Side) {q : Nat} (hq : q < 64) : s.pieceAt q =
    if testU s.pawns q then 1 else if testU s.knights q then 2 else if testU s.bishops q then 3
    else if testU s.rooks q then 4 else if testU s.queens q then 5 else if testU s.kings q then 6 else 0 := by
  simp only [Side.pieceAt, Side.pieceAtMask, and_bitU_ne_zero _ q hq, PAWN, KNIGHT, BISHOP, ROOK, QUEEN, KING, NO_PIECE]

theorem pieceAt_zero (s : Side) (t : Nat) (ht : t < 64) : s.pieceAt t = 0 ↔ testU s.full t = false := by
  rw [pieceAt_bits s ht]
  simp only [Side.full, testU_or]
  cases testU s.pawns t <;> cases testU s.knights t <;> cases testU s.bishops t <;> cases testU s.rooks t <;>
    cases testU s.queens t <;> cases testU s.kings t <;> decide

theorem code_of_free {s : Side} {t : Nat} (ht : t < 64) (h : testU s.full t = false) : s.pieceAt t = 0 :=
  (pieceAt_zero _ _ ht).mpr h

theorem full_of_pieceAt {s : Side} {t : Nat} (ht : t < 64) (h : s.pieceAt t ≠ 0) : testU s.full t = true := by
  cases hf : testU s.full t
  · exact absurd ((pieceAt_zero s t ht).mpr hf) h
  · rfl

theorem get_of_pieceAt (s : Side) {t : Nat} (ht : t < 64) (h : s.pieceAt t ≠ 0) :
    testU (s.get (s.pieceAt t)) t = true := by
  revert h
  rw [pieceAt_bits s ht]
  repeat' split
  all_goals first | exact fun _ => ‹_› | exact fun h => absurd rfl h

def OneHot (s : Side) (q c : Nat) : Prop := ∀ p, 1 ≤ p → p ≤ 6 → testU (s.get p) q = decide (p = c)

theorem onehot_words {s : Side} {q c : Nat} : OneHot s q c ↔
    testU s.pawns q = decide (1 = c) ∧ testU s.knights q = decide (2 = c) ∧ testU s.bishops q = decide (3 = c) ∧
    testU s.rooks q = decide (4 = c) ∧ testU s.queens q = decide (5 = c) ∧ testU s.kings q = decide (6 = c) := by
  refine ⟨fun h => ⟨h 1 (by decide) (by decide), h 2 (by decide) (by decide), h 3 (by decide) (by decide),
    h 4 (by decide) (by decide), h 5 (by decide) (by decide), h 6 (by decide) (by decide)⟩, ?_⟩
  rintro ⟨h1, h2, h3, h4, h5, h6⟩ p hp1 hp6
  have : p = 1 ∨ p = 2 ∨ p = 3 ∨ p = 4 ∨ p = 5 ∨ p = 6 := by omega
  rcases this with rfl | rfl | rfl | rfl | rfl | rfl <;> assumption

theorem OneHot.bit {s : Side} {q c k : Nat} (h : OneHot s q c) (h1 : 1 ≤ k) (h6 : k ≤ 6) :
    testU (s.get k) q = true ↔ c = k := by
  rw [h k h1 h6, decide_eq_true_eq]; exact eq_comm

theorem OneHot.full {s : Side} {q c : Nat} (h : OneHot s q c) : testU s.full q = true ↔ 1 ≤ c ∧ c ≤ 6 := by
  obtain ⟨e1, e2, e3, e4, e5, e6⟩ := onehot_words.mp h
  simp only [Side.full, testU_or, e1, e2, e3, e4, e5, e6, Bool.or_eq_true, decide_eq_true_eq]
  omega

theorem OneHot.free {s : Side} {q : Nat} (h : OneHot s q 0) : testU s.full q = false := by
  cases hf : testU s.full q
  · rfl
  · have := h.full.mp hf; omega

theorem OneHot.pieceAt {s : Side} {q c : Nat} (h : OneHot s q c) (hq : q < 64) (hc : c ≤ 6) : s.pieceAt q = c := by
  obtain ⟨e1, e2, e3, e4, e5, e6⟩ := onehot_words.mp h
  rw [pieceAt_bits s hq, e1, e2, e3, e4, e5, e6]
  have : c = 0 ∨ c = 1 ∨ c = 2 ∨ c = 3 ∨ c = 4 ∨ c = 5 ∨ c = 6 := by omega
  rcases this with rfl | rfl | rfl | rfl | rfl | rfl | rfl <;> decide

theorem OneHot.excl {s : Side} {q c : Nat} (h : OneHot s q c) : (sideWords s).Pairwise (Excl q) := by
  obtain ⟨e1, e2, e3, e4, e5, e6⟩ := onehot_words.mp h
  simp only [sideWords, List.pairwise_cons, List.mem_cons, List.not_mem_nil, or_false, forall_eq_or_imp, forall_eq,
    Excl, List.Pairwise.nil, and_true, e1, e2, e3, e4, e5, e6, decide_eq_true_eq, false_imp_iff, implies_true]
  omega

theorem excl_iff_onehot (s : Side) {q : Nat} (hq : q < 64) :
    (sideWords s).Pairwise (Excl q) ↔ OneHot s q (s.pieceAt q) := by
  refine ⟨fun hd => ?_, OneHot.excl⟩
  rw [onehot_words, pieceAt_bits s hq]
  simp only [sideWords, List.pairwise_cons, List.mem_cons, List.not_mem_nil, or_false, forall_eq_or_imp, forall_eq,
    Excl, List.Pairwise.nil, and_true, false_imp_iff, implies_true] at hd
  revert hd
  cases testU s.pawns q <;> cases testU s.knights q <;> cases testU s.bishops q <;> cases testU s.rooks q <;>
    cases testU s.queens q <;> cases testU s.kings q <;> decide

theorem full_iff (s : Side) (t : Nat) : testU s.full t = true ↔ ∃ x ∈ sideWords s, testU x t = true := by
  simp only [Side.full, testU_or, Bool.or_eq_true, sideWords, List.mem_cons, List.not_mem_nil, or_false,
    exists_eq_or_imp, exists_eq_left]
  constructor
  · rintro (((((h | h) | h) | h) | h) | h) <;> simp [h]
  · rintro (h | h | h | h | h | h) <;> simp [h]

theorem get_le_full (s : Side) {p t : Nat} (h1 : 1 ≤ p) (h6 : p ≤ 6) (h : testU (s.get p) t = true) :
    testU s.full t = true := by
  have : p = 1 ∨ p = 2 ∨ p = 3 ∨ p = 4 ∨ p = 5 ∨ p = 6 := by omega
  rcases this with rfl | rfl | rfl | rfl | rfl | rfl <;>
    simp only [Side.get] at h <;> simp [Side.full, Bits.testU_or, h]

theorem get_of_full_false (s : Side) {p t : Nat} (h1 : 1 ≤ p) (h6 : p ≤ 6) (h : testU s.full t = false) :
    testU (s.get p) t = false := by
  cases hh : testU (s.get p) t
  · rfl
  · rw [get_le_full s h1 h6 hh] at h; exact absurd h (by decide)

theorem full_false_words {s : Side} {t : Nat} (h : testU s.full t = false) :
    testU s.pawns t = false ∧ testU s.knights t = false ∧ testU s.bishops t = false ∧ testU s.rooks t = false ∧
    testU s.queens t = false ∧ testU s.kings t = false :=
  ⟨get_of_full_false s (p := 1) (by decide) (by decide) h, get_of_full_false s (p := 2) (by decide) (by decide) h,
   get_of_full_false s (p := 3) (by decide) (by decide) h, get_of_full_false s (p := 4) (by decide) (by decide) h,
   get_of_full_false s (p := 5) (by decide) (by decide) h, get_of_full_false s (p := 6) (by decide) (by decide) h⟩

theorem occ_false {a p : UInt64} {t : Nat} (h : testU (a ||| p) t = false) : testU a t = false ∧ testU p t = false := by
  rw [Bits.testU_or] at h
  cases ha : testU a t <;> cases hp : testU p t <;> simp_all

def Holds (s : Side) (c : Nat → Nat) : Prop := ∀ q, q < 64 → OneHot s q (c q)

theorem Holds.bit {s : Side} {c : Nat → Nat} (h : Holds s c) {k t : Nat} (h1 : 1 ≤ k) (h6 : k ≤ 6) (ht : t < 64) :
    testU (s.get k) t = true ↔ c t = k := (h t ht).bit h1 h6

theorem Holds.code {s : Side} {c : Nat → Nat} {k t : Nat} (h : Holds s c) (h1 : 1 ≤ k) (h6 : k ≤ 6)
    (hb : testU (s.get k) t = true) : c t = k := ((h t (testU_lt hb)).bit h1 h6).mp hb

theorem Holds.free {s : Side} {c : Nat → Nat} (h : Holds s c) {t : Nat} (ht : t < 64) (h0 : c t = 0) :
    testU s.full t = false := (h0 ▸ h t ht).free

theorem holds_of_disjoint {w k : Side} (h : WF.disjointAll (sideWords w ++ sideWords k) = true) :
    Holds w w.pieceAt ∧ Holds k k.pieceAt ∧ ∀ q, q < 64 → w.pieceAt q = 0 ∨ k.pieceAt q = 0 := by
  have hp := fun t => List.pairwise_append.mp ((disjointAll_iff _).mp h t)
  refine ⟨fun q hq => (excl_iff_onehot w hq).mp (hp q).1, fun q hq => (excl_iff_onehot k hq).mp (hp q).2.1,
    fun q hq => ?_⟩
  rw [pieceAt_zero _ _ hq, pieceAt_zero _ _ hq]
  cases hw : testU w.full q
  · exact Or.inl rfl
  · cases hk : testU k.full q
    · exact Or.inr rfl
    · obtain ⟨x, hx, hxt⟩ := (full_iff _ _).mp hw
      obtain ⟨y, hy, hyt⟩ := (full_iff _ _).mp hk
      exact absurd ⟨hxt, hyt⟩ ((hp q).2.2 x hx y hy)

theorem disjoint_of_holds {a p : Side} {cA cP : Nat → Nat} (ha : Holds a cA) (hp : Holds p cP)
    (h : ∀ t, t < 64 → cA t = 0 ∨ cP t = 0) : WF.disjointAll (sideWords a ++ sideWords p) = true := by
  rw [disjointAll_iff]
  intro t
  by_cases ht : t < 64
  · refine List.pairwise_append.mpr ⟨(ha t ht).excl, (hp t ht).excl, fun x hx y hy hxy => ?_⟩
    have h1 := (ha t ht).full.mp ((full_iff _ _).mpr ⟨x, hx, hxy.1⟩)
    have h2 := (hp t ht).full.mp ((full_iff _ _).mpr ⟨y, hy, hxy.2⟩)
    rcases h t ht with h0 | h0 <;> omega
  · exact List.pairwise_of_forall fun x y hxy => ht (testU_lt hxy.1)

theorem disjoint_symm {a p : Side} (h : WF.disjointAll (sideWords a ++ sideWords p) = true) :
    WF.disjointAll (sideWords p ++ sideWords a) = true :=
  have ⟨ha, hp, hc⟩ := holds_of_disjoint h
  disjoint_of_holds hp ha fun t ht => (hc t ht).symm

theorem kind_code (n : Nat) (hn : n ≤ 6) (k : Spec.Kind) : (n ≠ 0 ∧ Abs.kindOf n = k) ↔ n = Abs.kindCode k := by
  have : n = 0 ∨ n = 1 ∨ n = 2 ∨ n = 3 ∨ n = 4 ∨ n = 5 ∨ n = 6 := by omega
  rcases this with rfl | rfl | rfl | rfl | rfl | rfl | rfl <;> cases k <;> simp [Abs.kindOf, Abs.kindCode]

def sideOf (b : Board) (white : Bool) : Side := if white then b.white else b.black

def word (b : Board) (white : Bool) (k : Spec.Kind) : UInt64 := (sideOf b white).get (Abs.kindCode k)

/-- the position seen from the mover (`MakeUnmake.sides_of_turn` adds the turn number) -/
theorem sides_cases (b : Board) : (b.whiteTurn = true ∧ b.active = b.white ∧ b.passive = b.black) ∨
    (b.whiteTurn = false ∧ b.active = b.black ∧ b.passive = b.white) := by
  unfold Board.active Board.passive; cases b.whiteTurn <;> simp

theorem Disjoint.holds {b : Board} (hd : Disjoint b) : Holds b.active b.active.pieceAt ∧
    Holds b.passive b.passive.pieceAt ∧ ∀ q, q < 64 → b.active.pieceAt q = 0 ∨ b.passive.pieceAt q = 0 := by
  obtain ⟨hw, hk, hc⟩ := holds_of_disjoint hd
  rcases sides_cases b with ⟨-, ha, hp⟩ | ⟨-, ha, hp⟩ <;> rw [ha, hp]
  · exact ⟨hw, hk, hc⟩
  · exact ⟨hk, hw, fun q hq => (hc q hq).symm⟩

theorem code_range (k : Spec.Kind) : 1 ≤ Abs.kindCode k ∧ Abs.kindCode k ≤ 6 := by cases k <;> decide

theorem pieceAt_le (s : Side) (t : Nat) : s.pieceAt t ≤ 6 := pieceAtMask_le s (bitU t)

theorem pieceOn_iff {b : Board} {t : Nat} (hw : OneHot b.white t (b.white.pieceAt t))
    (hk : OneHot b.black t (b.black.pieceAt t)) (hc : b.white.pieceAt t = 0 ∨ b.black.pieceAt t = 0)
    (w : Bool) (k : Spec.Kind) : Abs.pieceOn b t = some ⟨w, k⟩ ↔ testU (word b w k) t = true := by
  have hwk := kind_code _ (pieceAt_le b.white t) k
  have hkk := kind_code _ (pieceAt_le b.black t) k
  unfold Abs.pieceOn
  cases w
  · -- a black piece: the white lookup must find nothing
    show _ ↔ testU (b.black.get (Abs.kindCode k)) t = true
    rw [hk.bit (code_range k).1 (code_range k).2, ← hkk]
    rcases hc with hz | hz <;> simp [hz]
  · show _ ↔ testU (b.white.get (Abs.kindCode k)) t = true
    rw [hw.bit (code_range k).1 (code_range k).2, ← hwk]
    by_cases hz : b.white.pieceAt t = 0 <;> simp [hz]

theorem abs_at (b : Board) (t : Nat) : (Abs.abs b).at t = if t < 64 then Abs.pieceOn b t else none := by
  simp only [Spec.Pos.at, Abs.abs]
  split
  · rename_i h; simp [Array.getD, h]
  · rename_i h; simp [Array.getD, h]

theorem at_iff (b : Board) (hd : Disjoint b) (t : Nat) (ht : t < 64) (w : Bool) (k : Spec.Kind) :
    (Abs.abs b).at t = some ⟨w, k⟩ ↔ testU (word b w k) t = true := by
  obtain ⟨hw, hk, hc⟩ := holds_of_disjoint hd
  rw [abs_at, if_pos ht]
  exact pieceOn_iff (hw t ht) (hk t ht) (hc t ht) w k

theorem at_isSome (b : Board) (q : Nat) :
    ((Abs.abs b).at q).isSome = testU (b.white.full ||| b.black.full) q := by
  rw [abs_at]
  split
  · rename_i hq
    have hw := pieceAt_zero b.white q hq
    have hk := pieceAt_zero b.black q hq
    rw [testU_or]
    unfold Abs.pieceOn
    by_cases h1 : b.white.pieceAt q = 0
    · by_cases h2 : b.black.pieceAt q = 0
      · simp [h1, h2, hw.mp h1, hk.mp h2]
      · simp [h1, h2, full_of_pieceAt hq h2]
    · simp [h1, full_of_pieceAt hq h1]
  · rename_i hq
    cases h : testU (b.white.full ||| b.black.full) q
    · rfl
    · exact absurd (testU_lt h) hq

end Inkayaku.Attack

namespace Inkayaku.WF
open Inkayaku.Board Inkayaku.Attack

/-- `wf b` as a record of its conjuncts (the e.p. conjunct and the castling-right conjuncts as implications) -/
structure Parts (b : Board) : Prop where
  disj : Disjoint b
  wk : popcount b.white.kings = 1
  bk : popcount b.black.kings = 1
  pawns : (b.white.pawns ||| b.black.pawns) &&& rank18U = 0
  turn : b.turn ≤ 1
  valid : isValid b = true
  wks : b.white.ks = true → testU b.white.kings E1 = true ∧ testU b.white.rooks H1 = true
  wqs : b.white.qs = true → testU b.white.kings E1 = true ∧ testU b.white.rooks A1 = true
  bks : b.black.ks = true → testU b.black.kings E8 = true ∧ testU b.black.rooks H8 = true
  bqs : b.black.qs = true → testU b.black.kings E8 = true ∧ testU b.black.rooks A8 = true
  ep : b.ep ≠ 0 →
    if b.turn = 0 then b.ep / 8 = 2 ∧ testU b.black.pawns (b.ep + 8) = true ∧
      testU (b.white.full ||| b.black.full) b.ep = false ∧ testU (b.white.full ||| b.black.full) (b.ep - 8) = false
    else b.ep / 8 = 5 ∧ testU b.white.pawns (b.ep - 8) = true ∧
      testU (b.white.full ||| b.black.full) b.ep = false ∧ testU (b.white.full ||| b.black.full) (b.ep + 8) = false
  fm1 : 1 ≤ b.fullmove
  fm2 : b.fullmove < 2147483648
  hm : b.halfmove ≤ 4095

theorem wf_iff (b : Board) : wf b = true ↔ Parts b := by
  have held : ∀ {r : Bool} {P : Prop}, (r = false ∨ P) ↔ (r = true → P) := by intro r P; cases r <;> simp
  unfold wf
  simp only [Bool.and_eq_true, Bool.or_eq_true, Bool.not_eq_true', decide_eq_true_eq, beq_iff_eq, held,
    Bool.ite_eq_true_distrib, and_assoc, Decidable.or_iff_not_imp_left]
  exact ⟨fun ⟨c1, c2, c3, c4, c5, c6, c7, c8, c9, c10, c11, c12, c13, c14⟩ =>
      ⟨c1, c2, c3, c4, c5, c6, c7, c8, c9, c10, c11, c12, c13, c14⟩,
    fun ⟨c1, c2, c3, c4, c5, c6, c7, c8, c9, c10, c11, c12, c13, c14⟩ =>
      ⟨c1, c2, c3, c4, c5, c6, c7, c8, c9, c10, c11, c12, c13, c14⟩⟩

theorem parts_of_wf {b : Board} (h : wf b = true) : Parts b := (wf_iff b).mp h

theorem Parts.epEmpty {b : Board} (p : Parts b) (hne : b.ep ≠ 0) :
    testU (b.white.full ||| b.black.full) b.ep = false := by
  have := p.ep hne
  split at this <;> exact this.2.2.1

theorem visSide_of_words {s s' : Side} (h : ∀ k : Spec.Kind, s'.get (Abs.kindCode k) = s.get (Abs.kindCode k)) (hk : s'.ks = s.ks)
    (hq : s'.qs = s.qs) : visSide s' = visSide s := by
  have h1 := h .pawn
  have h2 := h .knight
  have h3 := h .bishop
  have h4 := h .rook
  have h5 := h .queen
  have h6 := h .king
  cases s
  cases s'
  simp only [Abs.kindCode, Side.get] at h1 h2 h3 h4 h5 h6 hk hq
  simp only [visSide, h1, h2, h3, h4, h5, h6, hk, hq]

theorem vis_of_sides {b b' : Board} (hw : visSide b'.white = visSide b.white) (hb : visSide b'.black = visSide b.black)
    (ht : b'.turn = b.turn) (he : b'.ep = b.ep) (hh : b'.halfmove = b.halfmove) (hf : b'.fullmove = b.fullmove) :
    vis b' = vis b := by
  unfold vis
  rw [hw, hb, ht, he, hh, hf]

end Inkayaku.WF
