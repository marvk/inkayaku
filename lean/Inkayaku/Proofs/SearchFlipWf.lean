import Inkayaku.Proofs.SearchFlipAbs
/-!
# C11 (search half): the colour flip of a well-formed board is well-formed

Conjunct by conjunct of `WF.wf`; only castling rights (king and rook at home) and the e.p. square (behind a pawn that just made
a double step) look at particular squares.
-/
namespace Inkayaku.SearchFlip
open Inkayaku.Board Inkayaku.WF Inkayaku.Generate Inkayaku.MakeWf Inkayaku.EvalFlip

theorem get_flipSide (s : Side) {q : Nat} (h1 : 1 ≤ q) (h6 : q ≤ 6) : (flipSide s).get q = flipU (s.get q) := by
  have hq : q = 1 ∨ q = 2 ∨ q = 3 ∨ q = 4 ∨ q = 5 ∨ q = 6 := by omega
  rcases hq with rfl|rfl|rfl|rfl|rfl|rfl <;> rfl

theorem testU_flipU_lt (x : UInt64) {t : Nat} (ht : t < 64) : testU (flipU x) t = testU x (mirror t) := by
  rw [testU_flipU, decide_eq_true ht, Bool.true_and]

theorem holds_flipSide {s : Side} {c : Nat → Nat} (h : Attack.Holds s c) : Attack.Holds (flipSide s) fun q => c (mirror q) :=
  fun q hq p h1 h6 => by rw [get_flipSide s h1 h6, testU_flipU_lt _ hq]; exact h (mirror q) (mirror_lt hq) p h1 h6

theorem flipU_rank18 : flipU rank18U = rank18U := by decide +kernel

theorem wfpop_flipU (x : UInt64) : WF.popcount (flipU x) = WF.popcount x := popcount_flipU x

/-- a castling right with king and rook at home on `k` and `r` -/
theorem home_flip {right : Bool} {kings rooks : UInt64} {k r : Nat} (hk : k < 64) (hr : r < 64)
    (h : right = true → testU kings k = true ∧ testU rooks r = true) :
    right = true → testU (flipU kings) (mirror k) = true ∧ testU (flipU rooks) (mirror r) = true := by
  rw [testU_flipU_mirror _ hk, testU_flipU_mirror _ hr]
  exact h

/-- the test `WF.wf` makes of a non-zero e.p. square `e`: on row `row`, a pawn on the square `behind` it, `e` and the
square `ahead` empty -/
def epShape (pawns full : UInt64) (e row behind ahead : Nat) : Prop :=
  e / 8 = row ∧ testU pawns behind = true ∧ testU full e = false ∧ testU full ahead = false

theorem epShape_flip {pawns full : UInt64} {e row behind ahead : Nat} (he : e < 64) (hb : behind < 64) (ha : ahead < 64)
    (h : epShape pawns full e row behind ahead) :
    epShape (flipU pawns) (flipU full) (mirror e) (7 - row) (mirror behind) (mirror ahead) := by
  unfold epShape at h ⊢
  rw [testU_flipU_mirror _ he, testU_flipU_mirror _ hb, testU_flipU_mirror _ ha, mirror_div8]
  exact ⟨by rw [h.1], h.2⟩

theorem wf_flipBoard {b : Board} (h : wf b = true) : wf (flipBoard b) = true := by
  have hP := (wf_iff b).mp h
  rw [wf_iff]
  have ht := hP.turn
  obtain ⟨hsw, hsk, hc⟩ := Attack.holds_of_disjoint hP.disj
  refine ⟨?_, ?_, ?_, ?_, ?_, ?_, ?_, ?_, ?_, ?_, ?_, hP.fm1, hP.fm2, hP.hm⟩
  · exact Attack.disjoint_of_holds (holds_flipSide hsk) (holds_flipSide hsw) fun t ht => (hc _ (mirror_lt ht)).symm
  · show WF.popcount (flipU b.black.kings) = 1
    rw [wfpop_flipU]; exact hP.bk
  · show WF.popcount (flipU b.white.kings) = 1
    rw [wfpop_flipU]; exact hP.wk
  · show (flipU b.black.pawns ||| flipU b.white.pawns) &&& rank18U = 0
    rw [← flipU_rank18, ← flipU_or, ← flipU_and, flipU_eq_zero, UInt64.or_comm]
    exact hP.pawns
  · show 1 - b.turn ≤ 1
    omega
  · rw [isValid_flip b ht hP.wk hP.bk]
    exact hP.valid
  · exact home_flip (k := E8) (r := H8) (by decide) (by decide) hP.bks
  · exact home_flip (k := E8) (r := A8) (by decide) (by decide) hP.bqs
  · exact home_flip (k := E1) (r := H1) (by decide) (by decide) hP.wks
  · exact home_flip (k := E1) (r := A1) (by decide) (by decide) hP.wqs
  · -- the e.p. square
    intro hne
    have hfull : (flipBoard b).white.full ||| (flipBoard b).black.full = flipU (b.white.full ||| b.black.full) := by
      show (flipSide b.black).full ||| (flipSide b.white).full = _
      rw [flipSide_full, flipSide_full, flipU_or, UInt64.or_comm]
    simp only [hfull]
    rw [flipBoard_ep] at hne ⊢
    have e0 : b.ep ≠ 0 := fun e0 => hne (by simp [e0])
    have e1 : (b.ep == 0) = false := by simpa using e0
    have hep := hP.ep e0
    rw [e1]
    simp only [Bool.false_eq_true, if_false]
    have tt : (flipBoard b).turn = 1 - b.turn := rfl
    rw [tt]
    have : b.turn = 0 ∨ b.turn = 1 := by omega
    rcases this with e | e
    · rw [e] at hep ⊢
      have hs : epShape b.black.pawns (b.white.full ||| b.black.full) b.ep 2 (b.ep + 8) (b.ep - 8) := hep
      have h2 := hs.1
      have := epShape_flip (by omega) (by omega) (by omega) hs
      rw [← mirror_sub8 (by omega), ← mirror_add8 (by omega) (by omega)] at this
      exact this
    · rw [e] at hep ⊢
      have hs : epShape b.white.pawns (b.white.full ||| b.black.full) b.ep 5 (b.ep - 8) (b.ep + 8) := hep
      have h5 := hs.1
      have := epShape_flip (by omega) (by omega) (by omega) hs
      rw [← mirror_add8 (by omega) (by omega), ← mirror_sub8 (by omega)] at this
      exact this

end Inkayaku.SearchFlip
