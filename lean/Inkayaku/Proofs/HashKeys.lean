import Inkayaku.Props.C06
import Inkayaku.Proofs.BoardCongr
import Inkayaku.Proofs.Side
/-!
# What a `C06.HashKey` determines; the ply clock

`HashKey p` is everything the Zobrist hash reads: the twelve piece words, side to move, castling rights, e.p. file; in other
words the two sides without their scratch words (`WF.visSide`), the side to move and the e.p. file (`key_iff`).  Equal keys
give equal side to move and equal mover and other side up to the scratch words (`key_turn`, `key_sides`); with the e.p.
square (determined by its file in a well-formed position, `ep_of_key`) and the clocks they give the visible position
(`vis_of_key`).
-/
namespace Inkayaku.SearchSim
open Inkayaku.Board Inkayaku.WF Inkayaku.BoardCongr
open Inkayaku.C06 (HashKey)

theorem key_iff (p q : Board) : HashKey p = HashKey q ↔
    visSide p.white = visSide q.white ∧ visSide p.black = visSide q.black ∧ p.turn = q.turn ∧
      p.ep % 8 = q.ep % 8 ∧ (p.ep == 0) = (q.ep == 0) := by
  obtain ⟨⟨w0, w1, w2, w3, w4, w5, w6, w7, w8⟩, ⟨k0, k1, k2, k3, k4, k5, k6, k7, k8⟩, t, e, fm, hm⟩ := p
  obtain ⟨⟨w0', w1', w2', w3', w4', w5', w6', w7', w8'⟩, ⟨k0', k1', k2', k3', k4', k5', k6', k7', k8'⟩, t', e', fm', hm'⟩ := q
  simp only [HashKey, C06.HashData.mk.injEq, visSide, Side.mk.injEq, true_and]
  constructor
  · rintro ⟨h1, h2, h3, h4, h5, h6, g1, g2, g3, g4, g5, g6, ht, h7, h8, g7, g8, e1, e2⟩
    exact ⟨⟨h1, h2, h3, h4, h5, h6, h7, h8⟩, ⟨g1, g2, g3, g4, g5, g6, g7, g8⟩, ht, e1, e2⟩
  · rintro ⟨⟨h1, h2, h3, h4, h5, h6, h7, h8⟩, ⟨g1, g2, g3, g4, g5, g6, g7, g8⟩, ht, e1, e2⟩
    exact ⟨h1, h2, h3, h4, h5, h6, g1, g2, g3, g4, g5, g6, ht, h7, h8, g7, g8, e1, e2⟩

theorem hashKey_vis {p q : Board} (h : vis p = vis q) : HashKey p = HashKey q := by
  show HashKey (vis p) = HashKey (vis q)
  rw [h]

theorem key_turn {p p' : Board} (h : HashKey p = HashKey p') : p.turn = p'.turn := ((key_iff p p').mp h).2.2.1

theorem key_sides {p p' : Board} (h : HashKey p = HashKey p') :
    visSide p.active = visSide p'.active ∧ visSide p.passive = visSide p'.passive := by
  obtain ⟨hw, hb, ht, -⟩ := (key_iff p p').mp h
  unfold Board.active Board.passive Board.whiteTurn
  rw [ht]
  split
  · exact ⟨hw, hb⟩
  · exact ⟨hb, hw⟩

theorem vis_of_key {p p' : Board} (h : HashKey p = HashKey p') (hep : p.ep = p'.ep) (hfm : p.fullmove = p'.fullmove)
    (hhm : p.halfmove = p'.halfmove) : vis p = vis p' := by
  obtain ⟨hw, hb, ht, -⟩ := (key_iff p p').mp h
  exact vis_of_sides hw hb ht hep hhm hfm

theorem ep_of_key {p p' : Board} (hwf : wf p = true) (hwf' : wf p' = true) (h : HashKey p = HashKey p') : p.ep = p'.ep := by
  have ht := key_turn h
  have e1 := ((wf_iff p).mp hwf).ep
  have e2 := ((wf_iff p').mp hwf').ep
  obtain ⟨-, -, -, hf, hn⟩ := (key_iff p p').mp h
  rw [ht] at e1
  by_cases h0 : p.ep = 0
  · have : (p'.ep == 0) = true := by rw [← hn, h0]; rfl
    rw [h0]; exact (by simpa using this : p'.ep = 0).symm
  · have h0' : ¬ p'.ep = 0 := by
      intro e
      have : (p.ep == 0) = true := by rw [hn, e]; rfl
      exact h0 (by simpa using this)
    have a1 := e1 h0
    have a2 := e2 h0'
    split at a1
    · rename_i hc
      rw [if_pos hc] at a2
      omega
    · rename_i hc
      rw [if_neg hc] at a2
      omega

/-- the number of plies played since move 1: the ply clock before truncation to 16 bits -/
def ply2 (b : Board) : Nat := 2 * (b.fullmove - 1) + b.turn

theorem plyClock_eq (b : Board) : plyClock b = ply2 b % 65536 := rfl

theorem plyClock_add {b b0 : Board} {k : Nat} (hp : ply2 b = ply2 b0 + k) (hnw : ply2 b0 + k < 65536) :
    plyClock b = plyClock b0 + k := by
  rw [plyClock_eq, plyClock_eq, hp, Nat.mod_eq_of_lt hnw, Nat.mod_eq_of_lt (by omega)]

theorem ply2_congr {b b' : Board} (h : vis b = vis b') : ply2 b = ply2 b' := by
  unfold ply2
  rw [turn_congr h, fullmove_congr h]

theorem ply2_make {b : Board} (hwf : wf b = true) (m : Move) : ply2 (make b m) = ply2 b + 1 := by
  have hP := (WF.wf_iff b).mp hwf
  have h1 := hP.turn
  have h2 := hP.fm1
  unfold ply2
  rw [make_turn, make_fullmove]
  omega

end Inkayaku.SearchSim
