import Inkayaku.Proofs.SearchSimGen
import Inkayaku.Proofs.SpecSearchValue
/-!
# C08 simulation: the plain search as an instance of `Sim`

`plain b0`: the nodes are the positions reached from `b0`, the values are `mm game`, the repetition rule never applies, the
history is zero below the root.  `plain_laws`: `Hyp b0 D` gives `Sim.Laws D`.  `Props/C08Sim.lean` reads `Sim.rootSearch_sim`,
`Sim.goCmd_sim` at this instance through `sok_iff` and `mem_specBestMoves`.
-/
namespace Inkayaku.SearchSim
open Inkayaku.Board Inkayaku.Eval Inkayaku.WF Inkayaku.BoardCongr Inkayaku.Minimax Inkayaku.SpecSearch Inkayaku.Search

def plain (b0 : Board) : Sim Unit where
  Node k _ p := Reach b0 k p
  val d _ _ p := mm game d (p, [])
  rep _ _ _ := false
  next _ _ := ()
  Hist _ h := ∀ j, j < plyClock b0 → h.getD j 0 = 0

theorem ttok_iff {b0 : Board} {D : Nat} {tt : Std.HashMap UInt64 TtEntry} : TTOK b0 D tt ↔ (plain b0).TTOK D tt :=
  ⟨fun h x e he => let ⟨k, p, r⟩ := h x e he; ⟨k, (), p, r⟩, fun h x e he => let ⟨k, _, p, r⟩ := h x e he; ⟨k, p, r⟩⟩

theorem sok_iff {b0 : Board} {D : Nat} {s : St} : SOK b0 D s ↔ (plain b0).SOK D () s :=
  ⟨fun h => ⟨ttok_iff.mp h.tt, h.hist, h.stop, h.sm⟩, fun h => ⟨ttok_iff.mpr h.tt, h.hist, h.stop, h.sm⟩⟩

theorem plain_laws {b0 : Board} {D : Nat} (H : Hyp b0 D) : (plain b0).Laws D where
  child := fun hr hm => Reach.step hr rfl (List.mem_filter.mp hm).1 (List.mem_filter.mp hm).2
  histEnter := by
    intro k _ p hk hr c h hv hz j hj
    have hnw := H.nowrap
    obtain ⟨_, hply⟩ := Reach.inv H.rootInv hk hr
    have hpc : plyClock c = plyClock b0 + k := (plyClock_congr hv).trans (plyClock_add hply (by omega))
    rw [getD_historySet, if_neg (by omega)]
    exact hz j hj
  histPrefix := fun h => h
  repIff := by
    intro k _ p hk1 hk hr s hv hz
    have hnw := H.nowrap
    have hD3 := H.hD
    obtain ⟨_, hply⟩ := Reach.inv H.rootInv hk hr
    have hpc : plyClock s.board = plyClock b0 + k := (plyClock_congr hv).trans (plyClock_add hply (by omega))
    exact isRep_enter_false hz _ k (by omega) (by omega) (toNat_ne_zero (H.nz k s.board hk1 hk (hr.congr hv)))
  repRoot := fun _ _ => rfl
  repVal := fun _ h => by cases h
  horizon := fun hk hr _ => ⟨H.qb _ _ hk hr, rfl⟩
  step := by
    intro k _ p d _ _
    show mm game (d + 1) (p, []) = _
    rw [mm_succ, moves_nil]
    show (if (genLegal p).isEmpty = true then _ else mmFold _ _ ((game.moves (p, [])).map _)) = _
    rw [moves_nil, mmFold_map]
    rfl
  inj := by
    intro k' k _ _ p' p hk' hk hr' hr he
    obtain ⟨rfl, hv⟩ := H.inj k' k p' p hk' hk hr' hr he
    exact ⟨rfl, fun d _ => mm_congr d p' p [] hv⟩
  rootBounds := by
    intro _ p d hd hr hlegal
    obtain ⟨hinv, hply⟩ := Reach.inv H.rootInv (Nat.zero_le _) hr
    have hP := (WF.wf_iff p).mp hinv.wf
    have hnw := H.nowrap
    have hfm := hP.fm1
    exact root_bounds d p [] ⟨hP.turn, by unfold ply2 at hply hnw; omega⟩ hP.fm1

theorem mem_specBestMoves {b0 : Board} {d : Nat} {m : Move} (hm : m ∈ genLegal b0)
    (hv : - mm game d (make b0 m, []) = mm game (d + 1) (b0, [])) : m.uci ∈ specBestMoves (d + 1) b0 := by
  show m.uci ∈ specBestMovesOnly (d + 1) b0 []
  rw [C08.specBestMoves_eq_optimal d b0 []]
  refine List.mem_map.mpr ⟨m, ?_, rfl⟩
  unfold optimalMoves
  simp only [List.mem_filter, beq_iff_eq]
  exact ⟨by rw [moves_nil]; exact hm, hv⟩

end Inkayaku.SearchSim
