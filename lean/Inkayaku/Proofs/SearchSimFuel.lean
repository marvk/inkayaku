import Inkayaku.Proofs.SearchSimInv
import Inkayaku.Proofs.GenSpecNoisy
import Inkayaku.Proofs.MakeCount
/-!
# C08 simulation: fuel adequacy of the capture search

`material b` = number of men other than the kings + number of pawns (a pawn counts twice).  Every move of the
capture/promotion generator strictly decreases it (a capture removes a man, a promotion turns a pawn into a piece) and no
move increases it: the material of a side is the sum over the squares of the weight of the man there (`materialS_eq`), so
`material_makeF` is what `make` does to such a sum for every weight (`wsum_mkMover`, `wsum_mkOther`, `Proofs/MakeCount.lean`);
capture sequences are therefore at most `material b` long.  A position with the men of a game has `material ≤ 30 + 16`, below
`quiescenceFuel = 64` of the specification and `fuelFor d − d = 200` of the engine; that bound is not proved: `qbound_of_material` takes
`material b0 ≤ quiescenceFuel` as a hypothesis.
-/
namespace Inkayaku.SearchSim
open Inkayaku.Board Inkayaku.WF Inkayaku.BoardCongr Inkayaku.Minimax Inkayaku.SpecSearch Inkayaku.Search
open Inkayaku.GenFacts
open Inkayaku.MakeUnmake

def materialS (s : Side) : Nat :=
  2 * popcount s.pawns + popcount s.knights + popcount s.bishops + popcount s.rooks + popcount s.queens

def material (b : Board) : Nat := materialS b.white + materialS b.black

theorem material_eq (b : Board) : material b = materialS b.active + materialS b.passive := by
  unfold material Board.active Board.passive
  cases b.whiteTurn
  · simp only [Bool.false_eq_true, if_false]; omega
  · simp only [if_true]

theorem material_congr {b b' : Board} (h : vis b = vis b') : material b = material b' := by
  have e : ∀ c : Board, material c = material (vis c) := fun c => rfl
  rw [e b, e b', h]

def weight (p : Nat) : Nat := 2 * same 1 p + same 2 p + same 3 p + same 4 p + same 5 p

theorem wsum_weight (g : Nat → Nat) : ∀ n, wsum weight g n =
    2 * wsum (same 1) g n + wsum (same 2) g n + wsum (same 3) g n + wsum (same 4) g n + wsum (same 5) g n := by
  intro n
  induction n with
  | zero => rfl
  | succ n ih =>
    simp only [wsum, ih, weight]
    omega

theorem materialS_eq {s : Side} {c : Nat → Nat} (h : Attack.Holds s c) : materialS s = wsum weight c 64 := by
  rw [wsum_weight, ← popcount_eq_wsum h (k := 1) (by decide) (by decide), ← popcount_eq_wsum h (k := 2) (by decide) (by decide),
    ← popcount_eq_wsum h (k := 3) (by decide) (by decide), ← popcount_eq_wsum h (k := 4) (by decide) (by decide),
    ← popcount_eq_wsum h (k := 5) (by decide) (by decide)]
  rfl

theorem material_makeF {b : Board} {f : MoveF} (he : Env b) (n : Named b f) :
    material (makeF b f) + weight f.pieceMoved + weight f.pieceAttacked =
      material b + weight (if f.promotion = 0 then f.pieceMoved else f.promotion) := by
  have e : material (makeF b f) = materialS (mkMover f b.active) + materialS (mkOther f b.whiteTurn b.passive) := by
    rw [MakeUnmake.makeF_eq]
    unfold material
    cases b.whiteTurn
    · simp only [Bool.false_eq_true, if_false]; omega
    · simp only [if_true]
  obtain ⟨hM, hO⟩ := holds_make he n
  have hm := wsum_mkMover he n weight
  have ho := wsum_mkOther n weight
  rw [e, material_eq b, materialS_eq hM, materialS_eq hO, materialS_eq he.act, materialS_eq he.pas]
  rw [show weight 0 = 0 from rfl] at ho
  omega

theorem weight_facts {b : Board} {f : MoveF} (n : Named b f) :
    weight (if f.promotion = 0 then f.pieceMoved else f.promotion) ≤ weight f.pieceMoved ∧
    (f.promotion ≠ 0 → weight f.promotion < weight f.pieceMoved) ∧ (f.pieceAttacked ≠ 0 → 0 < weight f.pieceAttacked) := by
  have h6 := Attack.pieceAt_le b.passive (capSq b.whiteTurn f.enPassant f.target)
  rw [← n.attacked] at h6
  have hk : f.pieceAttacked ≠ 6 := n.attacked_ne_king
  have hp : f.promotion ≠ 0 → weight f.promotion < weight f.pieceMoved := fun hp => by
    obtain ⟨e, p2, p5⟩ := n.promo hp
    rw [e]
    rcases (by omega : f.promotion = 2 ∨ f.promotion = 3 ∨ f.promotion = 4 ∨ f.promotion = 5) with e | e | e | e <;>
      rw [e] <;> decide
  refine ⟨?_, hp, fun h0 => ?_⟩
  rotate_left
  · rcases (by omega : f.pieceAttacked = 1 ∨ f.pieceAttacked = 2 ∨ f.pieceAttacked = 3 ∨ f.pieceAttacked = 4 ∨
      f.pieceAttacked = 5) with e | e | e | e | e <;> rw [e] <;> decide
  split
  · exact Nat.le_refl _
  · next h => exact Nat.le_of_lt (hp h)

theorem material_make_le {b : Board} (hwf : wf b = true) {m : Move} (hm : Generated b m) :
    material (make b m) ≤ material b := by
  have hf := (hm.elim (genPseudo_facts hwf m) (genNonQuiescent_facts hwf m)).named
  have := material_makeF (env_of_wf hwf) hf
  have := (weight_facts hf).1
  unfold make
  omega

theorem material_capture_lt {b : Board} (hwf : wf b = true) {m : Move} (hm : m ∈ genNonQuiescent b) :
    material (make b m) < material b := by
  have hf := (genNonQuiescent_facts hwf m hm).named
  have h := material_makeF (env_of_wf hwf) hf
  obtain ⟨w1, w2, w3⟩ := weight_facts hf
  rw [GenSpec.genNonQuiescent_eq_filter hwf] at hm
  have hnoisy := (List.mem_filter.mp hm).2
  simp only [Move.isAttack, Move.isPromotion, NO_PIECE, Bool.or_eq_true, bne_iff_ne, ne_eq] at hnoisy
  unfold make
  rcases hnoisy with h' | h'
  · have := w3 h'; omega
  · have := w2 h'; rw [if_neg h'] at h; omega

theorem qdepth_of_material : ∀ (k : Nat) (b : Board), Inv k b → material b ≤ k → QDepth k b := by
  intro k
  induction k with
  | zero =>
    intro b hinv hmat
    show legalCaptures b = []
    cases hl : legalCaptures b with
    | nil => rfl
    | cons m ms =>
      have hm : m ∈ legalCaptures b := by rw [hl]; exact List.mem_cons_self
      have := material_capture_lt hinv.wf (List.mem_filter.mp hm).1
      omega
  | succ k ih =>
    intro b hinv hmat m hm
    obtain ⟨hm1, hm2⟩ := List.mem_filter.mp hm
    have := material_capture_lt hinv.wf hm1
    exact ih (make b m) (boardLaws.make_inv k b m hinv (Or.inr hm1) hm2) (by omega)

theorem Reach.material_le {b0 : Board} {B : Nat} (hinv : Inv B b0) : ∀ {k : Nat} {p : Board}, k ≤ B → Reach b0 k p →
    material p ≤ material b0 := by
  intro k
  induction k with
  | zero => intro p _ h; rw [material_congr h]; exact Nat.le_refl _
  | succ k ih =>
    intro p hk h
    obtain ⟨q, m, h1, h2, h3, h4⟩ := h
    have hq := ih (by omega) h1
    have hwf := Reach.wf hinv (by omega : k ≤ B) h1
    rw [material_congr h4]
    exact Nat.le_trans (material_make_le hwf (Or.inl h2)) hq

/-- **fuel adequacy**: with at most 64 units of material at the root (a real position has at most 46) and clock budget for
`D + 64` plies, no capture sequence anywhere in the `D`-ply neighbourhood is longer than `quiescenceFuel = 64` -/
theorem qbound_of_material {b0 : Board} {D : Nat} (hinv : Inv (D + quiescenceFuel) b0)
    (hmat : material b0 ≤ quiescenceFuel) : QBound b0 D := by
  intro k p hk hr
  obtain ⟨hi, _⟩ := Reach.inv hinv (by omega : k ≤ D + quiescenceFuel) hr
  exact qdepth_of_material _ p (Inv_mono (by omega) hi)
    (Nat.le_trans (Reach.material_le hinv (by omega : k ≤ D + quiescenceFuel) hr) hmat)

end Inkayaku.SearchSim
