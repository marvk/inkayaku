import Inkayaku.Model.Eval
import Inkayaku.Model.Generate
import Inkayaku.Proofs.Bits
import Inkayaku.Proofs.EvalBound
import Inkayaku.Proofs.Attack
import Inkayaku.Proofs.Mirror
/-!
# C11 (static half): `evaluate`, the terminal scores and check detection under `Generate.flipBoard`

Three ideas carry it: the
piece-square tables of the build are each other's mirror with the sign flipped (kernel computation on `Gen.Eval`); the set
squares of `flipU x` are those of `x` mirrored, in another order (`bitsAsc_flipU`); and `_is_square_in_check` is
`Geometry.AttackedBy` at the bits of the words it is given (`Attack.squareInCheck_iff_by`: the magic lookups are ray attacks by
C04, hence "on a line with nothing between"), which the mirror keeps (`AttackedBy_mir` of `Proofs/Mirror.lean`, the same fact
that carries the Spec half).
-/
namespace Inkayaku.EvalFlip
open Inkayaku.Board Inkayaku.Gen Inkayaku.Eval Inkayaku.Generate

/-- entry `[stage][piece-1][square]` exactly as `pieceSquareValue`/`sideSquareSum`/`squareSum` read it -/
def wEntry (stage piece sq : Nat) : Int := ((whiteTables.getD stage []).getD piece []).getD sq 0
def bEntry (stage piece sq : Nat) : Int := ((blackTables.getD stage []).getD piece []).getD sq 0

def tablesMirrorCheck : Bool :=
  (List.range 3).all fun stage => (List.range 6).all fun piece => (List.range 64).all fun sq =>
    bEntry stage piece (mirror sq) == - wEntry stage piece sq

theorem tables_mirror_check : tablesMirrorCheck = true := by decide +kernel

def shapeOk (t : List (List (List Int))) : Bool :=
  t.length == 3 && t.all fun st => st.length == 6 && st.all fun row => row.length == 64

/-- so no `getD` above ever falls back to its default for `stage < 3`, `piece < 6`, `sq < 64` -/
theorem tables_shape : shapeOk whiteTables = true ∧ shapeOk blackTables = true := by decide +kernel

theorem black_tables_mirror {stage piece sq : Nat} (hs : stage < 3) (hp : piece < 6) (hq : sq < 64) :
    bEntry stage piece (mirror sq) = - wEntry stage piece sq := by
  have h := tables_mirror_check
  unfold tablesMirrorCheck at h
  rw [List.all_eq_true] at h
  have h1 := h stage (List.mem_range.mpr hs)
  rw [List.all_eq_true] at h1
  have h2 := h1 piece (List.mem_range.mpr hp)
  rw [List.all_eq_true] at h2
  have h3 := h2 sq (List.mem_range.mpr hq)
  exact eq_of_beq h3

theorem white_tables_mirror {stage piece sq : Nat} (hs : stage < 3) (hp : piece < 6) (hq : sq < 64) :
    wEntry stage piece (mirror sq) = - bEntry stage piece sq := by
  have h := black_tables_mirror hs hp (mirror_lt hq)
  rw [mirror_mirror hq] at h
  omega

/-- one summand of `flipU`: row `r` of `x` moved to row `7 - r` -/
theorem term_bit (x : UInt64) (r j : Nat) (hr : r < 8) :
    testU (((x >>> (8 * r).toUInt64) &&& 0xFF) <<< (8 * (7 - r)).toUInt64) j
      = (decide (j < 64) && decide (j / 8 = 7 - r) && testU x (mirror j)) := by
  have h1 : (8 * r).toUInt64.toNat % 64 = 8 * r := by
    simp [Nat.toUInt64, UInt64.toNat_ofNat']; omega
  have h2 : (8 * (7 - r)).toUInt64.toNat % 64 = 8 * (7 - r) := by
    simp [Nat.toUInt64, UInt64.toNat_ofNat']; omega
  unfold testU
  rw [UInt64.toNat_shiftLeft, UInt64.toNat_and, UInt64.toNat_shiftRight, h1, h2]
  have h3 : (0xFF : UInt64).toNat = 2 ^ 8 - 1 := by decide
  rw [h3, Nat.testBit_mod_two_pow, Nat.testBit_shiftLeft, Nat.testBit_and, Nat.testBit_shiftRight,
    Nat.testBit_two_pow_sub_one]
  by_cases hj : j < 64
  · by_cases hk : j / 8 = 7 - r
    · have e1 : 8 * r + (j - 8 * (7 - r)) = mirror j := by unfold mirror; omega
      have e2 : j ≥ 8 * (7 - r) := by omega
      have e3 : j - 8 * (7 - r) < 8 := by omega
      simp [hj, hk, e1, e2, e3]
    · by_cases e2 : j ≥ 8 * (7 - r)
      · have e3 : ¬ j - 8 * (7 - r) < 8 := by omega
        simp [hj, hk, e2, e3]
      · simp [hj, hk, e2]
  · simp [hj]

theorem testU_flipU (x : UInt64) (j : Nat) : testU (flipU x) j = (decide (j < 64) && testU x (mirror j)) := by
  have hr : List.range 8 = [0, 1, 2, 3, 4, 5, 6, 7] := by decide
  unfold flipU
  rw [hr]
  simp only [List.foldl_cons, List.foldl_nil, Bits.testU_or, Bits.testU_zero, Bool.false_or]
  rw [term_bit x 0 j (by omega), term_bit x 1 j (by omega), term_bit x 2 j (by omega), term_bit x 3 j (by omega),
    term_bit x 4 j (by omega), term_bit x 5 j (by omega), term_bit x 6 j (by omega), term_bit x 7 j (by omega)]
  by_cases hj : j < 64
  · have : j / 8 = 0 ∨ j / 8 = 1 ∨ j / 8 = 2 ∨ j / 8 = 3 ∨ j / 8 = 4 ∨ j / 8 = 5 ∨ j / 8 = 6 ∨ j / 8 = 7 := by omega
    rcases this with h | h | h | h | h | h | h | h <;> simp [hj, h]
  · simp [hj]

theorem testU_flipU_mirror (x : UInt64) {s : Nat} (h : s < 64) : testU (flipU x) (mirror s) = testU x s := by
  rw [testU_flipU, mirror_mirror h]
  simp [mirror_lt h]

theorem flipU_flipU (x : UInt64) : flipU (flipU x) = x := by
  apply Bits.ext_testU
  intro j hj
  rw [testU_flipU, testU_flipU, mirror_mirror hj]
  simp [hj, mirror_lt hj]

theorem flipU_or (a b : UInt64) : flipU (a ||| b) = flipU a ||| flipU b := by
  apply Bits.ext_testU
  intro j hj
  simp [testU_flipU, Bits.testU_or, hj]

theorem flipU_and (a b : UInt64) : flipU (a &&& b) = flipU a &&& flipU b := by
  apply Bits.ext_testU
  intro j hj
  simp [testU_flipU, Bits.testU_and, hj]

theorem flipU_zero : flipU 0 = 0 := by decide

theorem flipU_eq_zero (x : UInt64) : (flipU x = 0) ↔ (x = 0) := by
  constructor
  · intro h
    have := flipU_flipU x
    rw [h, flipU_zero] at this
    exact this.symm
  · intro h; rw [h, flipU_zero]

theorem flipU_ne_zero (x : UInt64) : (flipU x != 0) = (x != 0) := by
  by_cases h : x = 0
  · simp [h, flipU_zero]
  · have h' : ¬ flipU x = 0 := fun e => h ((flipU_eq_zero x).mp e)
    rw [bne_iff_ne.mpr h', bne_iff_ne.mpr h]

theorem bitsAsc_flipU (x : UInt64) : (bitsAsc (flipU x)).Perm ((bitsAsc x).map mirror) := by
  have hperm : ((List.range 64).map mirror).Perm (List.range 64) := by decide +kernel
  have hfilter : ((List.range 64).map mirror).filter (testU (flipU x)) = (bitsAsc x).map mirror := by
    unfold bitsAsc
    rw [List.filter_map]
    congr 1
    apply List.filter_congr
    intro s hs
    exact testU_flipU_mirror x (List.mem_range.mp hs)
  rw [← hfilter]
  exact (hperm.filter _).symm

theorem popcount_flipU (x : UInt64) : popcount (flipU x) = popcount x := by
  unfold popcount
  rw [(bitsAsc_flipU x).length_eq, List.length_map]

theorem squareSum_flipU_neg {t t' : List Int} (h : ∀ s, s < 64 → t.getD (mirror s) 0 = - t'.getD s 0) (occ : UInt64) :
    squareSum (flipU occ) t = - squareSum occ t' := by
  have hfold : ∀ (l : List Nat) (a : Int), (∀ s ∈ l, s < 64) →
      l.foldl (fun acc s => acc + t.getD (mirror s) 0) (-a) = - l.foldl (fun acc s => acc + t'.getD s 0) a := by
    intro l
    induction l with
    | nil => intro a _; rfl
    | cons x xs ih =>
      intro a hl
      rw [List.foldl_cons, List.foldl_cons, h x (hl x (by simp)), ← Int.neg_add]
      exact ih _ (fun s hs => hl s (by simp [hs]))
  unfold squareSum
  -- the order of the summands does not matter
  rw [(bitsAsc_flipU occ).foldl_eq' (fun _ _ _ _ z => by omega), List.foldl_map]
  exact hfold _ 0 (fun s hs => Bits.testU_lt ((Bits.mem_bitsAsc occ s).mp hs))

theorem gameStage_flip (b : Board) : gameStage (flipBoard b) = gameStage b := by
  unfold gameStage flipBoard flipSide
  simp only [← flipU_or, popcount_flipU, flipU_ne_zero]
  generalize (b.white.queens != 0) = wq
  generalize (b.black.queens != 0) = bq
  generalize decide (popcount (b.white.knights ||| b.white.bishops) ≤ 1) = wm
  generalize decide (popcount (b.black.knights ||| b.black.bishops) ≤ 1) = bm
  cases wq <;> cases bq <;> cases wm <;> cases bm <;> rfl

theorem gameStage_lt (b : Board) : gameStage b < 3 := by
  unfold gameStage
  simp only
  split <;> omega

theorem pieceValue_flipSide (s : Side) : pieceValue (flipSide s) = pieceValue s := by
  unfold pieceValue flipSide
  simp only [popcount_flipU]

theorem pieceValue_flip (b : Board) :
    pieceValue (flipBoard b).white = pieceValue b.black ∧ pieceValue (flipBoard b).black = pieceValue b.white := by
  unfold flipBoard
  exact ⟨pieceValue_flipSide _, pieceValue_flipSide _⟩

theorem sideSquareSum_flip {t t' : List (List Int)}
    (h : ∀ p, p < 6 → ∀ s, s < 64 → (t.getD p []).getD (mirror s) 0 = - (t'.getD p []).getD s 0) (s : Side) :
    sideSquareSum (flipSide s) t = - sideSquareSum s t' := by
  unfold sideSquareSum flipSide
  simp only
  rw [squareSum_flipU_neg (h 0 (by omega)), squareSum_flipU_neg (h 1 (by omega)), squareSum_flipU_neg (h 2 (by omega)),
    squareSum_flipU_neg (h 3 (by omega)), squareSum_flipU_neg (h 4 (by omega)), squareSum_flipU_neg (h 5 (by omega))]
  omega

theorem pieceSquareValue_flip (b : Board) : pieceSquareValue (flipBoard b) = - pieceSquareValue b := by
  unfold pieceSquareValue
  simp only [gameStage_flip]
  have hs := gameStage_lt b
  have hw : (flipBoard b).white = flipSide b.black := rfl
  have hb : (flipBoard b).black = flipSide b.white := rfl
  rw [hw, hb, sideSquareSum_flip (fun _ hp _ hq => white_tables_mirror hs hp hq),
    sideSquareSum_flip (fun _ hp _ hq => black_tables_mirror hs hp hq)]
  omega

theorem eval_flip (b : Board) : evaluateOngoing (flipBoard b) = - evaluateOngoing b := by
  unfold evaluateOngoing
  rw [pieceSquareValue_flip, (pieceValue_flip b).1, (pieceValue_flip b).2]
  omega

/-- the terminal branch of `evaluate` (no legal move, in check) -/
theorem mateValue_flip (b : Board) :
    (if (flipBoard b).turn == 0 then lossScore + ((flipBoard b).fullmove : Int) else winScore - ((flipBoard b).fullmove : Int))
      = - (if b.turn == 0 then lossScore + (b.fullmove : Int) else winScore - (b.fullmove : Int)) := by
  have hf : (flipBoard b).fullmove = b.fullmove := rfl
  have ht : (flipBoard b).turn = 1 - b.turn := rfl
  rw [hf, ht]
  unfold lossScore
  by_cases h : b.turn = 0
  · simp [h]; omega
  · have h1 : 1 - b.turn = 0 := by omega
    simp [h, h1]; omega

theorem evaluate_flip_of (b : Board) (lm : Bool)
    (hcheck : lm = false → isCurrentInCheck (flipBoard b) = isCurrentInCheck b) :
    evaluate (flipBoard b) lm = - evaluate b lm := by
  unfold evaluate
  cases lm with
  | true =>
    have hh : (flipBoard b).halfmove = b.halfmove := rfl
    simp only [if_true, hh]
    split
    · rw [drawScore_val]; rfl
    · exact eval_flip b
  | false =>
    simp only [Bool.false_eq_true, if_false, hcheck rfl]
    split
    · exact mateValue_flip b
    · rw [drawScore_val]; rfl

theorem evaluate_flip_ongoing (b : Board) : evaluate (flipBoard b) true = - evaluate b true :=
  evaluate_flip_of b true (fun h => by cases h)

/-- `calculate_heuristic_factor` (search.rs): `1 + color * -2` -/
def factor (turn : Nat) : Int := 1 + (turn : Int) * -2

theorem factor_zero : factor 0 = 1 := by decide
theorem factor_one : factor 1 = -1 := by decide

theorem terminal_value (b : Board) (ht : b.turn ≤ 1) (hc : isCurrentInCheck b = true) :
    factor b.turn * evaluate b false = - (winScore - (b.fullmove : Int)) := by
  unfold evaluate lossScore
  simp only [Bool.false_eq_true, if_false, hc, if_true]
  have : b.turn = 0 ∨ b.turn = 1 := by omega
  rcases this with h | h
  · rw [h]; simp [factor]; omega
  · rw [h]; simp [factor]

theorem stalemate_value (b : Board) (hc : isCurrentInCheck b = false) :
    evaluate b false = drawScore ∧ drawScore = 0 := by
  unfold evaluate
  simp [hc, drawScore_val]

theorem maxFullMoves_val : maxFullMoves = 1048576 := by decide

theorem isCheckmateValue_iff (v : Int) :
    isCheckmateValue v = true ↔ (v > winScore - maxFullMoves ∨ v < - winScore + maxFullMoves) := by
  unfold isCheckmateValue lossScore
  simp

theorem scoreFromValue_pos (v : Int) (b : Board) (hv : v > winScore / 2) :
    scoreFromValue v b = .mate (winScore - v - (b.fullmove : Int) + (if b.turn == 0 then 1 else 0)) := by
  have hpos : 0 < v := by rw [winScore_val] at hv; omega
  have hs : v.sign = 1 := Int.sign_eq_one_of_pos hpos
  have ha : (v.natAbs : Int) = v := by omega
  unfold scoreFromValue
  rw [ha, hs]
  simp only [hv, if_true, Int.mul_one, decide_eq_true hpos, Bool.true_and]

theorem scoreFromValue_neg (v : Int) (b : Board) (hv : v < - (winScore / 2)) :
    scoreFromValue v b = .mate (- (winScore + v - (b.fullmove : Int))) := by
  have hneg : v < 0 := by rw [winScore_val] at hv; omega
  have hs : v.sign = -1 := Int.sign_eq_neg_one_of_neg hneg
  have ha : (v.natAbs : Int) = - v := by omega
  have hnp : ¬ v > 0 := by omega
  have hgt : - v > winScore / 2 := by omega
  unfold scoreFromValue
  rw [ha, hs]
  simp only [hgt, if_true, hnp, decide_false, Bool.false_and, Bool.false_eq_true, if_false]
  congr 1
  omega

theorem score_cp (v : Int) (b : Board) (hv : (v.natAbs : Int) ≤ winScore / 2) : scoreFromValue v b = .cp v := by
  unfold scoreFromValue
  have : ¬ (v.natAbs : Int) > winScore / 2 := by omega
  simp [this]

/-- `hlo`: not below "mated on the spot"; `(b.fullmove : Int) + N - 1 + (b.turn : Int)` is `SpecSearch.mateFull`, the full-move
number of a mate with the mover's `N`-th move -/
theorem score_mate_pos (b : Board) (ht : b.turn ≤ 1) (v N : Int) (hN : 0 < N) (hlo : lossScore + (b.fullmove : Int) ≤ v) :
    scoreFromValue v b = Score.mate N ↔
      v = winScore - ((b.fullmove : Int) + N - 1 + (b.turn : Int)) ∧ (b.fullmove : Int) + N - 1 + (b.turn : Int) < 8388608 := by
  have hw := winScore_val
  have hl : lossScore = -winScore := rfl
  have hoff := Bits.ite_beq_zero_int ht
  by_cases h1 : v > winScore / 2
  · rw [scoreFromValue_pos v b h1, hoff, Score.mate.injEq]
    omega
  · by_cases h2 : v < -(winScore / 2)
    · rw [scoreFromValue_neg v b h2, Score.mate.injEq]
      omega
    · rw [score_cp v b (by omega)]
      exact ⟨fun h => (nomatch h), fun h => by omega⟩

theorem flipSide_full (s : Side) : (flipSide s).full = flipU s.full := by
  unfold Side.full flipSide
  simp only [flipU_or]

open Inkayaku.Geometry Inkayaku.SearchFlip in
theorem squareInCheck_flip (c : Nat) (hc : c ≤ 1) (p : Side) {sq : Nat} (hsq : sq < 64) (occ : UInt64) :
    squareInCheck (1 - c) (flipSide p) (mirror sq) (flipU occ) = squareInCheck c p sq occ := by
  have hcol : (1 - c != 0) = !(c != 0) := by
    have : c = 0 ∨ c = 1 := by omega
    rcases this with h | h <;> subst h <;> rfl
  rw [Bool.eq_iff_iff, Attack.squareInCheck_iff_by _ _ _ (mirror_lt hsq), Attack.squareInCheck_iff_by _ _ _ hsq, hcol]
  refine AttackedBy_mir (fun k t ht => ?_) (fun q hq => ?_) _ hsq
  · have : (flipSide p).get (Abs.kindCode k) = flipU (p.get (Abs.kindCode k)) := by cases k <;> rfl
    rw [this, mir_eq_mirror, testU_flipU_mirror _ ht]
  · rw [mir_eq_mirror, testU_flipU_mirror _ hq]

theorem trailingZeros_flip (k : UInt64) (h1 : popcount k = 1) :
    trailingZeros k < 64 ∧ trailingZeros (flipU k) = mirror (trailingZeros k) := by
  obtain ⟨s, hs⟩ : ∃ s, bitsAsc k = [s] := List.length_eq_one_iff.mp h1
  have hs64 : s < 64 := Bits.testU_lt ((Bits.mem_bitsAsc k s).mp (by rw [hs]; exact List.mem_singleton_self s))
  have hs' : bitsAsc (flipU k) = [mirror s] := by
    have := bitsAsc_flipU k
    rw [hs] at this
    exact List.perm_singleton.mp this
  rw [Bits.trailingZeros_eq_head, Bits.trailingZeros_eq_head, hs, hs']
  exact ⟨hs64, rfl⟩

theorem one_king {b : Board} (hw : popcount b.white.kings = 1) (hb : popcount b.black.kings = 1) (c : Nat) :
    popcount (if c == 0 then b.white else b.black).kings = 1 := by
  split <;> assumption

theorem inCheck_flip (b : Board) (c : Nat) (hc : c ≤ 1)
    (hk : popcount (if c == 0 then b.white else b.black).kings = 1) :
    inCheck (flipBoard b) (1 - c) = inCheck b c := by
  have hsel : ∀ x y : Side,
      (if (1 - c == 0) = true then flipSide y else flipSide x) = flipSide (if (c == 0) = true then x else y) := by
    intro x y
    have : c = 0 ∨ c = 1 := by omega
    rcases this with h | h <;> subst h <;> rfl
  have hw : (flipBoard b).white = flipSide b.black := rfl
  have hb : (flipBoard b).black = flipSide b.white := rfl
  have hkings : ∀ s : Side, (flipSide s).kings = flipU s.kings := fun _ => rfl
  obtain ⟨h64, htz⟩ := trailingZeros_flip _ hk
  unfold inCheck
  simp only [hw, hb]
  rw [hsel, hsel, flipSide_full, flipSide_full, ← flipU_or, hkings, htz]
  exact squareInCheck_flip c hc _ h64 _

theorem isCurrentInCheck_flip (b : Board) (ht : b.turn ≤ 1) (hk : popcount b.active.kings = 1) :
    isCurrentInCheck (flipBoard b) = isCurrentInCheck b := by
  unfold isCurrentInCheck
  have e : (flipBoard b).turn = 1 - b.turn := rfl
  rw [e]
  apply inCheck_flip b b.turn ht
  unfold Board.active Board.whiteTurn at hk
  exact hk

theorem isValid_flip (b : Board) (ht : b.turn ≤ 1) (hw : popcount b.white.kings = 1) (hb : popcount b.black.kings = 1) :
    isValid (flipBoard b) = isValid b := by
  unfold isValid
  have e : (flipBoard b).turn = 1 - b.turn := rfl
  rw [e, inCheck_flip b (1 - b.turn) (by omega) (one_king hw hb _)]

theorem evaluate_flip (b : Board) (lm : Bool) (ht : b.turn ≤ 1) (hk : popcount b.active.kings = 1) :
    evaluate (flipBoard b) lm = - evaluate b lm :=
  evaluate_flip_of b lm (fun _ => isCurrentInCheck_flip b ht hk)

theorem wf_turn_king (b : Board) (h : WF.wf b = true) : b.turn ≤ 1 ∧ popcount b.active.kings = 1 := by
  unfold WF.wf at h
  simp only [Bool.and_eq_true, beq_iff_eq, decide_eq_true_eq] at h
  obtain ⟨⟨⟨⟨⟨⟨⟨⟨⟨⟨⟨⟨⟨_, hwk⟩, hbk⟩, _⟩, ht⟩, _⟩, _⟩, _⟩, _⟩, _⟩, _⟩, _⟩, _⟩, _⟩ := h
  exact ⟨ht, one_king hwk hbk b.turn⟩

end Inkayaku.EvalFlip
