import Inkayaku.Proofs.SearchSimTranspCodes
/-!
# C08, `Transp13`: a position after one move is not the position after three moves (code functions)

`no13`: `m` and `a` are moves of the root (code functions `W` mover, `B` other side), `x` a reply to `a`, `c` a move after
`a x`.  The code functions after `m` differ from those after `a x c`.

Proof.  Counting pieces: `x` does not capture, `m` captures as often as `a` and `c` together.  The reply `x` vacates its source,
which the replying side still occupies after `m` unless `m` captures exactly there.  So `m` captures on the source of `x` and
exactly one of `a`, `c` captures.  Look at the target of `x` after `a x c`:
* still occupied (`no13_survives`): the piece `x` put down stands for a piece of the root that `a` removed, on a square that is
  empty after `a`: `a` is en passant and `x` a pawn push onto the victim's square, from or over the square of the capturing pawn.
* empty (`no13_captured`): `c` captures there, `a` is quiet.  Then ONE square of the root mover tells the lines apart, which
  one depends only on whether `m` is en passant; whether `a` or `x` castle and whether `c` is en passant hardly matters.
-/
namespace Inkayaku.SearchSim.Transp
open Inkayaku.Board Inkayaku.GenFacts

variable {w : Bool} {W B W1 B1 Wa Ba Bx Wx Wc Bc : Nat → Nat} {ep0 : Nat} {fm fa fx fc : MoveF}

theorem no13_survives (hm : Mv w W B W1 B1 ep0 fm) (ha : Mv w W B Wa Ba ep0 fa) (hx : Mv (!w) Ba Wa Bx Wx fa.nextEp fx)
    (hc : Mv w Wx Bx Wc Bc fx.nextEp fc) (eB : ∀ q, q < 64 → B1 q = Bc q)
    (xq : fx.pieceAttacked = 0) (hA : Bc fx.target ≠ 0) : False := by
  have tx := hx.t_lt
  have pxne := hx.placed_ne0
  have b1_tx : B1 fx.target = placed fx := by rw [eB _ tx, hc.O_sub tx hA]; exact hx.at_tgt
  have b_tx : B fx.target = placed fx := by rw [← hm.O_sub tx (by rw [b1_tx]; exact pxne)]; exact b1_tx
  -- `a` captured on the target of `x`
  obtain ⟨htx, -⟩ : fx.target = capSq w fa.enPassant fa.target ∧ fa.pieceAttacked ≠ 0 := by
    rcases ha.O_cases tx with e | ⟨-, e2, -, -, e5⟩
    · rw [hx.tgt, b_tx] at e; exact absurd e.symm pxne
    · exact ⟨e2, e5⟩
  have hep : fa.enPassant = true := by
    cases he : fa.enPassant
    · have wa_tx := hx.quiet_tgt xq
      rw [htx, ha.capSq_noep he, ha.at_tgt] at wa_tx
      exact absurd wa_tx ha.placed_ne0
    · rfl
  have px1 : placed fx = 1 := by
    have := ha.ep_att hep
    rw [ha.att, ← htx, b_tx] at this
    exact this
  have hcap := ha.ep_capSq hep
  rw [← htx] at hcap
  have := hx.push_behind (hx.placed_pawn px1) xq (v := fa.target) (by rw [Bool.not_not]; exact hcap.symm)
  rw [ha.at_tgt] at this
  exact ha.placed_ne0 this

/-- `c` captures the piece `x` moved, `m` the same piece where it stood; `a` and `x` are quiet.  If `m` is no e.p. capture it
lands on the source of `x`: `a` puts nothing there (the square is occupied) and `c` neither (it lands on the target of `x`, or on
the square `x` passed over).  If it is, it puts a pawn on the e.p. square, which is empty at the root: `c` does not put one there
(it would capture where `m` does, or `x` moved its pawn backwards) and `a` does not (a push from or over the square of the pawn
`m` takes).  Whether `a` castles plays no part. -/
theorem no13_captured (hm : Mv w W B W1 B1 ep0 fm) (ha : Mv w W B Wa Ba ep0 fa) (hx : Mv (!w) Ba Wa Bx Wx fa.nextEp fx)
    (hc : Mv w Wx Bx Wc Bc fx.nextEp fc) (eW : ∀ q, q < 64 → W1 q = Wc q)
    (hsx : fx.source = capSq w fm.enPassant fm.target) (xq : fx.pieceAttacked = 0) (aq : fa.pieceAttacked = 0)
    (cplain : fc.castle = false) (htx : fx.target = capSq w fc.enPassant fc.target) : False := by
  have sx := hx.s_lt
  have tm := hm.t_lt
  have wc : ∀ q, q < 64 → Wc q = if q = fc.target then placed fc else if q = fc.source then 0 else Wa q := by
    intro q hq
    rw [hc.plainM cplain q hq, hx.quietO xq hq]
  cases hme : fm.enPassant
  · rw [hm.capSq_noep hme] at hsx
    have tc_ne : fx.source ≠ fc.target := by
      cases hce : fc.enPassant
      · rw [hc.capSq_noep hce] at htx
        rw [← htx]; exact hx.src_ne_tgt
      · obtain ⟨-, -, -, -, e5, xne, -⟩ := hc.epF hce
        have xp : fx.pieceMoved = 1 := by
          false_or_by_contra
          rename_i hn
          exact xne (hx.nonpawn hn).2.2
        intro e
        have := (hx.pawn_double xp xne).2.2.1
        rw [e5, ← e] at this
        exact hx.src_ne0 this
    have h2 : Wc fx.source = 0 := by
      rw [wc _ sx, if_neg tc_ne]
      split
      · rfl
      · exact hx.cross _ sx hx.src_ne0
    rw [← eW _ sx, hsx, hm.at_tgt] at h2
    exact hm.placed_ne0 h2
  · obtain ⟨mp, -, mpr, -, -, -, -, -, -⟩ := hm.epF hme
    have hcm := hm.ep_capSq hme
    rw [← hsx] at hcm
    have b_sx : B fx.source ≠ 0 := by rw [← ha.quietO aq sx]; exact hx.src_ne0
    have wc_tm : Wc fm.target = 1 := by rw [← eW _ tm, hm.at_tgt]; unfold placed; rw [if_pos mpr, mp]
    by_cases htc : fm.target = fc.target
    · cases hce : fc.enPassant
      · rw [hc.capSq_noep hce, ← htc] at htx
        have xp : fx.pieceMoved = 1 := by rw [← hx.src, ha.quietO aq sx, ← hm.ep_att hme, hm.att, hsx]
        have hadv := adv_cases w
        rcases hx.pawn_quiet xp xq with g | ⟨g, -⟩
        · rw [Bool.not_not] at g; omega
        · rw [Bool.not_not] at g; omega
      · have hcc := hc.ep_capSq hce
        rw [← htx, ← htc] at hcc
        exact hx.src_ne_tgt (by omega)
    · rw [wc _ tm, if_neg htc] at wc_tm
      have wa_tm : Wa fm.target = 1 := by
        split at wc_tm
        · cases wc_tm
        · exact wc_tm
      obtain ⟨hta, ap⟩ := ha.new_pawn tm hm.tgt wa_tm
      exact b_sx (ha.push_behind ap aq (by rw [← hta]; exact hcm))

theorem no13 (hm : Mv w W B W1 B1 ep0 fm) (ha : Mv w W B Wa Ba ep0 fa) (hx : Mv (!w) Ba Wa Bx Wx fa.nextEp fx)
    (hc : Mv w Wx Bx Wc Bc fx.nextEp fc)
    (eW : ∀ q, q < 64 → W1 q = Wc q) (eB : ∀ q, q < 64 → B1 q = Bc q) : False := by
  have c1 := hm.cntM; have c2 := hm.cntO; have c3 := ha.cntM; have c4 := ha.cntO
  have c5 := hx.cntM; have c6 := hx.cntO; have c7 := hc.cntM; have c8 := hc.cntO
  have c9 := cnt_congr 64 eW; have c10 := cnt_congr 64 eB
  have xq : fx.pieceAttacked = 0 := by
    by_cases h : fx.pieceAttacked = 0
    · exact h
    · rw [if_neg h] at c6; omega
  have capsum : (if fm.pieceAttacked = 0 then 0 else 1) = (if fa.pieceAttacked = 0 then 0 else 1) +
      (if fc.pieceAttacked = 0 then 0 else 1) := by omega
  clear c1 c2 c3 c4 c5 c6 c7 c8 c9 c10
  have sx := hx.s_lt
  have tx := hx.t_lt
  obtain ⟨hsx, mcap⟩ : fx.source = capSq w fm.enPassant fm.target ∧ fm.pieceAttacked ≠ 0 := by
    rcases hm.O_cases sx with e | ⟨-, e2, -, -, e5⟩
    · have h1 : Bc fx.source = 0 := by
        false_or_by_contra
        rename_i h
        exact h ((hc.O_sub sx h).trans hx.vacate)
      rw [eB _ sx, h1, ← ha.O_sub sx hx.src_ne0] at e
      exact absurd e.symm hx.src_ne0
    · exact ⟨e2, e5⟩
  by_cases hA : Bc fx.target = 0
  · obtain ⟨cplain, htx, ccap⟩ : fc.castle = false ∧ fx.target = capSq w fc.enPassant fc.target ∧ fc.pieceAttacked ≠ 0 := by
      rcases hc.O_cases tx with e | ⟨e1, e2, -, -, e5⟩
      · rw [hA, hx.at_tgt] at e; exact absurd e.symm hx.placed_ne0
      · exact ⟨e1, e2, e5⟩
    have aq : fa.pieceAttacked = 0 := by
      by_cases h : fa.pieceAttacked = 0
      · exact h
      · rw [if_neg mcap, if_neg h, if_neg ccap] at capsum; cases capsum
    exact no13_captured hm ha hx hc eW hsx xq aq cplain htx
  · exact no13_survives hm ha hx hc eB xq hA

#print axioms no13

end Inkayaku.SearchSim.Transp
