import Inkayaku.Model.San
import Inkayaku.Model.WF
import Inkayaku.Proofs.BoardCongr
import Inkayaku.Props.C03
import Inkayaku.Proofs.WfStep
import Inkayaku.Proofs.ListFacts
/-!
# The move-text functions of the board (`find_uci`, `make_uci`, `make_all_uci`): lemmas for C13

Everything is stated on the models of `Inkayaku.Model.San`, which return the board they leave behind.
Position equality is `WF.vis` (the board without the two scratch occupancy words).  The `make_all_uci` theorems take the
well-formedness step as a hypothesis (`WfStep`); `Closure.wfStep` discharges it.  What is said of `uci_to_pgn` (`uciToSan_eq_find`:
it is `find_uci` followed by the SAN writer, and the corollaries C13 names) stands in `Proofs/SanProofs.lean`, after the writer's text.
-/
namespace Inkayaku.MoveText
open Inkayaku.Board Inkayaku.WF Inkayaku.San Inkayaku.Util Inkayaku.BoardCongr

def FirstWithText (b : Board) (t : String) (m : Move) : Prop :=
  ∃ pre post, genPseudo b = pre ++ m :: post ∧ m.uci = t ∧ ∀ x ∈ pre, x.uci ≠ t

/-- part of property C01; a hypothesis here -/
def UciNodup (b : Board) : Prop := ((genPseudo b).map Move.uci).Nodup

theorem find?_eq_some_iff_first (b : Board) (t : String) (m : Move) :
    (genPseudo b).find? (fun x => x.uci == t) = some m ↔ FirstWithText b t m := by
  rw [List.find?_eq_some_iff_append]
  unfold FirstWithText
  constructor
  · rintro ⟨hm, pre, post, hl, hpre⟩
    refine ⟨pre, post, hl, by simpa using hm, ?_⟩
    intro x hx; simpa using hpre x hx
  · rintro ⟨pre, post, hl, hm, hpre⟩
    refine ⟨by simpa using hm, pre, post, hl, ?_⟩
    intro x hx; simpa using hpre x hx

theorem find?_eq_none_iff_no (b : Board) (t : String) :
    (genPseudo b).find? (fun x => x.uci == t) = none ↔ ∀ m ∈ genPseudo b, m.uci ≠ t := by
  rw [List.find?_eq_none]
  constructor
  · intro h m hm; simpa using h m hm
  · intro h m hm; simpa using h m hm

theorem FirstWithText.mem {b : Board} {t : String} {m : Move} (h : FirstWithText b t m) : m ∈ genPseudo b := by
  obtain ⟨pre, post, hl, -, -⟩ := h
  rw [hl]; simp

theorem FirstWithText.text {b : Board} {t : String} {m : Move} (h : FirstWithText b t m) : m.uci = t := by
  obtain ⟨_, _, -, ht, -⟩ := h
  exact ht

theorem FirstWithText.unique {b : Board} {t : String} {m m' : Move}
    (h : FirstWithText b t m) (h' : FirstWithText b t m') : m = m' := by
  rw [← find?_eq_some_iff_first] at h h'
  rw [h] at h'; exact Option.some.inj h'

theorem first_iff_of_nodup {b : Board} (hnd : UciNodup b) (t : String) (m : Move) :
    FirstWithText b t m ↔ m ∈ genPseudo b ∧ m.uci = t := by
  constructor
  · intro h; exact ⟨h.mem, h.text⟩
  · rintro ⟨hm, ht⟩
    obtain ⟨m', h'⟩ : ∃ m', FirstWithText b t m' := by
      cases hf : (genPseudo b).find? (fun x => x.uci == t) with
      | none => exact absurd ht ((find?_eq_none_iff_no b t).1 hf m hm)
      | some m' => exact ⟨m', (find?_eq_some_iff_first b t m').1 hf⟩
    have : m' = m := ListFacts.eq_of_nodup_map Move.uci hnd h'.mem hm (h'.text.trans ht.symm)
    exact this ▸ h'

theorem findUci_eq (b : Board) (s : String) :
    findUci b s = match (genPseudo b).find? (fun m => m.uci == rustTrim s) with
      | none => (.error .notExist, b)
      | some m => (if isValid (make b m) = true then .ok m else .error .notValid, unmake (make b m) m) := by
  unfold findUci
  cases h : (genPseudo b).find? (fun m => m.uci == rustTrim s) with
  | none => simp only [h]
  | some m =>
    simp only [h]
    cases isValid (make b m) <;> rfl

theorem findUci_snd (b : Board) (s : String) :
    (findUci b s).2 = match (genPseudo b).find? (fun m => m.uci == rustTrim s) with
      | none => b
      | some m => unmake (make b m) m := by
  rw [findUci_eq]
  split <;> rfl

theorem findUci_pure {b : Board} (hwf : wf b = true) (s : String) : vis (findUci b s).2 = vis b := by
  rw [findUci_snd]
  split
  · rfl
  · next m h => exact (C03.unmake_make_generated b hwf m (List.mem_of_find?_eq_some h)).1

theorem findUci_fst (b : Board) (s : String) :
    (findUci b s).1 = match (genPseudo b).find? (fun m => m.uci == rustTrim s) with
      | none => .error .notExist
      | some m => if isValid (make b m) = true then .ok m else .error .notValid := by
  rw [findUci_eq]; split <;> rfl

theorem findUci_ok_iff_first (b : Board) (s : String) (m : Move) :
    (findUci b s).1 = .ok m ↔ FirstWithText b (rustTrim s) m ∧ isValid (make b m) = true := by
  rw [← find?_eq_some_iff_first, findUci_fst]
  cases (genPseudo b).find? (fun m => m.uci == rustTrim s) with
  | none => simp
  | some m' =>
    by_cases hv : isValid (make b m') = true
    · simp only [hv, if_true, Except.ok.injEq, Option.some.injEq]
      exact ⟨fun h => ⟨h, h ▸ hv⟩, fun h => h.1⟩
    · simp only [hv, if_false, reduceCtorEq, false_iff, Option.some.injEq]
      rintro ⟨rfl, h⟩; exact hv h

theorem findUci_notExist_iff (b : Board) (s : String) :
    (findUci b s).1 = .error .notExist ↔ ∀ m ∈ genPseudo b, m.uci ≠ rustTrim s := by
  rw [← find?_eq_none_iff_no, findUci_fst]
  split
  · next h => simp [h]
  · next m h => rw [h]; split <;> simp

theorem findUci_notValid_iff (b : Board) (s : String) :
    (findUci b s).1 = .error .notValid ↔
      ∃ m, FirstWithText b (rustTrim s) m ∧ isValid (make b m) = false := by
  simp only [← find?_eq_some_iff_first]
  rw [findUci_fst]
  cases (genPseudo b).find? (fun m => m.uci == rustTrim s) with
  | none => simp
  | some m' => cases hv : isValid (make b m') <;> simp [hv]

theorem findUci_cases (b : Board) (s : String) :
    (∃ m, (findUci b s).1 = .ok m) ∨ (findUci b s).1 = .error .notExist ∨ (findUci b s).1 = .error .notValid := by
  rcases h : (findUci b s).1 with e | m
  · cases e <;> simp
  · exact Or.inl ⟨m, rfl⟩

theorem findUci_ok_legal {b : Board} {s : String} {m : Move} (h : (findUci b s).1 = .ok m) :
    m ∈ genLegal b ∧ m.uci = rustTrim s := by
  obtain ⟨hf, hv⟩ := (findUci_ok_iff_first b s m).1 h
  exact ⟨List.mem_filter.2 ⟨hf.mem, hv⟩, hf.text⟩

theorem findUci_ok_iff_legal {b : Board} (hnd : UciNodup b) (s : String) (m : Move) :
    (findUci b s).1 = .ok m ↔ m ∈ genLegal b ∧ m.uci = rustTrim s := by
  rw [findUci_ok_iff_first, first_iff_of_nodup hnd]
  unfold genLegal isMoveLegal
  rw [List.mem_filter]
  constructor
  · rintro ⟨⟨a, b⟩, c⟩; exact ⟨⟨a, c⟩, b⟩
  · rintro ⟨⟨a, c⟩, b⟩; exact ⟨⟨a, b⟩, c⟩

theorem findUci_congr {b b' : Board} (h : vis b = vis b') (s : String) :
    (findUci b s).1 = (findUci b' s).1 ∧ vis (findUci b s).2 = vis (findUci b' s).2 := by
  rw [findUci_eq, findUci_eq, ← genPseudo_congr h]
  split
  · exact ⟨rfl, h⟩
  · next m _ =>
    have hm := make_congr h m
    exact ⟨by rw [isValid_congr hm], unmake_congr hm m⟩

theorem findUci_idempotent {b : Board} (hwf : wf b = true) (s s' : String) :
    (findUci (findUci b s).2 s').1 = (findUci b s').1 ∧
    vis (findUci (findUci b s).2 s').2 = vis b := by
  have h := findUci_congr (findUci_pure hwf s) s'
  exact ⟨h.1, h.2.trans (findUci_pure hwf s')⟩

theorem makeUci_eq (b : Board) (s : String) :
    makeUci b s = match (findUci b s).1 with
      | .ok m => (.ok (), make (findUci b s).2 m)
      | .error e => (.error e, (findUci b s).2) := by
  unfold makeUci
  rcases findUci b s with ⟨r, b'⟩
  cases r <;> rfl

theorem makeUci_ok {b : Board} (hwf : wf b = true) {s : String} {b' : Board}
    (h : makeUci b s = (.ok (), b')) :
    ∃ m, (findUci b s).1 = .ok m ∧ vis b' = vis (make b m) := by
  rw [makeUci_eq] at h
  rcases hr : (findUci b s).1 with e | m
  · rw [hr] at h; cases h
  · rw [hr] at h
    refine ⟨m, rfl, ?_⟩
    cases h
    exact make_congr (findUci_pure hwf s) m

theorem makeUci_err {b : Board} (hwf : wf b = true) {s : String} {e : UciErr} {b' : Board}
    (h : makeUci b s = (.error e, b')) :
    (findUci b s).1 = .error e ∧ vis b' = vis b := by
  rw [makeUci_eq] at h
  rcases hr : (findUci b s).1 with e' | m
  · rw [hr] at h
    cases h
    exact ⟨rfl, findUci_pure hwf s⟩
  · rw [hr] at h; cases h

/-- well-formed with room for `k` more plies on both clocks: `Search.Inv` written out again (the two unfold to the same
proposition, so the lemmas of `Search.Inv` apply as they are) -/
def Inv (k : Nat) (b : Board) : Prop :=
  wf b = true ∧ b.halfmove + k ≤ 4095 ∧ b.fullmove + k < 2147483648

def WfStep : Prop :=
  ∀ (k : Nat) (b : Board) (m : Move), Inv (k + 1) b → m ∈ genPseudo b → isValid (make b m) = true → Inv k (make b m)

theorem Inv.mono {k j : Nat} {b : Board} (hi : Inv k b) (hj : j ≤ k) : Inv j b := Search.Inv_mono hj hi

inductive Accepts : Board → List String → List Move → Prop
  | nil (b : Board) : Accepts b [] []
  | cons {b : Board} {s : String} {m : Move} {ss : List String} {ms : List Move} :
      (findUci b s).1 = .ok m → Accepts (make b m) ss ms → Accepts b (s :: ss) (m :: ms)

theorem Accepts.length {b : Board} {ss : List String} {ms : List Move} (h : Accepts b ss ms) :
    ms.length = ss.length := by
  induction h with
  | nil => rfl
  | cons _ _ ih => simp [ih]

theorem Accepts.split {b : Board} {pre rest : List String} {ms1 ms : List Move} (h1 : Accepts b pre ms1)
    (h : Accepts b (pre ++ rest) ms) : ∃ ms2, ms = ms1 ++ ms2 ∧ Accepts (C03.makeLine b ms1) rest ms2 := by
  induction h1 generalizing ms with
  | nil => exact ⟨ms, rfl, h⟩
  | cons hf _ ih =>
    cases h with
    | cons hf' ht' =>
      cases hf.symm.trans hf'
      obtain ⟨ms2, rfl, h2⟩ := ih ht'
      exact ⟨ms2, rfl, h2⟩

theorem Accepts.unique {b : Board} {ss : List String} {ms ms' : List Move}
    (h : Accepts b ss ms) (h' : Accepts b ss ms') : ms = ms' := by
  obtain ⟨ms2, rfl, h2⟩ := h.split (rest := []) (by rwa [List.append_nil])
  cases h2; rw [List.append_nil]

def RejectedAt (b : Board) (ss : List String) (e : UciErr) : Prop :=
  ∃ pre s post ms, ss = pre ++ s :: post ∧ Accepts b pre ms ∧ (findUci (C03.makeLine b ms) s).1 = .error e

theorem RejectedAt.cons {b : Board} {s : String} {m : Move} {ss : List String} {e : UciErr}
    (hf : (findUci b s).1 = .ok m) (h : RejectedAt (make b m) ss e) : RejectedAt b (s :: ss) e := by
  obtain ⟨pre, s', post, ms, rfl, ha, he⟩ := h
  exact ⟨s :: pre, s', post, m :: ms, rfl, .cons hf ha, he⟩

theorem Accepts.not_rejected {b : Board} {ss : List String} {ms : List Move} {e : UciErr}
    (ha : Accepts b ss ms) : ¬ RejectedAt b ss e := by
  rintro ⟨pre, s, post, ms1, rfl, h1, he⟩
  obtain ⟨_, -, h2⟩ := h1.split ha
  cases h2 with
  | cons hf _ => rw [hf] at he; cases he

def Undoes (made : List Move) (b b0 : Board) : Prop :=
  ∀ c, vis c = vis b → vis (made.foldl (fun acc m => unmake acc m) c) = vis b0

theorem Undoes.nil (b : Board) : Undoes [] b b := fun _ h => h

theorem Undoes.push {made : List Move} {b b0 : Board} {m : Move} (hu : Undoes made b b0)
    (hwf : wf b = true) (hm : m ∈ genPseudo b) : Undoes (m :: made) (make b m) b0 :=
  fun _ hc => hu _ ((unmake_congr hc m).trans (C03.unmake_make_generated b hwf m hm).1)

theorem makeAllUciAux_cons (b : Board) (s : String) (rest : List String) (made : List Move) :
    makeAllUciAux b (s :: rest) made = match (findUci b s).1 with
      | .ok m => makeAllUciAux (make (findUci b s).2 m) rest (m :: made)
      | .error e => (.error e, made.foldl (fun acc m => unmake acc m) (findUci b s).2) := by
  rw [makeAllUciAux]
  rcases findUci b s with ⟨r, b'⟩
  cases r <;> rfl

/-- the loop of `make_all_uci` started in the middle, on any board `c` that shows the position of `b` (the loop runs on the boards
`find_uci` leaves, whose scratch words differ): `made` is the rollback list, `b0` the position before the call.  The relations speak
of `b` only, so nothing has to be carried from one showing of a position to another. -/
theorem makeAllUciAux_spec (hstep : WfStep) :
    ∀ (ss : List String) (b c : Board) (made : List Move) (b0 : Board),
      vis c = vis b → Inv ss.length b → Undoes made b b0 →
      match (makeAllUciAux c ss made).1 with
      | .error e => vis (makeAllUciAux c ss made).2 = vis b0 ∧ RejectedAt b ss e
      | .ok _ => ∃ ms, Accepts b ss ms ∧ vis (makeAllUciAux c ss made).2 = vis (C03.makeLine b ms)
  | [], b, _, _, _, hc, _, _ => ⟨[], .nil b, hc⟩
  | s :: rest, b, c, made, b0, hc, hinv, hu => by
    have hpure : vis (findUci c s).2 = vis b := (findUci_pure ((wf_congr hc).trans hinv.1) s).trans hc
    rw [makeAllUciAux_cons, (findUci_congr hc s).1]
    rcases hr : (findUci b s).1 with e | m
    · exact ⟨hu _ hpure, [], s, rest, [], rfl, .nil b, hr⟩
    · obtain ⟨hfirst, hv⟩ := (findUci_ok_iff_first b s m).1 hr
      have ih := makeAllUciAux_spec hstep rest (make b m) (make (findUci c s).2 m) (m :: made) b0
        (make_congr hpure m) (hstep _ b m hinv hfirst.mem hv) (hu.push hinv.1 hfirst.mem)
      dsimp only
      revert ih
      cases (makeAllUciAux (make (findUci c s).2 m) rest (m :: made)).1 with
      | error e => exact fun ih => ⟨ih.1, .cons hr ih.2⟩
      | ok _ => exact fun ⟨ms, ha, hb⟩ => ⟨m :: ms, .cons hr ha, hb⟩

theorem makeAllUci_all_or_nothing (hstep : WfStep) (b : Board) (ss : List String) (hwf : wf b = true)
    (hclk : b.halfmove + ss.length ≤ 4095 ∧ b.fullmove + ss.length < 2147483648) :
    match (makeAllUci b ss).1 with
    | .error e => vis (makeAllUci b ss).2 = vis b ∧ RejectedAt b ss e
    | .ok _ => ∃ ms, Accepts b ss ms ∧ vis (makeAllUci b ss).2 = vis (C03.makeLine b ms) :=
  makeAllUciAux_spec hstep ss b b [] b rfl ⟨hwf, hclk⟩ (Undoes.nil b)

theorem makeAllUciAux_fst_congr :
    ∀ (ss : List String) (b b' : Board) (made made' : List Move), vis b = vis b' →
      (makeAllUciAux b ss made).1 = (makeAllUciAux b' ss made').1
  | [], _, _, _, _, _ => rfl
  | s :: rest, b, b', made, made', h => by
    rw [makeAllUciAux_cons, makeAllUciAux_cons]
    obtain ⟨h1, h2⟩ := findUci_congr h s
    rw [← h1]
    rcases (findUci b s).1 with e | m
    · rfl
    · exact makeAllUciAux_fst_congr rest _ _ _ _ (make_congr h2 m)

theorem pieceString_length : ∀ (p : Nat), (pieceString p).length = if 1 ≤ p ∧ p ≤ 6 then 1 else 0
  | 0 | 1 | 2 | 3 | 4 | 5 | 6 => by decide
  | n + 7 => by rw [if_neg (by omega)]; rfl

theorem uci_length (f : MoveF) (hs : f.source < 64) (ht : f.target < 64) :
    f.uci.length = 4 + (if 1 ≤ f.promotion ∧ f.promotion ≤ 6 then 1 else 0) := by
  unfold MoveF.uci squareString
  rw [if_pos hs, if_pos ht, String.length_append, String.length_append, pieceString_length]
  simp

end Inkayaku.MoveText
