import Inkayaku.Proofs.MakeSides
/-!
# `unmake (make b m) m` restores the chess position (helper for C03)

`MoveOK b f` lists what `makeF`/`unmakeF` need of the move fields `f` in position `b`; `unmake_make` shows that
making and unmaking such a move restores `vis b` (everything except the scratch occupancy word), for every value
of the half-move clock.  `unmakeAll_makeAll` lifts this to lines.

Proof plan: `makeF`/`unmakeF` act on the two sides independently (`mkMover`/`mkOther`, `unMover`/`unOther` of
`Proofs/MakeSides`: a change of rights, then words rewritten one after the other); `unmake` gives back the rights `make`
dropped and rewrites the same words, each by a `G` that undoes the `F` of `make` on a word that fits the move (`run_undo`, with
the UInt64 identities `id_*`, proved bit by bit), so each side is restored (`unMover_mkMover`, `unOther_mkOther`).
-/
namespace Inkayaku.MakeUnmake
open Inkayaku.Board Inkayaku.WF

def has (x m : UInt64) : Prop := x &&& m = m
def lacks (x m : UInt64) : Prop := x &&& m = 0

instance (x m : UInt64) : Decidable (has x m) := by unfold has; exact inferInstance
instance (x m : UInt64) : Decidable (lacks x m) := by unfold lacks; exact inferInstance

theorem u64_eq_iff {a b : UInt64} : a = b ↔ ∀ i, i < 64 → a.toBitVec.getLsbD i = b.toBitVec.getLsbD i :=
  ⟨fun h _ _ => h ▸ rfl, fun h => UInt64.eq_of_toBitVec_eq (BitVec.eq_of_getLsbD_eq h)⟩

/-- `ubits [hyps] [words]`: closes a goal about UInt64 `&&& ||| ~~~` from the listed hypotheses, bit by bit -/
syntax "ubits" "[" ident,* "]" "[" term,* "]" : tactic
macro_rules
  | `(tactic| ubits [$hs,*] [$xs,*]) => `(tactic| (
      simp only [has, lacks, clearBit, u64_eq_iff, UInt64.toBitVec_and, UInt64.toBitVec_or, UInt64.toBitVec_not,
        BitVec.getLsbD_and, BitVec.getLsbD_or, BitVec.getLsbD_not, UInt64.toBitVec_zero, BitVec.getLsbD_zero,
        beq_iff_eq, bne_iff_ne, ne_eq] at $[$hs]* ⊢
      intro i hi
      $[specialize $hs i hi]*
      revert $hs*
      try simp only [hi, decide_true, Bool.true_and]
      $[all_goals cases ($xs).toBitVec.getLsbD i]*
      all_goals decide))

/-- ordinary move: `(get | src) & !tgt` after `get & !src | tgt` -/
theorem id_move {x S T : UInt64} (hS : has x S) (hT : lacks x T) : clearBit (clearBit x S ||| T ||| S) T = x := by
  ubits [hS, hT] [x, S, T]

/-- castling / en passant: `get & !tgt | src` after `get & !src | tgt` -/
theorem id_move' {x S T : UInt64} (hS : has x S) (hT : lacks x T) : clearBit (clearBit x S ||| T) T ||| S = x := by
  ubits [hS, hT] [x, S, T]

/-- capture: `get | tgt` after `get & !tgt` -/
theorem id_capture {y T : UInt64} (hT : has y T) : clearBit y T ||| T = y := by
  ubits [hT] [y, T]

/-- promotion, promoted piece: `get & !tgt` after `get | tgt` -/
theorem id_promo {y T : UInt64} (hT : lacks y T) : clearBit (y ||| T) T = y := by
  ubits [hT] [y, T]

def CastleOK (s : Side) (srcM tgtM : UInt64) : Option (Nat × Nat) → Prop
  | some (rs, rt) => has s.kings srcM ∧ lacks s.kings tgtM ∧ has s.rooks (bitU rs) ∧ lacks s.rooks (bitU rt)
  | none => False    -- the Rust `panic!()` arm

instance (s : Side) (srcM tgtM : UInt64) (o : Option (Nat × Nat)) : Decidable (CastleOK s srcM tgtM o) := by
  cases o with
  | none => exact isFalse (fun h => h)
  | some p => unfold CastleOK; exact inferInstance

def ShapeOK (s : Side) (src tgt piece promo : Nat) (castle ep : Bool) : Prop :=
  if castle then CastleOK s (bitU src) (bitU tgt) (castleRook tgt)
  else if ep then has s.pawns (bitU src) ∧ lacks s.pawns (bitU tgt)
  else if promo != NO_PIECE then
    2 ≤ promo ∧ promo ≤ 5 ∧ has s.pawns (bitU src) ∧ lacks (s.get promo) (bitU tgt)
  else
    1 ≤ piece ∧ piece ≤ 6 ∧ has (s.get piece) (bitU src) ∧ lacks (s.get piece) (bitU tgt)

def MoverOK (f : MoveF) (s : Side) : Prop :=
  (f.selfLostKing = true → s.ks = true) ∧ (f.selfLostQueen = true → s.qs = true) ∧
  ShapeOK s f.source f.target f.pieceMoved f.promotion f.castle f.enPassant

/-- `white`: white is moving -/
def OtherOK (f : MoveF) (white : Bool) (s : Side) : Prop :=
  (f.oppLostKing = true → s.ks = true) ∧ (f.oppLostQueen = true → s.qs = true) ∧
  (if f.castle then True
   else if f.enPassant then f.pieceAttacked = PAWN ∧ has s.pawns (epVictim white (bitU f.target))
   else f.pieceAttacked ≤ 6 ∧ (f.pieceAttacked ≠ NO_PIECE → has (s.get f.pieceAttacked) (bitU f.target)))

def MoveOK (b : Board) (f : MoveF) : Prop :=
  b.turn ≤ 1 ∧ f.source < 64 ∧ f.target < 64 ∧ f.prevHalfmove = b.halfmove ∧ f.prevEp = b.ep ∧
  MoverOK f b.active ∧ OtherOK f b.whiteTurn b.passive

instance (s : Side) (a b c d : Nat) (e g : Bool) : Decidable (ShapeOK s a b c d e g) := by
  unfold ShapeOK; exact inferInstance
instance (f : MoveF) (s : Side) : Decidable (MoverOK f s) := by unfold MoverOK; exact inferInstance
instance (f : MoveF) (w : Bool) (s : Side) : Decidable (OtherOK f w s) := by unfold OtherOK; exact inferInstance
instance (b : Board) (f : MoveF) : Decidable (MoveOK b f) := by unfold MoveOK; exact inferInstance

theorem unMover_mkMover {f : MoveF} {s : Side} (h : MoverOK f s) : unMover f (mkMover f s) = s := by
  obtain ⟨hk, hq, h⟩ := h
  unfold unMover mkMover
  rw [giveRights_run, giveRights_dropRights hk hq]
  unfold ShapeOK at h
  unfold moverUpds unMoverUpds
  cases hc : f.castle
  · simp only [hc, Bool.false_eq_true, if_false] at h ⊢
    cases he : f.enPassant
    · simp only [he, Bool.false_eq_true, if_false] at h ⊢
      cases hp : (f.promotion != NO_PIECE)
      · simp only [hp, Bool.false_eq_true, if_false] at h ⊢
        exact run_undo h.2.1 (id_move h.2.2.1 h.2.2.2)
      · simp only [hp, if_true] at h ⊢
        obtain ⟨p2, p5, h1, h2⟩ := h
        exact run_undo2 (by decide) (by omega) (by simp only [PAWN]; omega) (id_capture h1) (id_promo h2)
    · simp only [he, if_true] at h ⊢
      exact run_undo (by decide) (id_move' h.1 h.2)
  · simp only [hc, if_true] at h ⊢
    cases hr : castleRook f.target with
    | none => rw [hr] at h; exact h.elim
    | some p =>
      rw [hr] at h
      exact run_undo2 (by decide) (by decide) (by decide) (id_move' h.2.2.1 h.2.2.2) (id_move' h.1 h.2.1)

theorem unOther_mkOther {f : MoveF} {white : Bool} {s : Side} (h : OtherOK f white s) :
    visSide (unOther f white (mkOther f white s)) = visSide s := by
  obtain ⟨hk, hq, h⟩ := h
  unfold unOther mkOther
  rw [giveRights_run, giveRights_dropRights hk hq]
  unfold otherUpds unOtherUpds
  cases hc : f.castle
  · simp only [hc, Bool.false_eq_true, if_false] at h ⊢
    cases he : f.enPassant
    · simp only [he, Bool.false_eq_true, if_false] at h ⊢
      by_cases h0 : f.pieceAttacked = NO_PIECE
      · -- no capture: only the scratch word is rewritten
        rw [h0]; rfl
      · exact congrArg visSide (run_undo h.1 (id_capture (h.2 h0)))
    · simp only [he, if_true] at h ⊢
      rw [h.1]
      exact congrArg visSide (run_undo (by decide) (id_capture h.2))
  · rfl

theorem unmake_make {b : Board} {f : MoveF} (h : MoveOK b f) : vis (unmakeF (makeF b f) f) = vis b := by
  obtain ⟨ht, -, -, hhm, hep, hA, hP⟩ := h
  obtain ⟨w, k, t, e, fm, hm⟩ := b
  simp only at ht hhm hep
  rw [unmakeF_eq, makeF_eq]
  have ht' : t = 0 ∨ t = 1 := by omega
  rcases ht' with rfl | rfl
  · simp only [Board.whiteTurn, Board.active, Board.passive] at hA hP ⊢
    simp only [vis, Board.mk.injEq]
    refine ⟨?_, ?_, trivial, hep, by omega, hhm⟩
    · exact congrArg visSide (unMover_mkMover hA)
    · exact unOther_mkOther hP
  · simp only [Board.whiteTurn, Board.active, Board.passive] at hA hP ⊢
    simp only [vis, Board.mk.injEq]
    refine ⟨?_, ?_, trivial, hep, by omega, hhm⟩
    · exact unOther_mkOther hP
    · exact congrArg visSide (unMover_mkMover hA)

def LineOK : Board → List MoveF → Prop
  | _, [] => True
  | b, f :: fs => MoveOK b f ∧ LineOK (makeF b f) fs

instance : (b : Board) → (fs : List MoveF) → Decidable (LineOK b fs)
  | _, [] => isTrue trivial
  | b, f :: fs =>
    have := instDecidableLineOK (makeF b f) fs
    by unfold LineOK; exact inferInstance

def makeAll (b : Board) (fs : List MoveF) : Board := fs.foldl makeF b
def unmakeAll (b : Board) (fs : List MoveF) : Board := fs.foldr (fun f b => unmakeF b f) b

theorem unmakeAll_eq_reverse (b : Board) (fs : List MoveF) : unmakeAll b fs = fs.reverse.foldl unmakeF b := by
  unfold unmakeAll; rw [List.foldl_reverse]

theorem unmakeAll_makeAll {b : Board} {fs : List MoveF} (h : LineOK b fs) :
    vis (unmakeAll (makeAll b fs) fs) = vis b := by
  induction fs generalizing b with
  | nil => rfl
  | cons f fs ih =>
    obtain ⟨h1, h2⟩ := h
    have := ih h2
    simp only [makeAll, unmakeAll, List.foldl_cons, List.foldr_cons] at this ⊢
    rw [unmakeF_congr f this]
    exact unmake_make h1

#print axioms unmake_make
#print axioms unmakeAll_makeAll

end Inkayaku.MakeUnmake
