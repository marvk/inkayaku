import Inkayaku.Proofs.SearchShape
import Inkayaku.Proofs.BoardCongr
import Inkayaku.Proofs.WfStep
import Inkayaku.Model.WF
/-!
# One walk over the search recursion; the search brackets every `make` with its `unmake` on every exit path (C09)

What the board layer provides (see `Proofs/WfStep.lean`): `unmake ∘ make` restores the visible position of a well-formed
board for every generated move (`unmake_make_of_generated`, from C03); everything the search calls depends on the visible
position only (`Proofs/BoardCongr.lean`); and a generated move that passes `isValid` takes a board that is well-formed with
clock budget `k+1` to one with budget `k` (`BoardLaws.make_inv`).  The last is the only hypothesis of this file;
`Search.boardLaws` (`Proofs/WfStepProof.lean`) discharges it.  The clock budget is consumed with the recursion fuel.

`quiescence_walk` and `negamax_walk` are the induction over `search_quiescence` / `search_negamax` and their move loops,
done once.  A property supplies one predicate per function (`QP`, `QL`; `NP`, `NB`, `NL`), indexed by the fuel and by the
POSITION `b0` of the node (a board; the board held by the state differs from it in the scratch words only and need not
be looked at), and one proof per way out of a node or of a loop iteration.  The walk supplies the rest: the clock
budget of every node, that every looped move is generated, that the child of `b0` under `m` is searched at the position
`make b0 m` exactly, the induction hypothesis for that child, and that every function returns a board that shows `b0`
(the second half of each conclusion: the bracket theorem, for arbitrary arguments, so the illegal-move path, cut-offs, the
abort by flag at any node, the time-out return, the table return, the repetition return and running out of fuel are all
covered).  `NB` speaks about a node after `enter` (poll, node counter, history write): `entered` is the only place where a
property has to say what `enter` does to its precondition.  `child` also says which call returned `r`; `nLoop_walk` is the
walk for properties of one move loop that know their child searches from elsewhere.
-/
namespace Inkayaku.Search
open Inkayaku.Board Inkayaku.Eval Inkayaku.WF Inkayaku.BoardCongr

theorem finish_board (c : Nat) (a b : Int) (h : UInt64) (rem : Nat) (r : LoopAcc × Bool × St) :
    (finish c a b h rem r).2.board = r.2.2.board := by
  obtain ⟨tt, e⟩ := finish_state c a b h rem r
  rw [e]

theorem iterState_board (r : VM × St) (d : Nat) (sc : Option Score) (u : Option (List Move)) :
    (iterState r d sc u).board = r.2.board := by
  obtain ⟨p, o, h⟩ := iterState_eq r d sc u
  rw [h]

theorem continuePv_board (s : St) : (continuePv s).board = s.board := by
  obtain ⟨p, h⟩ := continuePv_eq s
  rw [h]

theorem goPrep_board (s : St) (g : GoParams) : (goPrep s g).board = s.board := by
  obtain ⟨k, p, mt, h⟩ := goPrep_eq s g
  rw [h]

theorem evalFor_congr {b b' : Board} (h : vis b' = vis b) (c : Nat) (l : Bool) : evalFor b' c l = evalFor b c l := by
  unfold evalFor; rw [evaluate_congr h]

theorem scoreFromValue_congr {b b' : Board} (h : vis b' = vis b) (v : Int) : scoreFromValue v b' = scoreFromValue v b := by
  unfold scoreFromValue
  rw [turn_congr h, show b'.fullmove = b.fullmove from by rw [← fullmove_vis b', h, fullmove_vis]]

theorem wf_turn_fm {b : Board} (h : wf b = true) : b.turn ≤ 1 ∧ 1 ≤ b.fullmove := by
  simp only [WF.wf, Bool.and_eq_true, decide_eq_true_eq] at h
  omega

/-- One step of a session: whatever happens to the search thread between two searches without a `position` command
(new messages arrive, `ucinewgame`, the output is read, the verification hooks change poll period or clock — any
function that leaves the board alone), followed by a `go`. -/
structure GoStep where
  env : St → St
  env_board : ∀ s, (env s).board = s.board
  go : GoParams
  maxIter : Nat

def runGo (s : St) (x : GoStep) : St := goCmd (x.env s) x.go x.maxIter

def runGos (s : St) (xs : List GoStep) : St := xs.foldl runGo s

theorem goIters_le (g : GoParams) (maxIter : Nat) : goIters g maxIter ≤ maxIter := Nat.min_le_right _ _

theorem back {b0 b2 : Board} (hwf : wf b0 = true) {m : Move} (hm : Generated b0 m)
    (h2 : vis b2 = vis (make b0 m)) : vis (unmake b2 m) = vis b0 := by
  rw [unmake_congr h2 m]
  exact unmake_make_of_generated b0 hwf m hm

theorem bracket {b0 b : Board} (hwf : wf b0 = true) (hb : vis b = vis b0) {m : Move} (hm : Generated b0 m) :
    vis (unmake (make b m) m) = vis b0 ∧ isValid (make b m) = isValid (make b0 m) ∧ vis (make b m) = vis (make b0 m) ∧
      ∀ b2, vis b2 = vis (make b m) → vis (unmake b2 m) = vis b0 :=
  have hmk : vis (make b m) = vis (make b0 m) := make_congr hb m
  ⟨back hwf hm hmk, isValid_congr hmk, hmk, fun _ h2 => back hwf hm (h2.trans hmk)⟩

section
variable (L : BoardLaws)
include L

omit L in
theorem rootBuffer_vis {s : St} {b0 : Board} (h : vis s.board = vis b0) (ply : Nat) :
    rootBuffer s ply = rootBuffer { s with board := b0 } ply := by
  unfold rootBuffer
  simp only
  rw [genPseudo_congr h]

section
variable {QP : Nat → Board → St → Int → Int → VM × St → Prop}
  {QL : Nat → Board → List Move → St → Int → Int → Option Move → Option VM → VM × St → Prop}
  (zero : ∀ {b0 s a b}, QP 0 b0 s a b (VM.leaf a, s))
  (pat : ∀ {f b0 s a b}, evalFor b0 b0.turn true ≥ b → QP (f + 1) b0 s a b (VM.leaf b, s))
  (loop : ∀ {f b0 s a b res}, Inv (f + 1) b0 → ¬ evalFor b0 b0.turn true ≥ b →
    QL f b0 (sortMoves (genNonQuiescent b0) none none none) s (max a (evalFor b0 b0.turn true)) b none none res →
    QP (f + 1) b0 s a b res)
  (nil : ∀ {f b0 s α b bm bc}, QL f b0 [] s α b bm bc (.mk α bm bc, s))
  (skip : ∀ {f b0 m rest s α b bm bc res}, isValid (make b0 m) = false →
    QL f b0 rest { s with board := unmake (make s.board m) m } α b bm bc res → QL f b0 (m :: rest) s α b bm bc res)
  (child : ∀ {f b0 m rest s α b bm bc r}, Inv (f + 1) b0 → Generated b0 m → isValid (make b0 m) = true →
    QP f (make b0 m) { s with board := make s.board m, quiescenceNodes := s.quiescenceNodes + 1 } (-b) (-α) r →
    (-r.1.value ≥ b →
      QL f b0 (m :: rest) s α b bm bc (.mk b (some m) (some r.1), { r.2 with board := unmake r.2.board m })) ∧
    (¬ -r.1.value ≥ b → -r.1.value > α →
      ∀ res, QL f b0 rest { r.2 with board := unmake r.2.board m } (-r.1.value) b (some m) (some r.1) res →
        QL f b0 (m :: rest) s α b bm bc res) ∧
    (¬ -r.1.value ≥ b → ¬ -r.1.value > α →
      ∀ res, QL f b0 rest { r.2 with board := unmake r.2.board m } α b bm bc res → QL f b0 (m :: rest) s α b bm bc res))
include zero pat loop nil skip child

/-- the walk over `search_quiescence` and over its move loop (entered with any list of generated moves): `quiescence_induct`
with the position carried along by `bracket` -/
theorem quiescence_walk :
    (∀ (fuel : Nat) (b0 : Board) (s : St) (a b : Int), Inv fuel b0 → vis s.board = vis b0 →
      QP fuel b0 s a b (quiescence fuel s a b) ∧ vis (quiescence fuel s a b).2.board = vis b0) ∧
    (∀ (f : Nat) (b0 : Board), Inv (f + 1) b0 → ∀ (moves : List Move), (∀ m ∈ moves, Generated b0 m) →
      ∀ (s : St) (α b : Int) (bm : Option Move) (bc : Option VM), vis s.board = vis b0 →
      QL f b0 moves s α b bm bc (quiescenceLoop f s moves α b bm bc) ∧
      vis (quiescenceLoop f s moves α b bm bc).2.board = vis b0) := by
  have w := quiescence_induct
    (QP := fun f s a b res => ∀ b0, Inv f b0 → vis s.board = vis b0 → QP f b0 s a b res ∧ vis res.2.board = vis b0)
    (QL := fun f moves s α b bm bc res => ∀ b0, Inv (f + 1) b0 → (∀ m ∈ moves, Generated b0 m) → vis s.board = vis b0 →
      QL f b0 moves s α b bm bc res ∧ vis res.2.board = vis b0)
    (zero := fun _ _ hs => ⟨zero, hs⟩)
    (pat := fun hge _ _ hs => ⟨pat (by rw [evalFor_congr hs, turn_congr hs] at hge; exact hge), hs⟩)
    (loop := fun hlt hl b0 hinv hs => by
      rw [evalFor_congr hs, turn_congr hs, genNonQuiescent_congr hs] at hl
      rw [evalFor_congr hs, turn_congr hs] at hlt
      obtain ⟨l1, l2⟩ := hl b0 hinv (fun m hm => Or.inr (mem_sortMoves.mp hm)) hs
      exact ⟨loop hinv hlt l1, l2⟩)
    (nil := fun _ _ _ hs => ⟨nil, hs⟩)
    (skip := fun hv ih b0 hinv hmem hs => by
      obtain ⟨hm, hrest⟩ := List.forall_mem_cons.mp hmem
      obtain ⟨hskip, hval, -⟩ := bracket hinv.wf hs hm
      obtain ⟨i1, i2⟩ := ih b0 hinv hrest hskip
      exact ⟨skip (hval ▸ hv) i1, i2⟩)
    (child := by
      intro f m rest s α b bm bc r hv hc
      refine ⟨fun hge b0 hinv hmem hs => ?_, fun hlt hgt res ih b0 hinv hmem hs => ?_,
        fun hlt hgt res ih b0 hinv hmem hs => ?_⟩
      all_goals
        obtain ⟨hm, hrest⟩ := List.forall_mem_cons.mp hmem
        obtain ⟨-, hval, hmk, hback⟩ := bracket hinv.wf hs hm
        have hv' : isValid (make b0 m) = true := hval ▸ hv
        obtain ⟨q1, q2⟩ := hc (make b0 m) (L.make_inv f b0 m hinv hm hv') hmk
        have hb := hback _ (q2.trans hmk.symm)
        obtain ⟨c1, c2, c3⟩ := child (rest := rest) (bm := bm) (bc := bc) hinv hm hv' q1
      · exact ⟨c1 hge, hb⟩
      · exact ⟨c2 hlt hgt _ (ih b0 hinv hrest hb).1, (ih b0 hinv hrest hb).2⟩
      · exact ⟨c3 hlt hgt _ (ih b0 hinv hrest hb).1, (ih b0 hinv hrest hb).2⟩)
  exact ⟨fun fuel b0 s a b hinv hs => w.1 fuel s a b b0 hinv hs,
    fun f b0 hinv moves hmem s α b bm bc hs => w.2 f moves s α b bm bc b0 hinv hmem hs⟩

end

theorem quiescence_vis (fuel : Nat) (b0 : Board) (s : St) (a b : Int) (hinv : Inv fuel b0) (hs : vis s.board = vis b0) :
    vis (quiescence fuel s a b).2.board = vis b0 :=
  (quiescence_walk L (QP := fun _ _ _ _ _ _ => True) (QL := fun _ _ _ _ _ _ _ _ _ => True) trivial (fun _ => trivial)
    (fun _ _ _ => trivial) trivial (fun _ _ => trivial)
    (fun _ _ _ _ => ⟨fun _ => trivial, fun _ _ _ _ => trivial, fun _ _ _ _ => trivial⟩)).1 fuel b0 s a b hinv hs |>.2

theorem quiescence_ok (fuel : Nat) (s : St) (a b : Int) (hinv : Inv fuel s.board) :
    vis (quiescence fuel s a b).2.board = vis s.board :=
  quiescence_vis L fuel s.board s a b hinv rfl

theorem qLoop_board (fuel : Nat) (b0 : Board) (hinv : Inv (fuel + 1) b0) (moves : List Move)
    (hmem : ∀ m ∈ moves, Generated b0 m) (s : St) (a b : Int) (bm : Option Move) (bc : Option VM) (hs : vis s.board = vis b0) :
    vis (quiescenceLoop fuel s moves a b bm bc).2.board = vis b0 :=
  (quiescence_walk L (QP := fun _ _ _ _ _ _ => True) (QL := fun _ _ _ _ _ _ _ _ _ => True) trivial (fun _ => trivial)
    (fun _ _ _ => trivial) trivial (fun _ _ => trivial)
    (fun _ _ _ _ => ⟨fun _ => trivial, fun _ _ _ _ => trivial, fun _ _ _ _ => trivial⟩)).2
    fuel b0 hinv moves hmem s a b bm bc hs |>.2

section
variable {NP NB : Nat → Board → St → Nat → Nat → Int → Int → UInt64 → VM × St → Prop}
  {NL : Nat → Board → List Move → St → Nat → Nat → Int → UInt64 → LoopAcc → LoopAcc × Bool × St → Prop}
  (zero : ∀ {b0 s ply maxPly a b h}, NP 0 b0 s ply maxPly a b h (VM.leaf 0, s))
  (timeout : ∀ {f b0 s ply maxPly a b h}, timedOut s = true →
    NP (f + 1) b0 s ply maxPly a b h (VM.leaf 0, { pollStep s with stop := true }))
  (entered : ∀ {f b0 s ply maxPly a b h res}, Inv (f + 1) b0 → vis s.board = vis b0 → NB f b0 (enter s h) ply maxPly a b h res →
    NP (f + 1) b0 s ply maxPly a b h res)
  (leaf : ∀ {f b0 s ply maxPly a b h v}, (isRep s ply = true ∧ v = repValue ply) ∨
    (ply = 0 ∧ rootBuffer { s with board := b0 } ply = [] ∧ v = 0) ∨
    (ply = maxPly ∧ v = evalFor b0 b0.turn (isAnyMoveLegal b0 (rootBuffer { s with board := b0 } ply))) →
    NB f b0 s ply maxPly a b h (VM.leaf v, s))
  (hit : ∀ {f b0 s ply maxPly a b h e}, s.tt.get? h = some e → maxPly - ply ≤ e.depth → NB f b0 s ply maxPly a b h (e.mv, s))
  (quiesce : ∀ {f b0 s ply maxPly a b h α β}, Inv f b0 → vis s.board = vis b0 →
    probe (s.tt.get? h) (maxPly - ply) a b = (none, α, β) → ply = maxPly →
    NB f b0 s ply maxPly a b h (quiescence f s α β))
  (loop : ∀ {f b0 s ply maxPly a b h α β o1 o2 o3 lr}, probe (s.tt.get? h) (maxPly - ply) a b = (none, α, β) → ply ≠ maxPly →
    vis lr.2.2.board = vis b0 → NL f b0 (sortMoves (rootBuffer { s with board := b0 } ply) o1 o2 o3) s ply maxPly β h (acc0 α) lr →
    NB f b0 s ply maxPly a b h (finish b0.turn a β h (maxPly - ply) lr))
  (nil : ∀ {f b0 s ply maxPly β h acc}, NL f b0 [] s ply maxPly β h acc (acc, false, s))
  (skip : ∀ {f b0 m rest s ply maxPly β h acc res}, isValid (make b0 m) = false →
    NL f b0 rest { s with board := unmake (make s.board m) m } ply maxPly β h acc res →
    NL f b0 (m :: rest) s ply maxPly β h acc res)
  (child : ∀ {f b0 m rest s ply maxPly β h acc k r}, Inv (f + 1) b0 → Generated b0 m → isValid (make b0 m) = true →
    vis s.board = vis b0 →
    (∃ isPv ph, r = negamax f { s with board := make s.board m } (ply + 1) maxPly (-β) (-acc.alpha) isPv
      (h ^^^ (Zobrist.xorOf m.f).1) ph) →
    NP f (make b0 m) { s with board := make s.board m } (ply + 1) maxPly (-β) (-acc.alpha) (h ^^^ (Zobrist.xorOf m.f).1) r →
    (r.2.stop = true → NL f b0 (m :: rest) s ply maxPly β h acc (acc, true, { r.2 with board := unmake r.2.board m })) ∧
    (r.2.stop = false → (accUpdate acc m r.1).alpha ≥ β →
      NL f b0 (m :: rest) s ply maxPly β h acc
        (accUpdate acc m r.1, false, { r.2 with board := unmake r.2.board m, killers := k })) ∧
    (r.2.stop = false → ¬ (accUpdate acc m r.1).alpha ≥ β →
      ∀ res, NL f b0 rest { r.2 with board := unmake r.2.board m } ply maxPly β h (accUpdate acc m r.1) res →
        NL f b0 (m :: rest) s ply maxPly β h acc res))
include zero timeout entered leaf hit quiesce loop nil skip child

/-- the walk over `search_negamax` and over its move loop (entered with any list of generated moves and any accumulator):
`negamax_induct` with the position carried along by `bracket` -/
theorem negamax_walk :
    (∀ (fuel : Nat) (b0 : Board) (s : St) (ply maxPly : Nat) (a b : Int) (isPv : Bool) (h ph : UInt64),
      Inv fuel b0 → vis s.board = vis b0 →
      NP fuel b0 s ply maxPly a b h (negamax fuel s ply maxPly a b isPv h ph) ∧
      vis (negamax fuel s ply maxPly a b isPv h ph).2.board = vis b0) ∧
    (∀ (f : Nat) (b0 : Board), Inv (f + 1) b0 → ∀ (ply maxPly : Nat) (β : Int) (isPv : Bool) (pvMove : Option Move)
      (h ph : UInt64) (rem : Nat) (moves : List Move), (∀ m ∈ moves, Generated b0 m) → ∀ (s : St) (acc : LoopAcc),
      vis s.board = vis b0 →
      NL f b0 moves s ply maxPly β h acc (negamaxLoop f s moves ply maxPly β isPv pvMove h ph rem acc) ∧
      vis (negamaxLoop f s moves ply maxPly β isPv pvMove h ph rem acc).2.2.board = vis b0) := by
  have w := negamax_induct
    (NP := fun f s ply maxPly a b h res => ∀ b0, Inv f b0 → vis s.board = vis b0 →
      NP f b0 s ply maxPly a b h res ∧ vis res.2.board = vis b0)
    (NB := fun f s ply maxPly a b h res => ∀ b0, Inv (f + 1) b0 → vis s.board = vis b0 →
      NB f b0 s ply maxPly a b h res ∧ vis res.2.board = vis b0)
    (NL := fun f moves s ply maxPly β h acc res => ∀ b0, Inv (f + 1) b0 → (∀ m ∈ moves, Generated b0 m) →
      vis s.board = vis b0 → NL f b0 moves s ply maxPly β h acc res ∧ vis res.2.2.board = vis b0)
    (zero := fun _ _ hs => ⟨zero, hs⟩)
    (timeout := fun {_ s _ _ _ _ _} hto _ _ hs => ⟨timeout hto, (congrArg vis (pollStep_board s)).trans hs⟩)
    (entered := fun {_ s _ _ _ _ h _} hb b0 hinv hs =>
      have hr := hb b0 hinv ((congrArg vis (enter_board s h)).trans hs)
      ⟨entered hinv hs hr.1, hr.2⟩)
    (leaf := fun hv b0 _ hs => by
      refine ⟨leaf (hv.imp id (Or.imp ?_ ?_)), hs⟩
      · exact fun ⟨hp, hb, hv⟩ => ⟨hp, rootBuffer_vis hs _ ▸ hb, hv⟩
      · exact fun ⟨hp, hv⟩ =>
          ⟨hp, by rw [hv, evalFor_congr hs, isAnyMoveLegal_congr hs, rootBuffer_vis hs, turn_congr hs]⟩)
    (hit := fun hget hd _ _ hs => ⟨hit hget hd, hs⟩)
    (quiesce := fun {f s _ _ _ _ _ α β} hpr hp b0 hinv hs =>
      ⟨quiesce (Inv_mono (Nat.le_succ f) hinv) hs hpr hp, quiescence_vis L f b0 s α β (Inv_mono (Nat.le_succ f) hinv) hs⟩)
    (loop := fun hpr hp hl b0 hinv hs => by
      rw [rootBuffer_vis hs] at hl
      obtain ⟨l1, l2⟩ := hl b0 hinv (fun m hm => Or.inl (mem_rootBuffer_genPseudo (mem_sortMoves.mp hm))) hs
      rw [finish_board, turn_congr hs]
      exact ⟨loop hpr hp l2 l1, l2⟩)
    (nil := fun _ _ _ hs => ⟨nil, hs⟩)
    (skip := fun hv ih b0 hinv hmem hs => by
      obtain ⟨hm, hrest⟩ := List.forall_mem_cons.mp hmem
      obtain ⟨hskip, hval, -⟩ := bracket hinv.wf hs hm
      obtain ⟨i1, i2⟩ := ih b0 hinv hrest hskip
      exact ⟨skip (hval ▸ hv) i1, i2⟩)
    (child := by
      intro f m rest s ply maxPly β h acc k r hv heq hc
      refine ⟨fun hst b0 hinv hmem hs => ?_, fun hst hcut b0 hinv hmem hs => ?_,
        fun hst hcut res ih b0 hinv hmem hs => ?_⟩
      all_goals
        obtain ⟨hm, hrest⟩ := List.forall_mem_cons.mp hmem
        obtain ⟨-, hval, hmk, hback⟩ := bracket hinv.wf hs hm
        have hv' : isValid (make b0 m) = true := hval ▸ hv
        obtain ⟨n1, n2⟩ := hc (make b0 m) (L.make_inv f b0 m hinv hm hv') hmk
        have hb := hback _ (n2.trans hmk.symm)
        obtain ⟨c1, c2, c3⟩ := child (rest := rest) (k := k) hinv hm hv' hs heq n1
      · exact ⟨c1 hst, hb⟩
      · exact ⟨c2 hst hcut, hb⟩
      · exact ⟨c3 hst hcut _ (ih b0 hinv hrest hb).1, (ih b0 hinv hrest hb).2⟩)
  exact ⟨fun fuel b0 s ply maxPly a b isPv h ph hinv hs => w.1 fuel s ply maxPly a b isPv h ph b0 hinv hs,
    fun f b0 hinv ply maxPly β isPv pvMove h ph rem moves hmem s acc hs =>
      w.2 f moves s ply maxPly β isPv pvMove h ph rem acc b0 hinv hmem hs⟩

end

theorem nLoop_walk {f : Nat} {b0 : Board} (hinv : Inv (f + 1) b0) (ply maxPly : Nat) (β : Int) (h : UInt64)
    {NL : List Move → St → LoopAcc → LoopAcc × Bool × St → Prop}
    (nil : ∀ {s acc}, NL [] s acc (acc, false, s))
    (skip : ∀ {m rest s acc res}, isValid (make b0 m) = false →
      NL rest { s with board := unmake (make s.board m) m } acc res → NL (m :: rest) s acc res)
    (child : ∀ {m rest s acc k r}, Generated b0 m → isValid (make b0 m) = true →
      vis s.board = vis b0 →
      (∃ isPv ph, r = negamax f { s with board := make s.board m } (ply + 1) maxPly (-β) (-acc.alpha) isPv
        (h ^^^ (Zobrist.xorOf m.f).1) ph) →
      (r.2.stop = true → NL (m :: rest) s acc (acc, true, { r.2 with board := unmake r.2.board m })) ∧
      (r.2.stop = false → (accUpdate acc m r.1).alpha ≥ β →
        NL (m :: rest) s acc (accUpdate acc m r.1, false, { r.2 with board := unmake r.2.board m, killers := k })) ∧
      (r.2.stop = false → ¬ (accUpdate acc m r.1).alpha ≥ β →
        ∀ res, NL rest { r.2 with board := unmake r.2.board m } (accUpdate acc m r.1) res → NL (m :: rest) s acc res))
    (isPv : Bool) (pvMove : Option Move) (ph : UInt64) (rem : Nat) (moves : List Move) (hmem : ∀ m ∈ moves, Generated b0 m)
    (s : St) (acc : LoopAcc) (hs : vis s.board = vis b0) :
    NL moves s acc (negamaxLoop f s moves ply maxPly β isPv pvMove h ph rem acc) ∧
    vis (negamaxLoop f s moves ply maxPly β isPv pvMove h ph rem acc).2.2.board = vis b0 := by
  refine (negamax_walk L (NP := fun _ _ _ _ _ _ _ _ _ => True) (NB := fun _ _ _ _ _ _ _ _ _ => True)
    (NL := fun f' b0' moves s ply' maxPly' β' h' acc res =>
      f' = f → b0' = b0 → ply' = ply → maxPly' = maxPly → β' = β → h' = h → NL moves s acc res)
    trivial (fun _ => trivial) (fun _ _ _ => trivial) (fun _ => trivial) (fun _ _ => trivial) (fun _ _ _ _ => trivial)
    (fun _ _ _ _ => trivial) (fun _ _ _ _ _ _ => nil)
    (fun hv ih e1 e2 e3 e4 e5 e6 => skip (e2 ▸ hv) (ih e1 e2 e3 e4 e5 e6)) ?_).2
    f b0 hinv ply maxPly β isPv pvMove h ph rem moves hmem s acc hs |>.imp_left fun w => w rfl rfl rfl rfl rfl rfl
  intro f' b0' m rest s ply' maxPly' β' h' acc k r _ hm hv hb heq _
  refine ⟨fun hst => ?_, fun hst hcut => ?_, fun hst hcut res ih => ?_⟩
  all_goals rintro rfl rfl rfl rfl rfl rfl
  · exact (child (k := k) hm hv hb heq).1 hst
  · exact (child hm hv hb heq).2.1 hst hcut
  · exact (child (k := k) hm hv hb heq).2.2 hst hcut res (ih rfl rfl rfl rfl rfl rfl)

theorem negamax_vis (fuel : Nat) (b0 : Board) (s : St) (ply maxPly : Nat) (a b : Int) (isPv : Bool) (h ph : UInt64)
    (hinv : Inv fuel b0) (hs : vis s.board = vis b0) : vis (negamax fuel s ply maxPly a b isPv h ph).2.board = vis b0 :=
  (negamax_walk L (NP := fun _ _ _ _ _ _ _ _ _ => True) (NB := fun _ _ _ _ _ _ _ _ _ => True)
    (NL := fun _ _ _ _ _ _ _ _ _ _ => True) trivial (fun _ => trivial) (fun _ _ _ => trivial) (fun _ => trivial)
    (fun _ _ => trivial) (fun _ _ _ _ => trivial) (fun _ _ _ _ => trivial) trivial (fun _ _ => trivial)
    (fun _ _ _ _ _ _ => ⟨fun _ => trivial, fun _ _ => trivial, fun _ _ _ _ => trivial⟩)).1
    fuel b0 s ply maxPly a b isPv h ph hinv hs |>.2

theorem negamax_ok (fuel : Nat) (s : St) (ply maxPly : Nat) (a b : Int) (isPv : Bool) (h ph : UInt64)
    (hinv : Inv fuel s.board) : vis (negamax fuel s ply maxPly a b isPv h ph).2.board = vis s.board :=
  negamax_vis L fuel s.board s ply maxPly a b isPv h ph hinv rfl

theorem nLoop_board (fuel : Nat) (b0 : Board) (hinv : Inv (fuel + 1) b0) (moves : List Move)
    (hmem : ∀ m ∈ moves, Generated b0 m) (s : St) (ply maxPly : Nat) (beta : Int) (isPv : Bool) (pvMove : Option Move)
    (h ph : UInt64) (rem : Nat) (acc : LoopAcc) (hs : vis s.board = vis b0) :
    vis (negamaxLoop fuel s moves ply maxPly beta isPv pvMove h ph rem acc).2.2.board = vis b0 :=
  (nLoop_walk L hinv ply maxPly beta h (NL := fun _ _ _ _ => True) trivial (fun _ _ => trivial)
    (fun _ _ _ _ => ⟨fun _ => trivial, fun _ _ => trivial, fun _ _ _ _ => trivial⟩)
    isPv pvMove ph rem moves hmem s acc hs).2

theorem rootSearch_board (root : Board) (s : St) (d : Nat) (hinv : Inv (fuelFor d) root) (hs : vis s.board = vis root) :
    vis (rootSearch s d).2.board = vis root :=
  negamax_vis L _ root s 0 d _ _ _ _ _ hinv hs

/-- `n` iterations starting at depth `d` search with fuel `fuelFor d`, …, `fuelFor (d + n - 1)` -/
theorem deepen_board (n : Nat) (s : St) (d mt : Nat) (best : Option VM) (u : Option (List Move)) (sc : Option Score)
    (hinv : Inv (fuelFor d + n) s.board) : vis (deepen n s d mt best u sc).2.board = vis s.board := by
  refine deepen_induct mt (M := fun n s d _ _ _ _ res => ∀ root, Inv (fuelFor d + n) root → vis s.board = vis root →
      vis res.2.board = vis root)
    (fun _ _ hs => hs) ?stop ?next n s d best u sc s.board hinv rfl
  all_goals
    intro n s d _ u sc
    have hr : ∀ root, Inv (fuelFor d + (n + 1)) root → vis s.board = vis root →
        vis (iterState (rootSearch s d) d sc u).board = vis root :=
      fun root hinv hs => by rw [iterState_board]; exact rootSearch_board L root s d (Inv_mono (Nat.le_add_right _ _) hinv) hs
  case stop => intro _ _; exact hr
  case next =>
    intro _ _ _ _ _ ih root hinv hs
    exact ih root (Inv_mono (by unfold fuelFor; omega) hinv) (hr root hinv hs)

/-- the clock budget of one `go`: the deepest iteration has depth ≤ `maxIter` and searches with fuel ≤ `maxIter + 200` -/
def goBudget (maxIter : Nat) : Nat := maxIter + 201

theorem go_preserves_board (s : St) (g : GoParams) (maxIter : Nat) (hinv : Inv (goBudget maxIter) s.board) :
    vis (goCmd s g maxIter).board = vis s.board := by
  rw [goCmd_eq]
  show vis (goDeepen s g maxIter).2.board = _
  unfold goDeepen
  rw [deepen_board L _ _ _ _ _ _ _ ?_, goPrep_board]
  rw [goPrep_board]
  refine Inv_mono ?_ hinv
  have := goIters_le g maxIter
  unfold fuelFor goBudget; omega

theorem runGo_board (s : St) (x : GoStep) (hinv : Inv (goBudget x.maxIter) s.board) : vis (runGo s x).board = vis s.board := by
  unfold runGo
  rw [go_preserves_board L _ _ _ (by rw [x.env_board]; exact hinv), x.env_board]

theorem session_preserves_board (xs : List GoStep) (s : St) (hinv : ∀ x ∈ xs, Inv (goBudget x.maxIter) s.board) :
    vis (runGos s xs).board = vis s.board := by
  induction xs generalizing s with
  | nil => rfl
  | cons x xs ih =>
    have h1 := runGo_board L s x (hinv x (List.mem_cons_self ..))
    show vis (runGos (runGo s x) xs).board = _
    rw [ih _ (fun y hy => Inv_congr h1.symm (hinv y (List.mem_cons_of_mem _ hy))), h1]

end

end Inkayaku.Search
