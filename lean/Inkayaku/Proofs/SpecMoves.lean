import Inkayaku.Proofs.Geometry
/-!
# The rules' pseudo-legal moves in parts

`Spec.pseudoMoves p` of an arbitrary position split by kind of move (`mem_pseudoMoves`): steps of a piece other than a pawn
(`Step`), pawn moves (`PawnStep`; pushes and captures apart, `pawnMoves_split`, `mem_specCaptures`), castling
(`specCastleCond`, `mem_castleMoves`).  Nothing here mentions a board: C01 compares the generator's sites with these parts, the
colour flip (C11) transports them along a mirrored position.
-/
namespace Inkayaku.GenSpec
open Inkayaku.Geometry Inkayaku.Spec

def notOwn (p : Spec.Pos) (white : Bool) (t : Nat) : Bool :=
  match p.at t with
  | some o => o.white != white
  | none => true

/-- a piece of kind `k` of the side to move stands on `s`, a piece moving like `g` would reach `t` from `s`
(geometry and blockers), and `t` is empty or holds an enemy piece -/
def StepG (p : Spec.Pos) (k g : Spec.Kind) (s t : Nat) : Prop :=
  s < 64 ∧ t < 64 ∧ p.at s = some ⟨p.whiteToMove, k⟩ ∧ Spec.attacksGeom p g p.whiteToMove s t = true ∧
    notOwn p p.whiteToMove t = true

def Step (p : Spec.Pos) (k : Spec.Kind) (s t : Nat) : Prop := StepG p k k s t

def withPromo (white : Bool) (s t : Nat) : List SMove :=
  if rowOf t == (if white then 0 else 7) then promoKinds.map fun k => ⟨s, t, some k⟩ else [⟨s, t, none⟩]

def specPushes (p : Pos) (white : Bool) (s : Nat) : List SMove :=
  let dir : Int := if white then -1 else 1
  let startRow : Int := if white then 6 else 1
  let f := fileOf s
  let r := rowOf s
  if inside f (r + dir) && (p.at (mkSq f (r + dir))).isNone then
    withPromo white s (mkSq f (r + dir)) ++
      (if r == startRow && (p.at (mkSq f (r + 2 * dir))).isNone then [⟨s, mkSq f (r + 2 * dir), none⟩] else [])
  else []

def capAt (p : Pos) (white : Bool) (s t : Nat) : List SMove :=
  match p.at t with
  | some victim => if victim.white != white then withPromo white s t else []
  | none => if p.ep == some t then [⟨s, t, none⟩] else []

def capDir (white : Bool) : Int := if white then -1 else 1

def specCaptures (p : Pos) (white : Bool) (s : Nat) : List SMove :=
  [(-1 : Int), 1].flatMap fun df =>
    if inside (fileOf s + df) (rowOf s + capDir white) then
      capAt p white s (mkSq (fileOf s + df) (rowOf s + capDir white))
    else []

theorem pawnMoves_split (p : Pos) (white : Bool) (s : Nat) :
    Spec.pawnMoves p white s = specPushes p white s ++ specCaptures p white s := rfl

/-- the square `n` steps ahead of `s` for a pawn of colour `w` (white moves towards square 0) -/
def fwd (w : Bool) (s n : Nat) : Nat := if w then s - n else s + n

theorem specPushes_eq (p : Pos) (w : Bool) (s : Nat) (h8 : 8 ≤ s) (h56 : s < 56) :
    specPushes p w s =
      if (p.at (fwd w s 8)).isNone then
        withPromo w s (fwd w s 8) ++
          (if (if w then decide (48 ≤ s) else decide (s < 16)) && (p.at (fwd w s 16)).isNone then [⟨s, fwd w s 16, none⟩]
           else [])
      else [] := by
  have hin : inside (fileOf s) (rowOf s + (if w then -1 else 1)) = true := by
    rw [inside_iff]; unfold fileOf rowOf; cases w <;> simp <;> omega
  have h1 : mkSq (fileOf s) (rowOf s + (if w then -1 else 1)) = fwd w s 8 := by
    unfold mkSq fileOf rowOf fwd; cases w <;> simp <;> omega
  have h2 : mkSq (fileOf s) (rowOf s + 2 * (if w then -1 else 1)) = fwd w s 16 := by
    unfold mkSq fileOf rowOf fwd; cases w <;> simp <;> omega
  have h3 : (rowOf s == (if w then 6 else 1)) = (if w then decide (48 ≤ s) else decide (s < 16)) := by
    unfold rowOf; rw [Bool.eq_iff_iff]; cases w <;> simp <;> omega
  unfold specPushes
  simp only [hin, h1, h2, h3, Bool.true_and]

theorem capGeom (white : Bool) {s t : Nat} (ht : t < 64) :
    pawnGeom white s t = true ↔
      ∃ df ∈ [(-1 : Int), 1], inside (fileOf s + df) (rowOf s + capDir white) = true ∧
        t = mkSq (fileOf s + df) (rowOf s + capDir white) := by
  -- `inside`, `mkSq` are `Rays.onBoard`, `Rays.sqOf`: the board square with these coordinates is `t` iff they are `t`'s
  have key : ∀ f r : Int, (inside f r = true ∧ t = mkSq f r) ↔ f = fileOf t ∧ r = rowOf t := fun f r => by
    rw [eq_comm (a := t)]; exact onBoard_sqOf f r ht
  simp only [key, pawn_steps, List.mem_cons, List.not_mem_nil, or_false, exists_eq_or_imp, exists_eq_left, capDir]
  cases white <;> simp only [Rays.whitePawnSteps, Rays.blackPawnSteps, List.mem_cons, List.not_mem_nil, or_false,
    Prod.mk.injEq, if_true, if_false, Bool.false_eq_true] <;> omega

theorem inside_lt {f r : Int} (h : inside f r = true) : mkSq f r < 64 :=
  mkSq_lt ((inside_iff f r).mp h).1 ((inside_iff f r).mp h).2

theorem mem_specCaptures (p : Pos) (white : Bool) (s : Nat) (sm : SMove) :
    sm ∈ specCaptures p white s ↔ ∃ t, t < 64 ∧ pawnGeom white s t = true ∧ sm ∈ capAt p white s t := by
  unfold specCaptures
  rw [List.mem_flatMap]
  constructor
  · rintro ⟨df, hdf, h⟩
    rw [List.mem_ite_nil_right] at h
    exact ⟨_, inside_lt h.1, (capGeom white (inside_lt h.1)).mpr ⟨df, hdf, h.1, rfl⟩, h.2⟩
  · rintro ⟨t, ht, hg, hm⟩
    obtain ⟨df, hdf, hin, rfl⟩ := (capGeom white ht).mp hg
    exact ⟨df, hdf, List.mem_ite_nil_right.mpr ⟨hin, hm⟩⟩

def PawnStep (p : Pos) (sm : SMove) : Prop :=
  ∃ s, s < 64 ∧ p.at s = some ⟨p.whiteToMove, .pawn⟩ ∧ sm ∈ Spec.pawnMoves p p.whiteToMove s

def specRight (p : Pos) (white kingSide : Bool) : Bool :=
  match white, kingSide with
  | true, true => p.wk | true, false => p.wq | false, true => p.bk | false, false => p.bq

def specCastleCond (p : Pos) (white kingSide : Bool) : Bool :=
  let right := specRight p white kingSide
  let ks := (castleSquares white kingSide).1
  let kt := (castleSquares white kingSide).2.1
  let rs := (castleSquares white kingSide).2.2.1
  let crossing := (ks + kt) / 2
  right && p.at ks == some ⟨white, .king⟩ && p.at rs == some ⟨white, .rook⟩ && clearBetween p ks rs
        && !attacked p (!white) ks && !attacked p (!white) crossing && !attacked p (!white) kt

theorem castleMoves_eq' (p : Pos) (white : Bool) : Spec.castleMoves p white =
    [true, false].filterMap fun kingSide =>
      if specCastleCond p white kingSide then
        some ⟨(castleSquares white kingSide).1, (castleSquares white kingSide).2.1, none⟩ else none := by
  cases white <;> rfl

theorem mem_castleMoves (p : Pos) (white : Bool) (sm : SMove) :
    sm ∈ Spec.castleMoves p white ↔
      (specCastleCond p white false = true ∧
        sm = ⟨(castleSquares white false).1, (castleSquares white false).2.1, none⟩) ∨
      (specCastleCond p white true = true ∧
        sm = ⟨(castleSquares white true).1, (castleSquares white true).2.1, none⟩) := by
  rw [castleMoves_eq']
  simp only [List.filterMap_cons, List.filterMap_nil]
  cases specCastleCond p white true <;> cases specCastleCond p white false <;> simp [or_comm]

def stepMoves (p : Pos) (k : Kind) (s : Nat) : List SMove :=
  (List.range 64).filterMap fun t =>
    if attacksGeom p k p.whiteToMove s t && notOwn p p.whiteToMove t then some ⟨s, t, none⟩ else none

def sqMoves (p : Pos) (s : Nat) : List SMove :=
  match p.at s with
  | some pc =>
    if pc.white != p.whiteToMove then []
    else if pc.kind == .pawn then Spec.pawnMoves p p.whiteToMove s
    else stepMoves p pc.kind s
  | none => []

theorem pseudoMoves_eq (p : Pos) :
    Spec.pseudoMoves p = (List.range 64).flatMap (sqMoves p) ++ Spec.castleMoves p p.whiteToMove := rfl

theorem mem_stepMoves (p : Pos) (k : Kind) (s : Nat) (sm : SMove) :
    sm ∈ stepMoves p k s ↔ ∃ t, t < 64 ∧ attacksGeom p k p.whiteToMove s t = true ∧
      notOwn p p.whiteToMove t = true ∧ sm = ⟨s, t, none⟩ := by
  unfold stepMoves
  rw [List.mem_filterMap]
  constructor
  · rintro ⟨t, ht, h⟩
    split at h
    · next hc =>
      rw [Bool.and_eq_true] at hc
      simp only [Option.some.injEq] at h
      exact ⟨t, List.mem_range.mp ht, hc.1, hc.2, h.symm⟩
    · cases h
  · rintro ⟨t, ht, hg, hn, rfl⟩
    refine ⟨t, List.mem_range.mpr ht, ?_⟩
    rw [if_pos (by rw [Bool.and_eq_true]; exact ⟨hg, hn⟩)]

theorem mem_sqMoves (p : Pos) (s : Nat) (hs : s < 64) (sm : SMove) :
    sm ∈ sqMoves p s ↔
      (∃ k, k ≠ Kind.pawn ∧ ∃ t, Step p k s t ∧ sm = ⟨s, t, none⟩) ∨
      (p.at s = some ⟨p.whiteToMove, .pawn⟩ ∧ sm ∈ Spec.pawnMoves p p.whiteToMove s) := by
  unfold sqMoves
  cases hat : p.at s with
  | none =>
    simp only [List.not_mem_nil, false_iff, not_or, not_exists, not_and]
    refine ⟨?_, ?_⟩
    · rintro k - t ⟨-, -, h, -⟩; rw [hat] at h; cases h
    · intro h; cases h
  | some pc =>
    obtain ⟨pw, pk⟩ := pc
    simp only
    by_cases hw : pw = p.whiteToMove
    · subst hw
      simp only [bne_self_eq_false, Bool.false_eq_true, if_false]
      by_cases hk : pk = Kind.pawn
      · subst hk
        simp only [BEq.rfl, if_true, true_and]
        constructor
        · intro h; exact Or.inr h
        · rintro (⟨k, hk, t, ⟨-, -, h, -⟩, -⟩ | h)
          · rw [hat] at h
            simp only [Option.some.injEq, Piece.mk.injEq, true_and] at h
            exact absurd h.symm hk
          · exact h
      · have hkb : (pk == Kind.pawn) = false := by simpa using hk
        simp only [hkb, Bool.false_eq_true, if_false]
        rw [mem_stepMoves]
        constructor
        · rintro ⟨t, ht, hg, hn, e⟩
          exact Or.inl ⟨pk, hk, t, ⟨hs, ht, hat, hg, hn⟩, e⟩
        · rintro (⟨k, -, t, ⟨-, ht, h, hg, hn⟩, e⟩ | ⟨h, -⟩)
          · rw [hat] at h
            simp only [Option.some.injEq, Piece.mk.injEq, true_and] at h
            subst h
            exact ⟨t, ht, hg, hn, e⟩
          · simp only [Option.some.injEq, Piece.mk.injEq, true_and] at h
            exact absurd h hk
    · have hwb : (pw != p.whiteToMove) = true := by simpa using hw
      simp only [hwb, if_true, List.not_mem_nil, false_iff, not_or, not_exists, not_and]
      refine ⟨?_, ?_⟩
      · rintro k - t ⟨-, -, h, -⟩
        rw [hat] at h
        simp only [Option.some.injEq, Piece.mk.injEq] at h
        exact absurd h.1 hw
      · intro h
        simp only [Option.some.injEq, Piece.mk.injEq] at h
        exact absurd h.1 hw

theorem mem_pseudoMoves (p : Pos) (sm : SMove) :
    sm ∈ Spec.pseudoMoves p ↔
      (∃ k, k ≠ Kind.pawn ∧ ∃ s t, Step p k s t ∧ sm = ⟨s, t, none⟩) ∨ PawnStep p sm ∨
        sm ∈ Spec.castleMoves p p.whiteToMove := by
  rw [pseudoMoves_eq, List.mem_append, List.mem_flatMap, ← or_assoc]
  apply or_congr_left
  constructor
  · rintro ⟨s, hs, h⟩
    have hs64 := List.mem_range.mp hs
    rcases (mem_sqMoves p s hs64 sm).mp h with ⟨k, hk, t, hst, e⟩ | ⟨hat, h⟩
    · exact Or.inl ⟨k, hk, s, t, hst, e⟩
    · exact Or.inr ⟨s, hs64, hat, h⟩
  · rintro (⟨k, hk, s, t, hst, e⟩ | ⟨s, hs64, hat, h⟩)
    · exact ⟨s, List.mem_range.mpr hst.1, (mem_sqMoves p s hst.1 sm).mpr (Or.inl ⟨k, hk, t, hst, e⟩)⟩
    · exact ⟨s, List.mem_range.mpr hs64, (mem_sqMoves p s hs64 sm).mpr (Or.inr ⟨hat, h⟩)⟩

end Inkayaku.GenSpec
