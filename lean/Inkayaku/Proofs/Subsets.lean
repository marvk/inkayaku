/-!
Enumeration of all subsets of a list of bit positions by a function the kernel runs.  By `subsets_sel` and
`and_maskOf`, what holds on every enumerated subset holds at `occ &&& maskOf bits` for EVERY natural number `occ`.
-/
namespace Inkayaku.Subsets

/-- `k x`.  The kernel passes `x` to `k` unevaluated and evaluates it at every use; the match makes it a numeral
first.  `Nat.lor`, `Nat.shiftLeft`, `and` in the enumerators here and in `MagicLift` are `|||`, `<<<`, `&&` without
the instances, which the kernel would unfold at every step. -/
def force (x : Nat) (k : Nat → Bool) : Bool :=
  match x with
  | 0 => k 0
  | n + 1 => k (Nat.succ n)

theorem force_eq (x : Nat) (k : Nat → Bool) : force x k = k x := by
  cases x <;> rfl

def forceList : List Nat → (List Nat → Bool) → Bool
  | [], k => k []
  | s :: t, k => force s fun s => forceList t fun t => k (s :: t)

theorem forceList_eq (l : List Nat) (k : List Nat → Bool) : forceList l k = k l := by
  induction l generalizing k with
  | nil => rfl
  | cons s t ih => rw [forceList, force_eq, ih]

def subsets (k : Nat → Bool) : List Nat → Nat → Bool
  | [], acc => k acc
  | b :: bs, acc => and (subsets k bs acc) (force (Nat.lor acc (Nat.shiftLeft 1 b)) (subsets k bs))

def selOr (occ : Nat) : List Nat → Nat
  | [] => 0
  | b :: bs => (if occ.testBit b then 1 <<< b else 0) ||| selOr occ bs

theorem selOr_append (occ : Nat) (l₁ l₂ : List Nat) : selOr occ (l₁ ++ l₂) = selOr occ l₁ ||| selOr occ l₂ := by
  induction l₁ with
  | nil => simp [selOr]
  | cons b bs ih => simp only [List.cons_append, selOr, ih, Nat.or_assoc]

theorem subsets_sel (k : Nat → Bool) (bs : List Nat) (acc occ : Nat)
    (h : subsets k bs acc = true) : k (acc ||| selOr occ bs) = true := by
  induction bs generalizing acc with
  | nil => simpa [subsets, selOr] using h
  | cons b bs ih =>
    simp only [subsets, force_eq, Bool.and_eq_true, Nat.lor_eq, Nat.shiftLeft_eq'] at h
    simp only [selOr]
    by_cases hb : occ.testBit b
    · simp only [hb, if_true]
      have := ih (acc ||| (1 <<< b)) h.2
      simpa [Nat.or_assoc] using this
    · simp only [hb]
      have := ih acc h.1
      simpa using this

def maskOf : List Nat → Nat
  | [] => 0
  | b :: bs => (1 <<< b) ||| maskOf bs

theorem testBit_maskOf (bs : List Nat) (i : Nat) : (maskOf bs).testBit i = bs.contains i := by
  induction bs with
  | nil => simp [maskOf]
  | cons b bs ih =>
    simp only [maskOf, Nat.testBit_or, ih, Nat.one_shiftLeft, Nat.testBit_two_pow, List.contains_cons]
    by_cases h : b = i
    · subst h; simp
    · have h' : (i == b) = false := by
        simp only [beq_eq_false_iff_ne, ne_eq]; exact fun e => h e.symm
      simp [h, h']

theorem testBit_selOr (occ : Nat) (bs : List Nat) (i : Nat) :
    (selOr occ bs).testBit i = (occ.testBit i && bs.contains i) := by
  induction bs with
  | nil => simp [selOr]
  | cons b bs ih =>
    simp only [selOr, Nat.testBit_or, ih, List.contains_cons]
    by_cases h : b = i
    · subst h
      by_cases hb : occ.testBit b <;> simp [hb, Nat.one_shiftLeft]
    · have h' : (i == b) = false := by
        simp only [beq_eq_false_iff_ne, ne_eq]; exact fun e => h e.symm
      by_cases hb : occ.testBit b <;> simp [hb, h, h', Nat.one_shiftLeft]

theorem and_maskOf (occ : Nat) (bs : List Nat) : occ &&& maskOf bs = selOr occ bs := by
  apply Nat.eq_of_testBit_eq
  intro i
  rw [Nat.testBit_and, testBit_maskOf, testBit_selOr]

def bitsOf (m : Nat) : List Nat := (List.range 64).filter m.testBit

end Inkayaku.Subsets
