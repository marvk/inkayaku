import Inkayaku.Proofs.RepSpecGame
import Inkayaku.Proofs.SearchRepGame
/-!
# The two notions of "occurred three times" agree on the positions of a legal line

* `RepSpec.occurrences` (executable specification `Model/RepSpec.lean`): the path is a list of `Key`s NEWEST FIRST; counted are the
  entries at even distance `2, 4, …` inside the window `take halfmove` that equal the key of the node's board;
* `SearchRep.occurrences` (`Proofs/SearchRepGame.lean`, used by `Props/C10Search.lean`): the line is a list of boards OLDEST FIRST;
  counted are the boards among the last `halfmove` ones with the `C06.HashKey` of the position, whatever the distance.

`occurrences_agree`: for a line `L` (oldest first) and a position `c` such that `L ++ [c]` is a line of legal moves,
`RepSpec.occurrences ⟨c, only, ply, L.reverse.map key⟩ = SearchRep.occurrences L c`.
The parity condition of the specification is implied on a line: the side to move alternates, and `key` contains the side to move,
so an earlier position at odd distance never has the key of `c` (`line_turn_odd`; no well-formedness hypothesis is needed: after
one step the side to move is `0` or `1`, and `1 - t ≠ t` for every natural number `t`).
-/
namespace Inkayaku.RepSpec
open Inkayaku.Board Inkayaku.WF Inkayaku.BoardCongr Inkayaku.SearchRep Inkayaku.SearchSim
open Inkayaku.C06 (HashKey)

theorem key_eq_iff (a b : Board) : key a = key b ↔ HashKey a = HashKey b := by
  simp only [key, Key.mk.injEq, HashKey, C06.HashData.mk.injEq, List.cons.injEq, and_true]
  constructor
  · rintro ⟨⟨w1, w2, w3, w4, w5, w6⟩, ⟨b1, b2, b3, b4, b5, b6⟩, t, ⟨r1, r2, r3, r4⟩, e1, e2⟩
    exact ⟨w1, w2, w3, w4, w5, w6, b1, b2, b3, b4, b5, b6, t, r2, r1, r4, r3, e1, e2⟩
  · rintro ⟨w1, w2, w3, w4, w5, w6, b1, b2, b3, b4, b5, b6, t, r2, r1, r4, r3, e1, e2⟩
    exact ⟨⟨w1, w2, w3, w4, w5, w6⟩, ⟨b1, b2, b3, b4, b5, b6⟩, t, ⟨r1, r2, r3, r4⟩, e1, e2⟩

theorem occurrences_agree (L : List Board) (c : Board) (hl : IsLine (L ++ [c])) (only : List String) (ply : Nat) :
    RepSpec.occurrences ⟨c, only, ply, L.reverse.map key⟩ = SearchRep.occurrences L c := by
  unfold RepSpec.occurrences SearchRep.occurrences
  simp only
  congr 1
  have hc : (L ++ [c])[L.length]? = some c := by
    rw [List.getElem?_append_right (Nat.le_refl _)]; simp
  have hlen : ((L.reverse.map key).take c.halfmove).length ≤ L.length := by
    rw [List.length_take, List.length_map, List.length_reverse]; omega
  -- both counts over the indices `i < |L|` of the keys newest first: beyond the window nothing is counted on the left
  rw [← List.countP_eq_length_filter, ← List.countP_eq_length_filter, C10.countP_range_reflect _ L.length,
    ← C10.countP_range_of_le _ hlen fun i hi _ => by rw [List.getElem?_eq_none hi]; simp]
  apply List.countP_congr
  intro i hi
  have hi' : i < L.length := List.mem_range.mp hi
  have hg : L.getD (L.length - 1 - i) c = L[L.length - 1 - i] := by
    rw [List.getD_eq_getElem?_getD, List.getElem?_eq_getElem (by omega)]; rfl
  rw [List.getElem?_take, hg]
  simp only [Bool.and_eq_true, beq_iff_eq, decide_eq_true_eq]
  split
  · rename_i hw
    rw [List.getElem?_map, List.getElem?_reverse (by omega), List.getElem?_eq_getElem (by omega), Option.map_some,
      Option.some.injEq, key_eq_iff]
    -- the parity condition is implied: the side to move alternates along the line
    refine ⟨fun h => ⟨by omega, h.2⟩, fun h => ⟨?_, h.2⟩⟩
    have hM : (L ++ [c])[L.length - 1 - i]? = some L[L.length - 1 - i] := by
      rw [List.getElem?_append_left (by omega)]
      exact List.getElem?_eq_getElem (by omega)
    have := line_key_even hl hM hc (by omega) h.2
    omega
  · exact ⟨fun h => by simp at h, fun h => by omega⟩

theorem isRepetition_iff_occurrences (L : List Board) (c : Board) (hl : IsLine (L ++ [c])) (only : List String) (ply : Nat)
    (hply : 0 < ply) : isRepetition ⟨c, only, ply, L.reverse.map key⟩ = true ↔ 3 ≤ SearchRep.occurrences L c := by
  rw [isRepetition_iff, occurrences_agree L c hl only ply]
  exact ⟨fun h => h.2, fun h => ⟨hply, h⟩⟩

end Inkayaku.RepSpec
