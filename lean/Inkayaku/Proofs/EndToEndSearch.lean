import Inkayaku.Props.C16App
import Inkayaku.Props.C09
import Inkayaku.Props.Closure
import Inkayaku.Proofs.SearchRepHist
import Inkayaku.Proofs.SearchPvRules
import Inkayaku.Proofs.SanProofs
import Inkayaku.Spec.UciGrammar
/-!
# End-to-end, search half

What `Props/EndToEnd.lean` needs about the search thread: the `Out` stream of `Search.goCmd` as printed texts
(`render_info`, `render_bestMove`, `searchLines_shape`), and that `set_position_from`, fed with the move texts of a
`position … moves …` line, walks exactly the legal lines of the rules Spec (`setPosition_go_rules`).
-/
namespace Inkayaku.EndToEnd
open Inkayaku.Board Inkayaku.WF Inkayaku.BoardCongr Inkayaku.Search Inkayaku.EngineOut Inkayaku.Abs
open Inkayaku.Uci (UciMove)
open Inkayaku.Console (renderChars render natText intText)

theorem pieceString_eq : ∀ p : Nat,
    pieceString p = String.ofList (match pieceOfIndex p with | none => [] | some q => [q.fen])
  | 0 => by decide
  | 1 => by decide
  | 2 => by decide
  | 3 => by decide
  | 4 => by decide
  | 5 => by decide
  | 6 => by decide
  | _ + 7 => by
    show "" = String.ofList []
    decide

/-- **the printed move text is `Move.uci`** (for every packed move: the square fields are 6 bits wide) -/
theorem uciOf_text (m : Move) : String.ofList (uciOf m).render = m.uci := by
  have hs := MoveBits.source_lt m
  have ht := MoveBits.target_lt m
  show _ = squareString m.f.source ++ squareString m.f.target ++ pieceString m.f.promotion
  unfold squareString
  rw [if_pos hs, if_pos ht, pieceString_eq, ← String.ofList_append, ← String.ofList_append]
  rfl

theorem uciOf_render_toList (m : Move) : (uciOf m).render = m.uci.toList := by
  rw [← uciOf_text, String.toList_ofList]

def bestLine (m : Move) (ponder : Option Move) : String :=
  "bestmove " ++ m.uci ++ (match ponder with | none => "" | some p => " ponder " ++ p.uci)

theorem render_bestMove (aux : Aux) (m : Move) (ponder : Option Move) :
    render (toTx aux (.bestMove (some m) ponder)) = bestLine m ponder := by
  show String.ofList (Console.bestMoveText (some (uciOf m)) (ponder.map uciOf)) = _
  unfold Console.bestMoveText bestLine
  cases ponder with
  | none =>
    simp only [Option.map_none, List.append_nil, String.ofList_append, uciOf_text, String.ofList_toList,
      String.append_empty]
  | some p =>
    simp only [Option.map_some, String.ofList_append, uciOf_text, String.ofList_toList, String.append_assoc]

theorem render_bestMove_none (aux : Aux) (ponder : Option Move) :
    render (toTx aux (.bestMove none ponder)) =
      "bestmove 0000" ++ (match ponder with | none => "" | some p => " ponder " ++ p.uci) := by
  show String.ofList (Console.bestMoveText none (ponder.map uciOf)) = _
  unfold Console.bestMoveText
  cases ponder with
  | none => decide
  | some p =>
    simp only [Option.map_some, String.ofList_append, uciOf_text, String.ofList_toList]
    rw [← String.append_assoc]
    rfl

/-- the text of an iteration info: `info depth D [time T] nodes N pv m1 … mk score S hashfull H nps P [string …]` -/
def infoLineChars (d : Nat) (t : Option Nat) (n : Nat) (pv : List (List Char)) (score : List Char) (hashfull nps : Nat)
    (dbg : Option (List Char)) : List Char :=
  "info depth ".toList ++ (natText d ++ ((match t with | some t => " time ".toList ++ natText t | none => []) ++
    (" nodes ".toList ++ (natText n ++ (" pv ".toList ++ (Console.joinSp pv ++ (" score ".toList ++ (score ++
    (" hashfull ".toList ++ (natText hashfull ++ (" nps ".toList ++ (natText nps ++
    (match dbg with | some s => " string ".toList ++ s | none => [])))))))))))))

theorem appendMaybe_some (key v : List Char) : Console.appendMaybe key (some v) = ' ' :: (key ++ ' ' :: v) := rfl
theorem appendMaybe_none (key : List Char) : Console.appendMaybe key none = [] := rfl

theorem render_info (aux : Aux) (d : Nat) (t : Option Nat) (n : Nat) (sc : Eval.Score) (pv : List Move) :
    renderChars (toTx aux (.info (some d) t n (some sc) (some pv))) =
      infoLineChars d t n (pv.map fun m => m.uci.toList) (Console.scoreText (scoreOf sc)) aux.hashfull aux.nps
        (aux.debug.map debugText) := by
  have epv : (pv.map uciOf).map UciMove.render = pv.map fun m => m.uci.toList := by
    rw [List.map_map]; exact List.map_congr_left (fun m _ => uciOf_render_toList m)
  show Console.infoText _ = _
  unfold Console.infoText Console.infoSegments infoLineChars Console.movesText
  cases t <;> cases aux.debug <;>
    simp only [Option.map_some, Option.map_none, appendMaybe_some, appendMaybe_none, epv, String.reduceToList,
      List.flatten_cons, List.flatten_nil, List.cons_append, List.nil_append, List.append_nil]

theorem searchLines_shape (aux : Out → Aux) (bm : Out) (infos : List Out) :
    searchLines aux (bm :: infos) = searchLines aux infos ++ [render (toTx (aux bm) bm)] := by
  simp [searchLines]

theorem inv_vis {k : Nat} {b : Board} (h : Inv k b) : Inv k (vis b) := Inv_congr (vis_vis b).symm h

def kindOfPiece : Uci.Piece → Spec.Kind
  | .pawn => .pawn | .knight => .knight | .bishop => .bishop | .rook => .rook | .queen => .queen | .king => .king

def toSMove (u : UciMove) : Spec.SMove := ⟨u.source, u.target, u.promotion.map kindOfPiece⟩

def moveText (u : UciMove) : String := String.ofList u.render

theorem toSMove_uci (u : UciMove) : (toSMove u).uci = moveText u := by
  obtain ⟨s, t, p⟩ := u
  show Spec.sqName s ++ Spec.sqName t ++ _ = String.ofList (Uci.squareFen s ++ Uci.squareFen t ++ _)
  rw [String.ofList_append, String.ofList_append]
  cases p with
  | none => rfl
  | some q => cases q <;> rfl

theorem rustTrim_moveText (u : UciMove) (h : UciGrammar.MoveWf u) : Util.rustTrim (moveText u) = moveText u := by
  unfold Util.rustTrim moveText
  rw [String.toList_ofList, SanProofs.rustTrimChars_id]
  -- `Util.isRustWhitespace` and `Uci.isWhiteSpace` are the same test
  exact Text.hi_not_ws (Text.hi_render h)

theorem uci_smove {b : Board} (hwf : wf b = true) {m : Move} (hm : m ∈ genPseudo b) : m.uci = (smove m).uci := by
  obtain ⟨hs, ht, hp⟩ := GenSpec.gen_bounds hwf hm
  exact C01.uci_agree _ hs ht hp

/-- **a legal move of the rules, written as UCI text, is accepted by `find_uci`** and denotes that move -/
theorem play_legal {b : Board} (hwf : wf b = true) {u : UciMove}
    (hl : toSMove u ∈ Spec.legalMoves (abs b)) :
    ∃ m b', San.findUci b (moveText u) = (.ok m, b') ∧ vis b' = vis b ∧ m ∈ genLegal b ∧ smove m = toSMove u := by
  obtain ⟨m, hm, hmu⟩ := List.mem_map.mp ((Closure.genLegal_eq_rules hwf (toSMove u)).mpr hl)
  have hmu' : smove m = toSMove u := hmu
  have hmp : m ∈ genPseudo b := (List.mem_filter.mp hm).1
  have htxt : m.uci = moveText u := by rw [uci_smove hwf hmp, hmu', toSMove_uci]
  have hok : (San.findUci b (moveText u)).1 = .ok m :=
    (Closure.findUci_ok_iff_legal_wf b hwf (moveText u) m).mpr
      ⟨hm, by rw [← htxt, SanProofs.rustTrim_uci]⟩
  refine ⟨m, (San.findUci b (moveText u)).2, ?_, MoveText.findUci_pure hwf _, hm, hmu'⟩
  rw [← hok]

/-- **a text that is not a legal move of the rules is rejected** -/
theorem play_illegal {b : Board} (hwf : wf b = true) {u : UciMove} (hu : UciGrammar.MoveWf u)
    (hl : toSMove u ∉ Spec.legalMoves (abs b)) : ∃ e b', San.findUci b (moveText u) = (.error e, b') := by
  rcases hf : San.findUci b (moveText u) with ⟨r, b'⟩
  cases r with
  | error e => exact ⟨e, b', rfl⟩
  | ok m =>
    exfalso
    obtain ⟨hm, htxt⟩ := (Closure.findUci_ok_iff_legal_wf b hwf (moveText u) m).mp (by rw [hf])
    rw [rustTrim_moveText u hu] at htxt
    have hmp : m ∈ genPseudo b := (List.mem_filter.mp hm).1
    obtain ⟨hs, ht, -⟩ := GenSpec.gen_bounds hwf hmp
    have e : smove m = toSMove u :=
      C01.uci_injective (a := smove m) (c := toSMove u) ⟨hs, ht⟩ hu (by rw [← uci_smove hwf hmp, htxt, toSMove_uci])
    apply hl
    rw [← e]
    exact smove_legal hwf hmp (List.mem_filter.mp hm).2

/-- the texts of a list of UCI move values, as `App.runPosition` hands them to `set_position_from` -/
def moveTexts (us : List UciMove) : List String := us.map fun m => String.ofList m.render

def applyLine (p : Spec.Pos) (l : List Spec.SMove) : Spec.Pos := l.foldl Spec.apply p

/-- **`set_position_from` follows exactly the legal lines of the rules**: if every move is legal where it is played
(`RulesLine`), the loop ends on a well-formed board (with the remaining clock budget `k`) that stands for the position the
rules Spec reaches, `us.length` plies later; otherwise it returns `none` (the engine keeps its old state) -/
theorem setPosition_go_rules (k : Nat) : ∀ (us : List UciMove) (b : Board) (h : Array Nat) (made : List Move),
    (∀ u ∈ us, UciGrammar.MoveWf u) → Inv (us.length + k) b →
    (RulesLine (abs b) (us.map toSMove) →
      ∃ b' h' mv, setPosition.go b h made (moveTexts us) = some (b', h', mv) ∧ Inv k b' ∧
        abs b' = applyLine (abs b) (us.map toSMove) ∧ mv.length = made.length + us.length ∧
        SearchSim.ply2 b' = SearchSim.ply2 b + us.length) ∧
    (¬ RulesLine (abs b) (us.map toSMove) → setPosition.go b h made (moveTexts us) = none)
  | [], b, h, made, _, hinv => by
    refine ⟨fun _ => ⟨b, h, made.reverse, SearchRep.setPosition_go_nil b h made, ?_, rfl, by simp, rfl⟩, ?_⟩
    · simpa using hinv
    · intro hn; exact absurd trivial hn
  | u :: us, b, h, made, hus, hinv => by
    have hwf := hinv.wf
    have hinv' : Inv (us.length + k + 1) b := by
      have e : (u :: us).length + k = us.length + k + 1 := by simp only [List.length_cons]; omega
      rw [e] at hinv; exact hinv
    show (RulesLine (abs b) (toSMove u :: us.map toSMove) → _) ∧ (¬ RulesLine (abs b) (toSMove u :: us.map toSMove) → _)
    have hcons : moveTexts (u :: us) = moveText u :: moveTexts us := rfl
    rw [hcons, SearchRep.setPosition_go_cons]
    by_cases hl : toSMove u ∈ Spec.legalMoves (abs b)
    · obtain ⟨m, b1, hf, hv, hm, hsm⟩ := play_legal hwf hl
      have hmp : m ∈ genPseudo b := (List.mem_filter.mp hm).1
      have hstep : SearchRep.Step b (make b1 m) := ⟨m, hm, make_congr hv m⟩
      obtain ⟨hinv2, hply⟩ := hstep.inv hinv'
      have habs : abs (make b1 m) = Spec.apply (abs b) (toSMove u) := by
        rw [abs_congr (make_congr hv m), ← hsm]; exact C02.make_eq_apply hwf hmp
      obtain ⟨ih1, ih2⟩ := setPosition_go_rules k us (make b1 m)
        (historySet h (plyClock (make b1 m)) (Zobrist.hash (make b1 m)).toNat) (m :: made)
        (fun x hx => hus x (List.mem_cons_of_mem _ hx)) hinv2
      rw [hf]
      simp only
      rw [habs] at ih1 ih2
      constructor
      · intro hr
        obtain ⟨b', h', mv, e1, e2, e3, e4, e5⟩ := ih1 hr.2
        exact ⟨b', h', mv, e1, e2, e3, by rw [e4]; simp only [List.length_cons]; omega,
          by rw [e5, hply]; simp only [List.length_cons]; omega⟩
      · intro hr
        exact ih2 (fun hr' => hr ⟨hl, hr'⟩)
    · obtain ⟨e, b1, hf⟩ := play_illegal hwf (hus u List.mem_cons_self) hl
      rw [hf]
      exact ⟨fun hr => absurd hr.1 hl, fun _ => rfl⟩

theorem fullmove_of_ply2 {b b' : Board} {n : Nat} (hwf : wf b = true) (hwf' : wf b' = true)
    (h : SearchSim.ply2 b' = SearchSim.ply2 b + n) : b'.fullmove ≤ b.fullmove + n := by
  have t1 : b.turn ≤ 1 ∧ 1 ≤ b.fullmove := by
    have := hwf
    simp only [WF.wf, Bool.and_eq_true, decide_eq_true_eq] at this
    omega
  have t2 : b'.turn ≤ 1 ∧ 1 ≤ b'.fullmove := by
    have := hwf'
    simp only [WF.wf, Bool.and_eq_true, decide_eq_true_eq] at this
    omega
  unfold SearchSim.ply2 at h
  omega

#print axioms uciOf_text
#print axioms render_info
#print axioms render_bestMove
#print axioms play_legal
#print axioms play_illegal
#print axioms setPosition_go_rules

end Inkayaku.EndToEnd
