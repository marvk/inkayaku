import Inkayaku.Model.WF
import Inkayaku.Proofs.BoardCongr
import Inkayaku.Props.C03
/-!
# What the board layer owes the search

`WF.wf` contains the clock bounds `halfmove ≤ 4095` (the 12-bit undo field of the packed move) and `fullmove < 2^31`.
They are not inductive: a quiet move from `halfmove = 4095` leaves the well-formed boards.  The search therefore carries
a budget: `Inv k b` = "`b` is well-formed and stays within the clock bounds for `k` more plies".

* `unmake_make_of_generated`: `unmake ∘ make` restores the visible position for the moves of both generators (from C03).
* `BoardLaws.make_inv`: a generated move that passes `isValid` takes `Inv (k+1)` to `Inv k`; `Search.boardLaws`
  (`Proofs/WfStepProof.lean`) is the instance.
-/
namespace Inkayaku.Search
open Inkayaku.Board Inkayaku.WF Inkayaku.BoardCongr

def Generated (b : Board) (m : Move) : Prop := m ∈ genPseudo b ∨ m ∈ genNonQuiescent b

def Inv (k : Nat) (b : Board) : Prop := wf b = true ∧ b.halfmove + k ≤ 4095 ∧ b.fullmove + k < 2147483648

theorem Inv.wf {k : Nat} {b : Board} (h : Inv k b) : WF.wf b = true := h.1

theorem Inv_mono {k k' : Nat} {b : Board} (hk : k' ≤ k) (h : Inv k b) : Inv k' b :=
  ⟨h.1, by have := h.2.1; omega, by have := h.2.2; omega⟩

theorem Inv_zero (b : Board) : Inv 0 b ↔ WF.wf b = true := by
  constructor
  · exact fun h => h.1
  · intro h
    refine ⟨h, ?_, ?_⟩
    · have := h
      simp only [WF.wf, Bool.and_eq_true, decide_eq_true_eq] at this
      omega
    · have := h
      simp only [WF.wf, Bool.and_eq_true, decide_eq_true_eq] at this
      omega

theorem Inv_congr {k : Nat} {b b' : Board} (h : vis b = vis b') (hi : Inv k b) : Inv k b' := by
  refine ⟨by rw [← wf_congr h]; exact hi.1, ?_, ?_⟩
  · rw [← halfmove_congr h]; exact hi.2.1
  · rw [← fullmove_congr h]; exact hi.2.2

theorem Inv_of_bounds {k : Nat} {b : Board} (hwf : WF.wf b = true) (h1 : b.halfmove + k ≤ 4095)
    (h2 : b.fullmove + k < 2147483648) : Inv k b := ⟨hwf, h1, h2⟩

theorem unmake_make_of_generated (b : Board) (hwf : WF.wf b = true) (m : Move) (hm : Generated b m) :
    vis (unmake (make b m) m) = vis b := by
  rcases hm with hm | hm
  · exact (C03.unmake_make_generated b hwf m hm).1
  · exact (C03.unmake_make_generated_nq b hwf m hm).1

structure BoardLaws : Prop where
  make_inv : ∀ (k : Nat) (b : Board) (m : Move), Inv (k + 1) b → Generated b m → isValid (make b m) = true →
    Inv k (make b m)

end Inkayaku.Search
