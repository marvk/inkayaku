import Inkayaku.Proofs.GenSpecNoisy
import Inkayaku.Proofs.Check
/-!
# Sliders, knights and kings — the generated targets are the targets of the rules

On pairwise disjoint piece words: the attack lookup FROM a piece's square holds `t` iff `Spec.attacksGeom … s t`
(`attacks_iff_geom`, from `Attack.lookup_iff_geom`), "target not in the mover's occupancy" is the Spec's "empty or enemy"
(`at_cases`, `notOwn_iff`), hence `site_step_iff`: a quiet call of a non-pawn piece is a site iff the rules allow the step.
-/
namespace Inkayaku.GenSpec
open Inkayaku.Board Inkayaku.Gen Inkayaku.Bits Inkayaku.Geometry Inkayaku.Attack Inkayaku.Abs
open GenStrong (Attacks fullOcc)

theorem active_eq (b : Board) : b.active = sideOf b b.whiteTurn := rfl

theorem passive_eq (b : Board) : b.passive = sideOf b (!b.whiteTurn) := by
  unfold Board.passive sideOf
  cases b.whiteTurn <;> rfl

theorem whiteToMove_eq (b : Board) : (abs b).whiteToMove = b.whiteTurn := rfl

theorem fullOcc_eq (b : Board) (q : Nat) :
    testU (b.active.full ||| b.passive.full) q = testU (b.white.full ||| b.black.full) q := by
  rw [active_eq, passive_eq]
  exact Check.side_full_occ b b.whiteTurn q

theorem full_iff_kind (s : Side) (t : Nat) :
    testU s.full t = true ↔ ∃ k : Spec.Kind, testU (s.get (kindCode k)) t = true := by
  rw [full_iff]
  simp only [sideWords, List.mem_cons, List.not_mem_nil, or_false, exists_eq_or_imp, exists_eq_left]
  constructor
  · rintro (h | h | h | h | h | h)
    · exact ⟨.pawn, h⟩
    · exact ⟨.knight, h⟩
    · exact ⟨.bishop, h⟩
    · exact ⟨.rook, h⟩
    · exact ⟨.queen, h⟩
    · exact ⟨.king, h⟩
  · rintro ⟨k, h⟩
    cases k <;> simp only [kindCode, Side.get] at h <;> simp [h]

theorem own_iff (b : Board) (hd : Disjoint b) (w : Bool) (t : Nat) (ht : t < 64) :
    testU (sideOf b w).full t = true ↔ ∃ k, (abs b).at t = some ⟨w, k⟩ := by
  rw [full_iff_kind]
  constructor
  · rintro ⟨k, h⟩; exact ⟨k, (at_iff b hd t ht w k).mpr h⟩
  · rintro ⟨k, h⟩; exact ⟨k, (at_iff b hd t ht w k).mp h⟩

theorem full_eq (b : Board) (hd : Disjoint b) (u : Bool) {t : Nat} (ht : t < 64) :
    testU (sideOf b u).full t = ((abs b).at t).any fun pc => pc.white == u := by
  rw [Bool.eq_iff_iff, own_iff b hd u t ht]
  cases (abs b).at t with
  | none => simp
  | some pc => obtain ⟨vw, vk⟩ := pc; simp

/-- empty, own or enemy: the three cases every comparison of a target square with the rules goes through -/
theorem at_cases (b : Board) (hd : Disjoint b) (w : Bool) {t : Nat} (ht : t < 64) :
    ((abs b).at t = none ∧ testU (sideOf b w).full t = false ∧ testU (sideOf b (!w)).full t = false) ∨
    (∃ k, (abs b).at t = some ⟨w, k⟩ ∧ testU (sideOf b w).full t = true ∧ testU (sideOf b (!w)).full t = false) ∨
    (∃ k, (abs b).at t = some ⟨!w, k⟩ ∧ testU (sideOf b w).full t = false ∧ testU (sideOf b (!w)).full t = true) := by
  rw [full_eq b hd w ht, full_eq b hd (!w) ht]
  cases (abs b).at t with
  | none => exact Or.inl ⟨rfl, rfl, rfl⟩
  | some pc => obtain ⟨vw, vk⟩ := pc; cases vw <;> cases w <;> simp

theorem notOwn_iff (b : Board) (hd : Disjoint b) (w : Bool) (t : Nat) (ht : t < 64) :
    notOwn (abs b) w t = !testU (sideOf b w).full t := by
  rw [full_eq b hd w ht, notOwn]
  cases (abs b).at t <;> rfl

theorem free_eq (b : Board) :
    (fun q => !testU (GenStrong.fullOcc b) q) = fun q => ((abs b).at q).isNone := by
  funext q
  show (!testU (b.active.full ||| b.passive.full) q) = _
  rw [fullOcc_eq, ← at_isSome]
  cases (abs b).at q <;> rfl

theorem attacks_iff_geom (b : Board) (k : Spec.Kind) {s t : Nat} (hs : s < 64) (ht : t < 64) :
    Attacks b (kindCode k) s t ↔ Spec.attacksGeom (abs b) k b.whiteTurn s t = true := by
  rw [attacksGeom_eq, ← free_eq]
  exact lookup_iff_geom (GenStrong.fullOcc b) b.whiteTurn k hs ht

theorem Site.piece_inv {b : Board} {src tgt piece : Nat} {castle ep : Bool} {promo epOpp : Nat}
    (h : Site b src tgt piece castle ep promo epOpp) (hp : piece ≠ PAWN) (hc : castle = false) :
    (2 ≤ piece ∧ piece ≤ 6) ∧ testU (b.active.get piece) src = true ∧ Attacks b piece src tgt ∧
      testU b.active.full tgt = false ∧ ep = false ∧ promo = NO_PIECE ∧ epOpp = 0 := by
  cases h with
  | piece hp2 hp6 hs ha ht => exact ⟨⟨hp2, hp6⟩, hs, ha, ht, rfl, rfl, rfl⟩
  | capture => exact absurd rfl hp
  | push => exact absurd rfl hp
  | double => exact absurd rfl hp
  | castle => cases hc

theorem kindCode_range (k : Spec.Kind) (hk : k ≠ .pawn) : 2 ≤ kindCode k ∧ kindCode k ≤ 6 := by
  cases k <;> first | exact absurd rfl hk | decide

theorem site_step_iff {b : Board} (hd : Disjoint b) (k : Spec.Kind) (hk : k ≠ .pawn) (s t : Nat) :
    Site b s t (kindCode k) false false NO_PIECE 0 ↔ Step (abs b) k s t := by
  have hkp : kindCode k ≠ PAWN := by cases k <;> first | exact absurd rfl hk | decide
  unfold Step StepG
  rw [whiteToMove_eq]
  constructor
  · intro h
    obtain ⟨-, hs, ha, hf, -⟩ := h.piece_inv hkp rfl
    have hs64 : s < 64 := testU_lt hs
    have ht64 : t < 64 := ha.tgt_lt
    exact ⟨hs64, ht64, (at_iff b hd s hs64 _ k).mpr hs, (attacks_iff_geom b k hs64 ht64).mp ha,
      by rw [notOwn_iff b hd _ t ht64, ← active_eq]; simpa using hf⟩
  · rintro ⟨hs64, ht64, hat, hg, hn⟩
    rw [notOwn_iff b hd _ t ht64, ← active_eq] at hn
    exact .piece (kindCode_range k hk).1 (kindCode_range k hk).2 ((at_iff b hd s hs64 _ k).mp hat)
      ((attacks_iff_geom b k hs64 ht64).mpr hg) (by simpa using hn)

end Inkayaku.GenSpec
