import Inkayaku.Props.C15
import Inkayaku.Props.C12
/-!
# End-to-end, text half: the LINES a GUI sends

The stdin lines of the end-to-end theorems (`positionLine`, `positionMovesLine`, `goDepthLine`) as plain texts around
`fenText b`, the canonical FEN of a board as the independent printer `Spec/FenText.lean` writes it; what `Uci.parseLine` (C15)
makes of them (`parseLine_positionLine`, `parseLine_positionMovesLine`, `parseLine_goDepthLine`); and `fromFen_fenText`:
reading `fenText b` gives exactly `WF.vis b`.
-/
namespace Inkayaku.EndToEnd
open Inkayaku.Board Inkayaku.FenBoard Inkayaku.FenText Inkayaku.FenRoundtrip
open Inkayaku.Uci Inkayaku.UciGrammar

def fenChars (b : Board) : List Char := printA (absOf b)

def fenText (b : Board) : String := String.ofList (fenChars b)

/-- ` m1 m2 … mn` (every move preceded by one space) -/
def movesTail (ms : List UciMove) : List Char := C15.tailText (ms.map UciMove.render)

def positionLine (b : Board) : String := "position fen " ++ fenText b

def positionMovesLine (b : Board) (ms : List UciMove) : String :=
  "position fen " ++ fenText b ++ " moves" ++ String.ofList (movesTail ms)

def goDepthLine (d : Nat) : String := "go depth " ++ toString d

/-- for a representable board (in particular a legal position) `fenText` is what the engine's own writer prints -/
theorem printFen_fenText {b : Board} (h : Repr b) : printFen b = some (fenText b) :=
  printFen_absOf h

export Inkayaku.FenRoundtrip (eq_vis_of_scratch)

theorem fromFen_fenText {b : Board} (h : Repr b) : fromFenString (fenText b) = .ok (WF.vis b) :=
  fromFen_printA h

theorem fenText_wf {b : Board} (h : Repr b) : (PosSource.fen (fenChars b)).Wf := by
  obtain ⟨_, f, _, hf, _⟩ := C12.fromFen_ok (fromFen_fenText h)
  exact ⟨f, hf⟩

theorem fenChars_ne_startpos (b : Board) : fenChars b ≠ "startpos".toList := by
  intro e
  have := space_mem_printA (absOf b)
  unfold fenChars at e
  rw [e] at this
  revert this; decide

theorem fenString_fenChars (b : Board) : (PosSource.fen (fenChars b)).fenString = fenChars b := by
  show (if fenChars b = "startpos".toList then _ else fenChars b) = _
  rw [if_neg (fenChars_ne_startpos b)]

theorem pad_plain (toks : List Tok) : pad [] [] [] toks = joinSp toks := by
  simp only [pad, List.nil_append, List.append_nil, C15.padBody_nil_gaps]

theorem tailText_words {stop : Option Tok} {s : List Char} (h : TextOk stop s) : C15.tailText (words s) = ' ' :: s := by
  have hn := h.normal
  cases hw : words s with
  | nil => exact absurd hw h.nonempty
  | cons w ws =>
    rw [hw, Text.joinSp_cons] at hn
    rw [Text.tailText_cons, hn]

def positionTokens (b : Board) (kw : Bool) (ms : List UciMove) : List Tok :=
  "position".toList :: ((PosSource.fen (fenChars b)).render ++ renderMoves kw ms)

theorem positionTokens_padOk {b : Board} (h : Repr b) (kw : Bool) {ms : List UciMove} (hms : ∀ m ∈ ms, MoveWf m) :
    PadOk [] [] (positionTokens b kw ms) :=
  C15.padOk_of_tokens (C15.position_tokens (fenText_wf h) kw hms) (by rintro _ ⟨⟩; decide)
    (by intro c hc; cases hc) (by intro c hc; cases hc)

theorem positionTokens_text {b : Board} (h : Repr b) (kw : Bool) (ms : List UciMove) :
    joinSp (positionTokens b kw ms) =
      "position fen ".toList ++ (fenChars b ++ C15.tailText (renderMoves kw ms)) := by
  have hff := C15.fen_fields (fenChars b) (fenText_wf h)
  unfold positionTokens
  rw [Text.joinSp_cons, PosSource.render, List.cons_append, Text.tailText_cons, Text.tailText_append,
    tailText_words hff.1]
  simp

theorem parseTokens_positionTokens {b : Board} (h : Repr b) (kw : Bool) {ms : List UciMove} (hms : ∀ m ∈ ms, MoveWf m) :
    parseTokens (positionTokens b kw ms) = .ok (.positionFrom (fenChars b) ms) := by
  have := C15.parse_render_position (.fen (fenChars b)) kw ms (fenText_wf h) hms
  rw [fenString_fenChars] at this
  exact this

theorem parseLine_positionLine {b : Board} (h : Repr b) :
    parseLine (positionLine b) = .ok (.positionFrom (fenChars b) []) := by
  have hms : ∀ m ∈ ([] : List UciMove), MoveWf m := by intro m hm; cases hm
  rw [C15.parseLine_pad (positionLine b) [] (positionTokens_padOk h false hms) ?_, parseTokens_positionTokens h false hms]
  rw [pad_plain, positionTokens_text h]
  simp [positionLine, fenText, String.toList_append, renderMoves, C15.tailText]

theorem parseLine_positionMovesLine {b : Board} (h : Repr b) {ms : List UciMove} (hms : ∀ m ∈ ms, MoveWf m) :
    parseLine (positionMovesLine b ms) = .ok (.positionFrom (fenChars b) ms) := by
  rw [C15.parseLine_pad (positionMovesLine b ms) [] (positionTokens_padOk h true hms) ?_,
    parseTokens_positionTokens h true hms]
  rw [pad_plain, positionTokens_text h]
  have hr : renderMoves true ms = "moves".toList :: ms.map UciMove.render := by
    unfold renderMoves; rw [if_neg (by simp)]
  rw [hr, Text.tailText_cons]
  simp [positionMovesLine, fenText, String.toList_append, movesTail]

theorem toString_toList (n : Nat) : (toString n).toList = UciGrammar.decimal n := by
  rw [Text.decimal_eq]
  simp [toString, Nat.repr]

theorem parseLine_goDepthLine (d : Nat) (hd : d < 18446744073709551616) :
    parseLine (goDepthLine d) = .ok (.go { depth := some d }) := by
  have hwf : Wf (.go { depth := some d }) := ⟨by simp, by simp, by simpa using hd⟩
  have e : (goDepthLine d).toList = pad [] [] [] (render (.go { depth := some d })) := by
    have e2 : render (.go { depth := some d }) = ["go".toList, "depth".toList, UciGrammar.decimal d] := rfl
    unfold goDepthLine
    rw [pad_plain, e2, String.toList_append, toString_toList]
    simp only [String.reduceToList, joinSp, List.cons_append, List.nil_append]
  unfold parseLine
  rw [e]
  exact C15.parse_line _ hwf trivial [] [] [] (by simp) (by simp)

#print axioms fromFen_fenText
#print axioms parseLine_positionLine
#print axioms parseLine_positionMovesLine
#print axioms parseLine_goDepthLine

/-! non-vacuity: the start position -/
example : Repr startBoard := ⟨by decide, by decide, by decide, by decide, by decide⟩
example : positionLine startBoard = "position fen rnbqkbnr/pppppppp/8/8/8/8/PPPPPPPP/RNBQKBNR w KQkq - 0 1" := by
  decide +kernel
#guard goDepthLine 3 == "go depth 3"
#guard positionMovesLine startBoard [⟨52, 36, none⟩, ⟨12, 28, none⟩] ==
  "position fen rnbqkbnr/pppppppp/8/8/8/8/PPPPPPPP/RNBQKBNR w KQkq - 0 1 moves e2e4 e7e5"

end Inkayaku.EndToEnd
