import Inkayaku.Proofs.SearchBracket
/-!
# The search sees the visible position only

`Eqv s s'`: the states agree in every field except the board, and the boards have the same visible position.
On such states `quiescence`, `negamax`, the move loops, `deepen` and `goCmd` return the same value / output and again
`Eqv` states.  Together with the bracket theorem this is the precise meaning of "a following go searches the same
position as before": the scratch words left behind by an (interrupted) search cannot influence any later search.
-/
namespace Inkayaku.Search
open Inkayaku.Board Inkayaku.Eval Inkayaku.WF Inkayaku.BoardCongr

def Eqv (s s' : St) : Prop := ∃ b', vis b' = vis s.board ∧ s' = { s with board := b' }

theorem Eqv.refl (s : St) : Eqv s s := ⟨s.board, rfl, rfl⟩

theorem Eqv.board {s s' : St} (h : Eqv s s') : vis s'.board = vis s.board := by
  obtain ⟨b', hb, rfl⟩ := h; exact hb

theorem Eqv.setBoard {s s' : St} (h : Eqv s s') {b b' : Board} (hb : vis b' = vis b) :
    Eqv { s with board := b } { s' with board := b' } := by
  obtain ⟨b0, _, rfl⟩ := h
  exact ⟨b', hb, rfl⟩

def Rel2 (r r' : VM × St) : Prop := r'.1 = r.1 ∧ Eqv r.2 r'.2
def Rel3 (r r' : LoopAcc × Bool × St) : Prop := r'.1 = r.1 ∧ r'.2.1 = r.2.1 ∧ Eqv r.2.2 r'.2.2

theorem rel2_ite {c : Prop} [Decidable c] {a a' b b' : VM × St} (h1 : c → Rel2 a a') (h2 : ¬c → Rel2 b b') :
    Rel2 (if c then a else b) (if c then a' else b') := by
  split
  · exact h1 ‹_›
  · exact h2 ‹_›

theorem rel3_ite {c : Prop} [Decidable c] {a a' b b' : LoopAcc × Bool × St} (h1 : c → Rel3 a a') (h2 : ¬c → Rel3 b b') :
    Rel3 (if c then a else b) (if c then a' else b') := by
  split
  · exact h1 ‹_›
  · exact h2 ‹_›

theorem Eqv.map {s s' : St} (h : Eqv s s') (f : St → St) (hf : ∀ (x : St) (b : Board), f { x with board := b } = { f x with board := b })
    (hfb : ∀ x, (f x).board = x.board) : Eqv (f s) (f s') := by
  obtain ⟨b', hb, rfl⟩ := h
  exact ⟨b', by rw [hfb]; exact hb, hf s b'⟩

def QC (fuel : Nat) : Prop := ∀ (s s' : St) (a b : Int), Eqv s s' → Rel2 (quiescence fuel s a b) (quiescence fuel s' a b)

theorem qLoop_congr {fuel : Nat} (hq : QC fuel) :
    ∀ (moves : List Move) (s s' : St) (a b : Int) (bm : Option Move) (bc : Option VM), Eqv s s' →
      Rel2 (quiescenceLoop fuel s moves a b bm bc) (quiescenceLoop fuel s' moves a b bm bc) := by
  intro moves
  induction moves with
  | nil => intro s s' a b bm bc h; rw [quiescenceLoop_nil, quiescenceLoop_nil]; exact ⟨rfl, h⟩
  | cons m rest ih =>
    intro s s' a b bm bc h
    have hb := h.board
    have hmk : vis (make s'.board m) = vis (make s.board m) := make_congr hb m
    have hv : isValid (make s'.board m) = isValid (make s.board m) := isValid_congr hmk
    rw [quiescenceLoop_cons, quiescenceLoop_cons, hv]
    by_cases hc : (!isValid (make s.board m)) = true
    · rw [if_pos hc, if_pos hc]
      exact ih _ _ a b bm bc (h.setBoard (unmake_congr hmk m))
    · rw [if_neg hc, if_neg hc]
      have h1 : Eqv { s with board := make s.board m, quiescenceNodes := s.quiescenceNodes + 1 }
          { s' with board := make s'.board m, quiescenceNodes := s'.quiescenceNodes + 1 } := by
        obtain ⟨b0, _, rfl⟩ := h
        exact ⟨_, hmk, rfl⟩
      obtain ⟨hr1, hr2⟩ := hq _ _ (-b) (-a) h1
      simp only
      rw [hr1]
      have h3 := hr2.setBoard (unmake_congr hr2.board m)
      split
      · exact ⟨rfl, h3⟩
      · split
        · exact ih _ _ _ b _ _ h3
        · exact ih _ _ a b bm bc h3

theorem quiescence_congr : ∀ fuel, QC fuel := by
  intro fuel
  induction fuel with
  | zero => intro s s' a b h; rw [quiescence_zero, quiescence_zero]; exact ⟨rfl, h⟩
  | succ fuel ih =>
    intro s s' a b h
    have hb := h.board
    rw [quiescence_succ, quiescence_succ, evalFor_congr hb, turn_congr hb, genNonQuiescent_congr hb]
    split
    · exact ⟨rfl, h⟩
    · exact qLoop_congr ih _ s s' _ b none none h

theorem enter_setBoard (s : St) (b' : Board) (h : UInt64) (hb : vis b' = vis s.board) :
    enter { s with board := b' } h = { enter s h with board := b' } := by
  unfold enter
  rw [pollStep_setBoard]
  simp only
  rw [plyClock_congr hb, pollStep_board]

theorem isRep_eqv {s s' : St} (h : Eqv s s') (ply : Nat) : isRep s' ply = isRep s ply := by
  obtain ⟨b', hb, rfl⟩ := h
  unfold isRep
  simp only
  rw [plyClock_congr hb, halfmove_congr hb]

theorem horizon_congr (fuel : Nat) (c : Nat) {s s' : St} (h : Eqv s s') (buf : List Move) (a b : Int) :
    Rel2 (horizon fuel c s buf a b) (horizon fuel c s' buf a b) := by
  unfold horizon
  simp only
  rw [isAnyMoveLegal_congr h.board, evalFor_congr h.board]
  split
  · exact quiescence_congr fuel s s' a b h
  · exact ⟨rfl, h⟩

theorem finish_congr (c : Nat) (a b : Int) (hash : UInt64) (rem : Nat) {x x' : LoopAcc × Bool × St} (h : Rel3 x x') :
    Rel2 (finish c a b hash rem x) (finish c a b hash rem x') := by
  obtain ⟨acc, ab, s⟩ := x
  obtain ⟨acc', ab', s'⟩ := x'
  obtain ⟨h1, h2, h3⟩ := h
  simp only at h1 h2 h3
  subst h1 h2
  unfold finish
  simp only
  rw [evalFor_congr h3.board]
  split
  · exact ⟨rfl, h3⟩
  · split
    · exact ⟨rfl, h3⟩
    · split
      · refine ⟨rfl, ?_⟩
        obtain ⟨b', hb, rfl⟩ := h3
        exact ⟨b', hb, rfl⟩
      · exact ⟨rfl, h3⟩

def NC (fuel : Nat) : Prop :=
  ∀ (s s' : St) (ply maxPly : Nat) (a b : Int) (isPv : Bool) (h ph : UInt64), Eqv s s' →
    Rel2 (negamax fuel s ply maxPly a b isPv h ph) (negamax fuel s' ply maxPly a b isPv h ph)

theorem nLoop_congr {fuel : Nat} (hn : NC fuel) :
    ∀ (moves : List Move) (s s' : St) (ply maxPly : Nat) (beta : Int) (isPv : Bool) (pvMove : Option Move) (h ph : UInt64)
      (rem : Nat) (acc : LoopAcc), Eqv s s' →
      Rel3 (negamaxLoop fuel s moves ply maxPly beta isPv pvMove h ph rem acc)
        (negamaxLoop fuel s' moves ply maxPly beta isPv pvMove h ph rem acc) := by
  intro moves
  induction moves with
  | nil =>
    intro s s' ply maxPly beta isPv pvMove h ph rem acc he
    rw [negamaxLoop_nil, negamaxLoop_nil]; exact ⟨rfl, rfl, he⟩
  | cons m rest ih =>
    intro s s' ply maxPly beta isPv pvMove h ph rem acc he
    have hb := he.board
    have hmk : vis (make s'.board m) = vis (make s.board m) := make_congr hb m
    have hv : isValid (make s'.board m) = isValid (make s.board m) := isValid_congr hmk
    rw [negamaxLoop_cons, negamaxLoop_cons, hv]
    by_cases hc : (!isValid (make s.board m)) = true
    · rw [if_pos hc, if_pos hc]
      exact ih _ _ ply maxPly beta isPv pvMove h ph rem acc (he.setBoard (unmake_congr hmk m))
    · rw [if_neg hc, if_neg hc]
      have hr := hn _ _ (ply + 1) maxPly (-beta) (-acc.alpha) (childPvOf isPv pvMove m)
        (h ^^^ (Zobrist.xorOf m.f).1) (ph ^^^ (Zobrist.xorOf m.f).2) (he.setBoard hmk)
      simp only
      generalize negamax fuel { s with board := make s.board m } (ply + 1) maxPly (-beta) (-acc.alpha)
        (childPvOf isPv pvMove m) (h ^^^ (Zobrist.xorOf m.f).1) (ph ^^^ (Zobrist.xorOf m.f).2) = r at hr ⊢
      generalize negamax fuel { s' with board := make s'.board m } (ply + 1) maxPly (-beta) (-acc.alpha)
        (childPvOf isPv pvMove m) (h ^^^ (Zobrist.xorOf m.f).1) (ph ^^^ (Zobrist.xorOf m.f).2) = r' at hr ⊢
      obtain ⟨c, st⟩ := r
      obtain ⟨c', st'⟩ := r'
      obtain ⟨hr1, hr2⟩ := hr
      simp only at hr1 hr2 ⊢
      subst hr1
      have hstop : st'.stop = st.stop := by
        obtain ⟨b0, _, h0⟩ := hr2
        rw [h0]
      have h3 : Eqv { st with board := unmake st.board m } { st' with board := unmake st'.board m } :=
        hr2.setBoard (unmake_congr hr2.board m)
      by_cases hst : st.stop = true
      · rw [if_pos hst, if_pos (hstop.trans hst)]
        exact ⟨rfl, rfl, h3⟩
      · rw [if_neg hst, if_neg (show ¬ st'.stop = true from by rw [hstop]; exact hst)]
        apply rel3_ite
        · intro _
          refine ⟨rfl, rfl, ?_⟩
          have hk : st'.killers = st.killers := by
            obtain ⟨b0, _, h0⟩ := hr2
            rw [h0]
          rw [show ({ st' with board := unmake st'.board m } : St).killers = st.killers from hk]
          exact h3.map (fun x => { x with killers := killerPut st.killers rem m }) (fun _ _ => rfl) (fun _ => rfl)
        · intro _
          exact ih _ _ ply maxPly beta isPv pvMove h ph rem _ h3

theorem negamax_congr : ∀ fuel, NC fuel := by
  intro fuel
  induction fuel with
  | zero => intro s s' ply maxPly a b isPv h ph he; rw [negamax_zero, negamax_zero]; exact ⟨rfl, he⟩
  | succ fuel ih =>
    intro s s' ply maxPly a b isPv h ph he
    obtain ⟨b', hb, rfl⟩ := he
    have he3 : Eqv (enter s h) (enter { s with board := b' } h) :=
      ⟨b', by rw [enter_board]; exact hb, enter_setBoard s b' h hb⟩
    have htt : (enter { s with board := b' } h).tt = (enter s h).tt := by rw [enter_setBoard s b' h hb]
    have hk : (enter { s with board := b' } h).killers = (enter s h).killers := by rw [enter_setBoard s b' h hb]
    have hpv : ∀ isPv ply, pvMoveOf (enter { s with board := b' } h) isPv ply = pvMoveOf (enter s h) isPv ply := by
      intro isPv ply; rw [enter_setBoard s b' h hb]; rfl
    have hbuf : ∀ ply, rootBuffer (enter { s with board := b' } h) ply = rootBuffer (enter s h) ply := by
      intro ply
      rw [enter_setBoard s b' h hb]
      exact (rootBuffer_vis (s := enter s h) (b0 := b') (by rw [enter_board]; exact hb.symm) ply).symm
    rw [negamax_succ, negamax_succ, timedOut_setBoard s b', pollStep_setBoard s b']
    apply rel2_ite
    · intro _
      exact ⟨rfl, (Eqv.refl (pollStep s)).setBoard (b := (pollStep s).board) (b' := b')
        (by rw [pollStep_board]; exact hb) |>.map (fun x => { x with stop := true }) (fun _ _ => rfl) (fun _ => rfl)⟩
    · intro _
      simp only
      rw [isRep_eqv he3, htt, hbuf, hk, hpv]
      apply rel2_ite
      · intro _; exact ⟨rfl, he3⟩
      · intro _
        generalize probe ((enter s h).tt.get? h) (maxPly - ply) a b = pr
        obtain ⟨o, al, be⟩ := pr
        cases o with
        | some r => exact ⟨rfl, he3⟩
        | none =>
          simp only
          apply rel2_ite
          · intro _; exact ⟨rfl, he3⟩
          · intro _
            apply rel2_ite
            · intro _
              show Rel2 (horizon fuel s.board.turn _ _ _ _) (horizon fuel b'.turn _ _ _ _)
              rw [turn_congr hb]
              exact horizon_congr fuel _ he3 _ _ _
            · intro _
              show Rel2 (finish s.board.turn _ _ _ _ _) (finish b'.turn _ _ _ _ _)
              rw [turn_congr hb]
              exact finish_congr _ _ _ _ _ (nLoop_congr ih _ _ _ _ _ _ _ _ _ _ _ _ he3)

theorem Eqv.fields {s s' : St} (h : Eqv s s') :
    s'.stop = s.stop ∧ s'.pv = s.pv ∧ s'.out = s.out ∧ s'.elapsedNs = s.elapsedNs ∧ s'.totalNodes = s.totalNodes := by
  obtain ⟨b', _, rfl⟩ := h
  exact ⟨rfl, rfl, rfl, rfl, rfl⟩

theorem rootSearch_congr {s s' : St} (h : Eqv s s') (d : Nat) : Rel2 (rootSearch s d) (rootSearch s' d) := by
  unfold rootSearch
  rw [h.fields.2.1, hash_congr h.board, pawnHash_congr h.board]
  exact negamax_congr _ s s' 0 d _ _ _ _ _ h

theorem iterAborted_congr {r r' : VM × St} (h : Rel2 r r') : iterAborted r' = iterAborted r := by
  unfold iterAborted
  rw [h.1, h.2.fields.1]

theorem iterState_congr {r r' : VM × St} (h : Rel2 r r') (d : Nat) (sc : Option Score) (u : Option (List Move)) :
    Eqv (iterState r d sc u) (iterState r' d sc u) := by
  unfold iterState
  rw [iterAborted_congr h, h.1, h.2.fields.2.2.2.1, h.2.fields.2.2.2.2, scoreFromValue_congr h.2.board]
  obtain ⟨c, st⟩ := r
  obtain ⟨c', st'⟩ := r'
  obtain ⟨h1, b', hb, h2⟩ := h
  simp only at h1 h2 hb ⊢
  subst h1 h2
  split
  · exact ⟨b', hb, rfl⟩
  · exact ⟨b', hb, rfl⟩

theorem deepen_congr (n : Nat) {s s' : St} (h : Eqv s s') (d mt : Nat) (best : Option VM) (u : Option (List Move))
    (sc : Option Score) :
    (deepen n s' d mt best u sc).1 = (deepen n s d mt best u sc).1 ∧
    Eqv (deepen n s d mt best u sc).2 (deepen n s' d mt best u sc).2 := by
  induction n generalizing s s' d best u sc with
  | zero => rw [deepen_zero, deepen_zero]; exact ⟨rfl, h⟩
  | succ n ih =>
    have hr := rootSearch_congr h d
    have hst := iterState_congr hr d sc u
    rw [deepen_succ, deepen_succ]
    simp only
    rw [iterAborted_congr hr, hr.1, hr.2.fields.2.2.2.1, scoreFromValue_congr hr.2.board]
    split
    · exact ⟨rfl, hst⟩
    · split
      · exact ⟨rfl, hst⟩
      · exact ih hst _ _ _ _

theorem continuePv_setBoard (s : St) (b' : Board) : continuePv { s with board := b' } = { continuePv s with board := b' } := by
  unfold continuePv
  simp only
  split
  · split
    · split
      · split <;> rfl
      · rfl
    · rfl
  · rfl

theorem maxThinkingNs_setBoard (s : St) (b' : Board) (hb : b'.turn = s.board.turn) :
    maxThinkingNs { s with board := b' } = maxThinkingNs s := by
  unfold maxThinkingNs
  simp only
  rw [hb]

theorem goTail_setBoard (s : St) (b' : Board) (hb : b'.turn = s.board.turn) :
    goTail { s with board := b' } = { goTail s with board := b' } := by
  unfold goTail
  rw [continuePv_setBoard]
  have hm : maxThinkingNs { continuePv s with board := b' } = maxThinkingNs (continuePv s) :=
    maxThinkingNs_setBoard (continuePv s) b' (by rw [continuePv_board]; exact hb)
  simp only
  split
  · rw [hm]
  · rfl

theorem goHead_setBoard (s : St) (b' : Board) (g : GoParams) :
    goHead { s with board := b' } g = { goHead s g with board := b' } := by
  unfold goHead
  cases s.resetNext <;> rfl

theorem goHead_board (s : St) (g : GoParams) : (goHead s g).board = s.board := by
  obtain ⟨k, h⟩ := goHead_eq s g; rw [h]

theorem goPrep_eqv {s s' : St} (h : Eqv s s') (g : GoParams) : Eqv (goPrep s g) (goPrep s' g) := by
  obtain ⟨b', hb, rfl⟩ := h
  refine ⟨b', by rw [goPrep_board]; exact hb, ?_⟩
  rw [goPrep_split, goPrep_split, goHead_setBoard, goTail_setBoard (goHead s g) b' (by rw [goHead_board]; exact turn_congr hb)]

theorem goMaxThinking_eqv {s s' : St} (h : Eqv s s') : goMaxThinking s' = goMaxThinking s := by
  obtain ⟨b', _, rfl⟩ := h; rfl

theorem goCmd_congr {s s' : St} (h : Eqv s s') (g : GoParams) (maxIter : Nat) :
    (goCmd s' g maxIter).out = (goCmd s g maxIter).out ∧ Eqv (goCmd s g maxIter) (goCmd s' g maxIter) := by
  have hp := goPrep_eqv h g
  obtain ⟨h1, h2⟩ := deepen_congr (goIters g maxIter) hp 1 (goMaxThinking (goPrep s g)) none none none
  have hd1 : (goDeepen s' g maxIter).1 = (goDeepen s g maxIter).1 := by
    unfold goDeepen; rw [goMaxThinking_eqv hp]; exact h1
  have hd2 : Eqv (goDeepen s g maxIter).2 (goDeepen s' g maxIter).2 := by
    unfold goDeepen; rw [goMaxThinking_eqv hp]; exact h2
  have hpd : ponderOf (goDeepen s' g maxIter).1 (goDeepen s' g maxIter).2 =
      ponderOf (goDeepen s g maxIter).1 (goDeepen s g maxIter).2 := by
    unfold ponderOf; rw [hd1, hd2.fields.2.1]
  rw [goCmd_eq, goCmd_eq, hpd, hd1]
  refine ⟨?_, ?_⟩
  · show _ :: (goDeepen s' g maxIter).2.out = _ :: (goDeepen s g maxIter).2.out
    rw [hd2.fields.2.2.1]
  · obtain ⟨b', hb, h0⟩ := hd2
    rw [h0]
    exact ⟨b', hb, rfl⟩

end Inkayaku.Search
