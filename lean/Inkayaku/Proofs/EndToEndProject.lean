import Inkayaku.Proofs.EndToEndSearch
import Inkayaku.Model.AppOps
/-!
# End-to-end, projection half: the run-independent part of an `info` line

The `app` driver op compares the stdout of the real binary and of the process model after a projection that removes what
depends on the run (`time`, `nodes`, `hashfull`, `nps`, `string …`): `AppOps.projectLine`, written with `String.splitOn` and
`String.intercalate`.  `projectChars` is the same function on character lists (`FenSyntax.splitOnChar ' '`, `Console.joinSp`);
`project_infoText` computes it on the printed line of every `Info` value that reports a depth: it is the line of the same value
without those fields (`erase`), because `projectTokens` treats the line one `append_maybe` segment at a time (`pt_segs`).  For the
iteration info of the search:

    info depth D [time T] nodes N pv m1 … mk score S hashfull H nps P [string …]   ↦   info depth D pv m1 … mk score S

TARGET (not proved):

    theorem projectLine_eq (l : String) : AppOps.projectLine l = String.ofList (projectChars l.toList)

for every string `l` (a theory of `String.splitOn` / `String.intercalate` over byte positions is missing); the `#guard`s at the
end evaluate it on printed lines, periodic infos, non-info lines and degenerate texts, and `Props/EndToEnd.lean` on the lines
of the example scripts.
-/
namespace Inkayaku.EndToEnd
open Inkayaku.FenSyntax (splitOnChar)
open Inkayaku.Console (natText intText joinSp)
open Inkayaku.Uci (UciMove)
open Inkayaku.C16Console (scoreToks MoveOk)

/-- the fields dropped together with their value -/
def dropKeys : List (List Char) := ["time".toList, "nodes".toList, "hashfull".toList, "nps".toList]

/-- `AppOps.projectInfo` on character tokens -/
def projectTokens : List (List Char) → List (List Char)
  | [] => []
  | [t] => if t = "string".toList then [] else [t]
  | k :: v :: rest =>
    if k = "string".toList then []
    else if k ∈ dropKeys then projectTokens rest
    else k :: projectTokens (v :: rest)
termination_by l => l.length

/-- `AppOps.projectLine` on characters -/
def projectChars (line : List Char) : List Char :=
  match splitOnChar ' ' line with
  | t :: rest =>
    if t = "info".toList then
      let kept := projectTokens rest
      if kept.head? = some "depth".toList then joinSp ("info".toList :: kept) else "info poll".toList
    else line
  | [] => line

open Inkayaku.C16Console (infoSegs segFields)
open Inkayaku.Console (movesText)
open Inkayaku.Uci (Tok)

def Kept (w : List Char) : Prop := w ≠ "string".toList ∧ w ∉ dropKeys

instance (w : List Char) : Decidable (Kept w) := by unfold Kept; infer_instance

theorem pt_nil : projectTokens [] = [] := by rw [projectTokens]

theorem pt_keep {k : List Char} (hk : Kept k) (rest : List (List Char)) :
    projectTokens (k :: rest) = k :: projectTokens rest := by
  cases rest with
  | nil => rw [pt_nil, projectTokens, if_neg hk.1]
  | cons v rest => rw [projectTokens, if_neg hk.1, if_neg hk.2]

theorem pt_drop {k : List Char} (hk : k ∈ dropKeys) (v : List Char) (rest : List (List Char)) :
    projectTokens (k :: v :: rest) = projectTokens rest := by
  have hs : k ≠ "string".toList := by
    intro e; subst e; revert hk; decide
  rw [projectTokens, if_neg hs, if_pos hk]

theorem pt_string (rest : List (List Char)) : projectTokens ("string".toList :: rest) = [] := by
  cases rest with
  | nil => rw [projectTokens, if_pos rfl]
  | cons v rest => rw [projectTokens, if_pos rfl]

theorem pt_keep_list {ws : List (List Char)} (h : ∀ w ∈ ws, Kept w) (rest : List (List Char)) :
    projectTokens (ws ++ rest) = ws ++ projectTokens rest := by
  induction ws with
  | nil => rfl
  | cons w ws ih =>
    rw [List.cons_append, pt_keep (h w (by simp)), ih (fun x hx => h x (by simp [hx]))]; rfl

theorem keyword_head : ∀ k ∈ "string".toList :: dropKeys, ∀ c, k.head? = some c → UciOut.isDigit c = false ∧ c ≠ '-' := by
  decide

theorem kept_of_head {w : List Char} {c : Char} (h : w.head? = some c) (hc : UciOut.isDigit c = true ∨ c = '-') :
    Kept w := by
  have key : ∀ k ∈ "string".toList :: dropKeys, w ≠ k := by
    intro k hk e
    subst e
    obtain ⟨h1, h2⟩ := keyword_head _ hk c h
    rcases hc with hc | hc
    · rw [h1] at hc; cases hc
    · exact h2 hc
  exact ⟨key _ (by simp), fun hm => key w (List.mem_cons_of_mem _ hm) rfl⟩

theorem natText_head (n : Nat) : ∃ c, (natText n).head? = some c ∧ UciOut.isDigit c = true := by
  obtain ⟨h1, h2⟩ := C16Console.natText_digits n
  cases h : natText n with
  | nil => exact absurd h h1
  | cons c r =>
    rw [h] at h2
    simp only [List.all_cons, Bool.and_eq_true] at h2
    exact ⟨c, rfl, h2.1⟩

theorem kept_natText (n : Nat) : Kept (natText n) := by
  obtain ⟨c, h1, h2⟩ := natText_head n
  exact kept_of_head h1 (Or.inl h2)

theorem kept_intText (v : Int) : Kept (intText v) := by
  unfold intText
  split
  · exact kept_of_head (c := '-') rfl (Or.inr rfl)
  · exact kept_natText _

/-- UCI move texts are plain tokens: their second character is a rank digit, that of a keyword is a letter -/
theorem kept_render {m : UciMove} (h : MoveOk m) : Kept m.render := by
  have key : ∀ k ∈ "string".toList :: dropKeys, ∀ y, k[1]? = some y → UciOut.isRank y = false := by decide
  have hne : ∀ k ∈ "string".toList :: dropKeys, m.render ≠ k := by
    intro k hk e
    have := key k hk (Char.ofNat (56 - m.source / 8)) (by rw [← e]; rfl)
    rw [(C16Console.sq_ok h.1).2] at this
    cases this
  exact ⟨hne _ (by simp), fun hm => hne _ (List.mem_cons_of_mem _ hm) rfl⟩

theorem kept_movesText {ms : List UciMove} (h : ∀ m ∈ ms, MoveOk m) : ∀ w ∈ splitOnChar ' ' (movesText ms), Kept w := by
  cases ms with
  | nil => decide
  | cons m ms =>
    rw [C16Console.split_movesText (by simp) h]
    intro w hw
    obtain ⟨x, hx, rfl⟩ := List.mem_map.mp hw
    exact kept_render (h x hx)

theorem kept_scoreText (sc : Console.Score) : ∀ w ∈ splitOnChar ' ' (Console.scoreText sc), Kept w := by
  rw [C16Console.split_scoreText]
  cases sc with
  | cp v => simp only [scoreToks, List.forall_mem_cons]; exact ⟨by decide, kept_intText v, fun _ h => nomatch h⟩
  | mate v => simp only [scoreToks, List.forall_mem_cons]; exact ⟨by decide, kept_intText v, fun _ h => nomatch h⟩
  | cpBounded v b =>
    simp only [scoreToks, List.forall_mem_cons]
    exact ⟨by decide, kept_intText v, by cases b <;> decide, fun _ h => nomatch h⟩

/-- a segment `projectTokens` handles as a unit: a dropped key with a value of one field, or a kept key whose value fields
are kept tokens -/
def SegOk : Tok × Option (List Char) → Prop
  | (_, none) => True
  | (k, some v) => (k ∈ dropKeys ∧ ∃ w, splitOnChar ' ' v = [w]) ∨ (Kept k ∧ ∀ w ∈ splitOnChar ' ' v, Kept w)

def eraseSeg (p : Tok × Option (List Char)) : Tok × Option (List Char) := if p.1 ∈ dropKeys then (p.1, none) else p

theorem eraseSeg_drop {k : Tok} (h : k ∈ dropKeys) (o : Option (List Char)) : eraseSeg (k, o) = (k, none) := if_pos h

theorem eraseSeg_kept {k : Tok} (h : Kept k) (o : Option (List Char)) : eraseSeg (k, o) = (k, o) := if_neg h.2

theorem pt_segs : ∀ (segs : List (Tok × Option (List Char))), (∀ p ∈ segs, SegOk p) → ∀ rest : List Tok,
    projectTokens (segs.flatMap segFields ++ rest) = (segs.map eraseSeg).flatMap segFields ++ projectTokens rest
  | [], _, _ => rfl
  | (k, none) :: segs, h, rest => by
    have e : segFields (eraseSeg (k, none)) = [] := by unfold eraseSeg; split <;> rfl
    rw [List.map_cons, List.flatMap_cons, List.flatMap_cons, e]
    exact pt_segs segs (fun p hp => h p (List.mem_cons_of_mem _ hp)) rest
  | (k, some v) :: segs, h, rest => by
    have ih := pt_segs segs (fun p hp => h p (List.mem_cons_of_mem _ hp)) rest
    rw [List.map_cons, List.flatMap_cons, List.flatMap_cons, List.append_assoc, List.append_assoc]
    rcases h _ List.mem_cons_self with ⟨hk, w, hw⟩ | ⟨hk, hv⟩
    · rw [eraseSeg, if_pos hk]
      show projectTokens (k :: (splitOnChar ' ' v ++ _)) = _
      rw [hw, List.cons_append, List.nil_append, pt_drop hk, ih]; rfl
    · rw [eraseSeg, if_neg hk.2]
      show projectTokens (k :: (splitOnChar ' ' v ++ _)) = k :: (splitOnChar ' ' v ++ _)
      rw [pt_keep hk, pt_keep_list hv, ih]

theorem segOk_nat {k : Tok} (hk : k ∈ dropKeys ∨ Kept k) (o : Option Nat) : SegOk (k, o.map natText) := by
  cases o with
  | none => trivial
  | some n =>
    show _ ∨ _
    rw [C16Console.split_natText]
    exact hk.imp (fun h => ⟨h, _, rfl⟩) (fun h => ⟨h, by simpa using kept_natText n⟩)

theorem segOk_kept {k : Tok} (hk : Kept k) {α : Type} (f : α → List Char) (o : Option α)
    (h : ∀ x, o = some x → ∀ w ∈ splitOnChar ' ' (f x), Kept w) : SegOk (k, o.map f) := by
  cases o with
  | none => trivial
  | some x => exact Or.inr ⟨hk, h x rfl⟩

/-- the keys of `ConsoleUciTx::info` before `string`, in the order of the printer: which are kept, which are dropped -/
theorem infoKeys_class :
    Kept "depth".toList ∧ Kept "seldepth".toList ∧ "time".toList ∈ dropKeys ∧ "nodes".toList ∈ dropKeys ∧ Kept "pv".toList ∧
    Kept "multipv".toList ∧ Kept "score".toList ∧ Kept "currmove".toList ∧ Kept "currmovenumber".toList ∧
    "hashfull".toList ∈ dropKeys ∧ "nps".toList ∈ dropKeys ∧ Kept "tbhits".toList ∧ Kept "sbhits".toList ∧
    Kept "cpuload".toList ∧ Kept "refutation".toList ∧ Kept "currline".toList := by
  decide +kernel

def erase (i : Console.Info) : Console.Info :=
  { i with time := none, nodes := none, hashfull := none, nps := none, string := none }

theorem project_infoText {i : Console.Info} (hm : ∀ m ∈ C16Console.movesOf (.info i), MoveOk m) {d : Nat}
    (hd : i.depth = some d) : projectChars (Console.infoText i) = Console.infoText (erase i) := by
  have hmv : ∀ (o : Option (List UciMove)), (∀ ms, o = some ms → ∀ m ∈ ms, m ∈ C16Console.movesOf (.info i)) →
      ∀ {key}, Kept key → SegOk (key, o.map movesText) :=
    fun o ho _ hk => segOk_kept hk movesText o (fun x e => kept_movesText (fun m hmm => hm m (ho x e m hmm)))
  -- the 16 segments before `string`, in their order
  obtain ⟨kDepth, kSeldepth, dTime, dNodes, kPv, kMultipv, kScore, kCurrmove, kCurrmovenumber, dHashfull, dNps, kTbhits, kSbhits,
    kCpuload, kRefutation, kCurrline⟩ := infoKeys_class
  have hsegs : ∀ p ∈ (infoSegs i).dropLast, SegOk p := by
    simp only [infoSegs, List.dropLast, List.forall_mem_cons]
    exact ⟨segOk_nat (.inr kDepth) _, segOk_nat (.inr kSeldepth) _, segOk_nat (.inl dTime) _, segOk_nat (.inl dNodes) _,
      hmv i.pv (fun ms e m hmm => by simp [C16Console.movesOf, e, C16Console.optMoves, hmm]) kPv,
      segOk_nat (.inr kMultipv) _, segOk_kept kScore _ _ (fun x _ => kept_scoreText x),
      segOk_kept kCurrmove UciMove.render _ (fun x e => by
        rw [C16Console.split_render (hm x (by simp [C16Console.movesOf, e]))]
        simpa using kept_render (hm x (by simp [C16Console.movesOf, e]))),
      segOk_nat (.inr kCurrmovenumber) _, segOk_nat (.inl dHashfull) _, segOk_nat (.inl dNps) _,
      segOk_nat (.inr kTbhits) _, segOk_nat (.inr kSbhits) _, segOk_nat (.inr kCpuload) _,
      hmv i.refutation (fun ms e m hmm => by simp [C16Console.movesOf, e, C16Console.optMoves, hmm]) kRefutation,
      segOk_kept kCurrline Console.currentLineText _ (fun x e => by
        rw [C16Console.split_currentLineText, List.forall_mem_cons]
        exact ⟨kept_natText _,
          kept_movesText (fun m hmm => hm m (by simp [C16Console.movesOf, e, C16Console.optMoves, hmm]))⟩),
      fun _ h => nomatch h⟩
  have hstr : projectTokens (segFields ("string".toList, i.string)) = [] := by
    cases i.string with
    | none => exact pt_nil
    | some s => exact pt_string _
  have hsplit : infoSegs i = (infoSegs i).dropLast ++ [("string".toList, i.string)] := rfl
  have herase : ((infoSegs i).dropLast.map eraseSeg).flatMap segFields = (infoSegs (erase i)).flatMap segFields := by
    simp only [infoSegs, List.dropLast, List.map_cons, List.map_nil, eraseSeg_drop dTime, eraseSeg_drop dNodes,
      eraseSeg_drop dHashfull, eraseSeg_drop dNps, eraseSeg_kept kDepth, eraseSeg_kept kSeldepth, eraseSeg_kept kPv,
      eraseSeg_kept kMultipv, eraseSeg_kept kScore, eraseSeg_kept kCurrmove, eraseSeg_kept kCurrmovenumber,
      eraseSeg_kept kTbhits, eraseSeg_kept kSbhits, eraseSeg_kept kCpuload, eraseSeg_kept kRefutation, eraseSeg_kept kCurrline]
    rfl
  have hh : ((infoSegs (erase i)).flatMap segFields).head? = some "depth".toList := by
    simp [infoSegs, erase, hd, segFields]
  unfold projectChars
  rw [C16Console.split_infoText]
  simp only [if_true]
  rw [hsplit, List.flatMap_append, List.flatMap_singleton, pt_segs _ hsegs, hstr, List.append_nil, herase, if_pos hh,
    ← C16Console.split_infoText, Text.console_joinSp, Text.joinSp_split]

/-! ## agreement with `AppOps.projectLine` on examples (the TARGET of the header, evaluated) -/

def projAgree (l : String) : Bool := AppOps.projectLine l == String.ofList (projectChars l.toList)

#guard projAgree "info depth 2 time 0 nodes 181 pv b8c6 b1c3 score cp -40 hashfull 0 nps 766358"
#guard projAgree "info depth 1 time 0 nodes 21 pv b8c6 score cp 10 hashfull 0 nps 986146 string tphitrate 0 nrate 1 qrate 0"
#guard projAgree "info time 12 nodes 100000 hashfull 3 nps 7000000"
#guard projAgree "info depth 0 time 0 nodes 1 hashfull 0 nps 0"
#guard projAgree "bestmove b8c6 ponder b1c3"
#guard projAgree "info depth 3 time 1 nodes 9 pv e7e8q score mate 1 hashfull 0 nps 0"
#guard projAgree "" && projAgree "info" && projAgree "info " && projAgree " info depth 1" && projAgree "info  depth 1"
#guard projAgree "info depth" && projAgree "info depth 1 string" && projAgree "info string depth 1" && projAgree "info nps"
#guard projAgree "info depth 1 time" && projAgree "info time depth 1 2" && projAgree "infodepth 1" && projAgree "readyok"
#guard String.ofList (projectChars "info depth 2 time 0 nodes 181 pv b8c6 b1c3 score cp -40 hashfull 0 nps 7".toList) ==
  "info depth 2 pv b8c6 b1c3 score cp -40"

#print axioms project_infoText

end Inkayaku.EndToEnd
