import Inkayaku.Proofs.MakeSides
import Inkayaku.Model.Eval
import Inkayaku.Model.Zobrist
/-!
# The board functions used by the search depend on the visible position only (H3 of C09)

`WF.vis b` is `b` without the two scratch occupancy words (`occupancy[NO_PIECE]` of either side) that `make`/`unmake`
scribble on.  Every board function the search thread calls reads the scratch word only inside `Side.get … 0` in
`make`/`unmake`, where the value flows back into the scratch word.  Hence

* `genPseudo`, `genNonQuiescent`, `isValid`, `wf`, `evaluate`, `Zobrist.hash`, `Zobrist.pawnHash`, `plyClock`, `turn`,
  `halfmove` agree on boards with the same visible position (`*_congr`),
* `make` and `unmake` map boards with the same visible position to boards with the same visible position.
-/
namespace Inkayaku.BoardCongr
open Inkayaku.Board Inkayaku.WF

theorem congr_of_vis {α : Sort _} {F : Board → α} (h : ∀ b, F (vis b) = F b) {b b' : Board} (e : vis b = vis b') :
    F b = F b' := by
  rw [← h b, e, h]

theorem mkMove_vis (b : Board) : mkMove (vis b) = mkMove b := by
  obtain ⟨⟨a0, a1, a2, a3, a4, a5, a6, a7, a8⟩, ⟨b0, b1, b2, b3, b4, b5, b6, b7, b8⟩, t, e, fm, hm⟩ := b
  rcases t with _ | t <;> rfl

theorem active_vis (b : Board) : (vis b).active = visSide b.active := by
  show (if b.turn == 0 then visSide b.white else visSide b.black) = visSide (if b.turn == 0 then b.white else b.black)
  cases b.turn == 0 <;> rfl

theorem passive_vis (b : Board) : (vis b).passive = visSide b.passive := by
  show (if b.turn == 0 then visSide b.black else visSide b.white) = visSide (if b.turn == 0 then b.black else b.white)
  cases b.turn == 0 <;> rfl

-- The generators use the board only through `mkMove`, the two sides' piece words, rights and occupancy, the turn and
-- the e.p. square.  One lemma per generator function: a single `rfl` on `genPseudo` would unfold the whole generator.
theorem genAttacks_vis (b : Board) : genAttacks (vis b) = genAttacks b := by
  funext nq src occ piece acc
  unfold genAttacks
  rw [mkMove_vis]

theorem slidingMoves_vis (b : Board) : slidingMoves (vis b) = slidingMoves b := by
  funext nq po ao fo r p acc
  unfold slidingMoves
  rw [genAttacks_vis]

theorem singleMoves_vis (b : Board) : singleMoves (vis b) = singleMoves b := by
  funext nq po ao tbl p acc
  unfold singleMoves
  rw [genAttacks_vis]

theorem promotions_vis (b : Board) : promotions (vis b) = promotions b := by
  funext s t acc
  unfold promotions
  rw [mkMove_vis]

theorem pawnAttacks_vis (b : Board) : pawnAttacks (vis b) = pawnAttacks b := by
  funext po ao pso acc
  unfold pawnAttacks
  rw [mkMove_vis, promotions_vis]
  rfl

theorem pawnMoves_vis (b : Board) : pawnMoves (vis b) = pawnMoves b := by
  funext nq po fo acc
  unfold pawnMoves
  rw [mkMove_vis, promotions_vis]
  rfl

theorem castleMoves_vis (b : Board) : castleMoves (vis b) = castleMoves b := by
  funext fo acc
  unfold castleMoves
  rw [mkMove_vis]
  rfl

theorem genPseudo_vis (b : Board) : genPseudo (vis b) = genPseudo b := by
  unfold genPseudo
  rw [slidingMoves_vis, singleMoves_vis, pawnAttacks_vis, pawnMoves_vis, castleMoves_vis, active_vis, passive_vis]
  rfl

theorem genNonQuiescent_vis (b : Board) : genNonQuiescent (vis b) = genNonQuiescent b := by
  unfold genNonQuiescent
  rw [slidingMoves_vis, singleMoves_vis, pawnAttacks_vis, pawnMoves_vis, active_vis, passive_vis]
  rfl

theorem inCheck_vis (b : Board) (c : Nat) : inCheck (vis b) c = inCheck b c := by
  obtain ⟨⟨a0, a1, a2, a3, a4, a5, a6, a7, a8⟩, ⟨b0, b1, b2, b3, b4, b5, b6, b7, b8⟩, t, e, fm, hm⟩ := b
  rcases c with _ | c <;> rfl

theorem isValid_vis (b : Board) : isValid (vis b) = isValid b := by
  unfold isValid; rw [inCheck_vis]; rfl

theorem isCurrentInCheck_vis (b : Board) : isCurrentInCheck (vis b) = isCurrentInCheck b :=
  inCheck_vis b b.turn

theorem wf_vis (b : Board) : wf (vis b) = wf b := by
  unfold wf
  rw [isValid_vis]
  obtain ⟨⟨a0, a1, a2, a3, a4, a5, a6, a7, a8⟩, ⟨b0, b1, b2, b3, b4, b5, b6, b7, b8⟩, t, e, fm, hm⟩ := b
  rfl

theorem evaluate_vis (b : Board) (l : Bool) : Eval.evaluate (vis b) l = Eval.evaluate b l := by
  unfold Eval.evaluate isCurrentInCheck
  rw [inCheck_vis]
  obtain ⟨⟨a0, a1, a2, a3, a4, a5, a6, a7, a8⟩, ⟨b0, b1, b2, b3, b4, b5, b6, b7, b8⟩, t, e, fm, hm⟩ := b
  rfl

theorem hash_vis (b : Board) : Zobrist.hash (vis b) = Zobrist.hash b := rfl
theorem pawnHash_vis (b : Board) : Zobrist.pawnHash (vis b) = Zobrist.pawnHash b := rfl

theorem turn_vis (b : Board) : (vis b).turn = b.turn := rfl
theorem halfmove_vis (b : Board) : (vis b).halfmove = b.halfmove := rfl
theorem fullmove_vis (b : Board) : (vis b).fullmove = b.fullmove := rfl
theorem ep_vis (b : Board) : (vis b).ep = b.ep := rfl
theorem plyClock_vis (b : Board) : plyClock (vis b) = plyClock b := rfl

theorem vis_vis (b : Board) : vis (vis b) = vis b := rfl

theorem genPseudo_congr {b b' : Board} (h : vis b = vis b') : genPseudo b = genPseudo b' :=
  congr_of_vis genPseudo_vis h
theorem genNonQuiescent_congr {b b' : Board} (h : vis b = vis b') : genNonQuiescent b = genNonQuiescent b' :=
  congr_of_vis genNonQuiescent_vis h
theorem isValid_congr {b b' : Board} (h : vis b = vis b') : isValid b = isValid b' :=
  congr_of_vis isValid_vis h
theorem wf_congr {b b' : Board} (h : vis b = vis b') : wf b = wf b' :=
  congr_of_vis wf_vis h
theorem evaluate_congr {b b' : Board} (h : vis b = vis b') (l : Bool) : Eval.evaluate b l = Eval.evaluate b' l :=
  congr_of_vis (F := fun b => Eval.evaluate b l) (fun b => evaluate_vis b l) h
theorem hash_congr {b b' : Board} (h : vis b = vis b') : Zobrist.hash b = Zobrist.hash b' :=
  congr_of_vis hash_vis h
theorem pawnHash_congr {b b' : Board} (h : vis b = vis b') : Zobrist.pawnHash b = Zobrist.pawnHash b' :=
  congr_of_vis pawnHash_vis h
theorem turn_congr {b b' : Board} (h : vis b = vis b') : b.turn = b'.turn :=
  congr_of_vis turn_vis h
theorem halfmove_congr {b b' : Board} (h : vis b = vis b') : b.halfmove = b'.halfmove :=
  congr_of_vis halfmove_vis h
theorem fullmove_congr {b b' : Board} (h : vis b = vis b') : b.fullmove = b'.fullmove :=
  congr_of_vis fullmove_vis h
theorem isCurrentInCheck_congr {b b' : Board} (h : vis b = vis b') : isCurrentInCheck b = isCurrentInCheck b' :=
  congr_of_vis isCurrentInCheck_vis h
theorem plyClock_congr {b b' : Board} (h : vis b = vis b') : plyClock b = plyClock b' :=
  congr_of_vis plyClock_vis h
theorem make_congr {b b' : Board} (h : vis b = vis b') (m : Move) : vis (make b m) = vis (make b' m) :=
  MakeUnmake.makeF_congr m.f h
theorem unmake_congr {b b' : Board} (h : vis b = vis b') (m : Move) : vis (unmake b m) = vis (unmake b' m) :=
  MakeUnmake.unmakeF_congr m.f h
theorem isMoveLegal_congr {b b' : Board} (h : vis b = vis b') (m : Move) : isMoveLegal b m = isMoveLegal b' m :=
  isValid_congr (make_congr h m)
theorem isAnyMoveLegal_congr {b b' : Board} (h : vis b' = vis b) (ms : List Move) :
    isAnyMoveLegal b' ms = isAnyMoveLegal b ms :=
  congrArg ms.any (funext (isMoveLegal_congr h))

theorem isAnyMoveLegal_genPseudo (b : Board) : isAnyMoveLegal b (genPseudo b) = !(genLegal b).isEmpty := by
  unfold isAnyMoveLegal genLegal
  rw [Bool.eq_iff_iff]
  simp [List.filter_eq_nil_iff]

end Inkayaku.BoardCongr
