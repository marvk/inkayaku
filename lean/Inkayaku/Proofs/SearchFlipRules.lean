import Inkayaku.Proofs.SearchFlipSpec
import Inkayaku.Proofs.SpecMoves
import Inkayaku.Proofs.Successor
/-!
# C11 (search half): pseudo-legal moves and the successor commute with the colour flip (mailbox Spec)

The rules are taken in the parts in which C01 and C02 compare them with the code: the moves by kind (`Proofs/SpecMoves.lean`:
steps of a piece, pawn pushes, pawn captures at a square of the pawn-attack relation, the castling condition) and the successor
with the moving piece known (`Successor.apply_eq`, `applySq`).  The order of the move lists is not kept by the flip (squares are
enumerated in reading order), so each part is carried along `SFlip` as membership of the mirrored move.
-/
namespace Inkayaku.SearchFlip
open Inkayaku.Spec Inkayaku.Geometry

/-! Pawn moves: pushes as a list (the direction and the start row are generalised, so that the flip negates the
one and mirrors the other), captures through the pawn-attack relation (`GenSpec.mem_specCaptures`, `pawnGeom_mir`). -/

open Inkayaku.GenSpec (withPromo specPushes capAt specCaptures pawnMoves_split mem_specCaptures)

theorem inside_mir (f x : Int) : inside f (7 - x) = inside f x := by
  rw [Bool.eq_iff_iff, inside_iff, inside_iff]; omega

theorem withPromo_flip (w : Bool) (s : Nat) {t : Nat} (ht : t < 64) :
    withPromo (!w) (mir s) (mir t) = (withPromo w s t).map flipSM := by
  have e : (rowOf (mir t) == (if (!w) = true then 0 else 7)) = (rowOf t == (if w = true then 0 else 7)) := by
    rw [rowOf_mir ht, Bool.eq_iff_iff, beq_iff_eq, beq_iff_eq]
    cases w <;> simp <;> omega
  unfold withPromo
  rw [e]
  cases rowOf t == (if w = true then 0 else 7) <;> simp [promoKinds, flipSM]

theorem specPushes_flip {p p' : Pos} (h : SFlip p p') (w : Bool) {s : Nat} (hs : s < 64) :
    specPushes p' (!w) (mir s) = (specPushes p w s).map flipSM := by
  have hd : (if (!w) = true then (-1 : Int) else 1) = -(if w = true then -1 else 1) := by cases w <;> rfl
  have hst : (if (!w) = true then (6 : Int) else 1) = 7 - (if w = true then 6 else 1) := by cases w <;> rfl
  have hstart : 0 ≤ (if w = true then (6 : Int) else 1) + 2 * (if w = true then -1 else 1) ∧
      (if w = true then (6 : Int) else 1) + 2 * (if w = true then -1 else 1) < 8 := by cases w <;> decide
  unfold specPushes
  simp only [fileOf_mir, rowOf_mir hs, hd, hst]
  generalize (if w = true then (-1 : Int) else 1) = dir at hstart ⊢
  generalize (if w = true then (6 : Int) else 1) = startRow at hstart ⊢
  have hf := fileOf_bounds s
  have hr := rowOf_bounds hs
  have e1 : 7 - rowOf s + -dir = 7 - (rowOf s + dir) := by omega
  have e2 : 7 - rowOf s + 2 * -dir = 7 - (rowOf s + 2 * dir) := by omega
  have e3 : (7 - rowOf s == 7 - startRow) = (rowOf s == startRow) := by
    rw [Bool.eq_iff_iff, beq_iff_eq, beq_iff_eq]; omega
  rw [e1, e2, e3, inside_mir]
  by_cases hin : inside (fileOf s) (rowOf s + dir) = true
  · have hin' := (inside_iff _ _).mp hin
    have hq := mkSq_lt hin'.1 hin'.2
    rw [mkSq_mir hin'.1 hin'.2, h.isNone hq]
    by_cases hc : (inside (fileOf s) (rowOf s + dir) && (p.at (mkSq (fileOf s) (rowOf s + dir))).isNone) = true
    · rw [if_pos hc, if_pos hc, List.map_append, withPromo_flip w s hq]
      congr 1
      by_cases hst : rowOf s = startRow
      · have hb2 : 0 ≤ rowOf s + 2 * dir ∧ rowOf s + 2 * dir < 8 := by omega
        have hq2 := mkSq_lt hf hb2
        rw [mkSq_mir hf hb2, h.isNone hq2]
        split
        · simp [flipSM]
        · rfl
      · have hb : (rowOf s == startRow) = false := by simpa using hst
        rw [hb]
        simp
    · rw [if_neg hc, if_neg hc]; rfl
  · have hin2 : inside (fileOf s) (rowOf s + dir) = false := by simpa using hin
    rw [hin2]
    simp

theorem capAt_flip {p p' : Pos} (h : SFlip p p') (w : Bool) (s : Nat) {t : Nat} (ht : t < 64) :
    capAt p' (!w) (mir s) (mir t) = (capAt p w s t).map flipSM := by
  unfold capAt
  rw [h.at_ _ ht, h.ep_beq ht]
  cases hp : p.at t with
  | none =>
    simp only [Option.map_none]
    split
    · simp [flipSM]
    · rfl
  | some victim =>
    simp only [Option.map_some, recolor]
    have e : ((!victim.white) != !w) = (victim.white != w) := by cases victim.white <;> cases w <;> rfl
    rw [e]
    split
    · exact withPromo_flip w s ht
    · rfl

theorem pawnMoves_flip {p p' : Pos} (h : SFlip p p') {s : Nat} (hs : s < 64) (w : Bool) {sm : SMove}
    (hm : sm ∈ pawnMoves p w s) : flipSM sm ∈ pawnMoves p' (!w) (mir s) := by
  rw [pawnMoves_split, List.mem_append] at hm ⊢
  rcases hm with hm | hm
  · exact .inl (by rw [specPushes_flip h w hs]; exact List.mem_map_of_mem hm)
  · obtain ⟨t, ht, hg, hc⟩ := (mem_specCaptures p w s sm).mp hm
    refine .inr ((mem_specCaptures p' (!w) (mir s) _).mpr ⟨mir t, mir_lt ht, ?_, ?_⟩)
    · rw [pawnGeom_mir w hs ht]; exact hg
    · rw [capAt_flip h w s ht]; exact List.mem_map_of_mem hc

/-- The castling squares of the other colour are the mirrored ones; king and rook start on a common row, and the square
the king crosses is mirrored with its ends. -/
theorem castleSquares_flip (w ks : Bool) :
    castleSquares (!w) ks = (mir (castleSquares w ks).1, mir (castleSquares w ks).2.1, mir (castleSquares w ks).2.2.1,
      mir (castleSquares w ks).2.2.2) ∧
    (castleSquares w ks).1 < 64 ∧ (castleSquares w ks).2.1 < 64 ∧ (castleSquares w ks).2.2.1 < 64 ∧
    (castleSquares w ks).2.2.2 < 64 ∧ rookLine (castleSquares w ks).1 (castleSquares w ks).2.2.1 = true ∧
    (mir (castleSquares w ks).1 + mir (castleSquares w ks).2.1) / 2
      = mir (((castleSquares w ks).1 + (castleSquares w ks).2.1) / 2) ∧
    ((castleSquares w ks).1 + (castleSquares w ks).2.1) / 2 < 64 := by
  cases w <;> cases ks <;> decide

theorem specCastleCond_flip {p p' : Pos} (h : SFlip p p') (w ks : Bool) :
    GenSpec.specCastleCond p' (!w) ks = GenSpec.specCastleCond p w ks := by
  have hat : ∀ s, s < 64 → ∀ k, (p'.at (mir s) == some ⟨!w, k⟩) = (p.at s == some ⟨w, k⟩) := by
    intro s hs k
    rw [h.at_ s hs, map_recolor_beq]
  have hatt : ∀ s, s < 64 → attacked p' (!(!w)) (mir s) = attacked p (!w) s := fun s hs => attacked_flip h (!w) hs
  obtain ⟨e, hk, ht, hr, -, hl, ex, hx⟩ := castleSquares_flip w ks
  unfold GenSpec.specCastleCond
  rw [e]
  simp only
  rw [ex, hat _ hk, hat _ hr, clearBetween_flip h hk hr (by rw [hl]; rfl), hatt _ hk, hatt _ hx, hatt _ ht]
  cases w <;> cases ks <;> simp only [GenSpec.specRight, Bool.not_true, Bool.not_false, h.wk, h.wq, h.bk, h.bq]

theorem castleMoves_flip {p p' : Pos} (h : SFlip p p') (w : Bool) {sm : SMove} (hm : sm ∈ castleMoves p w) :
    flipSM sm ∈ castleMoves p' (!w) := by
  rw [GenSpec.mem_castleMoves] at hm ⊢
  have key : ∀ ks, GenSpec.specCastleCond p w ks = true ∧ sm = ⟨(castleSquares w ks).1, (castleSquares w ks).2.1, none⟩ →
      GenSpec.specCastleCond p' (!w) ks = true ∧
        flipSM sm = ⟨(castleSquares (!w) ks).1, (castleSquares (!w) ks).2.1, none⟩ := by
    rintro ks ⟨hc, rfl⟩
    exact ⟨by rw [specCastleCond_flip h]; exact hc, by rw [(castleSquares_flip w ks).1]; rfl⟩
  exact hm.imp (key false) (key true)

theorem notOwn_flip {p p' : Pos} (h : SFlip p p') (w : Bool) {t : Nat} (ht : t < 64) :
    GenSpec.notOwn p' (!w) (mir t) = GenSpec.notOwn p w t := by
  unfold GenSpec.notOwn
  rw [h.at_ t ht]
  cases p.at t with
  | none => rfl
  | some o => simp only [Option.map_some, recolor]; cases o.white <;> cases w <;> rfl

theorem step_flip {p p' : Pos} (h : SFlip p p') {k : Kind} {s t : Nat} (hst : GenSpec.Step p k s t) :
    GenSpec.Step p' k (mir s) (mir t) := by
  obtain ⟨hs, ht, hat, hg, hn⟩ := hst
  refine ⟨mir_lt hs, mir_lt ht, ?_, ?_, ?_⟩
  · rw [h.at_ s hs, hat, h.turn]; rfl
  · rw [h.turn, attacksGeom_flip h k _ hs ht]; exact hg
  · rw [h.turn, notOwn_flip h _ ht]; exact hn

/-- `SFlip` being symmetric (`SFlip.symm`), the pseudo-legal moves of the flipped position are the mirrored ones and nothing else -/
theorem pseudoMoves_flip {p p' : Pos} (h : SFlip p p') {sm : SMove} (hm : sm ∈ pseudoMoves p) :
    flipSM sm ∈ pseudoMoves p' := by
  rw [GenSpec.mem_pseudoMoves] at hm ⊢
  rcases hm with ⟨k, hk, s, t, hst, rfl⟩ | ⟨s, hs, hat, hm⟩ | hm
  · exact .inl ⟨k, hk, mir s, mir t, step_flip h hst, rfl⟩
  · refine .inr (.inl ⟨mir s, mir_lt hs, by rw [h.at_ s hs, hat, h.turn]; rfl, ?_⟩)
    rw [h.turn]
    exact pawnMoves_flip h hs _ hm
  · refine .inr (.inr ?_)
    rw [h.turn]
    exact castleMoves_flip h _ hm

theorem isEnPassant_flip {p p' : Pos} (h : SFlip p p') (m : SMove) (hs : m.src < 64) (ht : m.tgt < 64) :
    isEnPassant p' (flipSM m) = isEnPassant p m := by
  unfold isEnPassant flipSM
  simp only
  rw [h.at_ _ hs]
  cases p.at m.src with
  | none => rfl
  | some pc =>
    simp only [Option.map_some, recolor]
    rw [h.ep_beq ht, fileOf_mir, fileOf_mir, h.isNone ht]

theorem isCastle_flip {p p' : Pos} (h : SFlip p p') (m : SMove) (hs : m.src < 64) :
    isCastle p' (flipSM m) = isCastle p m := by
  unfold isCastle flipSM
  simp only
  rw [h.at_ _ hs]
  cases p.at m.src with
  | none => rfl
  | some pc =>
    simp only [Option.map_some, recolor]
    rw [fileOf_mir, fileOf_mir]

theorem isCapture_flip {p p' : Pos} (h : SFlip p p') (m : SMove) (hs : m.src < 64) (ht : m.tgt < 64) :
    isCapture p' (flipSM m) = isCapture p m := by
  unfold isCapture
  rw [isEnPassant_flip h m hs ht]
  show ((p'.at (mir m.tgt)).isSome || _) = _
  rw [h.isSome ht]

open Inkayaku.Successor (applySq apply_eq getD_setSq size_setSq)

def ARel (a a' : Array (Option Piece)) : Prop :=
  a.size = 64 ∧ a'.size = 64 ∧ ∀ s, s < 64 → a'.getD (mir s) none = (a.getD s none).map recolor

theorem ARel.set {a a' : Array (Option Piece)} (h : ARel a a') {i : Nat} (hi : i < 64) (v : Option Piece) :
    ARel (setSq a i v) (setSq a' (mir i) (v.map recolor)) := by
  obtain ⟨h1, h2, h3⟩ := h
  refine ⟨by rw [size_setSq, h1], by rw [size_setSq, h2], ?_⟩
  intro s hs
  rw [getD_setSq _ _ _ (by rw [h2]; exact mir_lt hi), getD_setSq _ _ _ (by rw [h1]; exact hi)]
  by_cases e : s = i
  · rw [if_pos e, if_pos (by rw [e])]
  · rw [if_neg e, if_neg (by rw [mir_inj hs hi]; exact e)]
    exact h3 s hs

theorem applySq_rel {p p' : Pos} (h : SFlip p p') (m : SMove) (pc : Piece) (hs : m.src < 64) (ht : m.tgt < 64) :
    ARel (applySq p m pc) (applySq p' (flipSM m) (recolor pc)) := by
  obtain ⟨ce, -, -, c3, c4, -, -, -⟩ := castleSquares_flip pc.white (fileOf m.tgt == 6)
  have heps : mkSq (fileOf m.tgt) (rowOf m.src) < 64 := mkSq_lt (fileOf_bounds m.tgt) (rowOf_bounds hs)
  have hb2 := fun v => (ARel.set ⟨h.size, h.size', h.at_⟩ hs none).set ht v
  unfold applySq
  simp only [isEnPassant_flip h m hs ht, isCastle_flip h m hs]
  simp only [flipSM, fileOf_mir, rowOf_mir hs, mkSq_mir (fileOf_bounds m.tgt) (rowOf_bounds hs),
    show (recolor pc).white = !pc.white from rfl, ce]
  cases isEnPassant p m <;> cases isCastle p m <;> simp only [Bool.false_eq_true, if_false, if_true]
  -- in each case the two `match`es that choose the placed piece reduce once the promotion is known
  · cases m.promo <;> exact hb2 _
  · cases m.promo <;> exact ((hb2 _).set c3 none).set c4 (some ⟨pc.white, .rook⟩)
  · cases m.promo <;> exact (hb2 _).set heps none
  · cases m.promo <;> exact (((hb2 _).set heps none).set c3 none).set c4 (some ⟨pc.white, .rook⟩)

/-- one castling right after a move from `x` to `y`: lost when either touches the king square `k` or the rook square `r` -/
theorem right_flip {b b' : Bool} (hb : b' = b) {x y : Nat} (hx : x < 64) (hy : y < 64) (k r : Nat) (hk : k < 64)
    (hr : r < 64) :
    (b' && !(mir x == mir k || mir y == mir k) && !(mir x == mir r || mir y == mir r))
      = (b && !(x == k || y == k) && !(x == r || y == r)) := by
  rw [hb, mir_beq hx hk, mir_beq hy hk, mir_beq hx hr, mir_beq hy hr]

/-- the full-move number is not part of `SFlip` -/
theorem apply_flip {p p' : Pos} (h : SFlip p p') (m : SMove) (hs : m.src < 64) (ht : m.tgt < 64) :
    SFlip (apply p m) (apply p' (flipSM m)) := by
  have hcap := isCapture_flip h m hs ht
  cases hp : p.at m.src with
  | none =>
    have hp' : p'.at (flipSM m).src = none := by
      show p'.at (mir m.src) = none
      rw [h.at_ _ hs, hp]; rfl
    have e1 : apply p m = p := by unfold apply; rw [hp]
    have e2 : apply p' (flipSM m) = p' := by unfold apply; rw [hp']
    rw [e1, e2]; exact h
  | some pc =>
    have hp' : p'.at (flipSM m).src = some (recolor pc) := by
      show p'.at (mir m.src) = _
      rw [h.at_ _ hs, hp]; rfl
    rw [apply_eq hp, apply_eq hp', hcap]
    have hfs := fileOf_bounds m.src
    have hrs := rowOf_bounds hs
    have hrt := rowOf_bounds ht
    have hbrd := applySq_rel h m pc hs ht
    have er : ((rowOf (mir m.tgt) - rowOf (mir m.src)).natAbs == 2) = ((rowOf m.tgt - rowOf m.src).natAbs == 2) := by
      rw [rowOf_mir hs, rowOf_mir ht, Bool.eq_iff_iff, beq_iff_eq, beq_iff_eq]; omega
    constructor
    · exact hbrd.1
    · exact hbrd.2.1
    · exact hbrd.2.2
    · show (!p'.whiteToMove) = !(!p.whiteToMove)
      rw [h.turn]
    · exact right_flip h.wk hs ht 4 7 (by decide) (by decide)
    · exact right_flip h.wq hs ht 4 0 (by decide) (by decide)
    · exact right_flip h.bk hs ht 60 63 (by decide) (by decide)
    · exact right_flip h.bq hs ht 60 56 (by decide) (by decide)
    · show (if (pc.kind == Kind.pawn && (rowOf (mir m.tgt) - rowOf (mir m.src)).natAbs == 2) = true
          then some (mkSq (fileOf (mir m.src)) ((rowOf (mir m.src) + rowOf (mir m.tgt)) / 2)) else none) =
        (if (pc.kind == Kind.pawn && (rowOf m.tgt - rowOf m.src).natAbs == 2) = true
          then some (mkSq (fileOf m.src) ((rowOf m.src + rowOf m.tgt) / 2)) else none).map mir
      rw [er]
      split
      · next hc =>
        simp only [Bool.and_eq_true, beq_iff_eq] at hc
        have h2 := hc.2
        have hb : 0 ≤ (rowOf m.src + rowOf m.tgt) / 2 ∧ (rowOf m.src + rowOf m.tgt) / 2 < 8 := by omega
        have e : (rowOf (mir m.src) + rowOf (mir m.tgt)) / 2 = 7 - (rowOf m.src + rowOf m.tgt) / 2 := by
          rw [rowOf_mir hs, rowOf_mir ht]; omega
        rw [e, fileOf_mir, mkSq_mir hfs hb]
        rfl
      · rfl
    · intro e he
      have he' : (if (pc.kind == Kind.pawn && (rowOf m.tgt - rowOf m.src).natAbs == 2) = true
          then some (mkSq (fileOf m.src) ((rowOf m.src + rowOf m.tgt) / 2)) else none) = some e := he
      split at he'
      · simp only [Option.some.injEq] at he'
        rw [← he']
        exact mkSq_lt hfs (by omega)
      · cases he'
    · show (if (pc.kind == Kind.pawn || isCapture p m) = true then 0 else p'.half + 1) =
        (if (pc.kind == Kind.pawn || isCapture p m) = true then 0 else p.half + 1)
      rw [h.half]

end Inkayaku.SearchFlip
