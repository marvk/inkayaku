import Inkayaku.Model.Zobrist
import Inkayaku.Proofs.Bits
/-!
Algebra of the XOR fold `Zobrist.hashOcc` (`zobrist_hash_for_occupancy`): the fold over the set bits is a fold over all 64
squares of "key if the bit is set" (`hashOcc_pointwise`), hence linear over `^^^` on occupancy words (`hashOcc_xor`), and setting a
clear bit or clearing a set bit toggles one key.  The `NO_PIECE` rows of the generated key table are all zero (`zero_rows`,
kernel-evaluated on `Gen`).  `radixDistinct` is a distinctness check on number lists that the kernel can run on all keys.
-/
namespace Inkayaku.ZobristLinear
open Inkayaku.Board Inkayaku.Zobrist Inkayaku.Gen Inkayaku.Bits

theorem xor_cancel_left (a b : UInt64) : a ^^^ (a ^^^ b) = b := by
  rw [← UInt64.xor_assoc, UInt64.xor_self, UInt64.zero_xor]

/-- "swap `x` for `y`" written as a delta: the form in which a changed component enters a hash -/
theorem xor_exchange {a b x y : UInt64} (h : a ^^^ x = b ^^^ y) : a = b ^^^ (x ^^^ y) := by
  rw [UInt64.xor_comm x y, ← UInt64.xor_assoc, ← h, UInt64.xor_assoc, UInt64.xor_self, UInt64.xor_zero]

theorem toNat_testBit_xor (a b : UInt64) (i : Nat) :
    (a ^^^ b).toNat.testBit i = xor (a.toNat.testBit i) (b.toNat.testBit i) := testU_xor a b i

theorem or_bitU_eq_xor {x : UInt64} {s : Nat} (hs : s < 64) (h : testU x s = false) :
    x ||| bitU s = x ^^^ bitU s := by
  apply ext_testU
  intro i _
  rw [testU_or, testU_xor, testU_bitU s i hs]
  by_cases e : s = i
  · subst e; simp [h]
  · simp [e]

theorem clearBit_eq_xor {x : UInt64} {s : Nat} (h : testU x s = true) :
    clearBit x (bitU s) = x ^^^ bitU s := by
  apply ext_testU
  intro i _
  rw [testU_clearBit, testU_xor, testU_bitU s i (testU_lt h)]
  by_cases e : s = i
  · subst e; simp [h]
  · simp [e]

def xorFold (g : Nat → UInt64) (l : List Nat) (acc : UInt64) : UInt64 := l.foldl (fun a sq => a ^^^ g sq) acc

theorem xorFold_acc (g : Nat → UInt64) (l : List Nat) (acc : UInt64) : xorFold g l acc = acc ^^^ xorFold g l 0 := by
  induction l generalizing acc with
  | nil => simp [xorFold]
  | cons x xs ih =>
    have h1 := ih (acc ^^^ g x)
    have h2 := ih (0 ^^^ g x)
    simp only [xorFold, List.foldl_cons] at h1 h2 ⊢
    rw [h1, h2, UInt64.zero_xor, UInt64.xor_assoc]

theorem xorFold_filter (g : Nat → UInt64) (p : Nat → Bool) (l : List Nat) (acc : UInt64) :
    xorFold g (l.filter p) acc = xorFold (fun sq => if p sq then g sq else 0) l acc := by
  induction l generalizing acc with
  | nil => rfl
  | cons x xs ih =>
    cases hp : p x
    · simp only [List.filter_cons, hp, xorFold, List.foldl_cons, Bool.false_eq_true, if_false, UInt64.xor_zero]
      exact ih _
    · simp only [List.filter_cons, hp, if_true, xorFold, List.foldl_cons]
      exact ih _

theorem xorFold_xor (f g : Nat → UInt64) (l : List Nat) (a b : UInt64) :
    xorFold (fun sq => f sq ^^^ g sq) l (a ^^^ b) = xorFold f l a ^^^ xorFold g l b := by
  induction l generalizing a b with
  | nil => rfl
  | cons x xs ih =>
    simp only [xorFold, List.foldl_cons]
    have h := ih (a ^^^ f x) (b ^^^ g x)
    simp only [xorFold] at h
    rw [← h]
    congr 1
    ac_rfl

theorem xorFold_congr {f g : Nat → UInt64} {l : List Nat} (h : ∀ i, i ∈ l → f i = g i) (acc : UInt64) :
    xorFold f l acc = xorFold g l acc := by
  induction l generalizing acc with
  | nil => rfl
  | cons x xs ih =>
    simp only [xorFold, List.foldl_cons]
    rw [h x (List.mem_cons_self)]
    exact ih (fun i hi => h i (List.mem_cons_of_mem _ hi)) _

theorem xorFold_zero (l : List Nat) : xorFold (fun _ => 0) l 0 = 0 := by
  induction l with
  | nil => rfl
  | cons x xs ih => simpa [xorFold] using ih

theorem xorFold_single (g : Nat → UInt64) (s n : Nat) :
    xorFold (fun sq => if sq = s then g sq else 0) (List.range n) 0 = if s < n then g s else 0 := by
  induction n with
  | zero => simp [xorFold]
  | succ n ih =>
    have h : xorFold (fun sq => if sq = s then g sq else 0) (List.range (n + 1)) 0
        = xorFold (fun sq => if sq = s then g sq else 0) (List.range n) 0 ^^^ (if n = s then g n else 0) := by
      simp only [xorFold, List.range_succ, List.foldl_append, List.foldl_cons, List.foldl_nil]
    rw [h, ih]
    by_cases h1 : s < n
    · have : ¬ n = s := by omega
      have h2 : s < n + 1 := by omega
      simp [h1, h2, this]
    · by_cases h2 : n = s
      · subst h2; simp
      · have : ¬ s < n + 1 := by omega
        simp [h1, h2, this]

theorem hashOcc_pointwise (occ : UInt64) (piece color : Nat) :
    hashOcc occ piece color
      = xorFold (fun sq => if testU occ sq then pieceSquare piece sq color else 0) (List.range 64) 0 := by
  unfold hashOcc bitsAsc
  exact xorFold_filter (fun sq => pieceSquare piece sq color) (testU occ) (List.range 64) 0

theorem hashOcc_congr {a b : UInt64} (h : ∀ i, i < 64 → testU a i = testU b i) (p c : Nat) :
    hashOcc a p c = hashOcc b p c := by
  rw [ext_testU h]

theorem hashOcc_xor (a b : UInt64) (p c : Nat) : hashOcc (a ^^^ b) p c = hashOcc a p c ^^^ hashOcc b p c := by
  rw [hashOcc_pointwise, hashOcc_pointwise a, hashOcc_pointwise b]
  have h0 : (0 : UInt64) = 0 ^^^ 0 := by simp
  rw [h0, ← xorFold_xor, ← h0]
  apply xorFold_congr
  intro i _
  rw [testU_xor]
  cases testU a i <;> cases testU b i <;> simp

theorem hashOcc_zero (p c : Nat) : hashOcc 0 p c = 0 := by
  rw [hashOcc_pointwise]
  have : (fun sq => if testU 0 sq then pieceSquare p sq c else (0 : UInt64)) = fun _ => 0 := by
    funext sq; simp [testU_zero]
  rw [this]
  exact xorFold_zero _

theorem hashOcc_bitU {s : Nat} (hs : s < 64) (p c : Nat) : hashOcc (bitU s) p c = pieceSquare p s c := by
  rw [hashOcc_pointwise]
  have : (fun sq => if testU (bitU s) sq then pieceSquare p sq c else (0 : UInt64))
      = fun sq => if sq = s then pieceSquare p sq c else 0 := by
    funext sq; rw [testU_bitU s sq hs]; simp [eq_comm]
  rw [this, xorFold_single (fun sq => pieceSquare p sq c) s 64]
  simp [hs]

theorem hashOcc_setBit {occ : UInt64} {s : Nat} (hs : s < 64) (h : testU occ s = false) (p c : Nat) :
    hashOcc (occ ||| bitU s) p c = hashOcc occ p c ^^^ pieceSquare p s c := by
  rw [or_bitU_eq_xor hs h, hashOcc_xor, hashOcc_bitU hs]

theorem hashOcc_clearBit {occ : UInt64} {s : Nat} (h : testU occ s = true) (p c : Nat) :
    hashOcc (clearBit occ (bitU s)) p c = hashOcc occ p c ^^^ pieceSquare p s c := by
  rw [clearBit_eq_xor h, hashOcc_xor, hashOcc_bitU (testU_lt h)]

theorem hashOcc_moveBit {occ : UInt64} {s t : Nat} (hs : testU occ s = true) (ht : t < 64)
    (htc : testU occ t = false) (p c : Nat) :
    hashOcc (clearBit occ (bitU s) ||| bitU t) p c = hashOcc occ p c ^^^ pieceSquare p s c ^^^ pieceSquare p t c := by
  have h : testU (clearBit occ (bitU s)) t = false := by
    rw [testU_clearBit, htc]; rfl
  rw [hashOcc_setBit ht h, hashOcc_clearBit hs]

/-- the two `NO_PIECE` rows (white: 0, black: 7) of the generated table are all zero -/
theorem zero_rows : (zobristPieceSquare.getD 0 []).all (· == 0) ∧ (zobristPieceSquare.getD 7 []).all (· == 0) := by
  decide +kernel

theorem getD_of_all_zero {l : List Nat} (h : l.all (· == 0) = true) (i : Nat) : l.getD i 0 = 0 := by
  induction l generalizing i with
  | nil => rfl
  | cons x xs ih =>
    simp only [List.all_cons, Bool.and_eq_true, beq_iff_eq] at h
    cases i with
    | zero => simpa using h.1
    | succ i => simpa using ih h.2 i

theorem table_rows : zobristPieceSquare.length = 14 := by decide +kernel

/-- for EVERY colour value: rows beyond the table read as 0 -/
theorem pieceSquare_noPiece (sq c : Nat) : pieceSquare 0 sq c = 0 := by
  unfold pieceSquare
  have hz : ∀ row, (row = 0 ∨ row = 7 ∨ 14 ≤ row) → (zobristPieceSquare.getD row []).getD sq 0 = 0 := by
    intro row h
    rcases h with h | h | h
    · subst h; exact getD_of_all_zero zero_rows.1 sq
    · subst h; exact getD_of_all_zero zero_rows.2 sq
    · have : zobristPieceSquare.getD row [] = [] := by
        rw [List.getD_eq_getElem?_getD, List.getElem?_eq_none (by rw [table_rows]; exact h)]; rfl
      rw [this]; rfl
  rw [hz (0 + 7 * c) (by omega)]
  rfl

/-- the scratch word never contributes -/
theorem hashOcc_noPiece (occ : UInt64) (c : Nat) : hashOcc occ 0 c = 0 := by
  rw [hashOcc_pointwise]
  have : (fun sq => if testU occ sq then pieceSquare 0 sq c else (0 : UInt64)) = fun _ => 0 := by
    funext sq; simp [pieceSquare_noPiece]
  rw [this]
  exact xorFold_zero _

/-! ## A divide-and-conquer distinctness check that the kernel can run on the 781 keys

A quadratic `Nodup` check on 781 64-bit numbers is out of reach of kernel evaluation; splitting the list by one bit after
the other needs only `n · log n` steps.  Soundness does not depend on what `bitOf` computes: splitting by ANY predicate is sound. -/

/-- bit `i` of `x`, written with the `Nat` primitives the kernel evaluates natively -/
def bitOf (i x : Nat) : Bool := Nat.beq (Nat.land (Nat.shiftRight x i) 1) 1

/-- `fuel` bits are looked at, starting from bit `i` -/
def radixDistinct : Nat → Nat → List Nat → Bool
  | _, _, [] => true
  | _, _, [_] => true
  | 0, _, _ => false
  | fuel + 1, i, l =>
    radixDistinct fuel (i + 1) (l.filter fun x => bitOf i x) && radixDistinct fuel (i + 1) (l.filter fun x => !bitOf i x)

theorem pairwise_ne_of_split {α : Type} (p : α → Bool) (l : List α)
    (h1 : (l.filter p).Pairwise (· ≠ ·)) (h2 : (l.filter fun x => !p x).Pairwise (· ≠ ·)) : l.Pairwise (· ≠ ·) := by
  -- `l` is a permutation of the two parts, and no element is in both
  refine (List.filter_append_perm p l).nodup_iff.mp (List.nodup_append.mpr ⟨h1, h2, ?_⟩)
  intro a ha b hb hab
  subst hab
  have h := (List.mem_filter.mp hb).2
  rw [(List.mem_filter.mp ha).2] at h
  exact Bool.noConfusion h

theorem radixDistinct_sound : ∀ (fuel i : Nat) (l : List Nat), radixDistinct fuel i l = true → l.Pairwise (· ≠ ·) := by
  intro fuel i l
  induction fuel, i, l using radixDistinct.induct with
  | case1 => exact fun _ => List.Pairwise.nil
  | case2 => exact fun _ => List.pairwise_singleton _ _
  | case3 => intro h; simp [radixDistinct] at h
  | case4 fuel i l hne hne1 ih1 ih2 =>
    intro h
    rw [radixDistinct.eq_4 i l fuel hne hne1, Bool.and_eq_true] at h
    exact pairwise_ne_of_split (fun x => bitOf i x) _ (ih1 h.1) (ih2 h.2)

end Inkayaku.ZobristLinear
