import Inkayaku.Model.Board
/-!
# Packed move word: every getter returns what its setter stored (helper for C03)

`encode` ORs sixteen shifted fields into one `u64`; `decode` masks and shifts them out again.  The masks and
shifts are the numerals of the current build (`Gen.BoardConsts`).  They are not copied here: each use unfolds the
`Gen` definition, so the proofs are re-checked against regenerated constants and fail when two fields overlap,
a mask does not match its shift, or a field is narrower than `FieldsFit` says.

Route: `UInt64 → Nat`; `(encode f).toNat` is the sixteen values laid out contiguously with the widths `widths`
(`encode_toNat`), a getter is `bits / 2^shift % 2^width` (`field_eq`), and every field of a contiguous layout can be read
back that way (`pack_reads`).
-/
namespace Inkayaku.MoveBits
open Inkayaku.Board Inkayaku.Gen

def FieldsFit (f : MoveF) : Prop :=
  f.pieceMoved < 8 ∧ f.pieceAttacked < 8 ∧ f.source < 64 ∧ f.target < 64 ∧ f.prevHalfmove < 4096 ∧
  f.prevEp < 64 ∧ f.nextEp < 64 ∧ f.promotion < 8 ∧ f.side < 2

instance (f : MoveF) : Decidable (FieldsFit f) := by unfold FieldsFit; exact inferInstance

theorem toNat_shl (v s w : Nat) (hv : v < 2^w) (hs : s + w ≤ 64) (hs' : s < 64) :
    (v.toUInt64 <<< s.toUInt64).toNat = v * 2^s := by
  have h2 : v * 2^s < 2^64 := by
    calc v * 2^s < 2^w * 2^s := Nat.mul_lt_mul_of_pos_right hv (Nat.two_pow_pos s)
      _ = 2^(w+s) := (Nat.pow_add 2 w s).symm
      _ ≤ 2^64 := Nat.pow_le_pow_right (by decide) (by omega)
  have hv' : v < 2^64 := Nat.lt_of_le_of_lt (Nat.le_mul_of_pos_right v (Nat.two_pow_pos s)) h2
  have hs2 : s % 2^64 % 64 = s := by omega
  rw [UInt64.toNat_shiftLeft, Nat.toUInt64_eq, Nat.toUInt64_eq, UInt64.toNat_ofNat', UInt64.toNat_ofNat',
    hs2, Nat.mod_eq_of_lt hv', Nat.shiftLeft_eq, Nat.mod_eq_of_lt h2]

theorem toNat_flag (b : Bool) (m : Nat) (hm : m < 2^64) : (flagBits b m).toNat = b.toNat * m := by
  cases b <;> simp [flagBits, Nat.mod_eq_of_lt hm]

theorem field_eq (bits : UInt64) (mask s w : Nat) (hm : mask = (2^w - 1) <<< s) (hs : s + w ≤ 64) (hs' : s < 64) :
    field bits mask s = bits.toNat / 2^s % 2^w := by
  have hmask : mask < 2^64 := by
    subst hm
    rw [Nat.shiftLeft_eq]
    calc (2^w - 1) * 2^s < 2^w * 2^s :=
          Nat.mul_lt_mul_of_pos_right (by have := Nat.two_pow_pos w; omega) (Nat.two_pow_pos s)
      _ = 2^(w+s) := (Nat.pow_add 2 w s).symm
      _ ≤ 2^64 := Nat.pow_le_pow_right (by decide) (by omega)
  have hs2 : s % 2^64 % 64 = s := by omega
  unfold field
  rw [UInt64.toNat_shiftRight, UInt64.toNat_and, Nat.toUInt64_eq, Nat.toUInt64_eq, UInt64.toNat_ofNat',
    UInt64.toNat_ofNat', hs2, Nat.mod_eq_of_lt hmask, hm]
  apply Nat.eq_of_testBit_eq
  intro i
  simp only [Nat.testBit_shiftRight, Nat.testBit_and, Nat.testBit_shiftLeft, Nat.testBit_two_pow_sub_one,
    Nat.testBit_mod_two_pow, Nat.testBit_div_two_pow]
  have : s + i - s = i := by omega
  have h2 : s + i ≥ s := by omega
  simp [this, h2, Nat.add_comm, Bool.and_comm]

theorem field_lt (bits : UInt64) (mask s w : Nat) (hm : mask = (2^w - 1) <<< s) (hs : s + w ≤ 64) (hs' : s < 64) :
    field bits mask s < 2^w := by
  rw [field_eq bits mask s w hm hs hs']
  exact Nat.mod_lt _ (Nat.two_pow_pos w)

theorem decode_source_lt (bits : UInt64) : (decode bits).source < 64 :=
  field_lt bits _ _ 6 (by decide) (by decide) (by decide)
theorem decode_target_lt (bits : UInt64) : (decode bits).target < 64 :=
  field_lt bits _ _ 6 (by decide) (by decide) (by decide)
theorem source_lt (m : Move) : m.f.source < 64 := decode_source_lt m.bits
theorem target_lt (m : Move) : m.f.target < 64 := decode_target_lt m.bits

theorem or_shl_eq_add {a s : Nat} (v : Nat) (h : a < 2^s) : a ||| v * 2^s = a + v * 2^s := by
  rw [Nat.or_comm, ← Nat.shiftLeft_eq, ← Nat.shiftLeft_add_eq_or_of_lt h, Nat.add_comm]

theorem bool_of_toNat (b : Bool) (n : Nat) (h : n = b.toNat) : (n != 0) = b := by
  subst h; cases b <;> rfl

/-- fields laid out one after the other from bit 0 upwards: the value `vs[i]` occupies the next `ws[i]` bits -/
def pack : List Nat → List Nat → Nat
  | v :: vs, w :: ws => v + 2 ^ w * pack vs ws
  | _, _ => 0

def Fits : List Nat → List Nat → Prop
  | v :: vs, w :: ws => v < 2 ^ w ∧ Fits vs ws
  | _, _ => True

/-- the same layout, from bit `s` upwards, written with shifts and `|||` -/
def packOr : List Nat → List Nat → Nat → Nat
  | v :: vs, w :: ws, s => v * 2 ^ s ||| packOr vs ws (s + w)
  | _, _, _ => 0

theorem packOr_eq : ∀ (vs ws : List Nat) (s : Nat), Fits vs ws → packOr vs ws s = pack vs ws * 2 ^ s
  | v :: vs, w :: ws, s, hf => by
    have hv : v * 2 ^ s < 2 ^ (s + w) := by
      rw [Nat.pow_add, Nat.mul_comm (2 ^ s)]
      exact Nat.mul_lt_mul_of_pos_right hf.1 (Nat.two_pow_pos s)
    rw [packOr, packOr_eq vs ws (s + w) hf.2, or_shl_eq_add _ hv, pack, Nat.add_mul, Nat.pow_add]
    ac_rfl
  | [], _, _, _ => by simp [packOr, pack]
  | _ :: _, [], _, _ => by simp [packOr, pack]

def Reads (n : Nat) : List Nat → List Nat → Nat → Prop
  | v :: vs, w :: ws, s => n / 2 ^ s % 2 ^ w = v ∧ Reads n vs ws (s + w)
  | _, _, _ => True

theorem pack_reads : ∀ (vs ws : List Nat) (n s : Nat), Fits vs ws → n / 2 ^ s = pack vs ws → Reads n vs ws s
  | v :: vs, w :: ws, n, s, hf, hn => by
    refine ⟨?_, pack_reads vs ws n (s + w) hf.2 ?_⟩
    · rw [hn, pack, Nat.add_mul_mod_self_left, Nat.mod_eq_of_lt hf.1]
    · rw [Nat.pow_add, ← Nat.div_div_eq_div_mul, hn, pack, Nat.add_mul_div_left _ _ (Nat.two_pow_pos w),
        Nat.div_eq_of_lt hf.1, Nat.zero_add]
  | [], _, _, _, _, _ => trivial
  | _ :: _, [], _, _, _, _ => trivial

def widths : List Nat := [3, 3, 1, 1, 1, 1, 1, 1, 6, 6, 1, 12, 6, 6, 3, 1]

def values (f : MoveF) : List Nat :=
  [f.pieceMoved, f.pieceAttacked, f.selfLostKing.toNat, f.selfLostQueen.toNat, f.oppLostKing.toNat,
   f.oppLostQueen.toNat, f.castle.toNat, f.enPassant.toNat, f.source, f.target, f.halfmoveReset.toNat,
   f.prevHalfmove, f.prevEp, f.nextEp, f.promotion, f.side]

theorem fits {f : MoveF} (h : FieldsFit f) : Fits (values f) widths := by
  obtain ⟨h1, h2, h3, h4, h5, h6, h7, h8, h9⟩ := h
  exact ⟨h1, h2, Bool.toNat_lt _, Bool.toNat_lt _, Bool.toNat_lt _, Bool.toNat_lt _, Bool.toNat_lt _, Bool.toNat_lt _,
    h3, h4, Bool.toNat_lt _, h5, h6, h7, h8, h9, trivial⟩

theorem encode_toNat {f : MoveF} (h : FieldsFit f) : (encode f).toNat = pack (values f) widths := by
  have hp := packOr_eq _ _ 0 (fits h)
  rw [Nat.pow_zero, Nat.mul_one] at hp
  rw [← hp]
  obtain ⟨h1, h2, h3, h4, h5, h6, h7, h8, h9⟩ := h
  unfold encode
  simp only [UInt64.toNat_or]
  rw [toNat_shl f.nextEp nextEnPassantShift 6 h7 (by decide) (by decide),
    toNat_shl f.pieceMoved pieceMovedShift 3 h1 (by decide) (by decide),
    toNat_shl f.pieceAttacked pieceAttackedShift 3 h2 (by decide) (by decide),
    toNat_shl f.source sourceSquareShift 6 h3 (by decide) (by decide),
    toNat_shl f.target targetSquareShift 6 h4 (by decide) (by decide),
    toNat_shl f.prevHalfmove previousHalfmoveShift 12 h5 (by decide) (by decide),
    toNat_shl f.prevEp previousEnPassantShift 6 h6 (by decide) (by decide),
    toNat_shl f.promotion promotionPieceShift 3 h8 (by decide) (by decide),
    toNat_shl f.side sideToMoveShift 1 h9 (by decide) (by decide),
    toNat_flag _ enPassantAttackTrueMask (by decide), toNat_flag _ castleMoveTrueMask (by decide),
    toNat_flag _ halfmoveResetMask (by decide), toNat_flag _ oppLostQueenMask (by decide),
    toNat_flag _ oppLostKingMask (by decide), toNat_flag _ selfLostQueenMask (by decide),
    toNat_flag _ selfLostKingMask (by decide)]
  rw [show enPassantAttackTrueMask = 2^enPassantAttackShift by decide,
    show castleMoveTrueMask = 2^castleMoveShift by decide,
    show halfmoveResetMask = 2^halfmoveResetShift by decide,
    show oppLostQueenMask = 2^oppLostQueenShift by decide,
    show oppLostKingMask = 2^oppLostKingShift by decide,
    show selfLostQueenMask = 2^selfLostQueenShift by decide,
    show selfLostKingMask = 2^selfLostKingShift by decide]
  simp only [packOr, values, widths, Nat.reduceAdd, pieceMovedShift, pieceAttackedShift, selfLostKingShift,
    selfLostQueenShift, oppLostKingShift, oppLostQueenShift, castleMoveShift, enPassantAttackShift, sourceSquareShift,
    targetSquareShift, halfmoveResetShift, previousHalfmoveShift, previousEnPassantShift, nextEnPassantShift,
    promotionPieceShift, sideToMoveShift, UInt64.toNat_zero, Nat.zero_or, Nat.or_zero]
  -- the same sixteen shifted values under `|||` on both sides, in the order of the setters and in the order of the bits
  ac_rfl

theorem field_read {bits : UInt64} {mask s w v : Nat} (hm : mask = (2^w - 1) <<< s) (hs : s + w ≤ 64) (hs' : s < 64)
    (e : bits.toNat / 2^s % 2^w = v) : field bits mask s = v :=
  (field_eq bits mask s w hm hs hs').trans e

theorem flag_read {bits : UInt64} {mask s : Nat} {b : Bool} (hm : mask = (2^1 - 1) <<< s) (hs : s + 1 ≤ 64) (hs' : s < 64)
    (e : bits.toNat / 2^s % 2^1 = b.toNat) : (field bits mask s != 0) = b :=
  bool_of_toNat b _ (field_read hm hs hs' e)

theorem decode_encode {f : MoveF} (h : FieldsFit f) : decode (encode f) = f := by
  have hN : (encode f).toNat / 2 ^ 0 = pack (values f) widths := by
    rw [Nat.pow_zero, Nat.div_one, encode_toNat h]
  obtain ⟨r1, r2, r3, r4, r5, r6, r7, r8, r9, r10, r11, r12, r13, r14, r15, r16, -⟩ := pack_reads _ _ _ 0 (fits h) hN
  have e1 : field (encode f) pieceMovedMask pieceMovedShift = f.pieceMoved :=
    field_read (w := 3) (by decide) (by decide) (by decide) r1
  have e2 : field (encode f) pieceAttackedMask pieceAttackedShift = f.pieceAttacked :=
    field_read (w := 3) (by decide) (by decide) (by decide) r2
  have e3 : (field (encode f) selfLostKingMask selfLostKingShift != 0) = f.selfLostKing :=
    flag_read (by decide) (by decide) (by decide) r3
  have e4 : (field (encode f) selfLostQueenMask selfLostQueenShift != 0) = f.selfLostQueen :=
    flag_read (by decide) (by decide) (by decide) r4
  have e5 : (field (encode f) oppLostKingMask oppLostKingShift != 0) = f.oppLostKing :=
    flag_read (by decide) (by decide) (by decide) r5
  have e6 : (field (encode f) oppLostQueenMask oppLostQueenShift != 0) = f.oppLostQueen :=
    flag_read (by decide) (by decide) (by decide) r6
  have e7 : (field (encode f) castleMoveMask castleMoveShift != 0) = f.castle :=
    flag_read (by decide) (by decide) (by decide) r7
  have e8 : (field (encode f) enPassantAttackMask enPassantAttackShift != 0) = f.enPassant :=
    flag_read (by decide) (by decide) (by decide) r8
  have e9 : field (encode f) sourceSquareMask sourceSquareShift = f.source :=
    field_read (w := 6) (by decide) (by decide) (by decide) r9
  have e10 : field (encode f) targetSquareMask targetSquareShift = f.target :=
    field_read (w := 6) (by decide) (by decide) (by decide) r10
  have e11 : (field (encode f) halfmoveResetMask halfmoveResetShift != 0) = f.halfmoveReset :=
    flag_read (by decide) (by decide) (by decide) r11
  have e12 : field (encode f) previousHalfmoveMask previousHalfmoveShift = f.prevHalfmove :=
    field_read (w := 12) (by decide) (by decide) (by decide) r12
  have e13 : field (encode f) previousEnPassantMask previousEnPassantShift = f.prevEp :=
    field_read (w := 6) (by decide) (by decide) (by decide) r13
  have e14 : field (encode f) nextEnPassantMask nextEnPassantShift = f.nextEp :=
    field_read (w := 6) (by decide) (by decide) (by decide) r14
  have e15 : field (encode f) promotionPieceMask promotionPieceShift = f.promotion :=
    field_read (w := 3) (by decide) (by decide) (by decide) r15
  have e16 : field (encode f) sideToMoveMask sideToMoveShift = f.side :=
    field_read (w := 1) (by decide) (by decide) (by decide) r16
  unfold decode
  rw [e1, e2, e3, e4, e5, e6, e7, e8, e9, e10, e11, e12, e13, e14, e15, e16]

theorem encode_injective_on_fit {f g : MoveF} (hf : FieldsFit f) (hg : FieldsFit g)
    (h : encode f = encode g) : f = g := by
  rw [← decode_encode hf, ← decode_encode hg, h]

#print axioms decode_encode
#print axioms encode_injective_on_fit

end Inkayaku.MoveBits
